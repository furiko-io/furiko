/-
C16 — Admission defaulting is idempotent, patch-faithful, expands configName correctly.

Property theorems, with the few lemmas stated in their vocabulary (the other helper lemmas:
Proofs/MutationLemmas.lean).  Model: Model/Mutation.lean
(`mutation.Mutator`, `JobPatcher`, `JobConfigPatcher`, `NewJobFromJobConfig`,
`ValidateLookupJobOwner`, the accept / reject decision of `Webhook.Handle`), reusing
Model/Options.lean for option evaluation and defaulting.

`admitted (patchX env x) = some x'` reads: the webhook accepted the request and its response patch
leads to the defaulted object `x'`.  Everything is quantified over all model inputs: all Jobs /
JobConfigs (every optional field present or absent), all JobConfig caches, all dynamic
configurations (including a load error), all clock readings, all oracle answers.

Go maps are association lists (first binding wins) and are compared extensionally (`MapEq`,
`JobEq`): that is what JSON shows of them.

Limits (see `patch_faithful_partial`): faithfulness of the patch against the RAW submitted bytes
is outside the model (it depends on which optional objects the submitter's JSON spells out) and
is judged by the harness monitor `patch-faithful` only; see finding F20.
-/
import FurikoModel.Proofs.MutationLemmas

namespace Furiko.Props.C16
open Furiko Furiko.Options Furiko.Mutation Furiko.MutationLemmas

/-- two Jobs that JSON cannot tell apart: equal field by field, maps extensionally -/
structure JobEq (a b : Job) : Prop where
  namespace_ : a.namespace_ = b.namespace_
  createTime : a.createTime = b.createTime
  finalizers : a.finalizers = b.finalizers
  labels : MapEq a.labels b.labels
  annotations : MapEq a.annotations b.annotations
  owners : a.owners = b.owners
  configName : a.configName = b.configName
  type_ : a.type_ = b.type_
  startPolicy : a.startPolicy = b.startPolicy
  template : a.template = b.template
  optionValues : a.optionValues = b.optionValues
  substitutions : MapEq a.substitutions b.substitutions
  ttl : a.ttl = b.ttl
  rest : a.rest = b.rest

/-- Job UPDATE: the defaulted object is a fixed point (same clock, cache and configuration). -/
theorem mutate_idempotent_job_update (env : Env) (j j' : Job)
    (h : admitted (patchUpdateJob env j) = some j') : admitted (patchUpdateJob env j') = some j' := by
  rw [admitted_patchUpdateJob] at h
  obtain ⟨he, ho⟩ := h
  have hd := mutateJob_defaulted env j he
  rw [ho] at hd
  rw [admitted_patchUpdateJob, mutateJob_fixed env j' hd]
  exact ⟨rfl, rfl⟩

/-- JobConfig CREATE: a fixed point at a fixed clock (a later re-create re-stamps `lastUpdated`,
by design). -/
theorem mutate_idempotent_jobconfig_create (env : Env) (c c' : JobConfig)
    (h : admitted (patchCreateJobConfig env c) = some c') : admitted (patchCreateJobConfig env c') = some c' := by
  rw [admitted_patchCreateJobConfig] at h
  obtain ⟨he, ho⟩ := h
  simp only [mutateCreateJobConfig_eq, List.nil_append] at he ho
  have hi := mutateJobConfig_idem env _ he
  rw [ho] at hi
  rw [admitted_patchCreateJobConfig]
  simp only [mutateCreateJobConfig_eq, List.nil_append]
  -- the schedule of the defaulted object is already stamped
  have hs : c'.schedule.map (stamp env) = c'.schedule := by
    rw [← ho, mutateJobConfig_obj]
    cases c.schedule <;> simp [stamp_idem]
  rw [hs]
  have h2 := hi c'.schedule
  have hc : ({ c' with schedule := c'.schedule } : JobConfig) = c' := by cases c'; rfl
  rw [hc] at h2
  exact h2

/-- JobConfig UPDATE against the same old object: a fixed point. -/
theorem mutate_idempotent_jobconfig_update (env : Env) (old c c' : JobConfig)
    (h : admitted (patchUpdateJobConfig env old c) = some c') :
    admitted (patchUpdateJobConfig env old c') = some c' := by
  rw [admitted_patchUpdateJobConfig] at h
  obtain ⟨he, ho⟩ := h
  simp only [mutateUpdateJobConfig_eq, List.append_nil] at he ho
  have hi := mutateJobConfig_idem env _ he
  rw [admitted_patchUpdateJobConfig]
  simp only [mutateUpdateJobConfig_eq, List.append_nil]
  have h2 := hi c'.schedule
  have hc : ({ (mutateJobConfig env c).obj with schedule := c'.schedule } : JobConfig) = c' := by
    rw [← ho]
  rw [hc] at h2
  refine ⟨h2.1, ?_⟩
  rw [h2.2]
  have hs : c'.schedule.map (updateSchedule env old.schedule) = c'.schedule := by
    rw [← ho]
    cases (mutateJobConfig env c).obj.schedule <;> simp [updateSchedule_idem]
  rw [hs]

/-- Job CREATE: resubmitting the defaulted Job is accepted again and yields the same Job (maps
compared extensionally), given the JSON library contract `ParseStable` for `optionValues`. -/
theorem mutate_idempotent_job_create (env : Env) (hP : ParseStable env.parseOV) (j j' : Job)
    (h : admitted (patchCreateJob env j) = some j') :
    ∃ j'', admitted (patchCreateJob env j') = some j'' ∧ JobEq j'' j' := by
  have hdef := patchCreateJob_defaulted env j j' h
  obtain ⟨rjc, j2, j3, hcn, hj2, hown, hov, hj3, -, hmj, hown'⟩ := patchCreateJob_ok env j j' h
  have hfin2 : Facts.admFinalizer ∈ j2.finalizers :=
    hj2 ▸ evaluateConfigName_finalizer env _ hcn (addFinalizer_mem j)
  have hcn2 : j2.configName = [] := hj2 ▸ evaluateConfigName_configName env _ hcn
  subst hj3
  -- second pass on j': the first three phases are no-ops / find the same owner
  have hadd : addFinalizer j' = j' := addFinalizer_fixed j' (by rw [hmj]; exact hfin2)
  have hecn : evaluateConfigName env j' = { obj := j' } := evaluateConfigName_nil env j' (by rw [hmj]; exact hcn2)
  -- assemble the second pass from its phases
  have key : ∀ j3' : Job, (evaluateOptionValues env j' rjc).errors = [] →
      (evaluateOptionValues env j' rjc).obj = j3' →
      j3'.type_ = j'.type_ → j3'.ttl = j'.ttl → j3'.template = j'.template →
      admitted (patchCreateJob env j') = some (mergeCtx rjc j3') := by
    intro j3' herr hobj3 h1 h2 h3
    have hstep : (mutateCreateJob env j').errors = [] ∧ (mutateCreateJob env j').obj = mergeCtx rjc j3' := by
      simp only [mutateCreateJob_eq, hadd, hecn, hown', herr, hobj3, List.append_nil, and_self]
    have hd3 : JobDefaulted env (mergeCtx rjc j3') := by
      refine hdef.congr ?_ ?_ ?_ <;> cases rjc <;> simp [mergeCtx, h1, h2, h3]
    rw [admitted_patchCreateJob]
    simp only [hstep.1, hstep.2, mutateJob_fixed env _ hd3, List.append_nil, and_self]
  cases rjc with
  | none =>
    -- no parent JobConfig: nothing is evaluated, literally the same object
    refine ⟨j', ?_, ⟨rfl, rfl, rfl, MapEq.refl _, MapEq.refl _, rfl, rfl, rfl, rfl, rfl, rfl, MapEq.refl _, rfl, rfl⟩⟩
    have := key j' rfl rfl rfl rfl rfl
    simpa [mergeCtx] using this
  | some c =>
    rcases evaluateOptionValues_some_ok env j2 c hov with ⟨hov0, hev⟩ | ⟨hovne, p, hp, hev⟩
    · -- no option values submitted: the same evaluation runs again
      rw [evaluateOptionValues_some_nil hov0 hev] at hmj
      simp only [mergeCtx] at hmj
      have hev' := evaluateOptionValues_some_nil (j := j') (by rw [hmj]; exact hov0) hev
      refine ⟨_, key _ (congrArg Result.errors hev') (congrArg Result.obj hev') rfl rfl rfl, ?_⟩
      simp only [mergeCtx]
      refine ⟨rfl, rfl, rfl, MapEq.refl _, MapEq.refl _, rfl, rfl, rfl, rfl, rfl, rfl, ?_, rfl, rfl⟩
      simp only
      rw [hmj]
      exact merge_absorb _ _ _
    · -- option values submitted: the normalised text parses to the same values
      rw [evaluateOptionValues_some_parsed hovne hp hev] at hmj
      simp only [mergeCtx] at hmj
      obtain ⟨p', hp', hnorm, hvals⟩ := hP.stable _ _ hp
      have hj'ov : j'.optionValues = p.normalised := by rw [hmj]
      have hev' := evaluateOptionValues_some_parsed (j := j') (p := p') (hj'ov ▸ hP.nonempty _ _ hp)
        (hj'ov ▸ hp') (hvals ▸ hev)
      rw [hnorm, hvals] at hev'
      refine ⟨_, key _ (congrArg Result.errors hev') (congrArg Result.obj hev') rfl rfl rfl, ?_⟩
      simp only [mergeCtx]
      refine ⟨rfl, rfl, rfl, MapEq.refl _, ?_, rfl, rfl, rfl, rfl, rfl, hj'ov.symm, ?_, rfl, rfl⟩
      · simp only
        rw [hmj]
        exact mset_same _ _ _
      · simp only
        rw [hmj]
        exact merge_absorb _ _ _

/-- first binding among prioritised sources -/
def firstOf (a b : Option Str) : Option Str :=
  match a with
  | some v => some v
  | none => b

/-- `firstOf` is `Option.orElse`, the form in which the map lemmas (`mget_mmerge`) and C18's
`admission_priority` speak of precedence -/
theorem firstOf_eq_orElse (a b : Option Str) : firstOf a b = a.orElse fun _ => b := by cases a <;> rfl

/-- A Job created with `configName` is accepted only if that JobConfig exists in the Job's
namespace, and then: `configName` is cleared; the owner references are exactly one controller
reference to that JobConfig; the template is the JobConfig's (defaulted like any Job template);
the uid label is the JobConfig's uid whatever the submitter or the template said; every other
label / annotation is the submitter's if given, else the template's (annotations: plus the
schedule time of a Scheduled Job; the option-spec hash is the one key written later); the
concurrency policy is the submitter's if given, else the JobConfig's, `startAfter` kept; the
delete-dependents finalizer is present and no submitted finalizer is lost. -/
theorem configName_expansion (env : Env) (j j' : Job) (hcn : j.configName ≠ [])
    (h : admitted (patchCreateJob env j) = some j') :
    ∃ c, lookupJobConfig env.store j.namespace_ j.configName = some c ∧
      j'.configName = [] ∧
      j'.owners = [controllerRef c] ∧
      j'.template = some (mutateJobTemplateSpec env.cfg c.template Facts.admJobMutatesTaskTemplate).1 ∧
      mget j'.labels Facts.admLabelUID = some c.uid ∧
      (∀ k, k ≠ Facts.admLabelUID → mget j'.labels k = firstOf (mget j.labels k) (mget c.tmplLabels k)) ∧
      (∀ k, k ≠ Facts.admAnnOptionSpecHash →
        mget j'.annotations k = firstOf (mget j.annotations k) (mget (baseAnnotations c j.type_ j.createTime) k)) ∧
      (∃ sp, j'.startPolicy = some sp ∧
        sp.concurrencyPolicy = (if (j.startPolicy.getD {}).concurrencyPolicy = [] then c.policy
                                else (j.startPolicy.getD {}).concurrencyPolicy) ∧
        sp.startAfter = (j.startPolicy.getD {}).startAfter) ∧
      Facts.admFinalizer ∈ j'.finalizers ∧ (∀ f ∈ j.finalizers, f ∈ j'.finalizers) := by
  obtain ⟨rjc, j2, j3, hecn, hj2, hown, hov, hj3, hok, hj', hown'⟩ := patchCreateJob_ok env j j' h
  have hcn1 : (addFinalizer j).configName ≠ [] := by rw [addFinalizer_frame]; exact hcn
  rcases evaluateConfigName_ok env _ hecn with ⟨h0, _⟩ | ⟨_, c, base, hl, hn, hobj⟩
  · exact absurd h0 hcn1
  obtain ⟨hbl, hba, hbf, hbo, hbt⟩ := newJobFromJobConfig_some _ _ _ _ hn
  rw [hj2] at hobj
  -- the finalizer phase writes `finalizers` only
  rw [addFinalizer_frame] at hl hba hobj
  simp only at hl hba hobj
  have hfin := hj2 ▸ evaluateConfigName_finalizer env _ hecn (addFinalizer_mem j)
  subst hj' hobj
  refine ⟨c, hl, rfl, hbo, by simp only [Option.getD_some, hbt], ?_, ?_,
    ?_, ⟨_, rfl, ?_⟩, hfin, fun f hf => mem_mergeFinalizers_of_right _ _ _ (addFinalizer_keeps j f hf)⟩
  · simp [hbl, mget_mset]
  · intro k hk
    simp only [hbl, mget_mset, mget_mmerge, Ne.symm hk, if_false, firstOf_eq_orElse]
  · intro k hk
    rw [← hj3]
    simp only
    rw [evaluateOptionValues_annotations env _ rjc k hk hov]
    simp only [hba, mget_mmerge, firstOf_eq_orElse]
  · by_cases hc : (j.startPolicy.getD {}).concurrencyPolicy = [] <;> simp [hc]

/-- Without `configName` nothing of the expansion happens: owner references, labels, start
policy are the submitter's. -/
theorem no_configName_no_expansion (env : Env) (j j' : Job) (hcn : j.configName = [])
    (h : admitted (patchCreateJob env j) = some j') :
    j'.owners = j.owners ∧ j'.labels = j.labels ∧ j'.startPolicy = j.startPolicy ∧ j'.configName = [] := by
  obtain ⟨rjc, j2, j3, hecn, hj2, hown, hov, hj3, hok, hj', hown'⟩ := patchCreateJob_ok env j j' h
  have hcn1 : (addFinalizer j).configName = [] := by rw [addFinalizer_frame]; exact hcn
  rw [evaluateConfigName_nil env _ hcn1] at hj2
  rw [hj', ← hj2, addFinalizer_frame]
  exact ⟨rfl, rfl, rfl, hcn⟩

/-- For an accepted Job creation, let `c` be the JobConfig the defaulted Job's controller
reference resolves to.  Every substitution is the submitter's explicit value if there is one,
else the evaluated option (`option.<name>`: submitted value, or the option's default), else the
JobConfig context variable.  Without such a JobConfig the substitutions are the submitter's. -/
theorem substitution_precedence (env : Env) (j j' : Job) (h : admitted (patchCreateJob env j) = some j') :
    (∃ c, validateLookupJobOwner env.store j' = .ok (some c) ∧
      ∀ k, mget j'.substitutions k =
        firstOf (mget j.substitutions k)
          (firstOf (mget (evaluateOptions env.date (submittedValues env j) c.option).1 k)
            (mget (jobConfigVars c) k))) ∨
    (validateLookupJobOwner env.store j' = .ok none ∧ j'.substitutions = j.substitutions) := by
  obtain ⟨rjc, j2, j3, hecn, hj2, hown, hov, hj3, hok, hj', hown'⟩ := patchCreateJob_ok env j j' h
  have hpre : j2.optionValues = j.optionValues ∧ j2.substitutions = j.substitutions :=
    hj2 ▸ (evaluateConfigName_keeps env j hecn).2.2
  cases rjc with
  | none =>
    right
    refine ⟨hown', ?_⟩
    rw [hj', ← hj3]
    exact hpre.2
  | some c =>
    left
    refine ⟨c, hown', ?_⟩
    intro k
    have hs : j'.substitutions = mmerge (jobConfigVars c)
        (mmerge (evaluateOptions env.date (submittedValues env j) c.option).1 j.substitutions) := by
      rw [hj', ← hj3, ← hpre.2]
      rcases evaluateOptionValues_some_ok env j2 c hov with ⟨h0, he⟩ | ⟨hne, p, hp, he⟩
      · rw [evaluateOptionValues_some_nil h0 he]; simp [submittedValues, ← hpre.1, h0, mergeCtx]
      · rw [evaluateOptionValues_some_parsed hne hp he]; simp [submittedValues, ← hpre.1, hne, hp, mergeCtx]
    rw [hs]
    simp only [mget_mmerge, firstOf_eq_orElse]
    cases mget j.substitutions k <;> rfl

/-- what `defaults_present` says about the defaulted template `t` -/
structure TemplateDefaults (cfg : Cfg) (t : JobTemplate) : Prop where
  maxAttempts : t.maxAttempts.isSome = true
  pendingTimeout : cfg.defaultPendingTimeout.isSome = true → t.pendingTimeout.isSome = true
  restartPolicy : ∀ p, t.pod = some p → p.restartPolicy ≠ []
  completionStrategy : ∀ p, t.parallelism = some p → p.completionStrategy ≠ []

/-- a given template's values survive in `t` -/
structure TemplateKept (t0 t : JobTemplate) : Prop where
  maxAttempts : ∀ v, t0.maxAttempts = some v → t.maxAttempts = some v
  pendingTimeout : ∀ v, t0.pendingTimeout = some v → t.pendingTimeout = some v
  pod : ∀ p, t0.pod = some p → p.restartPolicy ≠ [] → t.pod = some p
  parallelism : ∀ p, t0.parallelism = some p → p.completionStrategy ≠ [] → t.parallelism = some p
  retryDelaySeconds : t.retryDelaySeconds = t0.retryDelaySeconds
  forbidForceDeletion : t.forbidForceDeletion = t0.forbidForceDeletion
  podPresence : t.pod.isSome = t0.pod.isSome
  parallelismPresence : t.parallelism.isSome = t0.parallelism.isSome

/-- `TemplateDefaulted` (nothing left for the mutator to do, MutationLemmas) implies what the property promises
of the template, when task templates are mutated too -/
theorem TemplateDefaults.of_defaulted {cfg : Cfg} {t : JobTemplate} (h : TemplateDefaulted cfg true t) :
    TemplateDefaults cfg t := by
  refine ⟨h.maxAttempts, fun hd => ?_, h.pod rfl, h.parallelism⟩
  cases hp : t.pendingTimeout with
  | some _ => rfl
  | none => simp [(h.pending (by simp [hp])).2] at hd

theorem templateDefaults_of (cfg : Cfg) (hok : cfg.ok = true) (t : JobTemplate) :
    TemplateDefaults cfg (mutateJobTemplateSpec cfg t Facts.admJobMutatesTaskTemplate).1 ∧
    TemplateKept t (mutateJobTemplateSpec cfg t Facts.admJobMutatesTaskTemplate).1 := by
  refine ⟨.of_defaulted (mutateJobTemplateSpec_defaulted cfg _ t (by simp [mutateJobTemplateSpec_eq, hok])), ?_⟩
  have hflag : Facts.admJobMutatesTaskTemplate = true := rfl
  rw [mutateJobTemplateSpec_eq, hflag, if_pos rfl, hok, Bool.and_true]
  refine ⟨fun v hv => ?_, fun v hv => ?_, fun p hp hne => ?_, fun p hp hne => ?_, rfl, rfl, ?_, ?_⟩
  · simp [hv]
  · simp [hv]
  · simp [hp, mutatePod_fixed p hne]
  · simp [hp, mutateParallelism_fixed p hne]
  · simp
  · simp

/-- After CREATE: the delete-dependents finalizer is present, `type` is set (the submitter's if
given), a given `ttlSecondsAfterFinished` is kept, and the template has maxAttempts, a pending
timeout whenever the configuration has a default, a restart policy on the pod, a completion
strategy on the parallelism spec.  If the Job did not name a JobConfig, every value given in its
template is kept (with `configName` the template is the JobConfig's: `configName_expansion`). -/
theorem defaults_present (env : Env) (j j' : Job) (h : admitted (patchCreateJob env j) = some j') :
    Facts.admFinalizer ∈ j'.finalizers ∧
    j'.type_ ≠ [] ∧ (j.type_ ≠ [] → j'.type_ = j.type_) ∧
    (∀ v, j.ttl = some v → j'.ttl = some v) ∧ (j.ttl = none → j'.ttl = env.cfg.defaultTTL) ∧
    ∃ t, j'.template = some t ∧ TemplateDefaults env.cfg t ∧
      (j.configName = [] → TemplateKept (j.template.getD {}) t) := by
  obtain ⟨rjc, j2, j3, hecn, hj2, hown, hov, hj3, hok, hj', hown'⟩ := patchCreateJob_ok env j j' h
  obtain ⟨hty, httl, -⟩ := hj2 ▸ evaluateConfigName_keeps env j hecn
  subst hj'
  refine ⟨hj2 ▸ evaluateConfigName_finalizer env _ hecn (addFinalizer_mem j), ?_, ?_, ?_, ?_, _, rfl,
    (templateDefaults_of env.cfg hok _).1, ?_⟩
  · simp only; split
    · exact defaultJobType_ne
    · assumption
  · intro hne; simp [hty, hne]
  · intro v hv; simp [httl, hv]
  · intro hv; simp [httl, hv]
  · intro hcn
    have hcn1 : (addFinalizer j).configName = [] := by rw [addFinalizer_frame]; exact hcn
    have : j2.template = j.template := by
      rw [← hj2, evaluateConfigName_nil env _ hcn1, addFinalizer_frame]
    rw [this]
    exact (templateDefaults_of env.cfg hok _).2

/-- After UPDATE: the same defaults except the finalizer (adding it on update would interfere
with deletion); nothing else is touched and given values are kept. -/
theorem defaults_present_update (env : Env) (j j' : Job) (h : admitted (patchUpdateJob env j) = some j') :
    j'.type_ ≠ [] ∧ (j.type_ ≠ [] → j'.type_ = j.type_) ∧
    (∀ v, j.ttl = some v → j'.ttl = some v) ∧
    (∃ t, j'.template = some t ∧ TemplateDefaults env.cfg t ∧ TemplateKept (j.template.getD {}) t) ∧
    j'.finalizers = j.finalizers ∧ j'.labels = j.labels ∧ j'.annotations = j.annotations ∧
    j'.owners = j.owners ∧ j'.configName = j.configName ∧ j'.startPolicy = j.startPolicy ∧
    j'.optionValues = j.optionValues ∧ j'.substitutions = j.substitutions ∧ j'.rest = j.rest := by
  rw [admitted_patchUpdateJob] at h
  obtain ⟨he, ho⟩ := h
  have hok := cfgOk_of_mutateJob env j he
  rw [← ho, mutateJob_eq env j hok]
  refine ⟨?_, ?_, ?_, ⟨_, rfl, templateDefaults_of env.cfg hok _⟩, rfl, rfl, rfl, rfl, rfl, rfl, rfl, rfl, rfl⟩
  · simp only; split
    · exact defaultJobType_ne
    · assumption
  · intro hne; simp [hne]
  · intro v hv; simp [hv]

/-- JobConfigs: the template gets maxAttempts (the pending timeout, defaulted by the same
`mutateJobTemplateSpec`, is not part of the statement), but no restart policy: the pod template
stays as submitted (`Facts.admJobConfigMutatesTaskTemplate = false`: task-template defaults are
added when the Job is created); Bool options get a format. -/
theorem defaults_present_jobconfig (env : Env) (c c' : JobConfig)
    (h : admitted (patchCreateJobConfig env c) = some c') :
    c'.template.maxAttempts.isSome = true ∧ c'.template.pod = c.template.pod ∧
    c'.option = c.option.map (fun os => os.map defaultingOption) ∧
    c'.tmplLabels = c.tmplLabels ∧ c'.tmplAnnotations = c.tmplAnnotations ∧ c'.policy = c.policy ∧ c'.rest = c.rest := by
  rw [admitted_patchCreateJobConfig] at h
  obtain ⟨he, ho⟩ := h
  simp only [mutateCreateJobConfig_eq, List.nil_append] at he ho
  rw [mutateJobConfig_obj, mutateJobTemplateSpec_eq] at ho
  rw [← ho]
  exact ⟨rfl, rfl, rfl, rfl, rfl, rfl, rfl⟩

/-- the `lastUpdated` written by a stamp: a value later than now is kept, else now -/
def stampedLU (env : Env) (s : Schedule) : Option Int :=
  if isTimeSetAndLaterThan s.lastUpdated env.nowNs then s.lastUpdated else some (floorSec env.nowNs)

def eraseLU (s : Schedule) : Schedule := { s with lastUpdated := none }

theorem stamp_eq (env : Env) (s : Schedule) : stamp env s = { s with lastUpdated := stampedLU env s } := by
  unfold stamp stampedLU
  cases isTimeSetAndLaterThan s.lastUpdated env.nowNs <;> rfl

theorem scheduleChanged_iff (old : Option Schedule) (s : Schedule) :
    scheduleChanged old s = true ↔ old.map eraseLU ≠ some (eraseLU s) := by
  unfold scheduleChanged eraseLU
  cases old with
  | none => simp
  | some os =>
    obtain ⟨c1, d1, k1, l1⟩ := os
    obtain ⟨c2, d2, k2, l2⟩ := s
    simp only [bne_iff_ne, ne_eq, Option.some.injEq, Schedule.mk.injEq, Option.map_some, not_and]
    all_goals try (constructor <;> intro h hc hd hk _ <;> exact h hc.symm hd.symm hk.symm rfl)

/-- CREATE: a JobConfig with a schedule gets `lastUpdated = now` (in whole seconds; a value
that lies after now is never moved backwards), no schedule is invented, nothing else of the
schedule changes.  UPDATE: exactly the same stamp iff the schedule, ignoring `lastUpdated`,
differs from the old object's (created counts as changed); otherwise the submitted schedule,
including its `lastUpdated`, is left as it is. -/
theorem lastUpdated_stamped_iff (env : Env) (old c c' : JobConfig) :
    (admitted (patchCreateJobConfig env c) = some c' →
      c'.schedule = c.schedule.map (fun s => { s with lastUpdated := stampedLU env s })) ∧
    (admitted (patchUpdateJobConfig env old c) = some c' →
      c'.schedule = c.schedule.map (fun s =>
        if old.schedule.map eraseLU ≠ some (eraseLU s) then { s with lastUpdated := stampedLU env s } else s)) := by
  constructor
  · intro h
    rw [admitted_patchCreateJobConfig] at h
    obtain ⟨_, ho⟩ := h
    simp only [mutateCreateJobConfig_eq] at ho
    rw [mutateJobConfig_obj] at ho
    rw [← ho]
    simp only
    cases c.schedule <;> simp [stamp_eq]
  · intro h
    rw [admitted_patchUpdateJobConfig] at h
    obtain ⟨_, ho⟩ := h
    simp only [mutateUpdateJobConfig_eq] at ho
    rw [← ho]
    simp only
    rw [mutateJobConfig_obj]
    simp only
    cases hs : c.schedule with
    | none => rfl
    | some s =>
      simp only [Option.map_some, updateSchedule, ← scheduleChanged_iff, stamp_eq]

/-- the stamp is `now`, in whole seconds, when the submitted value does not lie after now -/
theorem stampedLU_now (env : Env) (s : Schedule) (h : isTimeSetAndLaterThan s.lastUpdated env.nowNs = false) :
    stampedLU env s = some (floorSec env.nowNs) := by
  simp [stampedLU, h]

section PatchFaithful
variable {α Doc Patch : Type}

/-- library contract of `gomodules.xyz/jsonpatch` (create) + `evanphx/json-patch` (apply) -/
def PatchContract (createPatch : Doc → Doc → Patch) (apply : Patch → Doc → Option Doc) : Prop :=
  ∀ a b, apply (createPatch a b) a = some b

/-- JSON round trip of the typed object (`json.Marshal` then `json.Unmarshal`) -/
def RoundTrip (enc : α → Doc) (dec : Doc → Option α) : Prop := ∀ x, dec (enc x) = some x

/-- `Webhook.Handle`'s response: no patch when rejected; otherwise the patch between the typed
re-encoding of the request and the encoding of the mutated copy (`cmp.CreateJSONPatch`).  The
source passes the submitted bytes `req.Object.Raw`, not the typed re-encoding, as the first
argument; raw bytes are outside the model. -/
def responsePatch (enc : α → Doc) (createPatch : Doc → Doc → Patch) (x : α) (r : Result α) : Option Patch :=
  if r.errors = [] then some (createPatch (enc x) (enc r.obj)) else none

/-- PARTIAL.  Given the library contract and the JSON round trip of the typed object, the
response patch applied to the typed re-encoding of the request decodes to exactly the defaulted
object, for all four operations (`patch` = any of the four patchers).
Full statement (not provable in this model, judged by the monitor `patch-faithful`): the same
with the RAW submitted bytes in place of `enc x`.  That statement fails for a webhook that
computes the patch against `enc x` when the submitted JSON omits an object that `enc` always
emits (finding F20, repaired in /repo: the patch is computed against the submitted bytes). -/
theorem patch_faithful_partial (enc : α → Doc) (dec : Doc → Option α)
    (createPatch : Doc → Doc → Patch) (apply : Patch → Doc → Option Doc)
    (hC : PatchContract createPatch apply) (hR : RoundTrip enc dec)
    (patch : α → Result α) (x x' : α) (h : admitted (patch x) = some x') :
    ∃ p, responsePatch enc createPatch x (patch x) = some p ∧ (apply p (enc x)).bind dec = some x' := by
  rw [admitted_some] at h
  refine ⟨createPatch (enc x) (enc (patch x).obj), by simp [responsePatch, h.1], ?_⟩
  rw [hC, Option.bind_some, hR, h.2]

end PatchFaithful

/-- Submitting the defaulted object again (same operation, clock, JobConfig cache, dynamic
configuration) is accepted and yields no further change — for create and update of both kinds.
(Job creation: maps compared extensionally, under the JSON library contract `ParseStable`.) -/
theorem mutate_idempotent (env : Env) (hP : ParseStable env.parseOV) :
    (∀ j j', admitted (patchCreateJob env j) = some j' →
      ∃ j'', admitted (patchCreateJob env j') = some j'' ∧ JobEq j'' j') ∧
    (∀ j j', admitted (patchUpdateJob env j) = some j' → admitted (patchUpdateJob env j') = some j') ∧
    (∀ c c', admitted (patchCreateJobConfig env c) = some c' → admitted (patchCreateJobConfig env c') = some c') ∧
    (∀ old c c', admitted (patchUpdateJobConfig env old c) = some c' →
      admitted (patchUpdateJobConfig env old c') = some c') :=
  ⟨mutate_idempotent_job_create env hP, mutate_idempotent_job_update env,
   mutate_idempotent_jobconfig_create env, mutate_idempotent_jobconfig_update env⟩

/-! Non-vacuity: concrete, non-trivial instances of every theorem's hypotheses. -/

section Examples

/-- a JobConfig with template labels, a pod template without restart policy, a schedule and a
String option with a default -/
def exJC : JobConfig :=
  { namespace_ := ['n', 's'], name := ['j', 'c'], uid := ['u', '1'],
    tmplLabels := [(['a', 'p', 'p'], ['t'])], tmplAnnotations := [(['n'], ['t'])],
    template := { pod := some { restartPolicy := [], rest := ['r'] }, retryDelaySeconds := some 10 },
    policy := ['F', 'o', 'r', 'b', 'i', 'd'],
    schedule := some { cron := some { expression := ['*'], expressions := [], timezone := [] },
                       disabled := false, constraints := none, lastUpdated := some 1600000000 },
    option := some [{ type := .string, name := ['s'], string := some { default := ['d'] } },
                    { type := .bool, name := ['b'], bool := some { default := true, format := Facts.boolFormatDefault } }],
    optionHash := ['h'], rest := [] }

def exParse : Str → Option OVParse := fun s =>
  if s = ['{', '}'] then some { normalised := ['{', '}'], values := [] }
  else if s = ['y'] then some { normalised := ['{', '}'], values := [] }
  else none

def exEnv : Env :=
  { nowNs := 1700000000500000000,
    cfg := { ok := true, defaultTTL := some 3600, defaultPendingTimeout := some 900 },
    store := [exJC], parseOV := exParse,
    date := { parse := fun _ => none, format := fun _ _ => none } }

/-- a Job naming `exJC`, with an own finalizer, an explicit label that collides with the
template's, YAML-ish option values and an explicit substitution -/
def exJob : Job :=
  { namespace_ := ['n', 's'], createTime := 5, finalizers := [['x']],
    labels := [(['a', 'p', 'p'], ['e'])], annotations := [], owners := [],
    configName := ['j', 'c'], type_ := [], startPolicy := none, template := some {},
    optionValues := ['y'], substitutions := [(['o', 'p', 't', 'i', 'o', 'n', '.', 's'], ['e'])],
    ttl := none, rest := [] }

theorem exParse_stable : ParseStable exParse := by
  constructor
  · intro s p h
    unfold exParse at h
    split at h
    · cases h; decide
    · split at h
      · cases h; decide
      · cases h
  · intro s p h
    unfold exParse at h
    split at h
    · cases h; exact ⟨_, rfl, rfl, rfl⟩
    · split at h
      · cases h; exact ⟨_, rfl, rfl, rfl⟩
      · cases h

/-- evaluated once; several instances below start from it -/
theorem exJob_admitted : (admitted (patchCreateJob exEnv exJob)).isSome = true := by decide +kernel

/-- `mutate_idempotent` (Job create), `configName_expansion`, `substitution_precedence`,
`defaults_present`: the request is accepted, names a JobConfig, and the oracle is stable -/
example : (admitted (patchCreateJob exEnv exJob)).isSome = true ∧ exJob.configName ≠ [] ∧
    ParseStable exEnv.parseOV := ⟨exJob_admitted, by decide +kernel, exParse_stable⟩

/-- and what the theorems then say on this instance (uid label, cleared configName, policy) -/
example : ∃ j', admitted (patchCreateJob exEnv exJob) = some j' ∧
    mget j'.labels Facts.admLabelUID = some ['u', '1'] ∧ j'.configName = [] ∧
    mget j'.labels ['a', 'p', 'p'] = some ['e'] := by
  obtain ⟨j', hj'⟩ := Option.isSome_iff_exists.1 exJob_admitted
  obtain ⟨c, hl, hcn, _, _, huid, hlab, _⟩ := configName_expansion exEnv exJob j' (by decide +kernel) hj'
  have hc : c = exJC := by
    have : lookupJobConfig exEnv.store exJob.namespace_ exJob.configName = some exJC := by decide +kernel
    rw [this] at hl; exact (Option.some.inj hl).symm
  subst hc
  refine ⟨j', hj', huid, hcn, ?_⟩
  rw [hlab _ (by decide +kernel)]
  decide +kernel

/-- `mutate_idempotent` / `defaults_present_update` (Job update) -/
example : (admitted (patchUpdateJob exEnv exJob)).isSome = true := by decide +kernel

/-- a load error of the dynamic configuration rejects (the hypotheses are not always true) -/
example : admitted (patchUpdateJob { exEnv with cfg := { ok := false } } exJob) = none := by decide +kernel

/-- `lastUpdated_stamped_iff`, `mutate_idempotent` (JobConfig create): accepted, stamped with now -/
example : ∃ c', admitted (patchCreateJobConfig exEnv exJC) = some c' ∧
    c'.schedule.map (·.lastUpdated) = some (some 1700000000) := by
  have h : (admitted (patchCreateJobConfig exEnv exJC)).isSome = true := by decide +kernel
  obtain ⟨c', hc'⟩ := Option.isSome_iff_exists.1 h
  refine ⟨c', hc', ?_⟩
  rw [(lastUpdated_stamped_iff exEnv exJC exJC c').1 hc']
  decide +kernel

/-- `defaults_present_jobconfig`: a Bool option submitted without a config gets its format -/
example : (admitted (patchCreateJobConfig exEnv
    { exJC with option := some [{ type := .bool, name := ['b'], bool := none }] })).map (·.option) =
    some (some [{ type := .bool, name := ['b'], bool := some { format := Facts.boolFormatDefault } }]) := by
  decide +kernel

/-- `lastUpdated_stamped_iff`, `mutate_idempotent` (JobConfig update): a changed schedule is
stamped, an unchanged one keeps its `lastUpdated` -/
example :
    (admitted (patchUpdateJobConfig exEnv exJC
      { exJC with schedule := exJC.schedule.map fun s => { s with disabled := true } })).isSome = true ∧
    (admitted (patchUpdateJobConfig exEnv exJC exJC)).isSome = true := ⟨by decide +kernel, by decide +kernel⟩

/-- `patch_faithful_partial`: a (trivial) patch library satisfying the contract -/
example : PatchContract (fun (_ b : Job) => b) (fun p _ => some p) ∧ RoundTrip (id : Job → Job) some ∧
    (admitted (patchCreateJob exEnv exJob)).isSome = true :=
  ⟨fun _ _ => rfl, fun _ => rfl, exJob_admitted⟩

end Examples

end Furiko.Props.C16
