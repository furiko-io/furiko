/-
C04 — the boot sequence as the SOURCE runs it (finding F24).

client-go notifies an event handler of the objects that already EXIST when it joins an informer
with add events too (synthetic adds for everything in the indexer / the initial list), and the
handler runs them asynchronously: typically AFTER `CronWorker.Init` loaded those JobConfigs with
their catch-up schedule.  `Props/C04.lean` proves the restart clauses for every interleaving of
ticks with such late initial adds on the model with the repaired shapes (`Shapes.fixed`, the state
`bootCtl` with the record of what `Init` loaded).  This module ties those shapes to the source
through the regenerated facts (it stops building if `handleAdd` no longer consults the record, if
`Init` no longer writes it, or if the delete handler no longer forgets it), states the
handler-level facts, replays the F24 witness on the repaired model, and documents the loss on the
shape before the repair.
-/
import FurikoModel.Props.C04
import FurikoModel.Proofs.CronSource

namespace Furiko.Cron.C04Boot
open Furiko Furiko.Cron

/-- **The tie.**  In the source: all three informer handlers are registered, `CronWorker.Init`
records the JobConfigs it loaded (under the mutex it holds for the whole of `Init`), `handleAdd`
consults the record after the `scheduleInitialized` test and returns on a hit, `handleDelete`
forgets the record before it flushes (regenerated by `harness/cmd/extract/cron_loaded.go`). -/
theorem source_shapes :
    Shapes.source = Shapes.fixed ∧ Facts.cronInitRecordsLoaded = true := ⟨rfl, rfl⟩

/-- `CronWorker.Init` as the source has it leaves the state `bootCtl` the C04 theorems start from -/
theorem init_leaves_bootCtl {jcs : List JC} {cfg dflt now : Int} {pq : Heap.PQ}
    (h : schedNew jcs cfg dflt now = some pq) :
    ctlInit jcs cfg dflt now Facts.cronInitRecordsLoaded = some (bootCtl jcs pq) := by
  simp [ctlInit, h, bootCtl, show Facts.cronInitRecordsLoaded = true from rfl]

/-- the record `Init` writes: every loaded JobConfig under its own UID, nothing else -/
theorem init_records_exactly_loaded {jcs : List JC} (pq : Heap.PQ)
    (hnd : (jcs.map (fun jc => jc.key)).Nodup) :
    (∀ jc ∈ jcs, lookupUid (bootCtl jcs pq).loaded jc.key = some jc.uid) ∧
    (∀ k, (∀ jc ∈ jcs, jc.key ≠ k) → lookupUid (bootCtl jcs pq).loaded k = none) :=
  ⟨fun _ hjc => lookupUid_recordLoaded hnd hjc, fun _ hk => lookupUid_recordLoaded_none hk⟩

/-- **An initial add of a loaded JobConfig leaves the schedule alone**: heap, lister and the flush
channel are unchanged — whenever it is handled — and the record of the key is consumed. -/
theorem initial_add_of_loaded_ignored {c : Ctl} {jc : JC}
    (h : lookupUid c.loaded jc.key = some jc.uid) :
    let c' := ctlInitialAdd c jc Facts.cronHandlerAdd Facts.cronHandleAddTakesLoaded
    c'.worker = c.worker ∧ lookupUid c'.loaded jc.key = none ∧
    ∀ k, k ≠ jc.key → lookupUid c'.loaded k = lookupUid c.loaded k := by
  intro c'
  have hc' : c' = { c with loaded := forget c.loaded jc.key } := handleAdd_loaded h
  rw [hc']
  exact ⟨rfl, lookupUid_forget_self _ _, fun k hk => lookupUid_forget_ne _ hk⟩

/-- **Each record is consumed at most once**: a second add for the same JobConfig (same key, same
UID) finds no record and is flushed like the add of a JobConfig created at run time. -/
theorem loaded_record_consumed_once {c : Ctl} {jc : JC}
    (h : lookupUid c.loaded jc.key = some jc.uid) :
    let c1 := ctlInitialAdd c jc Facts.cronHandlerAdd Facts.cronHandleAddTakesLoaded
    let c2 := ctlInitialAdd c1 jc Facts.cronHandlerAdd Facts.cronHandleAddTakesLoaded
    c1.worker.chan = c.worker.chan ∧ c2.worker.chan = c.worker.chan ++ [jc] := by
  intro c1 c2
  have hc1 : c1 = { c with loaded := forget c.loaded jc.key } := handleAdd_loaded h
  have hn : lookupUid c1.loaded jc.key ≠ some jc.uid := by
    rw [hc1]; show lookupUid (forget c.loaded jc.key) jc.key ≠ _
    rw [lookupUid_forget_self]; exact fun h => by cases h
  have hc2 : c2 = _ := handleAdd_not_loaded hn
  rw [hc2, hc1]
  exact ⟨rfl, rfl⟩

/-- **An add for a JobConfig that was NOT loaded still flushes** (created at run time, or created
again under another UID): the repair of F1 is kept.  (`C03.create_starts` draws the scheduling
consequence; `C03.never_loaded_never_recorded`, `C03.recreate_follows_new_schedule_only` discharge
the hypothesis.) -/
theorem add_of_unloaded_flushes {c : Ctl} {jc : JC}
    (h : lookupUid c.loaded jc.key ≠ some jc.uid) :
    (ctlInitialAdd c jc Facts.cronHandlerAdd Facts.cronHandleAddTakesLoaded).worker.chan
      = c.worker.chan ++ [jc] ∧
    (ctlAdd c jc Facts.cronHandlerAdd Facts.cronHandleAddTakesLoaded).worker.chan
      = c.worker.chan ++ [jc] := by
  constructor
  · have : ctlInitialAdd c jc Facts.cronHandlerAdd Facts.cronHandleAddTakesLoaded = _ :=
      handleAdd_not_loaded h
    rw [this]
  · have : ctlAdd c jc Facts.cronHandlerAdd Facts.cronHandleAddTakesLoaded = _ :=
      handleAdd_not_loaded (c := { c with worker := { c.worker with
        lister := listerSet c.worker.lister jc.key jc } }) h
    rw [this]

/-- a recreation under a NEW UID is flushed even while the record of the old object is still there -/
example : let jcOld : JC := { Ex.jcA with uid := "u1" }
    let jcNew : JC := { Ex.jcA with uid := "u2" }
    let c0 := bootCtl [jcOld] (Heap.new [("a", 10)])
    lookupUid c0.loaded "a" = some "u1" ∧
    (ctlAdd c0 jcNew Facts.cronHandlerAdd Facts.cronHandleAddTakesLoaded).worker.chan.map (·.uid)
      = ["u2"] ∧
    (ctlInitialAdd c0 jcOld Facts.cronHandlerAdd Facts.cronHandleAddTakesLoaded).worker.chan.map
      (·.uid) = [] :=
  ⟨by decide +kernel, by decide +kernel, by decide +kernel⟩

/-- **Restart catch-up for every interleaving, on the source's shapes.**  After `Init` (`bootCtl`),
any boot sequence — ticks interleaved in any way with the informer's add notifications for the
loaded JobConfigs, each at most once (`BootOK`) — requests tick by tick exactly what its ticks
alone request from the freshly loaded schedule, and ends in the same heap, lister and channel.
Hence `C04.catch_up_exact`, `C04.never_rerequest_run` and the run theorems of C01 hold for the
controller as it boots in production (handler registered on a started informer, adds handled after
`Init`), not only for the idealised boot without notifications. -/
theorem restart_catch_up_any_interleaving {jcs : List JC} (pq : Heap.PQ)
    (hnd : (jcs.map (fun jc => jc.key)).Nodup) (cap : Int) (flushLimit fuel : Nat)
    {acts : List CtlAct} (hok : BootOK jcs acts) :
    (ctlRun Shapes.source cap flushLimit fuel (bootCtl jcs pq) acts).1.worker
      = (runTicks cap flushLimit fuel ⟨pq, jcs.map (fun jc => (jc.key, jc)), []⟩ (ticksOf acts)).1 ∧
    (ctlRun Shapes.source cap flushLimit fuel (bootCtl jcs pq) acts).2
      = (runTicks cap flushLimit fuel ⟨pq, jcs.map (fun jc => (jc.key, jc)), []⟩ (ticksOf acts)).2 := by
  rw [source_shapes.1]
  exact C04.boot_run_eq_ticks pq hnd cap flushLimit fuel hok

/-- every minute (60, 120, …, 420 s), last scheduled at 60 s -/
def jcMin : JC :=
  { key := "ns/a"
    sched := { enabled := true, parseErr := false, exprs := [[60, 120, 180, 240, 300, 360, 420]],
               notBefore := none, notAfter := none, lastUpdated := none, specId := 0 }
    lastScheduled := some 60
    uid := "uid-a" }

/-- the witness's match list is strictly increasing (hypothesis of `C04.catch_up_exact`) -/
theorem jcMin_sorted : ∀ jc ∈ [jcMin], ∀ l ∈ jc.sched.exprs, SortedStrict l := by
  intro jc hjc l hl
  rw [List.mem_singleton.1 hjc] at hl
  simp only [jcMin, List.mem_singleton] at hl
  subst hl; unfold SortedStrict; decide

/-- **F24 regression.**  The witness of the defect on the repaired model: `ns/a` (every minute) was
last scheduled at 60 s; the controller restarts at 270.5 s (three periods missed: 120, 180, 240);
`Init` loads it with first entry 120; the informer's add notification for `ns/a` is handled AFTER
`Init`; the first tick at 271 s requests exactly the three missed times and the next tick (301 s)
continues normally with 300. -/
theorem f24_initial_add_after_init_keeps_catch_up :
    ctlInit [jcMin] 0 300 270500000000 Facts.cronInitRecordsLoaded
      = some (bootCtl [jcMin] (Heap.new [("ns/a", 120)])) ∧
    BootOK [jcMin] [.initialAdd jcMin, .tick 271000000000, .tick 301000000000] ∧
    (ctlRun Shapes.source 5 1000 10 (bootCtl [jcMin] (Heap.new [("ns/a", 120)]))
      [.initialAdd jcMin, .tick 271000000000, .tick 301000000000]).2
      = ([[("ns/a", 120), ("ns/a", 180), ("ns/a", 240)], [("ns/a", 300)]], true) :=
  ⟨init_leaves_bootCtl rfl, ⟨by decide +kernel, by simp [initialAddsOf], by simp [initialAddsOf]⟩, by decide +kernel⟩

/-- … the same requests when the notification is handled between the two ticks, or never -/
example :
    (ctlRun Shapes.source 5 1000 10 (bootCtl [jcMin] (Heap.new [("ns/a", 120)]))
      [.tick 271000000000, .initialAdd jcMin, .tick 301000000000]).2
      = ([[("ns/a", 120), ("ns/a", 180), ("ns/a", 240)], [("ns/a", 300)]], true) ∧
    (ctlRun Shapes.source 5 1000 10 (bootCtl [jcMin] (Heap.new [("ns/a", 120)]))
      [.tick 271000000000, .tick 301000000000]).2
      = ([[("ns/a", 120), ("ns/a", 180), ("ns/a", 240)], [("ns/a", 300)]], true) :=
  ⟨by decide +kernel, by decide +kernel⟩

/-- … and `C04.catch_up_exact` applies to the witness (its `D` is `[120, 180, 240]`) -/
example : ∃ D : List Int, SortedStrict D ∧
    (∀ m, m ∈ D ↔ Eligible jcMin 0 300 270500000000 m ∧ m ≤ floorSec 271000000000) ∧
    ∃ first later,
      (ctlRun Shapes.fixed 5 1000 10 (bootCtl [jcMin] (Heap.new [("ns/a", 120)]))
        [.initialAdd jcMin, .tick 271000000000, .tick 301000000000]).2.1 = first :: later ∧
      (first.filter (fun p => p.1 = jcMin.key)).map (fun p => p.2) = D.take (5 : Int).toNat :=
  C04.catch_up_exact (jcs := [jcMin]) (cfg := 0) (dflt := 300) (now := 270500000000) (by decide +kernel)
    jcMin_sorted rfl
    ⟨by decide +kernel, by simp [initialAddsOf], by simp [initialAddsOf]⟩ (ts := [301000000000]) rfl
    (by decide +kernel) (List.mem_singleton.2 rfl) rfl rfl

/-- **The defect, on the shape BEFORE the repair** (documentation of F24; `takes = false`: the
`handleAdd` of commit 8d875b9 flushes every add once `scheduleInitialized` is set).  For ANY
JobConfig in the lister and any state of its heap entry — in particular the overdue catch-up entry
`Init` computed — the initial add puts the JobConfig into the flush channel, the next tick requests
NOTHING for it and re-bases its entry to the first match strictly after that tick's `now`: every
missed schedule is discarded. -/
theorem f24_old_shape_discards_catch_up {c : Ctl} {now cap : Int} {flushLimit fuel : Nat}
    (hInv : Heap.Inv c.worker.heap) (hL : ListerOK c.worker.lister) (jc : JC)
    (hlim : c.worker.chan.length + 1 ≤ flushLimit) :
    let c' := ctlInitialAdd c jc true false
    c'.worker.chan = c.worker.chan ++ [jc] ∧
    ((ctlWork c' now cap flushLimit fuel).2.1.filter (fun p => p.1 = jc.key)).map (fun p => p.2)
      = [] ∧
    Heap.search (ctlWork c' now cap flushLimit fuel).1.worker.heap jc.key
      = flushEntry c.worker.lister jc.key now ∧
    ∀ e, flushEntry c.worker.lister jc.key now = some e → now < e * 1000000000 := by
  intro c'
  have hc' : c' = { c with worker := { c.worker with chan := c.worker.chan ++ [jc] } } := by
    simp [c', ctlInitialAdd, handleAdd]
  have hft := flush_tick (w := c'.worker) (now := now) (cap := cap) flushLimit fuel
    (by rw [hc']; exact hInv) (by rw [hc']; exact hL) (jc := jc) (pre := c.worker.chan) (post := [])
    (by rw [hc']; simp) (fun _ h => by cases h) hlim
  have hl : c'.worker.lister = c.worker.lister := by rw [hc']
  rw [hl] at hft
  exact ⟨by rw [hc'], hft.2.1, hft.2.2.1, flushEntry_gt hL _ _⟩

/-- the witness on the old shape: nothing is requested at 271 s, the entry jumps to 300 -/
example :
    let old : Shapes := { Shapes.fixed with takes := false, forgets := false }
    (ctlRun old 5 1000 10 { worker := (bootCtl [jcMin] (Heap.new [("ns/a", 120)])).worker, loaded := [] }
      [.initialAdd jcMin, .tick 271000000000, .tick 301000000000]).2
      = ([[], [("ns/a", 300)]], true) := by decide +kernel

end Furiko.Cron.C04Boot
