/-
C20, more instances of the convergence schema of `Props/C20.lean` (`LevelTriggered`,
`convergence_schema`, `convergence_same_outcome`, `convergence_not_applied`).

1. JobConfig controller (COMPLETE): `jobconfig_level_triggered`, `jobconfig_converges`,
   `jobconfig_converges_exact`, `jobconfig_maxima_never_backwards`.
2. Job controller, one pass (PARTIAL): `jobctl_fault_keeps_level` (H1: level kept, pods kept or
   force-deleted by a logged call, key re-queued through `Retry.work`),
   `jobctl_quiescent_fixpoint_partial` + `jobctl_pass_queue_oblivious` (the fixpoint clause),
   `jobctl_level_kept_along_retries` (run form), `jobctl_create_retry_adopts` (request level) and
   `jobctl_created_task_recovered_partial` (pass level): create ↦ AlreadyExists ↦ adopt ↦ record.
3. Job-queue per-config pass with an explicit delivery step (PARTIAL):
   `queue_converges_with_delivery_partial`; the literal one-round fixpoint clause is FALSE:
   `queue_one_round_not_identity_witness`.

Definitions and helper lemmas: `Proofs/ConvLemmas.lean` (generic + JobConfig),
`Proofs/ConvLemmasJobQ.lean` (the walk: a job-controller pass is queue-oblivious and call-accounted),
`Proofs/ConvLemmasJob.lean` (one `work` step), `Proofs/ConvLemmasJobAdopt.lean` (an ok pass records
every due creation request), `Proofs/ConvLemmasQueue.lean` (delivery step).
-/
import FurikoModel.Proofs.ConvLemmas
import FurikoModel.Proofs.ConvLemmasJob
import FurikoModel.Proofs.ConvLemmasJobAdopt
import FurikoModel.Props.C09Hist
import FurikoModel.Props.C11
import FurikoModel.Proofs.ConvLemmasQueue

set_option linter.unusedVariables false
set_option linter.unusedSimpArgs false

namespace Furiko.Props.C20Inst
open Furiko Furiko.Props Furiko.Props.C20 Furiko.Conv Furiko.JobCtl Furiko.JobCtlPlan

/-! The JobConfig controller (complete instance).

State `JcSt` = the authoritative JobConfig `api` and the controller's cached copy `cached`.
`jcSync k jobs s fault` = one `SyncOne` (`JcStatus.syncCore`, optimistic concurrency on) that reads
the cached object and the Job cache `jobs`, followed by the explicit step "the JobConfig informer
delivers the current API object to the cache" (`jcCatchUp`).  `fault = true`: the `UpdateStatus` of
the pass, if one is issued, fails without being applied — `k = .error`: server error / timeout;
`k = .conflict`: another writer bumped the resourceVersion between read and write, so that
`writeStatus` itself answers `.conflict`.  `JcInv` = "the cache is up to date"; `JcFix jobs` = "the
cache is up to date and the API status equals `computeStatus` of itself over the Job cache". -/

/-- **jobconfig_level_triggered**: for every fault kind `k` and every Job cache `jobs`, the
JobConfig reconciler is level-triggered in the sense of the schema. -/
theorem jobconfig_level_triggered (k : JcFault) (jobs : List JcStatus.Job) :
    LevelTriggered (jcSync k jobs) JcInv (JcFix jobs) := by
  refine ⟨fun s _ => jcSync_inv k jobs s true, ?_, ?_, ?_⟩
  · rintro ⟨a, c⟩ hs hok
    have : c = a := hs
    subst this
    rcases jcSync_cases k jobs c true with ⟨hst, ⟨h, _⟩ | ⟨h, _⟩⟩ | ⟨_, ⟨_, hf⟩ | ⟨h, _⟩ | ⟨h, _⟩⟩
    · rw [h]; exact ⟨rfl, hst.symm⟩
    · rw [h]; exact ⟨rfl, hst.symm⟩
    · cases hf
    · rw [h] at hok; cases hok
    · rw [h] at hok; cases hok
  · rintro ⟨a, c⟩ hs
    have : c = a := hs
    subst this
    rcases jcSync_cases k jobs c false with ⟨hst, ⟨h, _⟩ | ⟨_, hf, _⟩⟩ | ⟨_, ⟨h, _⟩ | ⟨_, hf, _⟩ | ⟨_, hf, _⟩⟩
    · rw [h]; exact ⟨rfl, rfl, hst.symm⟩
    · cases hf
    · rw [h]; exact ⟨rfl, rfl, (written_fix jobs c).symm⟩
    · cases hf
    · cases hf
  · rintro ⟨a, c⟩ ⟨hs, hst⟩
    have : c = a := hs
    subst this
    rcases jcSync_cases k jobs c false with ⟨_, ⟨h, _⟩ | ⟨_, hf, _⟩⟩ | ⟨hne, _⟩
    · exact h
    · cases hf
    · exact absurd hst.symm hne

/-- non-vacuity: on C15's demo JobConfig and Job cache (two active Jobs, one queued, maxima 700 /
100) the faulted passes fail without reaching the fixpoint, the fault-free pass reaches it -/
example :
    let s : JcSt := ⟨C15.exJC, C15.exJC⟩
    (jcSync .error C15.exCache s true) = (s, false) ∧
    (jcSync .conflict C15.exCache s true).2 = false ∧
    (jcSync .conflict C15.exCache s true).1.api.rv = 8 ∧
    (jcSync .conflict C15.exCache s false).2 = true ∧
    (jcSync .conflict C15.exCache s false).1.api.status.state = "Executing" ∧
    (jcSync .conflict C15.exCache s false).1.api.rv = 8 ∧
    jcSync .error C15.exCache (jcSync .error C15.exCache s false).1 false = ((jcSync .error C15.exCache s false).1, true) := by
  decide +kernel

/-- **jobconfig_converges**.  For every fault kind, Job cache, FINITE fault pattern `fs` (followed
by fault-free passes) and start state with an up-to-date cache (`hs`): the retry loop ends with a
successful pass after at most `#fs + 1` passes; the cache is up to date; the final API status is
`computeStatus` of the ORIGINAL object over the Job cache — exactly what the single fault-free pass
writes — and a fixpoint of `computeStatus`; and the whole observable object (namespace, name, uid,
schedule spec, status; everything but the resourceVersion, which foreign writes bump) is the one of
the run without faults. -/
theorem jobconfig_converges (k : JcFault) (jobs : List JcStatus.Job) (fs : List Bool) (s : JcSt) (hs : JcInv s) :
    (runLoop (jcSync k jobs) (fs.length + 1) fs s).2 = true ∧
    JcFix jobs (runLoop (jcSync k jobs) (fs.length + 1) fs s).1 ∧
    (runLoop (jcSync k jobs) (fs.length + 1) fs s).1.api.status =
      JcStatus.computeStatus s.api (JcStatus.listJobs jobs s.api) ∧
    jcObs (runLoop (jcSync k jobs) (fs.length + 1) fs s).1 = jcObs (jcSync k jobs s false).1 := by
  have H := jobconfig_level_triggered k jobs
  have hconv := convergence_schema H fs s hs
  have hlev := level_preserved H (jcLevel jobs) (fun s f h => jcSync_level k jobs s f h) (fs.length + 1) fs s hs
  have hsame := convergence_same_outcome H (jcLevel jobs) jcObs (fun s f h => jcSync_level k jobs s f h)
    (by
      intro s s' h1 h2 he
      simp only [jcLevel, jcObs, Prod.mk.injEq] at he ⊢
      obtain ⟨e1, e2, e3, e4, e5⟩ := he
      exact ⟨e1, e2, e3, e4, by rw [h1.2, h2.2, e5]⟩)
    fs s hs
  refine ⟨hconv.1, hconv.2, ?_, ?_⟩
  · rw [hconv.2.2]
    simp only [jcLevel, Prod.mk.injEq] at hlev
    exact hlev.2.2.2.2
  · rw [hsame]
    simp only [runLoop, List.headD_nil, (H.quiet_ok s hs).1, if_true]

/-- for server errors / timeouts (nothing reaches the server) the final STATE, resourceVersion
included, is the state after the single fault-free pass -/
theorem jobconfig_converges_exact (jobs : List JcStatus.Job) (fs : List Bool) (s : JcSt) (hs : JcInv s) :
    (runLoop (jcSync .error jobs) (fs.length + 1) fs s).1 = (jcSync .error jobs s false).1 := by
  refine convergence_not_applied (jobconfig_level_triggered .error jobs) ?_ fs s hs
  rintro ⟨a, c⟩ hs
  have : c = a := hs
  subst this
  rcases jcSync_cases .error jobs c true with ⟨_, ⟨h, _⟩ | ⟨_, _, hk⟩⟩ | ⟨_, ⟨_, hf⟩ | ⟨h, _⟩ | ⟨_, _, hk⟩⟩
  · rw [h]
  · cases hk
  · cases hf
  · rw [h]
  · cases hk

/-- **jobconfig_maxima_never_backwards**: at any two points `n ≤ m` of the faulty run,
`lastScheduled` and `lastExecuted` on the API at `m` are at least those at `n` (each pass of the
instance is a run of C15's transition system: `C15.maxima_survive_deletion_occ`). -/
theorem jobconfig_maxima_never_backwards (k : JcFault) (jobs : List JcStatus.Job) (fs : List Bool) (s : JcSt)
    (hs : JcInv s) (n m : Nat) (hnm : n ≤ m) :
    JcStatus.optLe (runLoop (jcSync k jobs) n fs s).1.api.status.lastScheduled
      (runLoop (jcSync k jobs) m fs s).1.api.status.lastScheduled ∧
    JcStatus.optLe (runLoop (jcSync k jobs) n fs s).1.api.status.lastExecuted
      (runLoop (jcSync k jobs) m fs s).1.api.status.lastExecuted :=
  runLoop_monotone (jcSync k jobs) JcInv MaxLe
    (fun s => ⟨JcStatus.optLe_refl _, JcStatus.optLe_refl _⟩)
    (fun a b c h1 h2 => ⟨JcStatus.optLe_trans h1.1 h2.1, JcStatus.optLe_trans h1.2 h2.2⟩)
    (fun s f _ => jcSync_inv k jobs s f) (fun s f h => jcSync_maxLe k jobs s f h) fs s hs n m hnm

/-- non-vacuity of the three run theorems: C15's demo object (old maxima 500 / 90, rv 7), three
conflicts then success: four passes, final rv 11 (three foreign writes + the status write), status
"Executing" with maxima 700 / 100 — the status of the fault-free run, whose rv is 8; with three
server errors instead the final state is literally the fault-free one -/
example :
    let s : JcSt := ⟨C15.exJC, C15.exJC⟩
    let r := runLoop (jcSync .conflict C15.exCache) 4 [true, true, true] s
    r.2 = true ∧ r.1.api.rv = 11 ∧ (jcSync .conflict C15.exCache s false).1.api.rv = 8 ∧
    r.1.api.status = (jcSync .conflict C15.exCache s false).1.api.status ∧
    r.1.api.status.lastScheduled = some 700 ∧ r.1.api.status.lastExecuted = some 100 ∧
    r.1.api.status.state = "Executing" ∧
    (runLoop (jcSync .conflict C15.exCache) 3 [true, true, true] s).2 = false ∧
    (runLoop (jcSync .conflict C15.exCache) 3 [true, true, true] s).1.api.status.lastScheduled = some 500 ∧
    runLoop (jcSync .error C15.exCache) 4 [true, true, true] s = (jcSync .error C15.exCache s false) := by
  decide +kernel


/-! The job controller, one pass (PARTIAL).

`JobCtl.work` is one step of `reconciler.Controller.work` around `jobcontroller.Reconciler.SyncOne`
on the API simulation of `Model/JobCtl.lean`; faults are the strings of `Sys.faults`, consumed one
per API call (`err` / `timeout` / `conflict`: not applied; `applied-err`: applied but reported as an
error).  The theorems below give, for the job controller, hypothesis (H1) of the schema ("a faulted
pass stays inside the invariant, keeps the level, and the key is retried") and the fixpoint clause
("at a fixpoint a further pass is the identity").  MISSING for the full schema, hence `_partial`:
(H2) "a fault-free pass from any invariant state reaches the fixpoint" does not hold for ONE pass of
this controller — a pass that creates or deletes pods or writes the status produces watch events
that must be delivered, and the tasks' progress is the kubelet's; convergence of the job controller
is a statement about the composed system (passes + informer deliveries + kubelet) and needs a
variant, which is not proved (the `jobctl` and `system` engines explore it). -/

/-- **jobctl_fault_keeps_level** (H1 for the job controller).  In every reachable state `s` (any
history: faults of all five kinds, lag, restarts, kubelet, user actions), a `work` step that returns
"err":
* keeps the level on the authoritative Job (`LevelKept`: template, kill timestamp, TTL, start policy
  and start time unchanged; a deletion mark, once set, unchanged; the admission-error annotation only
  ever added) and every task name of `status.tasks` is still listed (`C09Hist.refs_monotone_step`),
  as long as the Job object exists;
* leaves every pod that existed either existing (by name) or named by a successful forced pod delete
  in the call log of this very pass;
* popped a key `k` and — if `SplitMetaNamespaceKey` accepts `k` — re-queued it: the work queue after
  the step is `Retry.work` of the retry-loop model with the pass's deferred adds as `during` and
  `ok := false`, so `C20.retry_until_success` applies: `k` has a deadline and its requeue counter
  grew by one. -/
theorem jobctl_fault_keeps_level {ok : Sys → Action → Prop} {j0 : JobObj} {s : Sys} (hr : Reach ok j0 s)
    (herr : (JobCtl.work s).2 = "err") :
    (∀ j j', s.job = some j → (JobCtl.work s).1.job = some j' →
        LevelKept j.job j'.job ∧ ∀ n ∈ refNames j.job, n ∈ refNames j'.job) ∧
    (∀ n ∈ podNames s.pods, n ∈ podNames (JobCtl.work s).1.pods ∨ ∃ c ∈ (JobCtl.work s).1.calls, ForceDelOk c n) ∧
    ∃ k q1, (s.q.advance s.clock).get = some (k, q1) ∧
      (Retry.splitOk k = true →
        (∃ ops, (JobCtl.work s).1.q =
            Retry.work (s.q.advance s.clock) (-1) s.clock { ok := false, during := ops }) ∧
        k ∈ Retry.delayedKeys (JobCtl.work s).1.q ∧
        WQ.numRequeues (JobCtl.work s).1.q.requeues k = WQ.numRequeues (s.q.advance s.clock).requeues k + 1) := by
  refine ⟨fun j j' hj hj' => ⟨work_level_kept (base_of_reach hr) j j' hj hj',
      C09Hist.refs_monotone_step hr .work trivial j j' hj hj'⟩, work_pods_kept s, ?_⟩
  obtain ⟨k, q1, hg⟩ := work_not_idle (s := s) (by rw [herr]; decide)
  refine ⟨k, q1, hg, fun hs => ?_⟩
  obtain ⟨ops, he⟩ := work_queue_eq s k q1 hg hs (-1) (by decide)
  have hok := (syncOne_of_work hg).2 herr
  rw [hok] at he
  obtain ⟨rest, hqq⟩ := get_queue hg
  have hretry := C20.retry_until_success (s.q.advance s.clock) k rest hqq (-1) s.clock
    { ok := false, during := ops } hs rfl (by decide)
  rw [← he] at hretry
  exact ⟨⟨ops, he⟩, hretry⟩

/-- non-vacuity: the pass of `JEx.sPre` creates pod `job-h-0` and then fails its status write
(server error): it returns "err", the pod exists, the status still lists no task, the key "ns/job"
waits for its 5 ms back-off with requeue counter 1 -/
example : Reach anyAction Ex.job JEx.sPre ∧ (JobCtl.work JEx.sPre).2 = "err" ∧
    (JobCtl.work JEx.sPre).1.calls.map (fun c => (c.verb, c.res, c.name, c.out, c.sub)) =
      [("create", "pods", "job-h-0", "ok", false), ("update", "jobs", "job", "err", true)] ∧
    podNames (JobCtl.work JEx.sPre).1.pods = ["job-h-0"] ∧
    (JobCtl.work JEx.sPre).1.job.map (fun j => refNames j.job) = some [] ∧
    (JobCtl.work JEx.sPre).1.q.delayed = [("ns/job", 5000000)] ∧
    (JobCtl.work JEx.sPre).1.q.requeues = [("ns/job", 1)] ∧ Retry.splitOk "ns/job" = true :=
  ⟨JEx.sPre_reach, by decide +kernel⟩

/-- **jobctl_level_kept_along_retries**: the run form of the first clause.  Along EVERY history
without a user `kill` (the one action that changes the level) — any number of passes under any
fault pattern, retries, informer lag, restarts, kubelet progress, clock advances, pods vanishing,
foreign pods, the user deleting the Job — the level of the authoritative Job is kept and no task name
is dropped from `status.tasks`, for as long as the Job object exists. -/
theorem jobctl_level_kept_along_retries {ok : Sys → Action → Prop} (hok : ∀ s a, ok s a → noKill s a)
    {j0 : JobObj} {s s' : Sys} (hr : Reach ok j0 s) (hs : Steps ok j0 s s') (j j' : JobObj)
    (hj : s.job = some j) (hj' : s'.job = some j') :
    LevelKept j.job j'.job ∧ ∀ n ∈ refNames j.job, n ∈ refNames j'.job := by
  refine ⟨?_, C09Hist.refs_monotone hr hs j j' hj hj'⟩
  -- every step that is not a `kill` keeps the level (`jobMoves_level`); the level is a preorder
  refine steps_rel (fun x y => LevelKept x y) LevelKept.refl (fun _ _ _ h1 h2 => h1.trans h2) ?_ hr hs j j' hj hj'
  intro s1 a _ hr1 hoka hal j1 j1' h1 h1'
  have hnk : ∀ t, a ≠ .kill t := by
    intro t hk
    have := hok s1 a hoka
    rw [hk] at this
    exact this
  exact jobMoves_level hnk (job_moves (base_of_reach hr1) a hal) j1 j1' h1 h1'

/-- non-vacuity: from `JEx.sPre` the faulted pass, the pod event, the back-off and the successful
retry form such a history; the status goes from no ref to one ref, the resourceVersion changes -/
example : Reach noKill Ex.job JEx.sPre ∧
    Steps noKill Ex.job JEx.sPre (runActs JEx.sPre [.work, .deliverPod, .advance 5000000, .work]) ∧
    JEx.sPre.job.map (fun j => (refNames j.job, j.rv)) = some ([], 1) ∧
    (runActs JEx.sPre [.work, .deliverPod, .advance 5000000, .work]).job.map (fun j => (refNames j.job, j.rv)) =
      some (["job-h-0"], 3) :=
  ⟨reach_run (Ex.s0_reach _) [.deliverJob, .setFaults ["", "err"]] (by decide +kernel),
   steps_run JEx.sPre _ (by decide +kernel), by decide +kernel⟩

/-- **jobctl_quiescent_fixpoint_partial** (the fixpoint clause for the job controller).  Let `s` be
a state with empty watch queues and caches equal to the server in which a `work` pass returns "ok"
and issues NO API call (`JobFix s`).  Then
* the pass changed nothing but the work queue: objects, resourceVersion counter, watch queues,
  caches, clock and the unconsumed fault list are those of `s`;
* a further pass at the same clock — on the same key or any other, whatever the work queue holds
  (`setQ _ q'`), provided it pops a key at all — again returns "ok" and issues no call, and the state
  it is run in is again a `JobFix` state (idempotence at the fixpoint);
* `JobFix` is stable under `deliverJob` / `deliverPod` of nothing (both are the identity there).
No hypothesis on the fault list is needed: a pass without calls consumes no fault; the first two
clauses do not even use the quiescence part of `JobFix`.
MISSING (hence `_partial`): that the job controller REACHES a `JobFix` state once calls succeed again
(H2 of the schema) — that depends on informer deliveries and on the kubelet, see the section header. -/
theorem jobctl_quiescent_fixpoint_partial (s : Sys) (hfix : JobFix s) :
    (JobCtl.work s).1 = { s with q := (JobCtl.work s).1.q, calls := [], delRun := none } ∧
    (∀ q', (JobCtl.work (setQ (JobCtl.work s).1 q')).2 ≠ "idle" →
      (JobCtl.work (setQ (JobCtl.work s).1 q')).2 = "ok" ∧
      (JobCtl.work (setQ (JobCtl.work s).1 q')).1.calls = [] ∧ JobFix (setQ (JobCtl.work s).1 q')) ∧
    deliverJob s = s ∧ deliverPod s = s ∧
    deliverJob (JobCtl.work s).1 = (JobCtl.work s).1 ∧ deliverPod (JobCtl.work s).1 = (JobCtl.work s).1 := by
  obtain ⟨hje, hpe, hjc, hpc, hok, hnc⟩ := hfix
  have hfr := work_nocall_frame s hnc
  have hje' : (JobCtl.work s).1.jobEvs = [] := by rw [hfr]; exact hje
  have hpe' : (JobCtl.work s).1.podEvs = [] := by rw [hfr]; exact hpe
  refine ⟨hfr, ?_, deliverJob_nothing s hje, deliverPod_nothing s hpe,
    deliverJob_nothing _ hje', deliverPod_nothing _ hpe'⟩
  intro q' hni
  -- the state the further pass starts `SyncOne` in is the one `s` started it in
  have h := work_oblivious s (setQ (JobCtl.work s).1 q') (fun q => by rw [hfr]; rfl) (by rw [hok]; decide) hni
  rw [hok] at h
  have h2 := h.2.trans hnc
  refine ⟨h.1, h2, ?_, ?_, ?_, ?_, h.1, h2⟩
  · show (JobCtl.work s).1.jobEvs = []; exact hje'
  · show (JobCtl.work s).1.podEvs = []; exact hpe'
  · show (JobCtl.work s).1.jobCache = (JobCtl.work s).1.job; rw [hfr]; exact hjc
  · show (JobCtl.work s).1.podCache = (JobCtl.work s).1.pods; rw [hfr]; exact hpc

/-- what a pass returns and logs never depends on the work queue it is started with (the statement
behind "on the same key or any other" above), for ALL states -/
theorem jobctl_pass_queue_oblivious (s : Sys) (qa qb : WQ.WQ)
    (ha : (JobCtl.work (setQ s qa)).2 ≠ "idle") (hb : (JobCtl.work (setQ s qb)).2 ≠ "idle") :
    (JobCtl.work (setQ s qb)).2 = (JobCtl.work (setQ s qa)).2 ∧
    (JobCtl.work (setQ s qb)).1.calls = (JobCtl.work (setQ s qa)).1.calls :=
  work_oblivious _ _ (fun _ => rfl) ha hb

/-- non-vacuity: `JEx.sFix` (the Job of `Ex.sC`, Finished / Success, every event delivered) is a
`JobFix` state with a non-trivial history (one task created, recorded, finished), its key is ready,
the TTL timer is armed; a second pass with the key re-added (`resync`) is not idle -/
example : JobFix JEx.sFix ∧ JEx.sFix.q.queue = ["ns/job"] ∧
    JEx.sFix.job.map (fun j => (refNames j.job, j.job.status.condition.finished.map (·.result))) =
      some (["job-h-0"], some .success) ∧
    (JobCtl.work (resync (JobCtl.work JEx.sFix).1)).2 = "ok" ∧
    (JobCtl.work JEx.sFix).1.q.delayed = [("ns/job", 1000000000000)] := by
  unfold JobFix
  decide +kernel


/-- **jobctl_create_retry_adopts** (request level).  Suppose an earlier pass created the
pod of attempt `(idx, retry)` but failed before recording it (e.g. its `UpdateStatus` faulted), so
that the pod `p` named `taskName jo.name idx.hash retry` exists on the server (`hsrv`) although the
status does not list it.  In a later pass whose create call is not failed by the fault oracle (`hf`;
in particular when no fault is pending) and whose pod cache has caught up (`hcache`), the create of
the same attempt is answered AlreadyExists, creates nothing (`s1.pods = s.pods`: there is never a
second pod for `(idx, retry)`), the existing pod — controlled by this Job (`hown`) — is ADOPTED
(`syncCreateTask` hands its task `t` on), and every status refresh over a task list containing `t`
RECORDS it: `status.tasks` then has a ref named after the pod.
The pass-level statement is `jobctl_created_task_recovered_partial` below. -/
theorem jobctl_create_retry_adopts (s : Sys) (jo : JobObj) (rj : Job) (tasks : List Task)
    (idx : PIndex) (retry : Int) (p : PodObj) (t : Task) (hf : NextCallOk s)
    (hsrv : findPod s.pods (taskName jo.name idx.hash retry) = some p)
    (hcache : findPod s.podCache (taskName jo.name idx.hash retry) = some p)
    (hown : p.ownerUid = some jo.uid) (ht : podTask s.clock p = some t) :
    ∃ s1, apiCreatePod s jo idx retry = (s1, .exists) ∧
      syncCreateTask s jo rj tasks idx retry = (s1, some (rj, tasks ++ [t])) ∧ s1.pods = s.pods ∧
      (∀ q, (apiCreatePod s jo idx retry).2 ≠ .ok q) ∧
      ∀ (now : Time) (rj' : Job) (tasks' : List Task), t ∈ tasks' →
        taskName jo.name idx.hash retry ∈ refNames (updateJobTaskRefs now rj' tasks') := by
  obtain ⟨s1, hc, hpc, hpods⟩ := apiCreatePod_exists s jo idx retry p hf hsrv
  have hadopt := C09.adopt_not_duplicate s s1 jo rj tasks idx retry p t hc (by rw [hpc]; exact hcache) hown ht
  refine ⟨s1, hc, hadopt.1, hpods, fun q => by rw [hc]; simp, ?_⟩
  intro now rj' tasks' hmem
  have hm := (C11.generateTaskRefs_members now rj'.status.tasks tasks').2.1 t hmem
  have hn : (getTaskRef (lookupRef rj'.status.tasks t.name) t).name = taskName jo.name idx.hash retry := by
    rw [(getTaskRef_fields _ t).1, (podTask_ok ht).1, (podTask_ok ht).2]
    exact (JobCtl.findPod_some hsrv).2
  unfold refNames updateJobTaskRefs
  exact List.mem_map.mpr ⟨_, hm, hn⟩

/-- the complete recovery on a concrete history: the faulted pass of `JEx.sPre` created `job-h-0`
and lost its status write (`JEx.sErr`: one pod, no ref, key in back-off).  After the pod's watch
event is delivered and the back-off has elapsed (`JEx.sRetry`) the hypotheses of the theorem hold,
and the fault-free pass returns "ok": create ↦ AlreadyExists ↦ adopted ↦ recorded by a successful
status write; still exactly one pod.  While the pod cache lags (`JEx.sRetryLag`) the pass fails
again without creating anything. -/
example :
    podNames JEx.sErr.pods = ["job-h-0"] ∧ JEx.sErr.job.map (fun j => refNames j.job) = some [] ∧
    NextCallOk JEx.sRetry ∧
    (findPod JEx.sRetry.pods (taskName "job" "h" 0)).isSome = true ∧
    findPod JEx.sRetry.podCache (taskName "job" "h" 0) = findPod JEx.sRetry.pods (taskName "job" "h" 0) ∧
    (JobCtl.work JEx.sRetry).2 = "ok" ∧
    (JobCtl.work JEx.sRetry).1.calls.map (fun c => (c.verb, c.res, c.name, c.out, c.sub)) =
      [("create", "pods", "job-h-0", "exists", false), ("update", "jobs", "job", "ok", true)] ∧
    (JobCtl.work JEx.sRetry).1.job.map (fun j => refNames j.job) = some ["job-h-0"] ∧
    podNames (JobCtl.work JEx.sRetry).1.pods = ["job-h-0"] ∧
    (JobCtl.work JEx.sRetryLag).2 = "err" ∧ podNames (JobCtl.work JEx.sRetryLag).1.pods = ["job-h-0"] :=
  -- one evaluation of the history for all decidable conjuncts
  have h : (podNames JEx.sErr.pods = ["job-h-0"] ∧ JEx.sErr.job.map (fun j => refNames j.job) = some [] ∧
      JEx.sRetry.faults = []) ∧ _ := by decide +kernel
  ⟨h.1.1, h.1.2.1, nextCallOk_nil h.1.2.2, h.2⟩

/-- **jobctl_created_task_recovered_partial** (pass level).  Let `s` be a reachable state in which
* the Job cache holds the authoritative Job `jo` (`hc`, `hjob`: caught up — after a failed status
  write the server still has the version the faulted pass read), started, not being deleted, allowed
  to create tasks (`hst`, `hnd`, `hcan`) and not complete (`hncomp`);
* the creation requests computed from that cached status (`hreqs`) still contain the attempt `r` of
  the pod the faulted pass created without recording, due now (`hrm`, `hdue`);
* that pod `p` exists on the server under the attempt's task name and the pod cache has caught up
  with it (`hsrv`, `hcache`), and it is controlled by this Job (`hown`).
If the pass from `s` returns "ok" (`hok`), then afterwards the authoritative status LISTS the pod's
name (it was adopted and recorded), pod names on the server are still pairwise distinct (never a
second pod for the attempt), and the pod still exists unless a logged forced delete of this pass
names it.
MISSING (hence `_partial`): `hok` is a hypothesis.  That a pass without pending faults and with both
caches caught up returns "ok" (no conflict, no adoption miss, `ComputeMissingIndexesForCreation`
defined) is the liveness half (H2) of the schema for this controller and is not proved; when the pass
returns "err" instead, `jobctl_fault_keeps_level` applies and the key is retried. -/
theorem jobctl_created_task_recovered_partial {ok : Sys → Action → Prop} {j0 : JobObj} {s : Sys}
    (hr : Reach ok j0 s) (jo : JobObj) (hc : s.jobCache = some jo) (hjob : s.job = some jo)
    (hst : isStarted jo.job = true) (hnd : isDeleted jo.job = false) (hcan : canCreateTask jo.job = true)
    (hncomp : (refreshedSummary s jo.job (tasks0 s jo jo.job)).complete = false)
    (reqs : List CreationRequest) (r : CreationRequest)
    (hreqs : computeMissingIndexesForCreation s.d jo.job (jo.job.indexes s.d) = some reqs) (hrm : r ∈ reqs)
    (hdue : reqDueNow s.clock r) (p : PodObj)
    (hsrv : findPod s.pods (taskName jo.name r.index.hash r.retryIndex) = some p)
    (hcache : findPod s.podCache (taskName jo.name r.index.hash r.retryIndex) = some p)
    (hown : p.ownerUid = some jo.uid) (hok : (JobCtl.work s).2 = "ok") :
    (∀ j', (JobCtl.work s).1.job = some j' → taskName jo.name r.index.hash r.retryIndex ∈ refNames j'.job) ∧
    (podNames (JobCtl.work s).1.pods).Nodup ∧
    (taskName jo.name r.index.hash r.retryIndex ∈ podNames (JobCtl.work s).1.pods ∨
      ∃ c ∈ (JobCtl.work s).1.calls, ForceDelOk c (taskName jo.name r.index.hash r.retryIndex)) := by
  refine ⟨?_, ?_, ?_⟩
  · refine work_ok_records hr jo hc hjob hst hnd hcan hncomp reqs r hreqs hrm hdue ?_ hok
    intro p' hp'
    rw [hcache] at hp'
    cases hp'
    exact hown
  · exact (Base.step (base_of_reach hr) .work trivial).podsNodup
  · refine work_pods_kept s _ ?_
    exact List.mem_map.mpr ⟨p, (JobCtl.findPod_some hsrv).1, (JobCtl.findPod_some hsrv).2⟩

/-- non-vacuity: every hypothesis holds in `JEx.sRetry` (the state after the faulted pass of
`JEx.sPre`, the pod's watch event and the 5 ms back-off), for the attempt `(h, 0)`, whose pod
`job-h-0` the faulted pass created -/
example :
    Reach anyAction Ex.job JEx.sRetry ∧
    JEx.sRetry.jobCache = some (Ex.cachedOf JEx.sRetry) ∧ JEx.sRetry.job = some (Ex.cachedOf JEx.sRetry) ∧
    isStarted (Ex.cachedOf JEx.sRetry).job = true ∧ isDeleted (Ex.cachedOf JEx.sRetry).job = false ∧
    canCreateTask (Ex.cachedOf JEx.sRetry).job = true ∧
    (refreshedSummary JEx.sRetry (Ex.cachedOf JEx.sRetry).job (tasks0 JEx.sRetry (Ex.cachedOf JEx.sRetry) (Ex.cachedOf JEx.sRetry).job)).complete = false ∧
    computeMissingIndexesForCreation JEx.sRetry.d (Ex.cachedOf JEx.sRetry).job
      ((Ex.cachedOf JEx.sRetry).job.indexes JEx.sRetry.d) = some [⟨Ex.d, 0, zeroTime⟩] ∧
    reqDueNow JEx.sRetry.clock ⟨Ex.d, 0, zeroTime⟩ ∧
    taskName (Ex.cachedOf JEx.sRetry).name Ex.d.hash 0 = "job-h-0" ∧
    (findPod JEx.sRetry.pods "job-h-0").map (·.ownerUid) = some (some (Ex.cachedOf JEx.sRetry).uid) ∧
    findPod JEx.sRetry.podCache "job-h-0" = findPod JEx.sRetry.pods "job-h-0" ∧
    (JobCtl.work JEx.sRetry).2 = "ok" :=
  ⟨reach_run JEx.sPre_reach [.work, .deliverPod, .advance 5000000] (by decide +kernel),
    by unfold reqDueNow; decide +kernel⟩

/-! The job-queue per-config pass with the explicit delivery step (PARTIAL, with a witness).

`C20.queue_convergence_partial` left the fixpoint clause open: "after an ok pass the next pass is the
identity only once the informer has delivered the pass's own writes".  Here the delivery is an
explicit step: `ConvQ.qRound s` = one per-config pass (`Queue.workConfig`) followed by
`ConvQ.deliverAll` (every undelivered Job watch event is delivered to the cache, then the store
handler and the controller's handler run every pending notification). -/

/-- **queue_converges_with_delivery_partial**.
(H1, strengthened) From ANY reachable state, under ANY pending fault list, a round leads to a
reachable state in which nothing is undelivered, the Job cache equals the server and the active-job
counter is EXACT for every JobConfig (`C05.quiescent_exact`); the delivery step does not touch the
API objects, the clock or the unconsumed faults.
(H2, closed up to the outcome) From a reachable QUIET state (nothing undelivered, no fault pending)
whose ready key names a cached JobConfig, the pass of the round returns "ok", the state after the
round is QUIET again — the invariant of the schema is restored, which is what was missing — and
the observable outcome of C06 holds on the server: every due queued Job of the JobConfig is
started, or is an Enqueue Job waiting at the limit (judged by the TRUE active count), or is a
rejected Forbid Job.
MISSING, and in fact FALSE as a one-round statement (`queue_one_round_not_identity_witness`): "the
next pass is the identity".  The reject message embeds the active count, so a Forbid Job rejected
before a later Job of the same pass was started is rejected AGAIN, with the new count, by the next
pass; only the pass after that is a no-op.  In the composed system the job controller takes a
rejected Job out of the queue (`Act.markRejected`); that composition is explored by the `system`
engine, not proved. -/
theorem queue_converges_with_delivery_partial :
    (∀ s : Queue.Sys, Queue.Reachable s →
      Queue.Reachable (ConvQ.qRound s) ∧ (ConvQ.qRound s).jobEvs = [] ∧ (ConvQ.qRound s).storeQ = [] ∧
      (ConvQ.qRound s).ctrlQ = [] ∧ (ConvQ.qRound s).jobCache = (ConvQ.qRound s).jobs ∧
      (∀ uid, Queue.getCtr (ConvQ.qRound s).counter uid = Queue.trueActive (ConvQ.qRound s) uid) ∧
      (ConvQ.qRound s).jobs = (Queue.workConfig s).1.jobs ∧ (ConvQ.qRound s).clock = (Queue.workConfig s).1.clock ∧
      (ConvQ.qRound s).faults = (Queue.workConfig s).1.faults) ∧
    (∀ s : Queue.Sys, Queue.Reachable s → Queue.Quiet s → ∀ k q1 jc,
      (s.cfgQ.advance s.clock).get = some (k, q1) → Queue.findJC s.jcCache (Queue.keyName k) = some jc →
      (Queue.workConfig s).2 = "ok" ∧ Queue.Quiet (ConvQ.qRound s) ∧
      ∀ j ∈ Queue.listQueued s.jobs jc, Queue.due j s.clock →
        (∃ a, Queue.findJob (ConvQ.qRound s).jobs j.name = some a ∧ a.startTime = some (s.clock / 1000000000)) ∨
        (j.hasPolicy = true ∧ j.policy = 2 ∧ (Queue.trueActive (ConvQ.qRound s) jc.uid : Int) + 1 > jc.maxConc) ∨
        (j.hasPolicy = true ∧ j.policy = 1 ∧
          ∃ a, Queue.findJob (ConvQ.qRound s).jobs j.name = some a ∧ a.admErr = true)) := by
  -- the first clause is used for the second
  refine (fun hround => ⟨hround, ?_⟩) fun s h => ?_
  · have hr : Queue.Reachable (ConvQ.qRound s) :=
      ConvQ.deliverAll_reachable (Queue.Reachable.step s .workConfig h trivial)
    obtain ⟨h1, h2, h3, h4, h5, h6, _⟩ := ConvQ.deliverAll_facts (Queue.workConfig s).1
    exact ⟨hr, h1, h2, h3, hr.inv.cache_eq_jobs h1, fun uid => C05.quiescent_exact hr h1 h2 uid, h4, h5, h6⟩
  intro s h hq k q1 jc hg hjc
  obtain ⟨_, h1, h2, _, _, _, hjobs, _, hfaults⟩ := hround s h
  obtain ⟨_, hok, _, hout⟩ := C06.quiet_no_due_left h hq hg hjc
  have hta : Queue.trueActive (ConvQ.qRound s) jc.uid = Queue.trueActive (Queue.workConfig s).1 jc.uid := by
    unfold Queue.trueActive; rw [hjobs]
  refine ⟨hok, ⟨h1, h2, by rw [hfaults]; exact ConvQ.workConfig_faults_nil s hq.faults⟩, ?_⟩
  intro j hj hd
  obtain ⟨o1, o2, o3⟩ := hout j hj hd
  rw [hjobs, hta]
  by_cases hp : j.hasPolicy = true
  · by_cases hp1 : j.policy = 1
    · rcases o3 ⟨hp, hp1⟩ with hs | hr
      · exact Or.inl hs.2
      · exact Or.inr (Or.inr ⟨hp, hp1, hr.2⟩)
    · by_cases hp2 : j.policy = 2
      · rcases o2 ⟨hp, hp2⟩ with hs | hl
        · exact Or.inl hs.2
        · exact Or.inr (Or.inl ⟨hp, hp2, hl⟩)
      · exact Or.inl (o1 (Or.inr ⟨hp1, hp2⟩)).2
  · have hp' : j.hasPolicy = false := by simpa using hp
    exact Or.inl (o1 (Or.inl hp')).2

instance (s : Queue.Sys) : Decidable (Queue.Quiet s) :=
  decidable_of_iff (s.jobEvs = [] ∧ s.storeQ = [] ∧ s.faults = [])
    ⟨fun h => ⟨h.1, h.2.1, h.2.2⟩, fun h => ⟨h.evs, h.storeQ, h.faults⟩⟩

/-- non-vacuity: `QEx.s0` (JobConfig `c` with limit 1, one active Job `r`, a queued Forbid Job `f`
and a queued Allow Job `a`) is reachable and quiet, the key of `c` is ready; its round rejects `f`
(count 1) and starts `a` -/
example : Queue.Reachable ConvQ.QEx.s0 ∧ Queue.Quiet ConvQ.QEx.s0 ∧
    ((ConvQ.QEx.s0.cfgQ.advance ConvQ.QEx.s0.clock).get.map (·.1)) = some "ns/c" ∧
    (Queue.workConfig ConvQ.QEx.s0).1.calls.map (fun c => (c.verb, c.job, c.res)) =
      [("reject", "f", "ok"), ("start", "a", "ok")] ∧
    (ConvQ.qRound ConvQ.QEx.s0).counter = [("u", 2)] :=
  ⟨ConvQ.QEx.s0_reachable, by decide +kernel⟩

/-- **FALSE as stated for one round — witness.**  "After an ok pass and the delivery of everything it
produced, the next pass is the identity" does not hold in the model: from the reachable quiet state
`QEx.s0` the first round is ok and ends quiet; the SECOND pass is ok too but is not the identity —
it rewrites the rejection of `f` (message count 1 ↦ 2, a new resourceVersion, one watch event);
only the THIRD pass leaves the server untouched (its reject write is a no-op, still logged). -/
theorem queue_one_round_not_identity_witness :
    Queue.Reachable ConvQ.QEx.s0 ∧ Queue.Quiet ConvQ.QEx.s0 ∧ (Queue.workConfig ConvQ.QEx.s0).2 = "ok" ∧
    Queue.Quiet (ConvQ.qRound ConvQ.QEx.s0) ∧
    (Queue.workConfig (ConvQ.qRound ConvQ.QEx.s0)).2 = "ok" ∧
    (Queue.workConfig (ConvQ.qRound ConvQ.QEx.s0)).1.jobs ≠ (ConvQ.qRound ConvQ.QEx.s0).jobs ∧
    (Queue.workConfig (ConvQ.qRound ConvQ.QEx.s0)).1.rv = (ConvQ.qRound ConvQ.QEx.s0).rv + 1 ∧
    ((ConvQ.qRound ConvQ.QEx.s0).jobs.map (fun j => (j.name, j.admMsg)),
     (Queue.workConfig (ConvQ.qRound ConvQ.QEx.s0)).1.jobs.map (fun j => (j.name, j.admMsg))) =
      ([("r", ("", 0)), ("f", ("c", 1)), ("a", ("", 0))], [("r", ("", 0)), ("f", ("c", 2)), ("a", ("", 0))]) ∧
    (Queue.workConfig (ConvQ.qRound (ConvQ.qRound ConvQ.QEx.s0))).1.jobs = (ConvQ.qRound (ConvQ.qRound ConvQ.QEx.s0)).jobs ∧
    (Queue.workConfig (ConvQ.qRound (ConvQ.qRound ConvQ.QEx.s0))).1.rv = (ConvQ.qRound (ConvQ.qRound ConvQ.QEx.s0)).rv ∧
    (Queue.workConfig (ConvQ.qRound (ConvQ.qRound ConvQ.QEx.s0))).1.jobEvs = [] ∧
    (Queue.workConfig (ConvQ.qRound (ConvQ.qRound ConvQ.QEx.s0))).1.calls.map (fun c => (c.verb, c.job, c.res)) =
      [("reject", "f", "ok")] :=
  ⟨ConvQ.QEx.s0_reachable, by decide +kernel⟩

end Furiko.Props.C20Inst
