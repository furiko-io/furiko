/-
Shared by the history files (`Props/C*Hist.lean`) and the witness files (`Props/C*Side.lean`).  Their
`example`s, regressions and witnesses state finite facts about CONCRETE histories of the transition
system and are proved by evaluation in the kernel (`decide +kernel`).  Running a history is dear — every
controller pass is executed — and every `decide` runs it anew, while inside one `decide` the kernel shares
what the conjuncts have in common.  So each statement is closed by as few evaluations as its shape
allows; the helpers below widen what one evaluation can cover.  Core Lean only.
-/
import FurikoModel.Proofs.JobCtlInvExamples

namespace Furiko.JobCtl

instance (j0 : JobObj) (d : PIndex) : Decidable (WF2 j0 d) :=
  decidable_of_iff (ParallelLemmas.NoCollision (j0.job.indexes d) ∧ ∀ i ∈ j0.job.indexes d, '-' ∉ i.hash.toList)
    ⟨fun h => ⟨h.1, h.2⟩, fun h => ⟨h.1, h.2⟩⟩

instance (j0 : JobObj) : Decidable (WF3 j0) :=
  decidable_of_iff (j0.job.killTimestamp = none ∧ j0.job.admissionError = false ∧ j0.job.template.isSome = true ∧
      j0.job.status.condition.finished = none)
    ⟨fun h => ⟨h.1, h.2.1, h.2.2.1, h.2.2.2⟩, fun h => ⟨h.noKill, h.noAdm, h.tmpl, h.notFinished⟩⟩

/-- `reach_run` together with facts `P` about the run: the guards of the run and `P` in one evaluation.
`s` and `acts` are implicit so that they are read off the goal: the evaluation shares the run with `P` only
if both name the start state by the same term. -/
theorem reach_run_and {ok : Sys → Action → Prop} {j0 : JobObj} {s : Sys} {acts : List Action} {P : Prop}
    (hr : Reach ok j0 s) (h : AllowedAll ok j0 s acts ∧ P) : Reach ok j0 (runActs s acts) ∧ P :=
  ⟨reach_run hr acts h.1, h.2⟩

/-- `reach_run_and` for a history defined in stretches: `G` collects the guards of all stretches, each stated
from the NAMED state it starts in (so that the one evaluation of `G ∧ P` shares the states with `P`); `f`
assembles the reachability from them -/
theorem reach_of_guards {ok : Sys → Action → Prop} {j0 : JobObj} {s : Sys} {G P : Prop}
    (f : G → Reach ok j0 s) (h : G ∧ P) : Reach ok j0 s ∧ P :=
  ⟨f h.1, h.2⟩

/-- puts a fact that is not decided by evaluation (a `Steps`) back into its place among those that are -/
theorem and_insert_third {A B S C : Prop} (hs : S) (h : A ∧ B ∧ C) : A ∧ B ∧ S ∧ C :=
  ⟨h.1, h.2.1, hs, h.2.2⟩

end Furiko.JobCtl
