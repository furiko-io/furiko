import FurikoModel.Proofs.IndexesLemmas
/-!
# C14 — Every parallel index is distinct, complete and gets its own task and variables

Property theorems about the executable model `FurikoModel/Model/Indexes.lean` (tied to the Go code by the
`indexes` engine). Statement of the property (properties.jsonl): a parallelism spec expands to exactly the
requested set of indexes (0..N-1, the given keys, or the full cartesian product of the matrix) in a
deterministic order, each index has its own identity so that distinct indexes never share a task name or
status slot, and the task created for an index receives that index's values in its context variables.
Admission rejects specs for which this cannot hold.

Status:
  * expansion, order (for matrices without empty value lists), names/slots (given distinct hashes) and variables:
    proved in full, for all sizes;
  * `order_deterministic` is FALSE for a matrix with an empty value list and ≥ 2 keys
    (`order_nondeterministic_witness`, finding F3d);
  * "admission rejects …": `validation_rejects_bad_specs_fixed` is the full clause, for the validator as it is in
    /repo since fix 4b8da56 (model `validateParallelismSpecFixed`). For the validator before that fix (model
    `validateParallelismSpec`) the clause is FALSE (`validation_rejects_bad_specs_false`, witnesses F3a–F3d);
    `validation_rejects_bad_specs_partial` states what that validator did guarantee.
`hash : Index → String` (hashstructure + base32 + truncation) is a parameter everywhere.
-/
namespace Furiko.Props.C14
open Furiko.Indexes

/-- `withCount: n` expands to exactly the index numbers 0, 1, …, n-1, in this order. -/
theorem withCount_exact (sp : Spec) (n : Int) (h : sp.withCount = some n) (hn : 0 ≤ n) :
    generateIndexes (some sp) = some ((List.range n.toNat).map fun (i : Nat) => ({ num := some (i : Int) } : Index)) := by
  have hlt : ¬ n < 0 := by omega
  simp only [generateIndexes, Option.getD_some, h, hlt, if_false]
  rw [countLoop_eq n hn n.toNat 0 (by simp), List.range_eq_range']
  rfl

example : generateIndexes (some { withCount := some 3 }) =
    some [{ num := some 0 }, { num := some 1 }, { num := some 2 }] := by
  rw [withCount_exact _ 3 rfl (by decide)]; rfl

/-- `withKeys: ks` (non-empty, `withCount` unset) expands to exactly the keys, in the given order. -/
theorem withKeys_exact (sp : Spec) (hc : sp.withCount = none) (hk : sp.withKeys ≠ []) :
    generateIndexes (some sp) = some (sp.withKeys.map fun k => ({ key := k } : Index)) := by
  have : sp.withKeys.length > 0 := List.length_pos_iff.2 hk
  simp [generateIndexes, hc, this]

example : generateIndexes (some { withKeys := ["b", "a", "ab"] }) =
    some [{ key := "b" }, { key := "a" }, { key := "ab" }] := by
  rw [withKeys_exact _ rfl (by simp)]; rfl

/-- no spec, or a spec with nothing set, is the single default index (number 0). -/
theorem default_exact : generateIndexes none = some [defaultIndex] ∧
    ∀ s : String, generateIndexes (some { strategy := s }) = some [defaultIndex] := by
  constructor <;> intros <;> simp [generateIndexes]

/-- **matrix_is_product**: for a matrix (a Go map: distinct keys) with at least one key and no empty value
list, the carry loop of `GenerateMatrixCombinations` produces the cartesian product of the value lists over
the SORTED keys, in lexicographic order (`cartesian`, first sorted key most significant): for all sizes. -/
theorem matrix_is_product (sp : Spec) (hc : sp.withCount = none) (hk : sp.withKeys = [])
    (hne : sp.withMatrix ≠ []) (hn : KeysNodup sp.withMatrix) (hpos : ∀ kv ∈ sp.withMatrix, kv.2 ≠ []) :
    generateIndexes (some sp) =
      some ((cartesian (cols sp.withMatrix)).map fun c => ({ mat := c } : Index)) := by
  have : sp.withMatrix.length > 0 := List.length_pos_iff.2 hne
  simp [generateIndexes, hc, hk, this, generateMatrixCombinations_eq sp.withMatrix hne hn hpos]

/-- the product has `∏ |values|` elements … -/
theorem matrix_count (m : Matrix) (hn : KeysNodup m) :
    (cartesian (cols m)).length = (m.map (·.2.length)).prod := by
  rw [cartesian_length, cols, List.map_map, ← prod_lens_sorted hn]
  rfl

/-- … contains exactly the choice functions (every combination of one value per key, keys in sorted order) … -/
theorem matrix_complete (m : Matrix) (c : Combination) :
    c ∈ cartesian (cols m) ↔ Picks (cols m) c := mem_cartesian _ _

/-- … each exactly once when every value list is duplicate-free, and in lexicographic order of the value
positions under the sorted keys. -/
theorem matrix_exactly_once (m : Matrix) (hn : KeysNodup m) (hd : ∀ kv ∈ m, kv.2.Nodup) :
    (cartesian (cols m)).Nodup ∧ (cartesian (cols m)).Pairwise (LexBefore (cols m)) := by
  have hcols : ∀ kv ∈ cols m, kv.2.Nodup := by
    intro kv hkv
    simp only [cols, List.mem_map] at hkv
    obtain ⟨k, hk, rfl⟩ := hkv
    obtain ⟨kv', hkv', rfl⟩ := mem_getKeys.1 hk
    rw [values_of_mem hn hkv']
    exact hd kv' hkv'
  exact ⟨cartesian_nodup _ hcols, cartesian_sorted _ hcols⟩

/-- the keys of `cols` are the sorted keys of the map -/
theorem matrix_keys_sorted (m : Matrix) :
    (cols m).map (·.1) = getKeys m ∧ (getKeys m).Pairwise (· ≤ ·) ∧ (getKeys m).Perm (m.map (·.1)) := by
  refine ⟨?_, getKeys_sorted m, getKeys_perm m⟩
  simp [cols, Function.comp_def]

example : generateIndexes (some { withMatrix := [("a", ["1", "2"]), ("b", ["x", "y"])] }) =
    some [{ mat := [("a", "1"), ("b", "x")] }, { mat := [("a", "1"), ("b", "y")] },
          { mat := [("a", "2"), ("b", "x")] }, { mat := [("a", "2"), ("b", "y")] }] := by
  have hk : getKeys [("a", ["1", "2"]), ("b", ["x", "y"])] = ["a", "b"] := by
    simp [getKeys, List.mergeSort]
  rw [matrix_is_product _ rfl rfl (by simp) (by simp [KeysNodup]) (by simp)]
  simp [cols, hk, values, cartesian, List.lookup]

/-- **order_deterministic**: the expansion is a function of the spec as a MAP. Whatever order Go's map iteration
presents the matrix in (any permutation of the association list), the result is the same — provided no value list
is empty. (`withCount`/`withKeys` do not involve a map at all.) -/
theorem order_deterministic (sp : Spec) (m' : Matrix) (hperm : sp.withMatrix.Perm m')
    (hn : KeysNodup sp.withMatrix) (hpos : ∀ kv ∈ sp.withMatrix, kv.2 ≠ []) :
    generateIndexes (some { sp with withMatrix := m' }) = generateIndexes (some sp) := by
  have hn' : KeysNodup m' := (hperm.map _).nodup hn
  have hpos' : ∀ kv ∈ m', kv.2 ≠ [] := fun kv h => hpos kv (hperm.symm.subset h)
  cases hc : sp.withCount with
  | some n => simp [generateIndexes, hc]
  | none =>
    by_cases hk : sp.withKeys.length > 0
    · simp [generateIndexes, hc, hk]
    · by_cases hm : sp.withMatrix = []
      · have : m' = [] := (hm ▸ hperm).nil_eq.symm
        simp [generateIndexes, hc, hk, hm, this]
      · have hm' : m' ≠ [] := fun e => hm (by rw [e] at hperm; exact hperm.eq_nil)
        have l1 : sp.withMatrix.length > 0 := List.length_pos_iff.2 hm
        have l2 : m'.length > 0 := List.length_pos_iff.2 hm'
        simp only [generateIndexes, Option.getD_some, hc, hk, if_false, l1, l2, if_true,
          generateMatrixCombinations_eq m' hm' hn' hpos', generateMatrixCombinations_eq _ hm hn hpos,
          cols_eq_of_perm hn hperm]

example : generateIndexes (some { withMatrix := [("b", ["x"]), ("a", ["1", "2"])] }) =
    generateIndexes (some { withMatrix := [("a", ["1", "2"]), ("b", ["x"])] }) :=
  order_deterministic { withMatrix := [("a", ["1", "2"]), ("b", ["x"])] } _ (List.Perm.swap ..)
    (by simp [KeysNodup]) (by simp)

/-- **F3d**: with an empty value list the hypothesis cannot be dropped — `NumCombinations` forgets everything
before the last empty list it meets, so `{a: [], b: [x]}` panics (index out of range) when the map is iterated
`a, b` and yields no index at all when iterated `b, a`. Replayed on the real code by the corpus scenario
`f3-withmatrix-empty-values`. -/
theorem order_nondeterministic_witness :
    ∃ (m m' : Matrix), m.Perm m' ∧ KeysNodup m ∧
      generateIndexes (some { withMatrix := m }) = none ∧
      generateIndexes (some { withMatrix := m' }) = some [] := by
  refine ⟨[("a", []), ("b", ["x"])], [("b", ["x"]), ("a", [])], List.Perm.swap .., by simp [KeysNodup], ?_, ?_⟩
  · have hk : getKeys [("a", []), ("b", ["x"])] = ["a", "b"] := by simp [getKeys, List.mergeSort]
    simp [generateIndexes, generateMatrixCombinations, numCombinations, hk, odometer, fixIndexes, fixLoop, values,
      List.lookup]
  · simp [generateIndexes, generateMatrixCombinations, numCombinations, odometer]

/-- `GenerateTaskName` is injective in (hash, retry) for a fixed job name, because hashes (6 characters of the
lower-cased base32 alphabet, checked on every hash by the harness monitor `hash-format`) contain no `-`. -/
theorem generateTaskName_injective (name h1 h2 : String) (r1 r2 : Int)
    (d1 : '-' ∉ h1.toList) (d2 : '-' ∉ h2.toList)
    (e : generateTaskName name h1 r1 = generateTaskName name h2 r2) : h1 = h2 ∧ r1 = r2 := by
  simp only [generateTaskName, String.append_assoc] at e
  have e1 := (String.append_right_inj name).1 e
  have e2 := (String.append_right_inj "-").1 e1
  have e3 : h1.toList ++ '-' :: (toString r1).toList = h2.toList ++ '-' :: (toString r2).toList := by
    have := congrArg String.toList e2
    simpa [String.toList_append] using this
  obtain ⟨hh, hr⟩ := split_at_dash _ _ _ _ d1 d2 e3
  refine ⟨String.toList_inj.1 hh, ?_⟩
  have : toString r1 = toString r2 := String.toList_inj.1 hr
  exact Int.repr_inj.1 this

/-- **distinct_names_slots**: if the indexes of a spec are pairwise distinct and the hash is injective on them,
then (1) different indexes never share a task name, whatever the retry numbers; (2) the same index with different
retry numbers has different names; (3) every status slot of `GetParallelStatus` holds exactly the tasks of its
own index: grouping by hash partitions the tasks by index. -/
theorem distinct_names_slots (hash : Index → String) (ixs : List Index)
    (hinj : ∀ a ∈ ixs, ∀ b ∈ ixs, hash a = hash b → a = b)
    (hfmt : ∀ a ∈ ixs, '-' ∉ (hash a).toList) (name : String) :
    (∀ a ∈ ixs, ∀ b ∈ ixs, ∀ r1 r2 : Int, a ≠ b →
        generateTaskName name (hash a) r1 ≠ generateTaskName name (hash b) r2) ∧
    (∀ a ∈ ixs, ∀ r1 r2 : Int, r1 ≠ r2 →
        generateTaskName name (hash a) r1 ≠ generateTaskName name (hash a) r2) ∧
    (∀ tasks : List Index, (∀ t ∈ tasks, t ∈ ixs) →
        statusSlots hash ixs tasks = ixs.map fun i => (hash i, (tasks.filter (· = i)).length)) := by
  refine ⟨?_, ?_, ?_⟩
  · intro a ha b hb r1 r2 hab e
    exact hab (hinj a ha b hb (generateTaskName_injective name _ _ r1 r2 (hfmt a ha) (hfmt b hb) e).1)
  · intro a ha r1 r2 hr e
    exact hr (generateTaskName_injective name _ _ r1 r2 (hfmt a ha) (hfmt a ha) e).2
  · intro tasks hsub
    simp only [statusSlots, hashIndexes_fst, List.map_map]
    apply List.map_congr_left
    intro i hi
    simp only [Function.comp_def, Prod.mk.injEq, true_and]
    clear hfmt
    induction tasks with
    | nil => simp
    | cons t ts ih =>
      have ht : t ∈ ixs := hsub t (List.mem_cons_self ..)
      have ih' := ih (fun x hx => hsub x (List.mem_cons_of_mem _ hx))
      by_cases e : t = i
      · subst e; simp [ih']
      · have hne : hash t ≠ hash i := fun hh => e (hinj t ht i hi hh)
        simp [e, hne, ih']

/-- which entry wins on a hash collision: `hashesIdx[h]` of `HashIndexes` is the LAST position whose index
hashes to `h` (so with a collision the earlier index is never "found" by `ComputeMissingIndexesForCreation`). -/
theorem hashesIdx_last_wins (hash : Index → String) (ixs : List Index) (h : String) :
    (hashIndexes hash ixs).2.lookup h = lastPos hash h ixs 0 := by
  rw [hashIndexes, hashIndexesLoop_snd]
  cases lastPos hash h ixs 0 <;> simp

example : (hashIndexes f3Hash [{ num := some 58 }, { num := some 59 }, { num := some 69 }]).2.lookup "ge3dqm"
    = some 2 := by
  rw [hashesIdx_last_wins]; simp [lastPos, f3Hash, f3WitnessHashes]

example : ∀ a ∈ [({ num := some 0 } : Index), { num := some 1 }], ∀ b ∈ [({ num := some 0 } : Index), { num := some 1 }],
    f3Hash a = f3Hash b → a = b := by
  decide +kernel

/-- **vars_carry_index**: the variables of the task created for an index are the three task variables plus
exactly that index's values: `task.index_num` for a count index, `task.index_key` for a (non-empty) key,
`task.index_matrix.<k>` = v for every pair of a matrix combination — and nothing else. -/
theorem vars_carry_index (name ns : String) (retry : Int) :
    (∀ n : Int, makeVariablesFromTask name ns retry { num := some n } =
      [("task.name", name), ("task.namespace", ns), ("task.retry_index", toString retry),
       ("task.index_num", toString n)]) ∧
    (∀ k : String, k ≠ "" → makeVariablesFromTask name ns retry { key := k } =
      [("task.name", name), ("task.namespace", ns), ("task.retry_index", toString retry),
       ("task.index_key", k)]) ∧
    (∀ c : Combination, makeVariablesFromTask name ns retry { mat := c } =
      [("task.name", name), ("task.namespace", ns), ("task.retry_index", toString retry)] ++
        c.map fun kv => ("task.index_matrix." ++ kv.1, kv.2)) := by
  refine ⟨?_, ?_, ?_⟩ <;> intros <;> simp_all [makeVariablesFromTask]

/-- the pod built by `NewPod` for an index is named by `GenerateTaskName`, labelled with the index hash and
retry, carries the index in its annotation, and a field `${task.index_num}` is substituted by the index number -/
theorem pod_carries_index (hash : Index → String) (job ns : String) (retry n : Int) :
    let p := newPod hash job ns retry { num := some n } ["task.index_num", "task.index_key"]
    p.name = generateTaskName job (hash { num := some n }) retry ∧ p.hashLabel = hash { num := some n } ∧
    p.annotation = { num := some n } ∧ p.env = [toString n, ""] := by
  simp [newPod, makeVariablesFromTask, substSingle, List.lookup]

/-- the matrix variables can be looked up: for a combination with distinct keys, variable
`task.index_matrix.<k>` has the combination's value for `k`. -/
theorem vars_matrix_lookup (name ns : String) (retry : Int) (c : Combination) (hn : (c.map (·.1)).Nodup)
    (k v : String) (h : (k, v) ∈ c) :
    (makeVariablesFromTask name ns retry { mat := c }).lookup ("task.index_matrix." ++ k) = some v := by
  have hpre : ∀ s : String, s = "task.name" ∨ s = "task.namespace" ∨ s = "task.retry_index" →
      ("task.index_matrix." ++ k == s) = false := by
    intro s hs
    have : "task.index_matrix." ++ k ≠ s := by
      intro e
      have e' := congrArg String.toList e
      rcases hs with rfl | rfl | rfl <;> simp [String.toList_append] at e'
    simpa using this
  simp only [(vars_carry_index name ns retry).2.2 c, List.cons_append, List.nil_append, List.lookup_cons,
    hpre _ (Or.inl rfl), hpre _ (Or.inr (Or.inl rfl)), hpre _ (Or.inr (Or.inr rfl))]
  refine List.lookup_eq_some_of_mem ?_ (List.mem_map.2 ⟨(k, v), h, rfl⟩)
  simpa [List.map_map, Function.comp_def] using
    hn.map_of_inj (f := ("task.index_matrix." ++ ·)) fun a _ b _ e => (String.append_right_inj _).1 e

example : (makeVariablesFromTask "job-gezdqo-0" "ns" 0 { mat := [("arch", "arm64"), ("os", "linux")] }).lookup
    "task.index_matrix.os" = some "linux" :=
  vars_matrix_lookup _ _ _ _ (by simp) "os" "linux" (by simp)

/-- **F3a witness**: the validator before fix 4b8da56 (`validateParallelismSpec`) accepts `withCount: 70`, whose
indexes 58 and 69 have the same hash under the transmitted hash values (`f3Hash`): they share task names and one
status slot. -/
theorem validation_accepts_colliding_witness :
    ∃ (spec : Spec) (ixs : List Index), validateParallelismSpec spec = [] ∧
      generateIndexes (some spec) = some ixs ∧ ixs.Nodup ∧
      ∃ a ∈ ixs, ∃ b ∈ ixs, a ≠ b ∧ f3Hash a = f3Hash b ∧
        generateTaskName "job" (f3Hash a) 0 = generateTaskName "job" (f3Hash b) 0 := by
  refine ⟨{ withCount := some 70, strategy := "AllSuccessful" }, _, ?_, withCount_exact _ 70 rfl (by decide), ?_,
    { num := some 58 }, ?_, { num := some 69 }, ?_, ?_, ?_, ?_⟩
  · decide +kernel
  · exact List.nodup_range.map_of_inj (fun a _ b _ e => numIndex_injective a b e)
  · exact List.mem_map.2 ⟨58, by simp, rfl⟩
  · exact List.mem_map.2 ⟨69, by simp, rfl⟩
  · decide
  · decide +kernel
  · decide +kernel

/-- **F3b / F3c witnesses**: duplicate `withKeys` entries and duplicate values of a matrix key are accepted by the
validator before fix 4b8da56 and expand to duplicate indexes. -/
theorem validation_accepts_duplicates_witness :
    (∃ (spec : Spec) (ixs : List Index), validateParallelismSpec spec = [] ∧
        generateIndexes (some spec) = some ixs ∧ ¬ ixs.Nodup ∧ spec.withKeys ≠ []) ∧
    (∃ (spec : Spec) (ixs : List Index), validateParallelismSpec spec = [] ∧
        generateIndexes (some spec) = some ixs ∧ ¬ ixs.Nodup ∧ spec.withMatrix ≠ []) := by
  constructor
  · refine ⟨{ withKeys := ["a", "b", "a"], strategy := "AllSuccessful" }, _, ?_, withKeys_exact _ rfl (by simp), ?_, by simp⟩
    · decide +kernel
    · decide +kernel
  · refine ⟨{ withMatrix := [("os", ["linux", "linux"])], strategy := "AllSuccessful" }, _, ?_,
      matrix_is_product _ rfl rfl (by simp) (by simp [KeysNodup]) (by simp), ?_, by simp⟩
    · decide +kernel
    · decide +kernel

/-- **F3d witness**: a matrix with an empty value list is accepted by the validator before fix 4b8da56 although its
expansion panics or is empty depending on map iteration order. -/
theorem validation_accepts_empty_values_witness :
    ∃ (spec : Spec) (m' : Matrix), validateParallelismSpec spec = [] ∧ spec.withMatrix.Perm m' ∧
      generateIndexes (some spec) = none ∧ generateIndexes (some { spec with withMatrix := m' }) = some [] := by
  refine ⟨{ withMatrix := [("a", []), ("b", ["x"])], strategy := "AllSuccessful" }, [("b", ["x"]), ("a", [])], ?_,
    List.Perm.swap .., ?_, ?_⟩
  · decide +kernel
  · have hk : getKeys [("a", []), ("b", ["x"])] = ["a", "b"] := by simp [getKeys, List.mergeSort]
    simp [generateIndexes, generateMatrixCombinations, numCombinations, hk, odometer, fixIndexes, fixLoop, values,
      List.lookup]
  · simp [generateIndexes, generateMatrixCombinations, numCombinations, odometer]

/-- **validation_rejects_bad_specs was FALSE for the validator before fix 4b8da56** (`validateParallelismSpec` is that
earlier shape, kept as documentation; the current one is `…_fixed` below) (full statement: `validate spec = ok →
NoDup indexes ∧ hash injective on them`, for every hash function). -/
theorem validation_rejects_bad_specs_false :
    ¬ ∀ (hash : Index → String) (spec : Spec) (ixs : List Index), validateParallelismSpec spec = [] →
        generateIndexes (some spec) = some ixs →
        ixs.Nodup ∧ ∀ a ∈ ixs, ∀ b ∈ ixs, hash a = hash b → a = b := by
  intro hall
  obtain ⟨spec, ixs, hv, hg, _, a, ha, b, hb, hab, hh, _⟩ := validation_accepts_colliding_witness
  exact hab ((hall f3Hash spec ixs hv hg).2 a ha b hb hh)

/-- **validation_rejects_bad_specs_partial** — exactly what the validator before fix 4b8da56 guarantees: a valid completion
strategy; exactly one parallelism type; a positive count (whose indexes are then always duplicate-free);
non-empty keys (duplicate-free indexes only IF the keys are distinct); well-formed matrix keys and non-empty
value strings (a total, duplicate-free expansion only IF no value list is empty and none has duplicates).
Missing for the full clause: distinctness of keys / matrix values, non-emptiness of value lists, and any
statement about the hash (it has no collision check). -/
theorem validation_rejects_bad_specs_partial (spec : Spec) (h : validateParallelismSpec spec = []) :
    (spec.strategy = "AllSuccessful" ∨ spec.strategy = "AnySuccessful") ∧
    ((∃ n, spec.withCount = some n ∧ 0 < n ∧ spec.withKeys = [] ∧ spec.withMatrix = [] ∧
        ∃ ixs, generateIndexes (some spec) = some ixs ∧ ixs.Nodup ∧ ixs.length = n.toNat) ∨
     (spec.withCount = none ∧ spec.withKeys ≠ [] ∧ spec.withMatrix = [] ∧ (∀ k ∈ spec.withKeys, k ≠ "") ∧
        ∃ ixs, generateIndexes (some spec) = some ixs ∧ (spec.withKeys.Nodup → ixs.Nodup)) ∨
     (spec.withCount = none ∧ spec.withKeys = [] ∧ spec.withMatrix ≠ [] ∧
        (∀ kv ∈ spec.withMatrix, matrixKeyOk kv.1 = true ∧ ∀ v ∈ kv.2, v ≠ "") ∧
        (KeysNodup spec.withMatrix → (∀ kv ∈ spec.withMatrix, kv.2 ≠ [] ∧ kv.2.Nodup) →
          ∃ ixs, generateIndexes (some spec) = some ixs ∧ ixs.Nodup))) := by
  obtain ⟨hst, hcases⟩ := validateSpecWith_nil h
  refine ⟨hst, ?_⟩
  rcases hcases with ⟨n, hc, hn, hk, hm⟩ | ⟨hc, hk, hne, hm⟩ | ⟨hc, hk, hm, hv⟩
  · refine Or.inl ⟨n, hc, hn, hk, hm, _, withCount_exact spec n hc (by omega), ?_, by simp⟩
    exact List.nodup_range.map_of_inj (fun a _ b _ e => numIndex_injective a b e)
  · refine Or.inr (Or.inl ⟨hc, hk, hm, hne, _, withKeys_exact spec hc hk, ?_⟩)
    intro hnd
    exact hnd.map_of_inj (fun a _ b _ e => by simpa using e)
  · refine Or.inr (Or.inr ⟨hc, hk, hm, validateMatrix_nil hv, ?_⟩)
    intro hkn hvals
    refine ⟨_, matrix_is_product spec hc hk hm hkn (fun kv h => (hvals kv h).1), ?_⟩
    exact (matrix_exactly_once _ hkn (fun kv h => (hvals kv h).2)).1.map_of_inj
      (fun a _ b _ e => by simpa using e)

/-- the repaired validator never meets a panicking expansion -/
theorem fixed_validator_never_panics (spec : Spec) (hkn : KeysNodup spec.withMatrix)
    (h : validateSpecWith validateMatrixFixed spec = []) : ∃ ixs, generateIndexes (some spec) = some ixs := by
  obtain ⟨_, hcases⟩ := validateSpecWith_nil h
  rcases hcases with ⟨n, hc, hn, _, _⟩ | ⟨hc, hk, _, _⟩ | ⟨hc, hk, hm, hv⟩
  · exact ⟨_, withCount_exact spec n hc (by omega)⟩
  · exact ⟨_, withKeys_exact spec hc hk⟩
  · exact ⟨_, matrix_is_product spec hc hk hm hkn (fun kv h => (validateMatrixFixed_nil hv kv h).2.1)⟩

/-- **validation_rejects_bad_specs_fixed** — the full clause, for the validator as it is in /repo since fix 4b8da56
(`validateParallelismSpecFixed`): whatever the hash function, an accepted spec (a Go map: distinct matrix keys)
expands without panic, independently of map iteration order, to pairwise distinct indexes on which the hash is
injective — hence (by `distinct_names_slots`) to distinct task names and status slots. -/
theorem validation_rejects_bad_specs_fixed (hash : Index → String) (spec : Spec)
    (hkn : KeysNodup spec.withMatrix) (h : validateParallelismSpecFixed hash spec = []) :
    ∃ ixs, generateIndexes (some spec) = some ixs ∧ ixs.Nodup ∧
      (∀ a ∈ ixs, ∀ b ∈ ixs, hash a = hash b → a = b) ∧
      (∀ m', spec.withMatrix.Perm m' → generateIndexes (some { spec with withMatrix := m' }) = some ixs) := by
  have herrs := validateSpecWith_of_fixed_nil h
  simp only [validateParallelismSpecFixed, herrs, List.length_nil, if_true] at h
  split at h
  · cases h
  · rename_i ixs hgen
    split at h
    · cases h
    · rename_i hdup
      obtain ⟨hnd, hinj⟩ := nodup_map_hash ((firstDup_none _).1 hdup)
      refine ⟨ixs, hgen, hnd, hinj, ?_⟩
      intro m' hperm
      obtain ⟨_, hcases⟩ := validateSpecWith_nil herrs
      have hpos : ∀ kv ∈ spec.withMatrix, kv.2 ≠ [] := by
        rcases hcases with ⟨_, _, _, _, hm⟩ | ⟨_, _, _, hm⟩ | ⟨_, _, _, hv⟩
        · simp [hm]
        · simp [hm]
        · exact fun kv h => (validateMatrixFixed_nil hv kv h).2.1
      rw [order_deterministic spec m' hperm hkn hpos, hgen]

example : validateParallelismSpecFixed (fun ix => toString (ix.num.getD 0)) { withCount := some 3, strategy := "AllSuccessful" } = [] := by
  have hg := withCount_exact { withCount := some 3, strategy := "AllSuccessful" } 3 rfl (by decide)
  simp [validateParallelismSpecFixed, validateSpecWith, validateStrategy, hg, firstDup, firstDupFrom, List.range,
    List.range.loop, List.idxOf?, List.findIdx?, List.findIdx?.go]

/-- the repaired validator rejects the F3a witness -/
theorem fixed_rejects_colliding_witness :
    validateParallelismSpecFixed f3Hash { withCount := some 70, strategy := "AllSuccessful" } ≠ [] := by
  intro h
  obtain ⟨ixs, hg, _, hinj, _⟩ := validation_rejects_bad_specs_fixed f3Hash _ (by simp [KeysNodup]) h
  rw [withCount_exact _ 70 rfl (by decide)] at hg
  cases hg
  have := hinj { num := some 58 } (List.mem_map.2 ⟨58, by simp, rfl⟩) { num := some 69 }
    (List.mem_map.2 ⟨69, by simp, rfl⟩) (by simp [f3Hash, f3WitnessHashes])
  simp at this

end Furiko.Props.C14
