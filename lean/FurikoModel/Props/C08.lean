/-
C08 — pure clauses (every input): which (index, retry) `ComputeMissingIndexesForCreation`
hands out, and when an index counts as failed.  The create calls of a controller pass are in
`Props/C08Plan.lean`, the statements over histories (one live task per index, …) in
`Props/C08Hist.lean`.

`NoCollision` (`Proofs/ParallelLemmas.lean`) = the hashes of the index list are pairwise distinct
(DESIGN §6/C08, cf. C14/F3).
-/
import FurikoModel.Model.ParallelStatus
import FurikoModel.Proofs.ParallelLemmas
import FurikoModel.Proofs.StatusLemmas

namespace Furiko.Props.C08
open Furiko Furiko.ParallelLemmas

/-- a ref that blocks creation for its index: unfinished, or succeeded -/
def Blocking (t : TaskRef) : Prop := t.finishTimestamp = none ∨ t.status.result = .succeeded

theorem refActiveOrSuccessful_iff (t : TaskRef) : refActiveOrSuccessful t = true ↔ Blocking t := by
  unfold refActiveOrSuccessful Blocking
  cases t.finishTimestamp <;> simp

/-- Soundness: under `NoCollision`, every request is for an index of the list that has no
unfinished and no succeeded ref; its retry index is the next one of that index and stays below
`maxAttempts`; its earliest time is the latest finish of that index plus the retry delay. -/
theorem computeMissing_sound (d : PIndex) (job : Job) (indexes : List PIndex) (reqs : List CreationRequest)
    (hnc : NoCollision indexes)
    (h : computeMissingIndexesForCreation d job indexes = some reqs) :
    ∀ r ∈ reqs,
      r.index ∈ indexes ∧
      (∀ t ∈ job.status.tasks, t.hash d = r.index.hash → ¬ Blocking t) ∧
      r.retryIndex = nextRetryIndex d job.status.tasks r.index.hash ∧
      r.retryIndex < job.maxAttempts ∧
      r.earliest = latestFinishTime d job.status.tasks r.index.hash + job.retryDelay := by
  intro r hr
  unfold computeMissingIndexesForCreation at h
  split at h
  · cases h
  · cases h
    obtain ⟨k, hk, hf, hm, rfl⟩ := (mem_missingFrom d job indexes indexes 0 r).mp hr
    refine ⟨List.getElem_mem hk, ?_, rfl, hm, rfl⟩
    intro t ht hh hb
    simp only [Nat.zero_add] at hf
    have : foundAt d indexes job.status.tasks k = true := by
      unfold foundAt
      rw [List.any_eq_true]
      refine ⟨t, ht, ?_⟩
      simp only [Bool.and_eq_true, beq_iff_eq]
      refine ⟨(refActiveOrSuccessful_iff t).mpr hb, ?_⟩
      simp only [mkReq] at hh
      rw [hh]
      exact hashesIdx_getElem indexes hnc k hk
    rw [this] at hf
    cases hf

/-- Completeness: under `NoCollision`, and when no *blocking* ref carries a hash outside the
index list (such a ref is written to position 0 by the code — see
`foreign_blocking_ref_hides_first_index`), every index without blocking ref whose next retry
index is below `maxAttempts` is requested. -/
theorem computeMissing_complete (d : PIndex) (job : Job) (indexes : List PIndex) (reqs : List CreationRequest)
    (hnc : NoCollision indexes)
    (hforeign : ∀ t ∈ job.status.tasks, Blocking t → t.hash d ∈ indexes.map (·.hash))
    (h : computeMissingIndexesForCreation d job indexes = some reqs)
    (i : PIndex) (hi : i ∈ indexes)
    (hfree : ∀ t ∈ job.status.tasks, t.hash d = i.hash → ¬ Blocking t)
    (hretry : nextRetryIndex d job.status.tasks i.hash < job.maxAttempts) :
    mkReq d job i ∈ reqs := by
  unfold computeMissingIndexesForCreation at h
  split at h
  · cases h
  · cases h
    obtain ⟨k, hk, rfl⟩ := List.mem_iff_getElem.mp hi
    refine (mem_missingFrom d job indexes indexes 0 _).mpr ⟨k, hk, ?_, hretry, rfl⟩
    simp only [Nat.zero_add]
    rw [Bool.eq_false_iff]
    intro hfound
    unfold foundAt at hfound
    obtain ⟨t, ht, hc⟩ := List.any_eq_true.mp hfound
    simp only [Bool.and_eq_true, beq_iff_eq] at hc
    have hb := (refActiveOrSuccessful_iff t).mp hc.1
    obtain ⟨j, hj, hjh⟩ := List.mem_map.mp (hforeign t ht hb)
    obtain ⟨q, hq, rfl⟩ := List.mem_iff_getElem.mp hj
    have hidx := hashesIdx_getElem indexes hnc q hq
    rw [hjh, hc.2] at hidx
    subst hidx
    exact hfree t ht hjh.symm hb

/-- The next retry index equals the number of existing refs of the index when their retry
indexes are pairwise distinct and all within `0 .. count-1` (i.e. contiguous from 0). -/
theorem nextRetry_eq_count (d : PIndex) (tasks : List TaskRef) (h : String)
    (hnd : ((tasksOfHash d tasks h).map (·.retryIndex)).Nodup)
    (hrange : ∀ t ∈ tasksOfHash d tasks h, 0 ≤ t.retryIndex ∧ t.retryIndex < (tasksOfHash d tasks h).length) :
    nextRetryIndex d tasks h = (tasksOfHash d tasks h).length := by
  rw [nextRetryIndex_eq_maxSucc]
  have := maxSucc_eq_length ((tasksOfHash d tasks h).map (·.retryIndex)) hnd (by
    intro x hx
    obtain ⟨t, ht, rfl⟩ := List.mem_map.mp hx
    simpa using hrange t ht)
  simpa using this

/-- An index is reported `Failed` exactly when none of its refs succeeded and at least
`maxAttempts` of them are finished. -/
theorem indexStatus_failed_iff (index : PIndex) (hash : String) (tasks : List TaskRef) (maxAttempts : Int) :
    (getIndexStatus index hash tasks maxAttempts).result = .failed ↔
      (∀ t ∈ tasks, t.status.result ≠ .succeeded) ∧ ((tasks.countP refTerminal : Nat) : Int) ≥ maxAttempts :=
  (StatusLemmas.indexStatus_failed_iff index hash tasks maxAttempts).trans (by simp)

/-- No request for an index that has a succeeded ref (under `NoCollision`). -/
theorem no_missing_when_succeeded (d : PIndex) (job : Job) (indexes : List PIndex) (reqs : List CreationRequest)
    (hnc : NoCollision indexes)
    (h : computeMissingIndexesForCreation d job indexes = some reqs)
    (t : TaskRef) (ht : t ∈ job.status.tasks) (hs : t.status.result = .succeeded) :
    ∀ r ∈ reqs, r.index.hash ≠ t.hash d := by
  intro r hr he
  exact (computeMissing_sound d job indexes reqs hnc h r hr).2.1 t ht he.symm (Or.inr hs)

/-- No request carries a retry index at or beyond `maxAttempts` (no hypothesis), and none is
negative. -/
theorem no_missing_beyond_maxAttempts (d : PIndex) (job : Job) (indexes : List PIndex) (reqs : List CreationRequest)
    (h : computeMissingIndexesForCreation d job indexes = some reqs) :
    ∀ r ∈ reqs, 0 ≤ r.retryIndex ∧ r.retryIndex < job.maxAttempts := by
  intro r hr
  unfold computeMissingIndexesForCreation at h
  split at h
  · cases h
  · cases h
    obtain ⟨k, hk, _, hm, rfl⟩ := (mem_missingFrom d job indexes indexes 0 r).mp hr
    refine ⟨?_, hm⟩
    rw [show (mkReq d job indexes[k]).retryIndex = nextRetryIndex d job.status.tasks indexes[k].hash from rfl,
      nextRetryIndex_eq_maxSucc]
    exact (foldl_maxSucc_ge _ 0).1

/-- The earliest creation time of a request is at least `finish + retryDelay` for every
finished ref of that index; with no finished ref it is Go's zero time plus the delay
(Appendix A item 5). -/
theorem earliest_respects_delay (d : PIndex) (job : Job) (indexes : List PIndex) (reqs : List CreationRequest)
    (h : computeMissingIndexesForCreation d job indexes = some reqs) :
    ∀ r ∈ reqs,
      (∀ t ∈ job.status.tasks, t.hash d = r.index.hash → ∀ f, t.finishTimestamp = some f →
        f + job.retryDelay ≤ r.earliest) ∧
      ((∀ t ∈ job.status.tasks, t.hash d = r.index.hash → t.finishTimestamp = none) →
        r.earliest = zeroTime + job.retryDelay) := by
  intro r hr
  unfold computeMissingIndexesForCreation at h
  split at h
  · cases h
  · cases h
    obtain ⟨k, hk, _, _, rfl⟩ := (mem_missingFrom d job indexes indexes 0 r).mp hr
    constructor
    · intro t ht hh f hf
      have hmem : t ∈ tasksOfHash d job.status.tasks indexes[k].hash := by
        unfold tasksOfHash
        exact List.mem_filter.mpr ⟨ht, by simpa [mkReq] using hh⟩
      have := (foldl_latest_ge (tasksOfHash d job.status.tasks indexes[k].hash) zeroTime).2 t hmem f hf
      show f + job.retryDelay ≤ latestFinishTime d job.status.tasks indexes[k].hash + job.retryDelay
      unfold latestFinishTime
      exact Int.add_le_add_right this _
    · intro hn
      show latestFinishTime d job.status.tasks indexes[k].hash + job.retryDelay = zeroTime + job.retryDelay
      unfold latestFinishTime
      rw [foldl_latest_none]
      intro t ht
      have := List.mem_filter.mp ht
      exact hn t this.1 (by simpa [mkReq] using this.2)

/-- Observation (outside the hypotheses of `computeMissing_complete`): a blocking ref whose hash
is not in the index list is booked on position 0, so index 0 is not requested although it has no
ref at all.  Replayed on the real code in corpus scenario `foreign-hash-hides-index0`. -/
theorem foreign_blocking_ref_hides_first_index :
    let d : PIndex := { hash := "d" }
    let job : Job := { template := some { maxAttempts := some 3 },
                       status := { tasks := [{ name := "x", parallelIndex := some { hash := "foreign" } }] } }
    computeMissingIndexesForCreation d job [{ hash := "a" }, { hash := "b" }] =
      some [{ index := { hash := "b" }, retryIndex := 0, earliest := zeroTime }] := by
  decide

/-- an empty index list with a blocking ref is an index-out-of-range panic in the source -/
example : computeMissingIndexesForCreation { hash := "d" } { status := { tasks := [{ name := "x" }] } } [] = none := by
  decide

/-- hypotheses of `computeMissing_sound` / `_complete` are satisfiable with a non-empty result:
index `a` failed once (retry 1 requested, earliest = finish 100 + 60 s), index `b` is running. -/
example :
    let d : PIndex := { hash := "d" }
    let job : Job := { template := some { maxAttempts := some 3, retryDelaySeconds := some 60 },
                       status := { tasks := [
                         { name := "a0", parallelIndex := some { hash := "a" }, finishTimestamp := some 100,
                           status := { state := .terminated, result := .failed } },
                         { name := "b0", parallelIndex := some { hash := "b" }, runningTimestamp := some 50 }] } }
    NoCollision [{ hash := "a" }, { hash := "b" }] ∧
    computeMissingIndexesForCreation d job [{ hash := "a" }, { hash := "b" }] =
      some [{ index := { hash := "a" }, retryIndex := 1, earliest := 100 + 60 * 1000000000 }] := by
  refine ⟨by decide, by decide⟩

example : nextRetryIndex { hash := "d" }
    [{ name := "a1", retryIndex := 1 }, { name := "a0", retryIndex := 0 }, { name := "o", parallelIndex := some { hash := "o" } }] "d" = 2 := by
  decide

example : (getIndexStatus { hash := "a" } "a"
    [{ name := "a0", finishTimestamp := some 5 }, { name := "a1", finishTimestamp := some 9 }] 2).result = .failed := by decide

end Furiko.Props.C08
