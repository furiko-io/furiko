/-
C06 property theorems: concurrency policies of the per-JobConfig pass (Forbid rejects, Enqueue
waits in FIFO order, Allow starts), abort on error, completeness of an ok pass, resync.
The statements about single functions of `Model/Queue.lean` hold for every input; the `…_reachable`
corollaries, `reject_ok_sound`, `not_queued_never_started` and `quiet_no_due_left` are about the
states of `Reachable` (envelope: `Proofs/QueueEnv.lean`).
-/
import FurikoModel.Proofs.QueueCor
import FurikoModel.Proofs.QueueSys

set_option linter.unusedSimpArgs false
set_option linter.unusedVariables false

namespace Furiko.Props.C06
open Furiko Furiko.Queue Furiko.WQ Furiko.Queue.Scen

/-- `canStartJob` on a due Forbid Job over the limit: never `start`; exactly one call is appended
and it is a `reject` of that Job; the verdict is `skip` exactly when the write was applied and
acknowledged (`res = "ok"` and no `applied-err` fault); an applied rejection sets the
admission-error annotation on the authoritative Job and keeps its `startTime`/`terminal`. -/
theorem forbid_rejected (s : Sys) (jc : JCV) (j : JobV) (ac : Int)
    (h1 : j.hasPolicy = true) (h2 : j.policy = 1) (h3 : ac + 1 > jc.maxConc)
    (h4 : startAfterLater j s.clock = false) :
    (canStartJob s jc j ac).2 ≠ .start ∧
    ∃ res, (canStartJob s jc j ac).1.calls = s.calls ++ [⟨"reject", j.name, res⟩] ∧
      ((canStartJob s jc j ac).2 = .skip ↔ (res = "ok" ∧ nextFault s ≠ "applied-err")) ∧
      (res ≠ "ok" → (canStartJob s jc j ac).1.jobs = s.jobs) ∧
      (res = "ok" → ∃ cur a, findJob s.jobs j.name = some cur ∧ cur.rv = j.rv ∧
          findJob (canStartJob s jc j ac).1.jobs j.name = some a ∧
          a.admErr = true ∧ a.startTime = cur.startTime ∧ a.terminal = cur.terminal) := by
  rw [canStartJob_forbid s jc j ac h1 h2 h3 h4]
  rcases rejectJobWrite_cases s j (rejMsg jc ac) with ⟨res, hres, _, heq⟩ |
      ⟨cur, hf, hrv, _, _, heq⟩ | ⟨cur, hf, hrv, _, hnoop, heq⟩ <;> rw [heq]
  · exact ⟨by simp, res, rfl, by simp [hres], fun _ => rfl, fun h => absurd h hres⟩
  · refine ⟨by split <;> simp, "ok", rfl, by split <;> simp_all, fun h => absurd rfl h,
      fun _ => ⟨cur, rejectedJob s (rejMsg jc ac) j cur, hf, hrv, ?_, rfl, rfl, rfl⟩⟩
    exact findJob_applyWrite_self s "reject" (nj := rejectedJob s (rejMsg jc ac) j cur) hf rfl
  · -- the write is a no-op: the authoritative Job already carries this rejection
    exact ⟨by split <;> simp, "ok", rfl, by split <;> simp_all, fun h => absurd rfl h,
      fun _ => ⟨cur, cur, hf, hrv, hf, rejectF_fix_admErr hnoop, rfl, rfl⟩⟩

/-- non-vacuous: Forbid Job `b` with one active Job under limit 1 is rejected and annotated -/
example :
    let jb : JobV := { mk "b" true 1 none with rv := 3 }
    findJob s4.jobCache "b" = some jb ∧
    (canStartJob s4 (jcN 1) jb 1).2 = .skip ∧
    (canStartJob s4 (jcN 1) jb 1).1.calls = s4.calls ++ [⟨"reject", "b", "ok"⟩] ∧
    ((findJob (canStartJob s4 (jcN 1) jb 1).1.jobs "b").map (·.admErr)) = some true := by decide +kernel

/-- the naive "verdict = skip iff the logged result is ok" is FALSE in the model: with the fault
`applied-err` the write is applied and logged `"ok"`, yet `RejectJob` returns an error and the
verdict is `error` (the pass aborts) -/
example :
    let jb : JobV := { mk "b" true 1 none with rv := 3 }
    let s := { s4 with faults := ["applied-err"] }
    (canStartJob s (jcN 1) jb 1).2 = .error ∧
    (canStartJob s (jcN 1) jb 1).1.calls = s.calls ++ [⟨"reject", "b", "ok"⟩] ∧
    ((findJob (canStartJob s (jcN 1) jb 1).1.jobs "b").map (·.admErr)) = some true := by decide +kernel

/-- rejecting a Job that already carries this very rejection (same message, nothing else to
change) is a no-op at the API: the call is logged "ok" and the verdict is as for an applied
write, but there is no new resourceVersion, no watch event, and the Jobs are untouched -/
theorem forbid_rejected_again_noop (s : Sys) (jc : JCV) (j cur : JobV) (ac : Int)
    (h1 : j.hasPolicy = true) (h2 : j.policy = 1) (h3 : ac + 1 > jc.maxConc)
    (h4 : startAfterLater j s.clock = false)
    (hf : findJob s.jobs j.name = some cur) (hrv : cur.rv = j.rv) (hnb : ¬ faultBlocks s)
    (hfix : rejectF (jc.name, ac) j cur = cur) :
    (canStartJob s jc j ac).1.calls = s.calls ++ [⟨"reject", j.name, "ok"⟩] ∧
    ((canStartJob s jc j ac).2 = .skip ↔ nextFault s ≠ "applied-err") ∧
    (canStartJob s jc j ac).1.jobs = s.jobs ∧ (canStartJob s jc j ac).1.rv = s.rv ∧
    (canStartJob s jc j ac).1.jobEvs = s.jobEvs ∧ cur.admErr = true := by
  have hfin : rejectJobWrite s j (rejMsg jc ac) =
      (failWrite s "reject" j.name "ok", decide (nextFault s ≠ "applied-err")) := by
    rcases rejectJobWrite_cases s j (rejMsg jc ac) with ⟨res, _, hwhy, _⟩ |
        ⟨cur', hf', _, _, hne, _⟩ | ⟨_, _, _, _, _, heq⟩
    · rcases hwhy with h | h | ⟨c, hc, hne⟩
      · exact absurd h hnb
      · rw [hf] at h; cases h
      · rw [hf] at hc; cases hc; exact absurd hrv hne
    · rw [hf] at hf'; cases hf'; exact absurd hfix hne
    · exact heq
  rw [canStartJob_forbid s jc j ac h1 h2 h3 h4, hfin]
  refine ⟨rfl, by split <;> simp_all, rfl, rfl, rfl, rejectF_fix_admErr hfix⟩

/-- the new calls of a pass name Jobs of the list, at most one call per list position, in list
order -/
theorem pass_calls_sublist (jc : JCV) (rjs : List JobV) (s : Sys) (ac : Int) :
    ∃ cs, (passLoop jc rjs s ac).1.calls = s.calls ++ cs ∧
      (cs.map (·.job)).Sublist (rjs.map (·.name)) := by
  obtain ⟨cs, h1⟩ := passLoop_calls jc rjs s ac
  obtain ⟨acf, h2, _⟩ := passLoop_Run_of_calls h1
  exact ⟨cs, h1, h2.sublist⟩

/-- with distinct names, a Job gets at most one call per pass -/
theorem pass_one_call (jc : JCV) (rjs : List JobV) (s : Sys) (ac : Int)
    (hnd : (rjs.map (·.name)).Nodup) (cs : List Call)
    (hcs : (passLoop jc rjs s ac).1.calls = s.calls ++ cs) (c1 c2 : Call)
    (h1 : c1 ∈ cs) (h2 : c2 ∈ cs) (hj : c1.job = c2.job) : c1 = c2 := by
  obtain ⟨acf, hr, _⟩ := passLoop_Run_of_calls hcs
  exact hr.one_call hnd h1 h2 hj

theorem rejected_never_started_in_pass (s : Sys) (hnd : (names s.jobCache).Nodup)
    (n r r' : String) (hrej : ⟨"reject", n, r⟩ ∈ (workConfig s).1.calls) :
    ⟨"start", n, r'⟩ ∉ (workConfig s).1.calls := by
  intro hst
  rcases workConfig_Run s with ⟨h, _⟩ | ⟨jc, ok, acf, hr, _⟩
  · rw [h] at hrej; simp at hrej
  · have := hr.one_call (nodup_names_listQueued jc hnd) hrej hst rfl
    simp at this

example : (names s4.jobCache).Nodup ∧ ⟨"reject", "b", "ok"⟩ ∈ (workConfig s4).1.calls ∧
    ∀ r', ⟨"start", "b", r'⟩ ∉ (workConfig s4).1.calls :=
  ⟨by decide +kernel, by decide +kernel, fun r' => rejected_never_started_in_pass s4 (by decide +kernel) "b" "ok" r' (by decide +kernel)⟩

theorem enqueue_never_rejected (s : Sys) (c : Call) (hc : c ∈ (workConfig s).1.calls)
    (hv : c.verb = "reject") :
    ∃ j ∈ s.jobCache, j.name = c.job ∧ j.hasPolicy = true ∧ j.policy = 1 ∧ j.isQueued = true := by
  rcases workConfig_Run s with ⟨h, _⟩ | ⟨jc, ok, acf, hr, _⟩
  · rw [h] at hc; simp at hc
  · obtain ⟨j, hj, hn, ac', _, ⟨_, hp, hpol, _, _⟩ | ⟨hs, _⟩⟩ := hr.call_spec c hc
    · have hm := mem_listQueued.mp hj
      exact ⟨j, hm.1, hn.symm, hp, hpol, hm.2.2⟩
    · rw [hv] at hs; exact absurd hs (by decide)

example : (⟨"reject", "b", "ok"⟩ : Call) ∈ (workConfig s4).1.calls ∧
    (findJob s4.jobCache "b").map (·.policy) = some 1 := by decide +kernel

/-- a due Enqueue Job over the limit is skipped without any effect -/
theorem enqueue_over_limit_waits (s : Sys) (jc : JCV) (j : JobV) (ac : Int)
    (h1 : j.hasPolicy = true) (h2 : j.policy = 2) (h3 : ac + 1 > jc.maxConc)
    (h4 : startAfterLater j s.clock = false) : canStartJob s jc j ac = (s, .skip) := by
  rcases canStartJob_cases s jc j ac with ⟨hv, _⟩ | ⟨_, hl, _⟩ | ⟨_, _, hpol, _⟩ | ⟨_, _, _, _, heq⟩
  · exact absurd ⟨h1, Or.inr h2, h3⟩ hv.2
  · rw [h4] at hl; cases hl
  · omega
  · exact heq

example : (canStartJob s4 (jcN 1) (mk "c" true 2 none) 1).2 = .skip := by decide +kernel

theorem allow_always_starts (s : Sys) (jc : JCV) (j : JobV) (ac : Int)
    (h : j.hasPolicy = false ∨
      (j.policy ≠ 1 ∧ j.policy ≠ 2 ∧ startAfterLater j s.clock = false)) :
    canStartJob s jc j ac = (s, .start) := by
  rcases canStartJob_cases s jc j ac with ⟨_, heq⟩ | ⟨hp, hl, _⟩ | ⟨hp, _, hpol, _⟩ |
      ⟨hp, _, hpol, _⟩
  · exact heq
  · rcases h with h | ⟨_, _, h⟩
    · rw [hp] at h; cases h
    · rw [hl] at h; cases h
  · rcases h with h | ⟨h, _⟩
    · rw [hp] at h; cases h
    · exact absurd hpol h
  · rcases h with h | ⟨_, h, _⟩
    · rw [hp] at h; cases h
    · exact absurd hpol h

example : (canStartJob s4 (jcN 1) (mk "d" false 0 none) 100).2 = .start ∧
    (canStartJob s4 (jcN 1) (mk "d" true 0 none) 100).2 = .start := by decide +kernel

/-- within one pass: if a later Enqueue Job is started, so is every earlier due Enqueue Job -/
theorem enqueue_fifo (jc : JCV) (l1 l2 l3 : List JobV) (A B : JobV) (s : Sys) (ac : Int)
    (hnd : ((l1 ++ A :: l2 ++ B :: l3).map (·.name)).Nodup)
    (hA1 : A.hasPolicy = true) (hA2 : A.policy = 2) (hA3 : startAfterLater A s.clock = false)
    (hB1 : B.hasPolicy = true) (hB2 : B.policy = 2) (cs : List Call)
    (hcs : (passLoop jc (l1 ++ A :: l2 ++ B :: l3) s ac).1.calls = s.calls ++ cs)
    (hs : ⟨"start", B.name, "ok"⟩ ∈ cs) : ⟨"start", A.name, "ok"⟩ ∈ cs := by
  obtain ⟨acf, hr, _⟩ := passLoop_Run_of_calls hcs
  exact Run.fifo hA1 hA2 hA3 hB1 hB2 hnd hr hs

/-- `syncConfig`: order derived from the creation time of the cached queued Jobs -/
theorem enqueue_fifo_sync (s : Sys) (name : String) (jc : JCV) (A B : JobV)
    (hjc : findJC s.jcCache name = some jc) (hnd : (names s.jobCache).Nodup)
    (hA : A ∈ listQueued s.jobCache jc) (hB : B ∈ listQueued s.jobCache jc)
    (hlt : A.created < B.created)
    (hA1 : A.hasPolicy = true) (hA2 : A.policy = 2) (hA3 : startAfterLater A s.clock = false)
    (hB1 : B.hasPolicy = true) (hB2 : B.policy = 2) (cs : List Call)
    (hcs : (syncConfig s name).1.calls = s.calls ++ cs)
    (hs : ⟨"start", B.name, "ok"⟩ ∈ cs) : ⟨"start", A.name, "ok"⟩ ∈ cs := by
  rw [syncConfig_eq, hjc] at hcs
  dsimp only at hcs
  obtain ⟨acf, hr, _⟩ := passLoop_Run_of_calls hcs
  have hnd' := nodup_names_listQueued jc hnd
  -- in the sorted list `A` comes before `B`
  obtain ⟨l1, l2, l3, hl⟩ := split_of_created_lt (listQueued_sorted _ _) hA hB hlt
  rw [hl] at hr hnd'
  exact Run.fifo hA1 hA2 hA3 hB1 hB2 hnd' hr hs

/-- `workConfig`: the same on the step's call log -/
theorem enqueue_fifo_work (s : Sys) (k : String) (q1 : WQ) (jc : JCV) (A B : JobV)
    (hg : (s.cfgQ.advance s.clock).get = some (k, q1))
    (hjc : findJC s.jcCache (keyName k) = some jc) (hnd : (names s.jobCache).Nodup)
    (hA : A ∈ listQueued s.jobCache jc) (hB : B ∈ listQueued s.jobCache jc)
    (hlt : A.created < B.created)
    (hA1 : A.hasPolicy = true) (hA2 : A.policy = 2) (hA3 : startAfterLater A s.clock = false)
    (hB1 : B.hasPolicy = true) (hB2 : B.policy = 2)
    (hs : ⟨"start", B.name, "ok"⟩ ∈ (workConfig s).1.calls) :
    ⟨"start", A.name, "ok"⟩ ∈ (workConfig s).1.calls :=
  enqueue_fifo_sync (cfgPre s q1) (keyName k) jc A B hjc hnd hA hB hlt hA1 hA2 hA3 hB1 hB2 _
    (by rw [workConfig_get hg]; rfl) hs

/-- non-vacuous: `a` (created 0 s) and `b` (created 2 s), both Enqueue under limit 2: both start -/
example :
    let A : JobV := { mk "a" true 2 none with rv := 2 }
    let B : JobV := { mk "b" true 2 none with rv := 3, created := 2 }
    (s2.cfgQ.advance s2.clock).get.map (·.1) = some "ns/c" ∧
    findJC s2.jcCache (keyName "ns/c") = some { jcN 2 with rv := 1 } ∧
    A ∈ listQueued s2.jobCache (jcN 2) ∧ B ∈ listQueued s2.jobCache (jcN 2) ∧
    ⟨"start", "b", "ok"⟩ ∈ (workConfig s2).1.calls ∧
    ⟨"start", "a", "ok"⟩ ∈ (workConfig s2).1.calls := by decide +kernel

/-- non-vacuous for `canStartJob`/limit: under limit 1 the later Enqueue Job `c` is NOT started -/
example : (⟨"start", "c", "ok"⟩ : Call) ∉ (workConfig s4).1.calls := by decide +kernel

/-- new calls of a pass: a call that is not `"ok"` is the last one; an ok pass logged only
`"ok"`; an aborted pass stopped at a Job `j`: all earlier calls are `"ok"` calls for Jobs before
`j`, and `j` contributed the last call or none (CAS failure); nothing after `j` was touched. -/
theorem abort_on_error_keeps_order (jc : JCV) (rjs : List JobV) (s : Sys) (ac : Int)
    (cs : List Call) (hcs : (passLoop jc rjs s ac).1.calls = s.calls ++ cs) :
    (∀ pre c post, cs = pre ++ c :: post → c.res ≠ "ok" → post = []) ∧
    ((passLoop jc rjs s ac).2 = true → ∀ c ∈ cs, c.res = "ok") ∧
    ((passLoop jc rjs s ac).2 = false →
      ∃ l1 j l2 cs1, rjs = l1 ++ j :: l2 ∧
        (∀ c ∈ cs1, c.res = "ok" ∧ c.job ∈ l1.map (·.name)) ∧
        (cs = cs1 ∨ ∃ v r, cs = cs1 ++ [⟨v, j.name, r⟩])) := by
  obtain ⟨acf, hr, _⟩ := passLoop_Run_of_calls hcs
  refine ⟨hr.abort, hr.ok_all, fun hf => ?_⟩
  obtain ⟨l1, j, l2, cs1, hl, hr1, hc⟩ := hr.false_stop hf
  refine ⟨l1, j, l2, cs1, hl, fun c hc' => ⟨hr1.ok_all rfl c hc', hr1.job_mem hc'⟩, ?_⟩
  rcases hc with ⟨h, _⟩ | h
  · exact Or.inl h
  · exact Or.inr h

/-- worker step: "ok" ⇒ every call is `"ok"` -/
theorem work_ok_all_ok (s : Sys) (hok : (workConfig s).2 = "ok") :
    ∀ c ∈ (workConfig s).1.calls, c.res = "ok" := by
  rcases workConfig_Run s with ⟨h, _⟩ | ⟨jc, ok, acf, hr, hres, _⟩
  · rw [h]; simp
  · cases ok with
    | true => exact hr.ok_all rfl
    | false => rw [hres] at hok; simp at hok

/-- worker step: nothing follows a call that is not `"ok"` -/
theorem work_abort (s : Sys) (pre : List Call) (c : Call) (post : List Call)
    (h : (workConfig s).1.calls = pre ++ c :: post) (hne : c.res ≠ "ok") : post = [] := by
  rcases workConfig_Run s with ⟨h0, _⟩ | ⟨jc, ok, acf, hr, _⟩
  · rw [h0] at h; simp at h
  · exact hr.abort pre c post h hne

/-- worker step: "err" ⇒ the pass did log a call (the counter argument is accurate, so the CAS
cannot fail) -/
theorem work_err_has_call (s : Sys) (herr : (workConfig s).2 = "err") :
    (workConfig s).1.calls ≠ [] := by
  rcases workConfig_cases s with ⟨_, h, _⟩ | ⟨k, q1, jc, hg, hjc⟩
  · exact absurd herr h
  · obtain ⟨s1, ok, hp, hw⟩ := workConfig_Pass hg hjc
    rw [hw] at herr ⊢
    cases ok with
    | true => simp at herr
    | false => exact hp.no_cas_fail rfl rfl

example : (workConfig s4).2 = "ok" ∧ (workConfig s4).1.calls.map (·.res) = ["ok", "ok", "ok"] := by
  decide +kernel

/-- the first write fails: the pass stops there although three more Jobs are queued -/
example : (workConfig s4err).2 = "err" ∧
    (workConfig s4err).1.calls = [⟨"start", "a", "err"⟩] := by decide +kernel

/-- `syncConfig` returned nil: every cached queued Job of the JobConfig that is due was started
(Allow: always; Enqueue: unless the limit is reached at the end of the pass; Forbid: unless it
was rejected), and the authoritative state shows it. -/
theorem pass_leaves_no_startable (s : Sys) (name : String) (jc : JCV) (s' : Sys)
    (hs : syncConfig s name = (s', true)) (hjc : findJC s.jcCache name = some jc) :
    ∃ cs, s'.calls = s.calls ++ cs ∧
      ∀ j ∈ listQueued s.jobCache jc, due j s.clock →
        let started := ⟨"start", j.name, "ok"⟩ ∈ cs ∧
          ∃ a, findJob s'.jobs j.name = some a ∧ a.startTime = some (s.clock / 1000000000)
        ((j.hasPolicy = false ∨ (j.policy ≠ 1 ∧ j.policy ≠ 2)) → started) ∧
        ((j.hasPolicy = true ∧ j.policy = 2) →
          started ∨ getCtr s'.counter jc.uid + 1 > jc.maxConc) ∧
        ((j.hasPolicy = true ∧ j.policy = 1) →
          started ∨ (⟨"reject", j.name, "ok"⟩ ∈ cs ∧
            ∃ a, findJob s'.jobs j.name = some a ∧ a.admErr = true)) := by
  rw [syncConfig_eq, hjc] at hs
  dsimp only at hs
  obtain ⟨cs, hcs⟩ := passLoop_calls jc (listQueued s.jobCache jc) s (getCtr s.counter jc.uid)
  obtain ⟨acf, hr, hacf, hfr, hw⟩ := passLoop_Run_of_calls hcs
  rw [hs] at hcs hr hacf hfr hw
  replace hacf := hacf rfl
  refine ⟨cs, hcs, fun j hj hdue => ?_⟩
  have hst : ⟨"start", j.name, "ok"⟩ ∈ cs → ⟨"start", j.name, "ok"⟩ ∈ cs ∧
      ∃ a, findJob s'.jobs j.name = some a ∧ a.startTime = some (s.clock / 1000000000) := by
    intro hm
    obtain ⟨a, ha, h1, _⟩ := hw _ hm rfl
    exact ⟨hm, a, ha, by rw [← hfr]; exact h1 rfl⟩
  rcases hr.complete rfl j hj hdue with h | ⟨hp, hpol, hov⟩ | ⟨hp, hpol, hrej⟩
  · exact ⟨fun _ => hst h, fun _ => Or.inl (hst h), fun _ => Or.inl (hst h)⟩
  · refine ⟨fun h => ?_, fun _ => Or.inr (by rw [← hacf]; exact hov), fun h => ?_⟩
    · rcases h with h | h
      · rw [hp] at h; cases h
      · exact absurd hpol h.2
    · omega
  · refine ⟨fun h => ?_, fun h => ?_, fun _ => Or.inr ⟨hrej, ?_⟩⟩
    · rcases h with h | h
      · rw [hp] at h; cases h
      · exact absurd hpol h.1
    · omega
    · obtain ⟨a, ha, _, h2⟩ := hw _ hrej rfl
      exact ⟨a, ha, h2 rfl⟩

/-- non-vacuous: in `s4` the ok pass starts `a` and `d`, rejects `b`, leaves `c` waiting with the
counter at the limit -/
example :
    let r := syncConfig s4 "c"
    r.2 = true ∧ (listQueued s4.jobCache (jcN 1)).map (·.name) = ["a", "b", "c", "d"] ∧
    (r.1.jobs.map (fun j => (j.name, j.startTime.isSome, j.admErr))) =
      [("a", true, false), ("b", false, true), ("c", false, false), ("d", true, false)] ∧
    getCtr r.1.counter "u" = 2 := by decide +kernel

/-- liveness half: without faults and with the cache equal to the authoritative Jobs, a pass
cannot fail (earlier writes of the pass touch other names; the CAS always succeeds) -/
theorem quiet_pass_ok (s : Sys) (name : String) (hf : s.faults = [])
    (hcache : s.jobCache = s.jobs) (hnd : (names s.jobCache).Nodup) :
    (syncConfig s name).2 = true :=
  syncConfig_quiet s name hf hcache hnd

example : s4.faults = [] ∧ s4.jobCache = s4.jobs ∧ (names s4.jobCache).Nodup ∧
    (syncConfig s4 "c").1.calls.length = 3 := by decide +kernel

theorem drain_empties (s : Sys) : (drainCtrl s).ctrlQ = [] := by
  unfold drainCtrl; rw [drainN_ctrlQ]; simp

/-- after a resync and the controller's handler running on all pending notifications, the key of
every cached Job's JobConfig (or of the Job itself when independent) is dirty -/
theorem resync_wakes_all (s : Sys) (j : JobV) (hj : j ∈ s.jobCache) :
    (∀ jc, lookupOwner s.jcCache j = some (some jc) →
      ("ns/" ++ jc.name) ∈ (drainCtrl (resync s)).cfgQ.dirty) ∧
    (lookupOwner s.jcCache j = some none →
      ("ns/" ++ j.name) ∈ (drainCtrl (resync s)).indQ.dirty) :=
  drainCtrl_wakes (resync s) (.update j j) (by simp [resync, hj])

/-- and the woken keys are really scheduled: with the work-queue invariant "dirty ⊆ queue ∪
processing" before, the key is in `queue` or `processing` afterwards -/
theorem resync_wakes_queued (s : Sys) (j : JobV) (hj : j ∈ s.jobCache)
    (h1 : DirtyQueued s.cfgQ) (h2 : DirtyQueued s.indQ) :
    (∀ jc, lookupOwner s.jcCache j = some (some jc) →
      ("ns/" ++ jc.name) ∈ (drainCtrl (resync s)).cfgQ.queue ∨
      ("ns/" ++ jc.name) ∈ (drainCtrl (resync s)).cfgQ.processing) ∧
    (lookupOwner s.jcCache j = some none →
      ("ns/" ++ j.name) ∈ (drainCtrl (resync s)).indQ.queue ∨
      ("ns/" ++ j.name) ∈ (drainCtrl (resync s)).indQ.processing) := by
  obtain ⟨a, b⟩ := dirtyQueued_drainN (resync s).ctrlQ.length (s := resync s) h1 h2
  obtain ⟨w1, w2⟩ := resync_wakes_all s j hj
  exact ⟨fun jc h => a _ (w1 jc h), fun h => b _ (w2 h)⟩

/-- non-vacuous: after the step the queue is clean; resync makes `ns/c` dirty again -/
example :
    let s := (workConfig s4).1
    s.cfgQ.dirty = [] ∧ (s.jobCache.map (·.name)) = ["a", "b", "c", "d"] ∧
    (s.jobCache.map (lookupOwner s.jcCache)).all (· == some (some { jcN 1 with rv := 1 })) = true ∧
    (drainCtrl (resync s)).cfgQ.dirty = ["ns/c"] ∧ (drainCtrl (resync s)).cfgQ.queue = ["ns/c"] := by
  decide +kernel

example : DirtyQueued (workConfig s4).1.cfgQ ∧ DirtyQueued (workConfig s4).1.indQ ∧
    DirtyQueued s4.cfgQ ∧ s4.cfgQ.dirty = ["ns/c"] := by
  unfold DirtyQueued; decide +kernel


/-- concrete reachable histories for the examples below: JobConfig `c` (limit 1), Forbid Job `a`
started, Forbid Job `b` created and delivered -/
def jcC : JCV := { name := "c", uid := "u", maxConc := 1, rv := 0 }
def flush : List Act := [.deliverJob, .notifyStore, .notifyCtrl]
def histAB : List Act :=
  [.addJC jcC, .deliverJC, .addJob (mk "a" true 1 none)] ++ flush ++ [.workConfig] ++ flush ++
  [.addJob (mk "b" true 1 none)] ++ flush
def sAB : Sys := runActs {} histAB
theorem sAB_reachable : Reachable sAB := reachable_runB _ (by decide +kernel)

/-- `rejected_never_started_in_pass`, `enqueue_fifo_work` need distinct names in the cache: true in
every reachable state -/
theorem reachable_cache_nodup {s : Sys} (h : Reachable s) : (names s.jobCache).Nodup :=
  h.inv.cacheNodup

/-- `rejected_never_started_in_pass` on reachable states -/
theorem rejected_never_started_reachable {s : Sys} (h : Reachable s) (n r r' : String)
    (hrej : ⟨"reject", n, r⟩ ∈ (workConfig s).1.calls) :
    ⟨"start", n, r'⟩ ∉ (workConfig s).1.calls :=
  rejected_never_started_in_pass s h.inv.cacheNodup n r r' hrej

/-- `enqueue_fifo` on reachable states: in any worker step, if an Enqueue Job is started then so is
every cached, queued, due Enqueue Job of the same JobConfig with a strictly earlier creation time -/
theorem enqueue_fifo_reachable {s : Sys} (h : Reachable s) {k : String} {q1 : WQ} {jc : JCV}
    {A B : JobV} (hg : (s.cfgQ.advance s.clock).get = some (k, q1))
    (hjc : findJC s.jcCache (keyName k) = some jc)
    (hA : A ∈ listQueued s.jobCache jc) (hB : B ∈ listQueued s.jobCache jc)
    (hlt : A.created < B.created)
    (hA1 : A.hasPolicy = true) (hA2 : A.policy = 2) (hA3 : startAfterLater A s.clock = false)
    (hB1 : B.hasPolicy = true) (hB2 : B.policy = 2)
    (hs : ⟨"start", B.name, "ok"⟩ ∈ (workConfig s).1.calls) :
    ⟨"start", A.name, "ok"⟩ ∈ (workConfig s).1.calls :=
  enqueue_fifo_work s k q1 jc A B hg hjc h.inv.cacheNodup hA hB hlt hA1 hA2 hA3 hB1 hB2 hs

/-- `forbid_rejected` on reachable states: a rejection logged "ok" hit the authoritative Job, which
was the cached queued Forbid Job; afterwards that Job carries the admission-error annotation and is
still unstarted and not terminal (its spec is unchanged) -/
theorem reject_ok_sound {s : Sys} (h : Reachable s) (n : String)
    (hc : ⟨"reject", n, "ok"⟩ ∈ (workConfig s).1.calls) :
    ∃ j, findJob s.jobs n = some j ∧ j.isQueued = true ∧ j.hasPolicy = true ∧ j.policy = 1 ∧
      due j s.clock ∧
      ∃ a, findJob (workConfig s).1.jobs n = some a ∧ sameSpec j a ∧ a.admErr = true ∧
        a.isQueued = true := h.reject_ok_sound n hc

example : Reachable sAB ∧ ⟨"reject", "b", "ok"⟩ ∈ (workConfig sAB).1.calls :=
  ⟨sAB_reachable, by decide +kernel⟩

/-- corrected system-level form of "a refused Job never runs": once the authoritative Job is
terminal (the job controller turned the annotation into the AdmissionError phase) or started, no
worker step starts it, whatever the caches say -/
theorem not_queued_never_started {s : Sys} (h : Reachable s) {n : String} {cur : JobV}
    (hcur : findJob s.jobs n = some cur) (hnq : cur.isQueued = false) :
    ⟨"start", n, "ok"⟩ ∉ (workConfig s).1.calls ∧
    ⟨"start", n, "ok"⟩ ∉ (workIndependent s).1.calls := h.not_queued_never_started hcur hnq

/-- `b` rejected, marked terminal by the job controller while the cache still shows it queued, `a`
finished: the next pass tries to start `b` and gets a conflict -/
def histTerminal : List Act :=
  histAB ++ [.workConfig, .finishJob "a", .markRejected "b", .deliverJob, .notifyStore, .notifyCtrl,
    .deliverJob, .notifyStore, .notifyCtrl]
example :
    let s := runActs {} histTerminal
    allowedAllB {} histTerminal = true ∧
    (findJob s.jobs "b").map (fun j => (j.admErr, j.terminal)) = some (true, true) ∧
    (findJob s.jobCache "b").map (fun j => (j.admErr, j.terminal)) = some (true, false) ∧
    (workConfig s).1.calls = [⟨"start", "b", "conflict"⟩] := by decide +kernel

/-- SURPRISE (inside the envelope, every action allowed): "a Forbid Job refused at the limit never
runs" is FALSE across passes.  `b` is rejected (annotation written), then `a` finishes before the
job controller has made `b` terminal; the next pass lists `b` as queued (`IsQueued` ignores the
annotation) and starts it.  Also: the rejection's own update event re-triggers the pass, which
issues the rejection again (identical annotation: a no-op at the API, see the example below). -/
def histRejectThenStart : List Act :=
  histAB ++ [.workConfig] ++ flush ++ [.workConfig, .finishJob "a"] ++ flush ++ flush
theorem rejected_then_started_witness :
    let s := runActs {} histRejectThenStart
    allowedAllB {} histRejectThenStart = true ∧
    (runActs {} (histAB ++ [.workConfig])).calls = [⟨"reject", "b", "ok"⟩] ∧
    (runActs {} (histAB ++ [.workConfig] ++ flush ++ [.workConfig])).calls = [⟨"reject", "b", "ok"⟩] ∧
    (findJob s.jobs "b").map (fun j => (j.admErr, j.startTime, j.terminal)) = some (true, none, false) ∧
    (workConfig s).1.calls = [⟨"start", "b", "ok"⟩] ∧
    (findJob (workConfig s).1.jobs "b").map (fun j => (j.admErr, j.startTime.isSome))
      = some (true, true) := by decide +kernel

/-- non-vacuous for `forbid_rejected_again_noop`: the second rejection of `b` (same message) is
logged "ok" but leaves resourceVersion, Jobs and the watch stream untouched, so nothing re-queues
the key; the first one was a real update -/
example :
    let s1 := runActs {} histAB
    let s := runActs {} (histAB ++ [.workConfig] ++ flush)
    (workConfig s1).1.calls = [⟨"reject", "b", "ok"⟩] ∧ (workConfig s1).1.rv = s1.rv + 1 ∧
    (workConfig s1).1.jobEvs.length = 1 ∧
    (workConfig s).1.calls = [⟨"reject", "b", "ok"⟩] ∧ (workConfig s).2 = "ok" ∧
    (workConfig s).1.rv = s.rv ∧ (workConfig s).1.jobEvs = [] ∧
    (workConfig s).1.jobs.map (fun j => (j.name, j.rv, j.admErr, j.admMsg)) =
      s.jobs.map (fun j => (j.name, j.rv, j.admErr, j.admMsg)) ∧
    (findJob s.jobs "b").map (fun j => (j.admErr, j.admMsg)) = some (true, ("c", 1)) ∧
    (workConfig (workConfig s).1).2 = "idle" := by decide +kernel

/-- "once capacity is free and the system is quiet no due Job remains queued": in a reachable
quiet state (no undelivered events, store handler idle, no faults; then the cache equals the
authoritative list) a worker step for a JobConfig's key succeeds, keeps the counter exact, and
afterwards every due queued Job of the JobConfig is started, except Enqueue Jobs when the TRUE
number of active Jobs has reached the limit and Forbid Jobs that were rejected. -/
theorem quiet_no_due_left {s : Sys} (h : Reachable s) (hq : Quiet s) {k : String} {q1 : WQ}
    {jc : JCV} (hg : (s.cfgQ.advance s.clock).get = some (k, q1))
    (hjc : findJC s.jcCache (keyName k) = some jc) :
    s.jobCache = s.jobs ∧ (workConfig s).2 = "ok" ∧
    (∀ uid, getCtr (workConfig s).1.counter uid = trueActive (workConfig s).1 uid) ∧
    ∀ j ∈ listQueued s.jobs jc, due j s.clock →
      let started := ⟨"start", j.name, "ok"⟩ ∈ (workConfig s).1.calls ∧
        ∃ a, findJob (workConfig s).1.jobs j.name = some a ∧
          a.startTime = some (s.clock / 1000000000)
      ((j.hasPolicy = false ∨ (j.policy ≠ 1 ∧ j.policy ≠ 2)) → started) ∧
      ((j.hasPolicy = true ∧ j.policy = 2) →
        started ∨ (trueActive (workConfig s).1 jc.uid : Int) + 1 > jc.maxConc) ∧
      ((j.hasPolicy = true ∧ j.policy = 1) →
        started ∨ (⟨"reject", j.name, "ok"⟩ ∈ (workConfig s).1.calls ∧
          ∃ a, findJob (workConfig s).1.jobs j.name = some a ∧ a.admErr = true)) := by
  have hcache := h.inv.cache_eq_jobs hq.evs
  obtain ⟨hok, hex⟩ := h.inv.quiet_workConfig hq q1 hjc
  obtain ⟨cs, hcs, hall⟩ :=
    pass_leaves_no_startable (cfgPre s q1) (keyName k) jc _ (Prod.ext rfl hok) hjc
  have hcs' : (syncConfig (cfgPre s q1) (keyName k)).1.calls = cs := hcs
  rw [workConfig_get hg, hok]
  refine ⟨hcache, rfl, fun uid => hex uid, fun j hj hd => ?_⟩
  have := hall j (by rw [← hcache] at hj; exact hj) hd
  rw [hex jc.uid, ← hcs'] at this
  exact this

/-- non-vacuous: the quiet reachable state `sAB` (a running, b Forbid queued): the step rejects
`b`; after `a` finished and everything is delivered, the step starts `b` -/
example : Reachable sAB ∧ Quiet sAB ∧
    (sAB.cfgQ.advance sAB.clock).get.map (·.1) = some "ns/c" ∧
    (findJC sAB.jcCache (keyName "ns/c")).map (·.maxConc) = some 1 ∧
    (listQueued sAB.jobs { jcC with rv := 1 }).map (·.name) = ["b"] ∧
    (workConfig sAB).1.calls = [⟨"reject", "b", "ok"⟩] :=
  ⟨sAB_reachable, ⟨by decide +kernel, by decide +kernel, by decide +kernel⟩, by decide +kernel⟩

end Furiko.Props.C06
