/-
C02 — At most one Job exists per JobConfig and schedule time, whatever is retried.

Property theorems over `Model/CronRec.lean` (+ `Model/Str.lean`); helper lemmas live in
`Proofs/StrLemmas.lean` and `Proofs/CronRecLemmas.lean`.  The `example`s and the `demo…`
definitions show that the hypotheses of the theorems are met by concrete non-trivial instances.

Conventions: `Str = List Char`; `InInt64 t` is the range of `time.Time.Unix()`; `zeroUnix` is the
Unix time of Go's zero `time.Time` (for which `GenerateName` substitutes the wall clock).
-/
import FurikoModel.Proofs.CronRecLemmas

namespace Furiko.Props.C02
open Furiko Furiko.Str Furiko.CronRec

/-- `SplitJobConfigKeyName (JoinJobConfigKeyName k t) = (k, t)` for every key string `k` (dots,
empty tokens, anything) and every `t` that a `time.Time` can carry, negative ones included. -/
theorem split_join (k : Str) (t : Int) (ht : InInt64 t) : splitKey (joinKey k t) = .ok (k, t) :=
  splitKey_joinKey k ht

example : splitKey (joinKey "team.a.job..x".toList (-5)) = .ok ("team.a.job..x".toList, -5) := by rfl
example : joinKey "a.b".toList (-5) = "a.b.-5".toList := by decide +kernel

/-- The statement for *all* `Int` is false only because `strconv.Atoi` range-checks: outside int64
the key is rejected (never produced: `ts.Unix()` is an int64).  The sign-and-digits reading itself
round-trips for every integer. -/
theorem split_join_unbounded (t : Int) : atoiU (showInt t) = some t := atoiU_showInt t

theorem split_join_out_of_range (k : Str) (t : Int) (ht : ¬ InInt64 t) :
    splitKey (joinKey k t) = .error .badTs := splitKey_joinKey_out_of_range k ht

example : splitKey (joinKey "a".toList 9223372036854775808) = .error .badTs := by rfl
example : atoiU (showInt 9223372036854775808) = some 9223372036854775808 := by decide +kernel

/-- Through the work queue: `JobConfigKeyFunc` builds `ns/name.t`; `SplitMetaNamespaceKey` (applied
by the reconciler framework) gives back `ns` and `name.t`; `SplitJobConfigKeyName` gives back
`name` and `t` — for every namespace and name without `/` (dots allowed, empty namespace allowed). -/
theorem split_join_namespaced (ns name : Str) (t : Int) (hns : '/' ∉ ns) (hname : '/' ∉ name)
    (ht : InInt64 t) :
    ∃ rest, splitNsKey (jobConfigKey ns name t) = some (ns, rest) ∧ splitKey rest = .ok (name, t) :=
  ⟨joinKey name t, splitNsKey_jobConfigKey t hns hname, splitKey_joinKey name ht⟩

example : splitNsKey (jobConfigKey "prod".toList "a.5".toList 1646586360) = some ("prod".toList, "a.5.1646586360".toList) := by decide +kernel

/-- Decimal rendering (`%v` of an int64) is injective. -/
theorem showInt_injective (a b : Int) (h : showInt a = showInt b) : a = b := Str.showInt_injective h

example : showInt (-62135596800) = "-62135596800".toList := by decide +kernel

/-- For every schedule time except the zero `time.Time`, the Job name does not depend on the clock:
it is the pure function `jobName` of (JobConfig name, time). -/
theorem name_is_function (now now' : Int) (c : Str) (t : Int) (ht : t ≠ zeroUnix) :
    generateName now c t = generateName now' c t := by
  rw [generateName_eq_jobName now c ht, generateName_eq_jobName now' c ht]

example : generateName 7 "job-sample".toList 1606987620 = "job-sample-1606987620".toList := by decide +kernel

/-- Exact characterisation of name collisions (so the side condition below is the weakest one):
two pairs get the same name iff they are equal, or one JobConfig name is the other plus a trailing
`-` and the times are `t > 0` and `-t`. -/
theorem name_collision_iff (now now' : Int) (c c' : Str) (t t' : Int) (ht : t ≠ zeroUnix) (ht' : t' ≠ zeroUnix) :
    generateName now c t = generateName now' c' t' ↔
      (c = c' ∧ t = t') ∨ (c = c' ++ ['-'] ∧ 0 < t ∧ t' = -t) ∨ (c' = c ++ ['-'] ∧ 0 < t' ∧ t = -t') := by
  rw [generateName_eq_jobName now c ht, generateName_eq_jobName now' c' ht']
  exact jobName_eq_iff c c' t t'

/-- `name_injective`, side condition: both times non-negative (every cron schedule time is). -/
theorem name_injective (now now' : Int) (c c' : Str) (t t' : Int) (h0 : 0 ≤ t) (h0' : 0 ≤ t')
    (h : generateName now c t = generateName now' c' t') : c = c' ∧ t = t' := by
  have ht : t ≠ zeroUnix := by unfold zeroUnix; omega
  have ht' : t' ≠ zeroUnix := by unfold zeroUnix; omega
  rcases (name_collision_iff now now' c c' t t' ht ht').mp h with h | ⟨_, h1, h2⟩ | ⟨_, h1, h2⟩
  · exact h
  · omega
  · omega

/-- `name_injective`, alternative side condition: neither JobConfig name ends in `-` (true for
every name the API server accepts), any times except the zero time. -/
theorem name_injective_valid_names (now now' : Int) (c c' : Str) (t t' : Int)
    (ht : t ≠ zeroUnix) (ht' : t' ≠ zeroUnix) (hc : c.getLast? ≠ some '-') (hc' : c'.getLast? ≠ some '-')
    (h : generateName now c t = generateName now' c' t') : c = c' ∧ t = t' := by
  rcases (name_collision_iff now now' c c' t t' ht ht').mp h with h | ⟨e, _, _⟩ | ⟨e, _, _⟩
  · exact h
  · exact absurd (by rw [e]; simp) hc
  · exact absurd (by rw [e]; simp) hc'

example : generateName 0 "a".toList 5 ≠ generateName 0 "b".toList 5 := by decide +kernel

/-- Witness that the side conditions cannot be dropped: a JobConfig name ending in `-` with a
positive time collides with the shorter name at the negated time … -/
theorem name_not_injective_in_general :
    generateName 0 "a-".toList 5 = generateName 0 "a".toList (-5) := by decide +kernel

/-- … and at the zero time the name is taken from the clock, so it is neither a function of
(name, time) nor distinct from the name of the pair (name, now). -/
theorem name_zero_time_uses_clock :
    generateName 100 "a".toList zeroUnix ≠ generateName 101 "a".toList zeroUnix ∧
    generateName 100 "a".toList zeroUnix = generateName 0 "a".toList 100 := by decide +kernel

/-- The Job submitted for `(c, t)`: its schedule-time annotation reads back as `t`, its uid label
and its only (controller) owner reference are the JobConfig's, namespace and name are the
JobConfig's namespace and `generateName c.name t` — for *every* template label / annotation set
(`c` is arbitrary), so no template entry can override the reserved keys. -/
theorem job_records_identity (now : Int) (c : JobConfig) (t : Int) (ht : InInt64 t) (j : Job)
    (h : newJobFromJobConfig now c typeScheduled t = some j) :
    j.schedAnnot = some (showInt t) ∧ (j.schedAnnot.bind atoi) = some t ∧
    mapGet j.labels labelKeyUID = some c.uid ∧
    j.owners = [controllerRef c] ∧ j.ownerUid = some c.uid ∧
    j.ns = c.ns ∧ j.name = generateName now c.name t := by
  unfold newJobFromJobConfig at h
  cases hs : c.subst with
  | none => simp [hs] at h
  | some vars =>
    simp only [hs, Option.some.injEq] at h
    have hj : j = { scheduledJob now c t vars with startPolicy := none } := by rw [← h]; rfl
    have ha := schedAnnot_scheduledJob now c t vars
    have ho := ownerUid_scheduledJob now c t vars
    have hl := uidLabel_scheduledJob now c t vars
    subst hj
    refine ⟨ha, ?_, hl, rfl, ho, rfl, rfl⟩
    show (Job.schedAnnot (scheduledJob now c t vars)).bind atoi = some t
    rw [ha]; exact atoi_showInt ht

/-- Template labels / annotations other than the reserved keys are carried over unchanged
(only the last step of `makeLabels` / `makeAnnotations` is shown: the reserved key is written last). -/
theorem reserved_keys_written_last (m : KV) (k v k' : Str) (h : k' ≠ k) :
    mapGet (mapCopyInto m [(k, v)]) k = some v ∧ mapGet (mapCopyInto m [(k, v)]) k' = mapGet m k' :=
  ⟨mapGet_mapSet_self m k v, mapGet_mapSet_other m v h⟩

/-- a JobConfig whose template tries to override both reserved keys -/
def evilConfig : JobConfig :=
  { ns := "ns".toList, name := "jc".toList, uid := "uid-1".toList, policy := "Forbid".toList, maxConc := none,
    queued := 0, tmplLabels := [(labelKeyUID, "other-uid".toList), ("app".toList, "x".toList)],
    tmplAnnots := [(annKeySchedule, "12345".toList)], subst := some [], tmpl := some 3 }

example : ∃ j, newJobFromJobConfig 0 evilConfig typeScheduled 100 = some j ∧
    j.schedAnnot = some "100".toList ∧ mapGet j.labels labelKeyUID = some "uid-1".toList ∧
    mapGet j.labels "app".toList = some "x".toList := by
  exact ⟨_, rfl, by decide +kernel⟩

/-- Observation (not a clause of C02): for a non-Scheduled type the reserved annotation is not
written, so a template-supplied `schedule-time` annotation survives on an Adhoc Job. -/
example : ∃ j, newJobFromJobConfig 0 evilConfig Facts.jobTypeAdhoc.toList 100 = some j ∧
    j.schedAnnot = some "12345".toList := ⟨_, rfl, by decide +kernel⟩

/-- a JobConfig uid identifies one (namespace, name): uids are never reused by the API server -/
def UidFunctional (world : JobConfig → Prop) : Prop :=
  ∀ a b, world a → world b → a.uid = b.uid → a.ns = b.ns ∧ a.name = b.name

/-- Inductive invariant over every history of the transition system — requests in any order and
multiplicity, processing with arbitrary (stale, empty, fresh) JobConfig and Job caches, any store
count, any `MaxEnqueuedJobs`, any create fault (even one that is applied but reported as an
error, i.e. outside `E-ErrNotApplied`), crashes that lose the queue, deletions of Jobs:
for every JobConfig uid `u` and schedule time `t ≠ zeroUnix`, at most one Job on the server is
owned by `u` and carries annotation `t`, and such a Job lives in the JobConfig's namespace under
the name `jobName name t`. -/
theorem at_most_one (world : JobConfig → Prop) (hw : UidFunctional world) (s : Sys)
    (hr : Reachable world s) (u : Str) (t : Int) (ht : t ≠ zeroUnix) :
    (s.api.filter (fun j => j.ownerUid = some u ∧ j.schedAnnot = some (showInt t))).length ≤ 1 ∧
    ∀ j ∈ s.api, j.ownerUid = some u → j.schedAnnot = some (showInt t) →
      ∃ c, world c ∧ c.uid = u ∧ j.ns = c.ns ∧ j.name = jobName c.name t := by
  have inv := inv_reachable hr
  have key : ∀ j ∈ s.api, j.ownerUid = some u → j.schedAnnot = some (showInt t) →
      ∃ c, world c ∧ c.uid = u ∧ j.ns = c.ns ∧ j.name = jobName c.name t := by
    intro j hj ho ha
    obtain ⟨c, t0, now, vars, hwc, rfl⟩ := inv.made j hj
    rw [ownerUid_scheduledJob] at ho
    rw [schedAnnot_scheduledJob] at ha
    have hu : c.uid = u := Option.some.inj ho
    have htt : t0 = t := Str.showInt_injective (Option.some.inj ha)
    subst htt
    exact ⟨c, hwc, hu, rfl, generateName_eq_jobName now c.name ht⟩
  refine ⟨?_, key⟩
  apply length_le_one_of_pairwise (R := fun a b => ¬ sameKey a b)
  · exact inv.distinct.sublist List.filter_sublist
  · intro a ha b hb
    have ha' := List.mem_filter.mp ha
    have hb' := List.mem_filter.mp hb
    have pa := of_decide_eq_true ha'.2
    have pb := of_decide_eq_true hb'.2
    obtain ⟨ca, hwa, hua, hnsa, hna⟩ := key a ha'.1 pa.1 pa.2
    obtain ⟨cb, hwb, hub, hnsb, hnb⟩ := key b hb'.1 pb.1 pb.2
    obtain ⟨e1, e2⟩ := hw ca cb hwa hwb (hua.trans hub.symm)
    intro hne
    exact hne ⟨by rw [hnsa, hnsb, e1], by rw [hna, hnb, e2]⟩

/-- the same JobConfig in two versions (an update: same uid, different policy) -/
def cfgV1 : JobConfig :=
  { ns := "ns".toList, name := "a.5".toList, uid := "u1".toList, policy := "Allow".toList, maxConc := none,
    queued := 0, tmplLabels := [], tmplAnnots := [], subst := some [], tmpl := none }
def cfgV2 : JobConfig := { cfgV1 with policy := "Forbid".toList }
def demoWorld (c : JobConfig) : Prop := c = cfgV1 ∨ c = cfgV2

theorem demoWorld_functional : UidFunctional demoWorld := by
  intro a b ha hb _
  rcases ha with rfl | rfl <;> rcases hb with rfl | rfl <;> exact ⟨rfl, rfl⟩

/-- the history of `demo_reachable`: request `(cfgV1, 100)` · deliver `cfgV1` to the JobConfig cache
(empty Job cache) · process the key (created); `demoS3` holds exactly one Job -/
def demoKey : Str := jobConfigKey cfgV1.ns cfgV1.name 100
def demoS1 : Sys := { queue := [demoKey] }
def demoS2 : Sys := { demoS1 with jcCache := [cfgV1] }
def demoApi : Api := (syncItem 0 [] (listerGet [cfgV1]) (fun _ => 0) (some 20) (jobLister []) .none demoKey).api
def demoS3 : Sys := { demoS2 with api := demoApi }

theorem demoApi_eq : demoApi = [scheduledJob 0 cfgV1 100 []] := rfl

theorem demo_reachable : Reachable demoWorld demoS3 := by
  have r1 : Reachable demoWorld demoS1 :=
    .step (.request cfgV1 100) .init ⟨Or.inl rfl, rfl⟩
  have r2 : Reachable demoWorld demoS2 :=
    .step (.deliver [cfgV1] []) r1 ⟨by intro c hc; simp at hc; exact Or.inl hc, rfl⟩
  exact .step (.process demoKey 0 (fun _ => 0) (some 20) .none true) r2 ⟨by simp [demoS2, demoS1], rfl⟩

/-- non-vacuity of `at_most_one`: a reachable state in which the count is exactly one -/
example : (demoS3.api.filter (fun j => j.ownerUid = some "u1".toList ∧ j.schedAnnot = some (showInt 100))).length = 1 := by
  decide +kernel

/-- Without the exclusion of the zero time the invariant is false in the model (and in the code:
corpus scenario `zero-time-name`; observed, not a finding: `CronWorker.Work` never requests the zero time,
it skips `ts.IsZero()`): two syncs of the same work item one second apart
create two Jobs with the same owner and the same schedule-time annotation. -/
theorem at_most_one_fails_at_zero_time :
    let key := jobConfigKey cfgV1.ns cfgV1.name zeroUnix
    let api1 := (syncItem 1000 [] (listerGet [cfgV1]) (fun _ => 0) (some 20) (jobLister []) .none key).api
    let api2 := (syncItem 1001 api1 (listerGet [cfgV1]) (fun _ => 0) (some 20) (jobLister []) .none key).api
    (api2.filter (fun j => j.ownerUid = some cfgV1.uid ∧ j.schedAnnot = some (showInt zeroUnix))).length = 2 := by
  decide +kernel

/-- Once the Job for `(c, t)` exists on the server, processing the work item again leaves the
server unchanged, whatever the caches, the store, the configuration and the injected fault are.
With a cache hit no API call is issued; with a cache miss the create is answered `AlreadyExists`
(unless the injected fault pre-empts the answer) and the sync returns an error (⇒ rate-limited
retry, again without effect). -/
theorem process_idempotent (now : Int) (api : Api) (lookup : Str → Str → Option JobConfig)
    (active : JobConfig → Int) (mx : Option Int) (inCache : Str → Str → Bool) (inj : Inject)
    (ns name cfgName : Str) (t : Int) (c : JobConfig)
    (hk : splitKey name = .ok (cfgName, t)) (hl : lookup ns cfgName = some c)
    (hex : api.has c.ns (generateName now c.name t) = true) :
    let o := syncOne now api lookup active mx inCache inj ns name
    o.api = api ∧
    (inCache c.ns (generateName now c.name t) = true → o.call = none) ∧
    (∀ j, o.call = some j → (inj = .none ∨ inj = .errApplied) → o.resp = some .exists ∧ o.result = .err) := by
  intro o
  have ho : o = syncOne now api lookup active mx inCache inj ns name := rfl
  clear_value o
  subst ho
  unfold syncOne
  simp only [hk, hl]
  cases hd : processCron now (some c) (active c) mx inCache t with
  | done r evs => exact ⟨rfl, fun _ => rfl, nofun⟩
  | create j' =>
    obtain ⟨c', vars, hc', _, hj, hnot⟩ := processCron_create hd
    injection hc' with e; subst e
    -- the create is answered `AlreadyExists` (or pre-empted by the fault): no effect either way
    have hhas : api.has j'.ns j'.name = true := by rw [hj]; exact hex
    refine ⟨by cases inj <;> simp [apiCreate, hhas], fun hin => ?_, fun j _ hinj => ?_⟩
    · rw [hj] at hnot
      simp only [scheduledJob] at hnot
      rw [hin] at hnot
      cases hnot
    · rcases hinj with rfl | rfl <;> simp [apiCreate, hhas, afterCreate]

/-- non-vacuity: the second processing of the demo key, with an empty Job cache -/
example :
    let o := syncItem 0 demoApi (listerGet [cfgV1]) (fun _ => 0) (some 20) (jobLister []) .none demoKey
    o.api = demoApi ∧ o.resp = some .exists ∧ o.result = .err := ⟨rfl, rfl, rfl⟩

/-- … and with the Job delivered to the cache: no call at all -/
example :
    let o := syncItem 0 demoApi (listerGet [cfgV1]) (fun _ => 0) (some 20)
              (jobLister [("ns".toList, "a.5-100".toList)]) .none demoKey
    o.api = demoApi ∧ o.call = none ∧ o.result = .ok := ⟨rfl, rfl, rfl⟩

/-- Liveness in the good case (makes the safety theorems non-vacuous): a work item for `(c, t)`
processed with `c` in the JobConfig cache, nothing skipped, valid option defaults, a Job cache
without the Job and a truthful server whose name is free creates exactly the Job of `(c, t)`. -/
theorem request_creates (now : Int) (api : Api) (cache : List JobConfig) (active : JobConfig → Int)
    (mx : Option Int) (jobs : List (Str × Str)) (c : JobConfig) (vars : KV) (t : Int)
    (hns : '/' ∉ c.ns) (hname : '/' ∉ c.name) (ht : InInt64 t)
    (hl : listerGet cache c.ns c.name = some c) (hsub : c.subst = some vars)
    (hforbid : ¬ (c.policy = policyForbid ∧ active c + 1 > c.maxConc.getD Facts.defaultMaxConcurrency))
    (hq : queueFull mx c.queued = false)
    (hcache : jobLister jobs c.ns (generateName now c.name t) = false)
    (hfree : api.has c.ns (generateName now c.name t) = false) :
    (syncItem now api (listerGet cache) active mx (jobLister jobs) .none (jobConfigKey c.ns c.name t)).api
      = api ++ [scheduledJob now c t vars] := by
  unfold syncItem
  rw [splitNsKey_jobConfigKey t hns hname]
  simp only
  unfold syncOne
  rw [splitKey_joinKey c.name ht]
  simp only [hl]
  unfold processCron
  simp only [hforbid, if_false, hq, Bool.false_eq_true, newJobFromJobConfig, hsub, hcache]
  simp only [apiCreate, hfree, Bool.false_eq_true, if_false]
  rfl

end Furiko.Props.C02
