/-
Cross-component ("end-to-end") theorems: each composes theorems that were proved on the separate
component models (cron scheduling `Model/Cron`, cron reconciler `Model/CronRec`, job queue
`Model/Queue`, job controller `Model/JobCtl` + `Model/JobStatus`, JobConfig controller
`Model/JobConfigStatus`).  The models have their own state types; the hypotheses that identify an
object of one model with an object of another ("bridges") are explicit hypotheses, pointed out
under *Bridge* in each docstring (`hkey`, `hbridge…`, `hseen`/`hns`/`huid`, `SameJob`).  Helper
lemmas: `Proofs/ComposeLemmas.lean`.  Each section ends with `example`s that instantiate its
theorems on a concrete non-trivial instance.
-/
import FurikoModel.Proofs.ComposeLemmas

namespace Furiko.Props.Compose

/-! ## C04 × C02 (× C20): restart end to end -/

section Restart
open Furiko Furiko.Str Furiko.Cron Furiko.CronRec

/-- **restart_end_to_end.**

*Cron reconciler before the crash*: `s0` is ANY reachable state of the reconciler's transition
system (`C02`: requests, passes with arbitrary cache views and create faults, crashes, deletions),
in a world of JobConfig versions whose identities behave (`WorldOK`), without zero-time Jobs
(finding C02-F1).
*The restart*: the cron worker loads the JobConfigs `jcs` (`schedNew`; `bootCtl jcs pq` is the
state `Init` leaves), then runs ANY boot sequence `boot`: ticks at non-decreasing instants
interleaved with the informer's add notifications for the loaded JobConfigs, each handled at most
once, whenever (`BootOK`; finding F24); `reqs` is everything it requests (`ctlRun`, flattened).
*Bridge*: the loaded `jc : Cron.JC` and the reconciler's `c : CronRec.JobConfig` are the same
object: `jc.key` is `c`'s store key `ns/name` (`hkey`); requested times are Unix seconds other
than Go's zero time (`hrq`).
*Processing*: `acts` is ANY legal run of the reconciler from the crashed state inside the
catch-up envelope (`CatchUp`: only requested items are enqueued, no Job deletion, no second
crash): items are enqueued and processed in any order, any number of times, with any cache views
and any create faults; the only demand is that every requested item of `c` is eventually settled
by some pass (`Served`).

Then, with `R` = the times requested for `c`:
1. `R` is strictly increasing (no time is requested twice) and every `t ∈ R` is later than the
   `lastScheduled` the restart read (`C04.never_rerequest_run`);
2. the server's Jobs afterwards are the Jobs before the restart followed by new ones, and every
   new Job owned by `c` is the Job of a requested time (annotation, namespace, name);
3. for every `t ∈ R` EXACTLY one Job owned by `c` carries schedule time `t` — also when that Job
   already existed before the crash because `lastScheduled` had not been written yet
   (`C02.process_idempotent`), and
4. for every uid and time at most one (`C02.at_most_one`). -/
theorem restart_end_to_end
    {world : JobConfig → Prop} (hW : WorldOK world) (s0 : Sys) (hr0 : Reachable world s0)
    (hz0 : ∀ j ∈ s0.api, j.schedAnnot ≠ some (showInt zeroUnix))
    {jcs : List JC} {cfg dflt now : Int} {pq : Heap.PQ}
    (hnd : (jcs.map (fun jc => jc.key)).Nodup)
    (hs : ∀ jc ∈ jcs, ∀ l ∈ jc.sched.exprs, SortedStrict l)
    (h : schedNew jcs cfg dflt now = some pq) {cap : Int} {flushLimit fuel : Nat}
    {boot : List CtlAct} (hok : BootOK jcs boot) (hts : List.Pairwise (· ≤ ·) (ticksOf boot))
    (hdone : (ctlRun Shapes.fixed cap flushLimit fuel (bootCtl jcs pq) boot).2.2 = true)
    (reqs : List (String × Int))
    (hreqs : reqs = (ctlRun Shapes.fixed cap flushLimit fuel (bootCtl jcs pq) boot).2.1.flatten)
    {jc : JC} (hjc : jc ∈ jcs)
    (c : JobConfig) (hc : world c) (hkey : jc.key = String.ofList (metaNsKey c.ns c.name))
    (hrq : ∀ p ∈ reqs, p.2 ≠ zeroUnix ∧ InInt64 p.2)
    (acts : List Action) (hlegal : Legal world (applyAct s0 .crash) acts) (hcu : CatchUp reqs acts)
    (hserved : ∀ t, (jc.key, t) ∈ reqs → Served c t (applyAct s0 .crash) acts) :
    let R := outk reqs jc.key
    let sF := runActs (applyAct s0 .crash) acts
    (SortedStrict R ∧ ∀ ls, jc.lastScheduled = some ls → ∀ t ∈ R, ls < t) ∧
    (∃ new, sF.api = s0.api ++ new ∧ ∀ j ∈ new, j.ownerUid = some c.uid →
        ∃ t ∈ R, j.schedAnnot = some (showInt t) ∧ j.ns = c.ns ∧ j.name = jobName c.name t) ∧
    (∀ t ∈ R, (sF.api.filter (fun j => j.ownerUid = some c.uid ∧
        j.schedAnnot = some (showInt t))).length = 1) ∧
    (∀ u t, t ≠ zeroUnix → (sF.api.filter (fun j => j.ownerUid = some u ∧
        j.schedAnnot = some (showInt t))).length ≤ 1) := by
  intro R sF
  -- late initial adds are invisible: the boot sequence requests what its ticks request
  have hboot := (ctlRun_bootCtl cap flushLimit fuel pq hnd hok).2
  rw [hboot] at hdone hreqs
  have hrz : ∀ p ∈ reqs, p.2 ≠ zeroUnix := fun p hp => (hrq p hp).1
  -- the crashed state satisfies the catch-up invariant
  have hcr : Reachable world (applyAct s0 .crash) := hr0.apply (a := .crash) trivial
  have hI0 : CInv world c reqs s0.api (applyAct s0 .crash) :=
    ⟨hcr, hz0, (by intro k hk; cases hk), ⟨[], by simp [applyAct], by intro j hj; cases hj⟩⟩
  have hI : CInv world c reqs s0.api sF := CInv.run hW hc hrz acts _ hI0 hlegal hcu
  have hinvF := inv_reachable hI.reach
  have hUF : C02.UidFunctional world := hW.uid_fun
  refine ⟨⟨?_, ?_⟩, ?_, ?_, ?_⟩
  · -- no heap entry for the key: nothing is requested; else the stream invariant of an active key
    show SortedStrict (outk reqs jc.key)
    rw [hreqs]
    have hInv := (schedNew_spec hnd h).1
    have hL := listerOf_ok hnd hs
    rcases schedNew_entry hnd h hjc with hnone | ⟨e, hact, _, hent⟩
    · have hall := (runTicks_absent cap flushLimit fuel jc.key (ticksOf boot) ⟨pq, listerOf jcs, []⟩
        hInv hL (fun _ h => by cases h) hnone).1
      rw [outk_flatten, List.flatten_eq_nil_iff.2 fun l hl => by
        obtain ⟨l', hl', rfl⟩ := List.mem_map.1 hl; exact hall l' hl']
      exact List.Pairwise.nil
    · exact (run_stream_inv cap flushLimit fuel (w := ⟨pq, listerOf jcs, []⟩) hInv hL rfl
        (lookup_listerOf jcs hnd jc hjc) hact hent _ hts hdone).2.1.sorted
  · intro ls hls t ht
    exact never_rerequest_run_lemma hnd hs h _ hts hdone hjc hls t (hreqs ▸ mem_outk.1 ht)
  · obtain ⟨new, hnew, hprop⟩ := hI.grow
    refine ⟨new, hnew, fun j hj ho => ?_⟩
    obtain ⟨t, ht, h1, h2, h3⟩ := hprop j hj ho
    exact ⟨t, mem_outk.2 (by rw [hkey]; exact ht), h1, h2, h3⟩
  · intro t ht
    have ht' : (jc.key, t) ∈ reqs := mem_outk.1 ht
    obtain ⟨htz, hti⟩ := hrq _ ht'
    have hhas := served_has hW hc (rq := reqs) htz hti acts _ hcr hlegal hcu (hserved t ht')
    obtain ⟨j, hj, hns, hname⟩ := has_true_iff.1 hhas
    obtain ⟨ho, ha⟩ := job_at_name hW hc hinvF hI.clean hj hns hname
    have hle := (C02.at_most_one world hUF sF hI.reach c.uid t htz).1
    have hpos : 0 < (sF.api.filter (fun j => j.ownerUid = some c.uid ∧
        j.schedAnnot = some (showInt t))).length :=
      List.length_pos_of_mem (List.mem_filter.2 ⟨hj, by simp [ho, ha]⟩)
    omega
  · intro u t ht
    exact (C02.at_most_one world hUF sF hI.reach u t ht).1

/-- … and when the boot sequence has ONE tick (at `n1`; the initial adds of loaded JobConfigs may
be handled before or after it) the requested times of `c` are exactly the
`min cap |D|` earliest elements of `D = {m | Eligible jc cfg dflt now m ∧ m ≤ floorSec n1}`
(`C04.catch_up_exact`), so the new Jobs of `c` are exactly the Jobs of those times:
"Jobs after restart + quiescence = Jobs before ∪ Jobs for `catch_up_exact`'s times". -/
theorem restart_end_to_end_first_tick
    {world : JobConfig → Prop} (hW : WorldOK world) (s0 : Sys) (hr0 : Reachable world s0)
    (hz0 : ∀ j ∈ s0.api, j.schedAnnot ≠ some (showInt zeroUnix))
    {jcs : List JC} {cfg dflt now : Int} {pq : Heap.PQ}
    (hnd : (jcs.map (fun jc => jc.key)).Nodup)
    (hs : ∀ jc ∈ jcs, ∀ l ∈ jc.sched.exprs, SortedStrict l)
    (h : schedNew jcs cfg dflt now = some pq) {n1 cap : Int} {flushLimit fuel : Nat}
    {boot : List CtlAct} (hok : BootOK jcs boot) (hticks : ticksOf boot = [n1])
    (hdone : (ctlRun Shapes.fixed cap flushLimit fuel (bootCtl jcs pq) boot).2.2 = true)
    (reqs : List (String × Int))
    (hreqs : reqs = (ctlRun Shapes.fixed cap flushLimit fuel (bootCtl jcs pq) boot).2.1.flatten)
    {jc : JC} (hjc : jc ∈ jcs) (hen : jc.sched.enabled = true) (hpe : jc.sched.parseErr = false)
    (c : JobConfig) (hc : world c) (hkey : jc.key = String.ofList (metaNsKey c.ns c.name))
    (hrq : ∀ p ∈ reqs, p.2 ≠ zeroUnix ∧ InInt64 p.2)
    (acts : List Action) (hlegal : Legal world (applyAct s0 .crash) acts) (hcu : CatchUp reqs acts)
    (hserved : ∀ t, (jc.key, t) ∈ reqs → Served c t (applyAct s0 .crash) acts) :
    ∃ D : List Int, SortedStrict D ∧
      (∀ m, m ∈ D ↔ Eligible jc cfg dflt now m ∧ m ≤ floorSec n1) ∧
      ∃ new, (runActs (applyAct s0 .crash) acts).api = s0.api ++ new ∧
        (∀ j ∈ new, j.ownerUid = some c.uid →
          ∃ t ∈ D.take cap.toNat, j.schedAnnot = some (showInt t) ∧ j.ns = c.ns ∧
            j.name = jobName c.name t) ∧
        ∀ t ∈ D.take cap.toNat, ((runActs (applyAct s0 .crash) acts).api.filter (fun j =>
          j.ownerUid = some c.uid ∧ j.schedAnnot = some (showInt t))).length = 1 := by
  have hboot := (ctlRun_bootCtl cap flushLimit fuel pq hnd hok).2
  rw [hticks] at hboot
  have hdone' : (work ⟨pq, listerOf jcs, []⟩ n1 cap flushLimit fuel).2.2 = true := by
    have := hdone
    rw [hboot] at this
    simpa [runTicks, listerOf] using this
  obtain ⟨D, hD, hmem, htake⟩ := catch_up_lemma hnd hs h hdone' hjc ⟨hen, hpe⟩
  have hR : outk reqs jc.key = D.take cap.toNat := by
    rw [hreqs, hboot]
    simpa [runTicks, listerOf] using htake
  obtain ⟨_, ⟨new, hnew, hprop⟩, hone, _⟩ :=
    restart_end_to_end hW s0 hr0 hz0 hnd hs h hok (by rw [hticks]; simp) hdone reqs hreqs hjc c hc
      hkey hrq acts hlegal hcu hserved
  rw [hR] at hprop hone
  exact ⟨D, hD, hmem, new, hnew, hprop, hone⟩

/-- how `Served` is discharged by the controller's own retry loop (`C20`): for the work item of
`(c, t)`, ANY finite pattern `fs` of failed create calls (E-ErrNotApplied) and any server content,
the loop `work/syncItem` (modelled by `C20.runLoop` over `C20.cronSync`: Job lister caught up with
the server) ends with a successful pass, and the server is then exactly what ONE fault-free pass
produces (`C20.cron_converges`): unchanged if the Job's name was taken (`process_idempotent`),
else extended by the Job of `(cv, t)` — provided the JobConfig lister holds a version `cv` of `c`
whose option defaults evaluate and the schedule is not skipped by policy. -/
theorem restart_item_retry_converges
    (e : C20.CronEnv) (c cv : JobConfig) (t : Int) (ht : InInt64 t) (htz : t ≠ zeroUnix)
    (hname : e.name = joinKey c.name t) (hns : e.ns = c.ns)
    (hl : e.lookup c.ns c.name = some cv) (hid : cv.ns = c.ns ∧ cv.name = c.name)
    (vars : KV) (hsub : cv.subst = some vars)
    (hforbid : ¬ (cv.policy = policyForbid ∧ e.active cv + 1 > cv.maxConc.getD Facts.defaultMaxConcurrency))
    (hq : queueFull e.mx cv.queued = false) (fs : List Bool) (api : Api) :
    (C20.runLoop (C20.cronSync e) (fs.length + 1) fs api).2 = true ∧
    (C20.runLoop (C20.cronSync e) (fs.length + 1) fs api).1 =
      (if api.has c.ns (jobName c.name t) then api else api ++ [scheduledJob e.now cv t vars]) ∧
    (C20.runLoop (C20.cronSync e) (fs.length + 1) fs api).1.has c.ns (jobName c.name t) = true := by
  have hk : splitKey e.name = .ok (c.name, t) := by rw [hname]; exact splitKey_joinKey c.name ht
  have hsub' : ∀ c', e.lookup e.ns c.name = some c' → c'.subst ≠ none := by
    intro c' hc'
    rw [hns, hl] at hc'
    cases hc'
    simp [hsub]
  have hgn : generateName e.now cv.name t = jobName c.name t := by
    rw [generateName_eq_jobName e.now cv.name htz, hid.2]
  -- one fault-free pass with a Job lister that has caught up with the server
  have hpass : C20.cronSync e api false =
      (if api.has c.ns (jobName c.name t) then api else api ++ [scheduledJob e.now cv t vars], true) := by
    obtain ⟨k1, k2⟩ := syncOne_pass e.now api e.lookup e.active e.mx (fun ns n => api.has ns n) .none
      c.ns c.name ht hl hsub hforbid hq
    simp only [C20.cronSync, hname, hns, Bool.false_eq_true, if_false, k1, k2, hid.1, hgn]
    by_cases hhas : api.has c.ns (jobName c.name t) = true <;>
      simp [hhas, apiCreate, afterCreate, scheduledJob, hid.1, hgn]
  obtain ⟨h1, h2⟩ := C20.cron_converges e c.name t hk hsub' fs api
  rw [hpass] at h2
  refine ⟨h1, h2, ?_⟩
  rw [h2]
  by_cases hhas : api.has c.ns (jobName c.name t) = true
  · simp [hhas]
  · simp only [hhas, Bool.false_eq_true, if_false]
    exact has_true_iff.2 ⟨scheduledJob e.now cv t vars, by simp, hid.1, hgn⟩

/-! ### non-vacuity: a crash between the Job create of 10 and the status write -/

/-- the reconciler's JobConfig `ns/a` … -/
def cA : JobConfig :=
  { ns := "ns".toList, name := "a".toList, uid := "u1".toList, policy := "Forbid".toList, maxConc := some 5,
    queued := 0, tmplLabels := [], tmplAnnots := [], subst := some [], tmpl := none }
def worldA (c : JobConfig) : Prop := c = cA

theorem worldA_ok : WorldOK worldA := by
  refine ⟨?_, ?_, ?_, ?_⟩
  · intro a b ha hb _; rw [ha, hb]; exact ⟨rfl, rfl⟩
  · intro a b ha hb _ _; rw [ha, hb]
  · intro a ha; rw [ha]; decide
  · intro a ha; rw [ha]; decide

/-- … and the same object as the cron worker loads it: store key `ns/a`, every-5-to-10-seconds
schedule of `Cron.Ex.jcA`, `lastScheduled = 5` (the Job of 10 exists, but the JobConfig controller
had not yet recorded it when the controller crashed) -/
def jcA' : JC := { Ex.jcA with key := "ns/a", lastScheduled := some 5 }

def keyA (t : Int) : Str := jobConfigKey cA.ns cA.name t

instance : DecidablePred worldA := fun c => inferInstanceAs (Decidable (c = cA))

/-- before the crash: the item of 10 was requested and processed — the Job of 10 was created -/
def histPre : List Action :=
  [.request cA 10, .deliver [cA] [], .process (keyA 10) 0 (fun _ => 0) (some 20) .none true]
def sPre : Sys := runActs {} histPre

theorem sPre_reachable : Reachable worldA sPre :=
  reachable_runActs histPre {} .init (by refine ⟨rfl, ?_, ?_, trivial⟩ <;> decide)

theorem sPre_api : sPre.api = [scheduledJob 0 cA 10 []] := by rfl

example : sPre.api = [scheduledJob 0 cA 10 []] := sPre_api

theorem sPre_clean : ∀ j ∈ sPre.api, j.schedAnnot ≠ some (showInt zeroUnix) := by
  rw [sPre_api]; decide +kernel

/-- restart at 25.5 s, one tick at 26 s, cap 5: the worker requests 10, 15, 20 -/
def reqsA : List (String × Int) := [("ns/a", 10), ("ns/a", 15), ("ns/a", 20)]

/-- the reconciler after the restart: the three items are enqueued; 20 is processed first; the create
of 15 fails once and is retried; 10 is processed twice (Job lister empty: `AlreadyExists`) -/
def actsA : List Action :=
  [.request cA 10, .request cA 15, .request cA 20,
   .process (keyA 20) 26 (fun _ => 0) (some 20) .none false,
   .process (keyA 15) 26 (fun _ => 0) (some 20) .err true,
   .process (keyA 10) 26 (fun _ => 0) (some 20) .none true,
   .process (keyA 15) 27 (fun _ => 0) (some 20) .none false,
   .process (keyA 10) 27 (fun _ => 0) (some 20) .errApplied false]

theorem actsA_run :
    (runActs (applyAct sPre .crash) actsA).api
      = sPre.api ++ [scheduledJob 26 cA 20 [], scheduledJob 27 cA 15 []] := by rfl

theorem actsA_legal : Legal worldA (applyAct sPre .crash) actsA := by
  refine ⟨rfl, rfl, rfl, ?_, ?_, ?_, ?_, ?_, trivial⟩ <;> decide

theorem actsA_catchUp : CatchUp reqsA actsA := by
  unfold CatchUp
  decide +kernel

theorem actsA_served : ∀ t, (jcA'.key, t) ∈ reqsA → Served cA t (applyAct sPre .crash) actsA := by
  intro t ht
  simp only [reqsA, jcA', List.mem_cons, Prod.mk.injEq, true_and, List.not_mem_nil, or_false] at ht
  rcases ht with rfl | rfl | rfl
  · -- 10: the Job exists already; the first pass on its key settles it
    exact Or.inr (Or.inr (Or.inr (Or.inr (Or.inr (Or.inl ⟨rfl, Or.inl (by decide +kernel)⟩)))))
  · -- 15: the first pass fails (fault), the second one creates the Job
    exact Or.inr (Or.inr (Or.inr (Or.inr (Or.inr (Or.inr (Or.inl ⟨rfl, Or.inr ⟨cA, by decide +kernel⟩⟩))))))
  · -- 20
    exact Or.inr (Or.inr (Or.inr (Or.inl ⟨rfl, Or.inr ⟨cA, by decide +kernel⟩⟩)))

/-- every hypothesis of `restart_end_to_end` / `restart_end_to_end_first_tick` holds on the
instance (`WorldOK`: `worldA_ok`, reachability: `sPre_reachable`) … -/
example :
    schedNew [jcA'] 0 300 25500000000 = some (Heap.new [("ns/a", 10)]) ∧
    (work ⟨Heap.new [("ns/a", 10)], [jcA'].map (fun jc => (jc.key, jc)), []⟩ 26000000000 5 1000 10).2
      = (reqsA, true) ∧
    jcA'.key = String.ofList (metaNsKey cA.ns cA.name) ∧
    (∀ p ∈ reqsA, p.2 ≠ zeroUnix ∧ InInt64 p.2) ∧
    (∀ j ∈ sPre.api, j.schedAnnot ≠ some (showInt zeroUnix)) ∧
    Legal worldA (applyAct sPre .crash) actsA ∧ CatchUp reqsA actsA ∧
    (∀ t, (jcA'.key, t) ∈ reqsA → Served cA t (applyAct sPre .crash) actsA) ∧
    ((runActs (applyAct sPre .crash) actsA).api.map (fun j => (j.name, j.schedAnnot))) =
      [("a-10".toList, some "10".toList), ("a-20".toList, some "20".toList),
       ("a-15".toList, some "15".toList)] :=
  ⟨rfl, by decide +kernel, by decide +kernel, by decide +kernel, sPre_clean, actsA_legal, actsA_catchUp,
    actsA_served, by rw [actsA_run, sPre_api]; decide +kernel⟩

/-- … so the theorem applies: the requested times are `[10, 15, 20]`, all after the recorded 5, and
for each of them exactly one Job of `u1` exists — the Job of 10 is the one from before the crash -/
example :
    let sF := runActs (applyAct sPre .crash) actsA
    outk reqsA jcA'.key = [10, 15, 20] ∧ (∀ t ∈ outk reqsA jcA'.key, 5 < t) ∧
    ∀ t ∈ outk reqsA jcA'.key, (sF.api.filter (fun j => j.ownerUid = some cA.uid ∧
      j.schedAnnot = some (showInt t))).length = 1 := by
  have hs : ∀ jc ∈ [jcA'], ∀ l ∈ jc.sched.exprs, SortedStrict l := by
    intro jc hjc; rw [List.mem_singleton.1 hjc]; exact Ex.jcA_sorted
  -- the informer's add notification for `ns/a` is handled between `Init` and the first tick
  have hok : BootOK [jcA'] [.initialAdd jcA', .tick 26000000000] :=
    ⟨by decide, by simp [initialAddsOf], by simp [initialAddsOf]⟩
  have hreqs : reqsA = (ctlRun Shapes.fixed 5 1000 10 (bootCtl [jcA'] (Heap.new [("ns/a", 10)]))
      [.initialAdd jcA', .tick 26000000000]).2.1.flatten := by decide +kernel
  obtain ⟨⟨_, h1⟩, _, h3, _⟩ := restart_end_to_end worldA_ok sPre sPre_reachable sPre_clean
    (cfg := 0) (dflt := 300) (now := 25500000000) (pq := Heap.new [("ns/a", 10)])
    (by decide) hs rfl hok (by simp [ticksOf])
    (by decide +kernel) reqsA hreqs (jc := jcA') (by simp) cA rfl (by decide +kernel) (by decide +kernel)
    actsA actsA_legal actsA_catchUp actsA_served
  exact ⟨by decide +kernel, h1 5 rfl, h3⟩

/-- the envelope clause "a (namespace, name) has one uid" (`WorldOK.name_fun`) cannot be dropped from
the model-level statement: if a Job of an OLDER JobConfig of the same name (uid `u0`) still occupies
the name `a-10`, the item `(ns/a, 10)` of the re-created JobConfig `u1` is answered `AlreadyExists`
on every pass — no Job of `u1` for 10 ever exists.  (Not reachable in the real system with a
monotone clock: the re-created JobConfig has no `lastScheduled` and is never back-filled —
`C04.never_scheduled_no_backfill`.) -/
theorem name_reuse_blocks_schedule_witness :
    let cOld : JobConfig := { cA with uid := "u0".toList }
    let api0 : Api := [scheduledJob 0 cOld 10 []]
    let o := syncItem 26 api0 (listerGet [cA]) (fun _ => 0) (some 20) (jobLister []) .none (keyA 10)
    o.api = api0 ∧ o.resp = some .exists ∧ o.result = .err ∧
    (o.api.filter (fun j => j.ownerUid = some cA.uid ∧ j.schedAnnot = some (showInt 10))).length = 0 :=
  ⟨rfl, rfl, rfl, rfl⟩

/-- "the sync returned nil" is NOT enough for `Served`: with an empty JobConfig lister (or a Forbid
JobConfig at its limit, or `MaxEnqueuedJobs` reached, or a create rejected as Invalid) the pass
reports success — so the retry loop forgets the key (`C20.retry_success_forgets`) — and no Job
exists.  All four are the code's documented behaviour; they are why `Effective` spells out the
conditions of a pass that reaches a successful create. -/
theorem ok_without_job_witness :
    (let o := syncItem 26 [] (listerGet []) (fun _ => 0) (some 20) (jobLister []) .none (keyA 10)
     o.result = .ok ∧ o.api = []) ∧
    (let o := syncItem 26 [] (listerGet [cA]) (fun _ => 5) (some 20) (jobLister []) .none (keyA 10)
     o.result = .ok ∧ o.api = [] ∧ o.events = [.skipped]) ∧
    (let o := syncItem 26 [] (listerGet [cA]) (fun _ => 0) (some 0) (jobLister []) .none (keyA 10)
     o.result = .ok ∧ o.api = [] ∧ o.events = [.skipped]) ∧
    (let o := syncItem 26 [] (listerGet [cA]) (fun _ => 0) (some 20) (jobLister []) .invalid (keyA 10)
     o.result = .ok ∧ o.api = [] ∧ o.events = [.createFailed]) := by decide +kernel

/-- `restart_item_retry_converges` on the instance: the item of 15, three failed creates, then
success, starting from the server content before the crash -/
example :
    let e : C20.CronEnv := { now := 27, lookup := listerGet [cA], active := fun _ => 0, mx := some 20,
                             ns := cA.ns, name := joinKey cA.name 15 }
    e.lookup cA.ns cA.name = some cA ∧ queueFull e.mx cA.queued = false ∧
    ¬ (cA.policy = policyForbid ∧ e.active cA + 1 > cA.maxConc.getD Facts.defaultMaxConcurrency) ∧
    (C20.cronSync e sPre.api true) = (sPre.api, false) ∧
    (C20.runLoop (C20.cronSync e) 4 [true, true, true] sPre.api) =
      (sPre.api ++ [scheduledJob 27 cA 15 []], true) :=
  ⟨rfl, rfl, by decide, rfl, rfl⟩

end Restart

/-! ## C06 × C12 (× C08): a Forbid Job rejected at the limit never runs -/

section Reject
open Furiko Furiko.Queue Furiko.JobCtl Furiko.JobCtlPlan Furiko.WQ

/-- **forbid_rejected_never_runs.**

*Queue controller* (`Model/Queue`): the Forbid Job `j` (cached version) is evaluated in state
`qs` with `ac + 1 > maxConcurrency` and its `startAfter` not in the future, and the `RejectJob`
write is acknowledged by the server (`hok`: the call is logged `"ok"`).
*Job controller* (`Model/JobCtl`): ANY system state `s` and ANY version `jo` of that Job that it
may hold in its cache afterwards.
*Bridge* (`hbridge`): the job controller's version carries the admission-error annotation iff the
queue model's authoritative Job does.

Then (a) the queue controller does not start the Job in that evaluation, (b) a pass of the job
controller on `jo` issues no pod create and every pod on the server after the pass was there (by
name) before, and (c) `GetCondition` of `jo` is `Finished` with result `AdmissionError`, at any
clock reading, and the phase computed from any status carrying that condition is terminal.
(b) and (c) do not use `startTime = none`: they hold also if a later queue pass "starts" the
rejected Job (`C06.rejected_then_started_witness`), as long as the annotation is there. -/
theorem forbid_rejected_never_runs
    (qs : Queue.Sys) (jc : JCV) (j : JobV) (ac : Int)
    (h1 : j.hasPolicy = true) (h2 : j.policy = 1) (h3 : ac + 1 > jc.maxConc)
    (h4 : startAfterLater j qs.clock = false)
    (hok : (canStartJob qs jc j ac).1.calls = qs.calls ++ [⟨"reject", j.name, "ok"⟩])
    (s : JobCtl.Sys) (jo : JobObj)
    (hbridge : ∀ a, findJob (canStartJob qs jc j ac).1.jobs j.name = some a →
      (jo.job.admissionError = true ↔ a.admErr = true)) :
    (canStartJob qs jc j ac).2 ≠ .start ∧
    ((∀ c ∈ newCalls s (sync s jo).1, c.verb ≠ "create") ∧
     (∀ p ∈ (sync s jo).1.pods, ∃ p0 ∈ s.pods, p0.pod.name = p.pod.name)) ∧
    (∀ (now : Time) (d : PIndex),
      (∃ f, (getCondition now d jo.job).finished = some f ∧ f.result = .admissionError) ∧
      ∀ (now' : Time) (rj' : Job), rj'.status.condition = getCondition now d jo.job →
        phaseIsTerminal (getPhase now' rj') = true) := by
  obtain ⟨hns, res, hcalls, _, _, hres⟩ := C06.forbid_rejected qs jc j ac h1 h2 h3 h4
  -- the acknowledged call is the one the evaluation logged, so the rejection was applied
  have hr : res = "ok" := by simpa using List.append_cancel_left (hcalls.symm.trans hok)
  obtain ⟨cur, a, _, _, hfa, hadm, _, _⟩ := hres hr
  have hjo : jo.job.admissionError = true := (hbridge a hfa).2 hadm
  refine ⟨hns, C12Plan.no_create_in_pass s jo (Or.inr (Or.inl hjo)), fun now d => ?_⟩
  exact ⟨C12.admission_error_condition now d jo.job hjo,
    fun now' rj' hc => (admission_error_phase now now' d jo.job rj' hjo hc).2⟩

/-- the history-level form on the job controller's transition system (`Proofs/JobCtlSys`): in
every state reachable from the creation of the Job by ANY allowed actions (faults, informer lag,
restarts, clock, kubelet, user kill / delete, foreign pods), if the cached Job carries the
annotation — bridged as above to a rejection applied by the queue controller — a controller pass
adds no pod name to the server (`C08Hist.no_create_when_killed_or_refused`). -/
theorem forbid_rejected_never_runs_hist
    (qs : Queue.Sys) (jc : JCV) (j : JobV) (ac : Int)
    (h1 : j.hasPolicy = true) (h2 : j.policy = 1) (h3 : ac + 1 > jc.maxConc)
    (h4 : startAfterLater j qs.clock = false)
    (hok : (canStartJob qs jc j ac).1.calls = qs.calls ++ [⟨"reject", j.name, "ok"⟩])
    {ok : JobCtl.Sys → JobCtl.Action → Prop} {j0 : JobObj} {s : JobCtl.Sys} (hr : Reach ok j0 s)
    (jo : JobObj) (hc : s.jobCache = some jo)
    (hbridge : ∀ a, findJob (canStartJob qs jc j ac).1.jobs j.name = some a →
      (jo.job.admissionError = true ↔ a.admErr = true)) :
    ∀ n ∈ podNames (JobCtl.step s .work).pods, n ∈ podNames s.pods := by
  obtain ⟨_, res, hcalls, _, _, hres⟩ := C06.forbid_rejected qs jc j ac h1 h2 h3 h4
  have hr' : res = "ok" := by simpa using List.append_cancel_left (hcalls.symm.trans hok)
  obtain ⟨cur, a, _, _, hfa, hadm, _, _⟩ := hres hr'
  exact C08Hist.no_create_when_killed_or_refused hr jo hc (Or.inr (Or.inl ((hbridge a hfa).2 hadm)))

/-- closing the loop back into the queue controller: once the job controller has written the
status of the rejected Job (condition from `GetCondition`, phase from `GetPhase`) and the queue
model's authoritative Job reflects that phase (`hbridge`: its `terminal` flag is
`JobPhase.IsTerminal` of the written phase), no worker step of the queue controller — per-config
or independent, whatever its caches say — starts the Job (`C06.not_queued_never_started`). -/
theorem rejected_terminal_never_started
    {qs : Queue.Sys} (hq : Queue.Reachable qs) {n : String} {cur : JobV}
    (hcur : findJob qs.jobs n = some cur)
    (now now' : Time) (d : PIndex) (rj rj' : Job) (hadm : rj.admissionError = true)
    (hcond : rj'.status.condition = getCondition now d rj)
    (hbridge : cur.terminal = phaseIsTerminal (getPhase now' rj')) :
    ⟨"start", n, "ok"⟩ ∉ (workConfig qs).1.calls ∧ ⟨"start", n, "ok"⟩ ∉ (workIndependent qs).1.calls := by
  have ht : cur.terminal = true := by
    rw [hbridge]; exact (admission_error_phase now now' d rj rj' hadm hcond).2
  exact C06.not_queued_never_started hq hcur (by simp [JobV.isQueued, ht])

open Furiko.Queue.Scen in
/-- queue side: `C06`'s scenario `s4` (Forbid Job `b`, one active Job, limit 1): the rejection is
logged ok and the authoritative `b` carries the annotation.  Job-controller side: Job `b`, started
(as after `C06.rejected_then_started_witness`), one index, nothing recorded, nothing on the
server: with the annotation the pass creates nothing — WITHOUT it the same pass creates `b-d-0`. -/
example :
    let jb : JobV := { mk "b" true 1 none with rv := 3 }
    let rj : Job := { template := some {}, admissionError := true, status := { startTime := some 1000000000 } }
    let sys (r : Job) : JobCtl.Sys := { clock := 100000000000, d := { hash := "d" }, job := some ⟨"b", "u", r, true, 1⟩ }
    jb.hasPolicy = true ∧ jb.policy = 1 ∧ (1 : Int) + 1 > (jcN 1).maxConc ∧
    startAfterLater jb s4.clock = false ∧
    (canStartJob s4 (jcN 1) jb 1).1.calls.map (fun c => (c.verb, c.job, c.res)) =
      s4.calls.map (fun c => (c.verb, c.job, c.res)) ++ [("reject", "b", "ok")] ∧
    ((findJob (canStartJob s4 (jcN 1) jb 1).1.jobs "b").map (·.admErr)) = some rj.admissionError ∧
    ((newCalls (sys rj) (sync (sys rj) ⟨"b", "u", rj, true, 1⟩).1).all (·.verb ≠ "create")) = true ∧
    (sync (sys rj) ⟨"b", "u", rj, true, 1⟩).1.pods.length = 0 ∧
    (newCalls (sys rj) (sync (sys rj) ⟨"b", "u", { rj with admissionError := false }, true, 1⟩).1).map
      (fun c => (c.verb, c.res, c.name, c.out)) = [("create", "pods", "b-d-0", "ok")] ∧
    ((getCondition 5 { hash := "d" } rj).finished.map (·.result)) = some .admissionError ∧
    getPhase 7 { rj with status := { rj.status with condition := getCondition 5 { hash := "d" } rj } }
      = "AdmissionError" := by decide +kernel

/-- history level: the Job is created with the annotation already applied, the creation event is
delivered; the controller pass adds no pod name, whereas without the annotation it adds `b-d-0` -/
example :
    let rj : Job := { template := some {}, admissionError := true, status := { startTime := some 1000000000 } }
    let j0 (r : Job) : JobObj := ⟨"b", "u", r, true, 1⟩
    let s (r : Job) : JobCtl.Sys := JobCtl.step (initSys 100000000000 {} { hash := "d" } (j0 r)) .deliverJob
    Reach anyAction (j0 rj) (s rj) ∧ (s rj).jobCache = some (j0 rj) ∧
    podNames (JobCtl.step (s rj) .work).pods = [] ∧
    podNames (JobCtl.step (s { rj with admissionError := false }) .work).pods = ["b-d-0"] := by
  exact ⟨.step .deliverJob (.init _ _ _ (by decide)) trivial trivial, by decide +kernel⟩

/-- `rejected_terminal_never_started`: `C06`'s history `histTerminal` (`b` rejected, the job
controller has made it terminal, the queue controller's cache still shows it queued): reachable,
the authoritative `b` is terminal — the flag the bridge equates with `IsTerminal("AdmissionError")`
— and the next pass gets a conflict instead of a start -/
example :
    let qs := Queue.runActs {} C06.histTerminal
    Queue.Reachable qs ∧
    (findJob qs.jobs "b").map (fun j => (j.admErr, j.terminal)) = some (true, phaseIsTerminal "AdmissionError") ∧
    (workConfig qs).1.calls.map (fun c => (c.verb, c.job, c.res)) = [("start", "b", "conflict")] :=
  ⟨Queue.reachable_runB _ (by decide +kernel), by decide +kernel⟩

end Reject

/-! ## C02 × C15 × C04: a scheduled Job is counted, and its time is never requested again -/

section Counted
open Furiko Furiko.Str Furiko.Cron Furiko.Compose Furiko.Props.C15

/-- **scheduled_job_counted_partial.**

*Cron reconciler*: `j` is the Job `NewJobFromJobConfig(c, Scheduled, t)` builds (`C02`), for a
representable Unix time `t` after Go's zero time.
*JobConfig controller*: in the system of `C15` (API object + every version a lagging cache may
hold, optimistic concurrency), a sync reads the current version `read` of the JobConfig with a Job
cache `cache`.
*Bridge*: `cache` contains the translation `toJcJob j m` of `j` (reconciler-set fields translated
character by character, server-set fields `m` arbitrary); `read` is `c`'s object: same namespace
and uid.
*Afterwards*: any interleaving `acts` of further syncs (stale reads, arbitrary Job caches — `j` may
have been deleted) and foreign writes; then a restart whose loaded `jc` carries the
`lastScheduled` then on the API (`hbridge2`, as in `C04Status`), followed by any boot sequence
`boot` (ticks interleaved with the informer's initial adds of the loaded JobConfigs).

Then the Job is listed by `listJobs` for `read` and its annotation reads back as `t` (across the
two models' independent `Atoi`/`%v` implementations); right after the sync the recorded
`status.lastScheduled` is `≥ t`; and no tick after the restart ever requests `t` (or anything
earlier) for `jc` again.

PARTIAL: the hypothesis `hseen` (the Job is in the Job cache when a sync of its JobConfig reads the
current version — envelope `E-JobObservedBeforeGone`) cannot be dropped.  A scheduled Job that is
created and deleted between two syncs of its JobConfig is never counted, and its schedule time IS
requested again after a restart: `unobserved_job_rerequested_witness` (known finding F33). -/
theorem scheduled_job_counted_partial
    (now0 : Int) (c : CronRec.JobConfig) (t : Int) (ht : InInt64 t) (hz : JcStatus.zeroUnix < t)
    (j : CronRec.Job) (hj : CronRec.newJobFromJobConfig now0 c CronRec.typeScheduled t = some j)
    (s : C15.Sys) (hwf : s.WF) (idx : Nat) (cache : List JcStatus.Job) (read : JcStatus.JobConfig)
    (hread : s.versions[idx]? = some read) (hcur : read.rv = s.api.rv)
    (m : JobMeta) (hseen : toJcJob j m ∈ cache)
    (hns : read.ns = String.ofList c.ns) (huid : read.uid = String.ofList c.uid)
    (acts : List C15.Act)
    {jcs : List JC} {cfg dflt now : Int} {pq : Heap.PQ}
    (hnd : (jcs.map (fun jc => jc.key)).Nodup)
    (hs : ∀ jc ∈ jcs, ∀ l ∈ jc.sched.exprs, SortedStrict l)
    (h : schedNew jcs cfg dflt now = some pq) {cap : Int} {flushLimit fuel : Nat}
    {boot : List CtlAct} (hok : BootOK jcs boot) (hts : List.Pairwise (· ≤ ·) (ticksOf boot))
    (hdone : (ctlRun Shapes.fixed cap flushLimit fuel (bootCtl jcs pq) boot).2.2 = true)
    {jc : JC} (hjc : jc ∈ jcs)
    (hbridge2 : jc.lastScheduled =
      (runSys true (stepSys true s (.sync idx cache)) acts).api.status.lastScheduled) :
    (toJcJob j m ∈ JcStatus.listJobs cache read ∧ JcStatus.labelScheduleTime (toJcJob j m) = some t) ∧
    JcStatus.optLe (some t) (stepSys true s (.sync idx cache)).api.status.lastScheduled ∧
    ∀ u, (jc.key, u) ∈
        (ctlRun Shapes.fixed cap flushLimit fuel (bootCtl jcs pq) boot).2.1.flatten →
      t < u := by
  obtain ⟨hlist, hlab, _⟩ := toJcJob_scheduled now0 c t ht j hj m read hns huid cache hseen
  -- the sync read the current version, so its write is not answered with a conflict: the API carries
  -- the status it computed, which covers what it listed
  have hcov : JcStatus.optLe (some t) (stepSys true s (.sync idx cache)).api.status.lastScheduled := by
    simp only [stepSys, hread]
    rw [JcStatus.syncCore_current true ((hwf read (List.mem_of_getElem? hread)).2 hcur) hcur]
    exact lastScheduled_ge_listed read _ _ t hlist hlab hz
  refine ⟨⟨hlist, hlab⟩, hcov, ?_⟩
  exact C04Status.recorded_time_never_requested_again _ acts
    (stepSys_wf_mono s (.sync idx cache) hwf).1 t hcov hnd hs h hok hts hdone hjc hbridge2

/-- the JobConfig `ns/a` (`cA` of section `Restart`) as the JobConfig controller sees it -/
def readA : JcStatus.JobConfig := { ns := "ns", name := "a", uid := "u1", rv := 1 }
def sysA : C15.Sys := { api := readA, versions := [readA] }
def metaA : JobMeta := { uid := "job-2", created := 1000, phase := "Queued" }
/-- `ns/a` as the cron worker loads it after the history below: matches every 10 s, recorded 1000 -/
def jcB : JC :=
  { key := "ns/a"
    sched := { enabled := true, parseErr := false, exprs := [[990, 1000, 1010, 1020, 1030]],
               notBefore := none, notAfter := none, lastUpdated := none, specId := 0 }
    lastScheduled := some 1000 }

/-- server-set fields of the second Job -/
def metaA2 : JobMeta := { uid := "job-3", created := 1010, phase := "Queued" }
/-- `C15`'s ground-truth history: `a` observed; `b` created and deleted between two syncs -/
def histF33 (a b : JcStatus.Job) : List C15.WAct :=
  [.create a, .deliver, .sync, .sync, .create b, .delete b.name, .deliver, .deliver, .sync, .sync]
/-- the Job `NewJobFromJobConfig(cA, Scheduled, t)` builds (`C02`) … -/
def jobF33 (t : Int) : Option CronRec.Job := CronRec.newJobFromJobConfig 0 cA CronRec.typeScheduled t
/-- … as the JobConfig controller sees it (server-set fields `m`) -/
def jcJobF33 (t : Int) (m : JobMeta) : JcStatus.Job :=
  match jobF33 t with
  | some j => toJcJob j m
  | none => default
/-- the state `histF33` ends in, for the Jobs of 1000 and 1010 of `ns/a` -/
def worldF33 : C15.World :=
  C15.wRun { api := readA } (histF33 (jcJobF33 1000 metaA) (jcJobF33 1010 metaA2))
/-- the cron reconciler's side: the Job of 1010 is created, deleted, and — after the restart that
requests 1010 again — created a second time -/
def histTwice : List CronRec.Action :=
  [.request cA 1010, .deliver [cA] [], .process (keyA 1010) 1010 (fun _ => 0) (some 20) .none false,
   .delete cA.ns "a-1010".toList, .crash,
   .request cA 1010, .process (keyA 1010) 1026 (fun _ => 0) (some 20) .none false]

/-- the two Jobs as the JobConfig controller reads them, written out: evaluating `worldF33` on
these literals is cheap, on the character-by-character translations it is not -/
theorem jcJobF33_eq :
    jcJobF33 1000 metaA =
      { ns := "ns", name := "a-1000", uid := "job-2", created := 1000, labelUid := some "u1",
        owner := some { kind := "JobConfig", name := "a", uid := "u1" }, startTime := none,
        phase := "Queued", deletion := none, schedAnn := some "1000" } ∧
    jcJobF33 1010 metaA2 =
      { ns := "ns", name := "a-1010", uid := "job-3", created := 1010, labelUid := some "u1",
        owner := some { kind := "JobConfig", name := "a", uid := "u1" }, startTime := none,
        phase := "Queued", deletion := none, schedAnn := some "1010" } := by decide +kernel

/-- **F33 (known finding), composed: a scheduled Job that was never observed is requested again.**

`ns/a` matches every 10 s.  The cron reconciler builds the Jobs of 1000 and 1010
(`NewJobFromJobConfig`, `C02`).  In the ground-truth history model of `C15` (`World`): the Job of
1000 is created, delivered and counted; the Job of 1010 is created and deleted (user, or TTL after
finishing quickly) and both events reach the Job cache while the JobConfig's key waits for a
worker; the sync lists the Job of 1000 only.  With every event delivered and the queue empty,
`status.lastScheduled` is 1000 although a Job with schedule time 1010 existed.  A restart at
1025.5 s loads that value (`jcB`) and its first tick requests 1010 AGAIN (and 1020); the cron
reconciler finds no Job `a-1010` on the server and creates it a second time (`histTwice`: create,
delete, crash, request, create) — at most one exists at a time (`C02.at_most_one`), but the Job of
1010 runs twice.  Replayed on the real controllers by the `system` scenario
`f33-job-never-observed-rerequested-after-restart`. -/
theorem unobserved_job_rerequested_witness :
    ((jobF33 1000).isSome = true ∧ (jobF33 1010).isSome = true ∧
      (jcJobF33 1010 metaA2).schedAnn = some "1010" ∧ (jcJobF33 1010 metaA2).name = "a-1010" ∧
      worldF33.quiet = true ∧ jcJobF33 1010 metaA2 ∈ worldF33.ever ∧
      worldF33.jobs.map (·.name) = ["a-1000"] ∧
      worldF33.api.status.lastScheduled = jcB.lastScheduled ∧ jcB.lastScheduled = some 1000) ∧
    schedNew [jcB] 0 300 1025500000000 = some (Heap.new [("ns/a", 1010)]) ∧
    ((runTicks 5 1000 10 ⟨Heap.new [("ns/a", 1010)], [jcB].map (fun jc => (jc.key, jc)), []⟩
        [1026000000000]).2 = ([[("ns/a", 1010), ("ns/a", 1020)]], true) ∧
      ((CronRec.runActs {} (histTwice.take 3)).api.map (·.name)) = ["a-1010".toList] ∧
      ((CronRec.runActs {} (histTwice.take 4)).api.map (·.name)) = [] ∧
      ((CronRec.runActs {} histTwice).api.map (fun j => (j.name, j.schedAnnot))) =
        [("a-1010".toList, some "1010".toList)]) := by
  refine ⟨⟨by decide +kernel, by decide +kernel, ?_⟩, rfl, by decide +kernel⟩
  rw [worldF33, jcJobF33_eq.1, jcJobF33_eq.2]
  decide +kernel

/-- the Job of `(cA, 1000)` is cached when the JobConfig controller syncs: listed, read back as
1000, recorded; the Job is then deleted and a sync with a stale JobConfig version runs (conflict):
still 1000; a restart at 1025.5 s that reads 1000 requests 1010 and 1020 only. -/
example : ∃ j, CronRec.newJobFromJobConfig 0 cA CronRec.typeScheduled 1000 = some j ∧
    InInt64 1000 ∧ sysA.WF ∧ sysA.versions[0]? = some readA ∧
    readA.ns = String.ofList cA.ns ∧ readA.uid = String.ofList cA.uid ∧
    toJcJob j metaA ∈ JcStatus.listJobs [toJcJob j metaA] readA ∧
    (toJcJob j metaA).schedAnn = some "1000" ∧ (toJcJob j metaA).name = "a-1000" ∧
    (stepSys true sysA (.sync 0 [toJcJob j metaA])).api.status.lastScheduled = some 1000 ∧
    (runSys true (stepSys true sysA (.sync 0 [toJcJob j metaA])) [.sync 1 []]).api.status.lastScheduled
      = jcB.lastScheduled ∧
    schedNew [jcB] 0 300 1025500000000 = some (Heap.new [("ns/a", 1010)]) ∧
    (runTicks 5 1000 10 ⟨Heap.new [("ns/a", 1010)], [jcB].map (fun jc => (jc.key, jc)), []⟩
      [1026000000000]).2 = ([[("ns/a", 1010), ("ns/a", 1020)]], true) := by
  obtain ⟨j, hj⟩ := Option.isSome_iff_exists.1 unobserved_job_rerequested_witness.1.1
  have h := jcJobF33_eq.1
  simp only [jcJobF33, hj] at h
  refine ⟨j, hj, by decide, .single _, rfl, by decide +kernel, by decide +kernel, ?_⟩
  rw [h]
  exact ⟨by decide +kernel, rfl, rfl, by decide +kernel, by decide +kernel,
    unobserved_job_rerequested_witness.2.1, unobserved_job_rerequested_witness.2.2.1⟩

end Counted

/-! ## C05 × C15 (× C10/C11): one notion of "active" -/

section Active
open Furiko Furiko.Compose

/-- **started_job_counts_against_limit.**  `q`, `r`, `rj` are the queue model's, the
JobConfig-status model's and the job-status model's view of ONE Job object (*bridge*: `SameJob q r`
— same uid label, same `status.startTime`, `q.terminal` is `IsTerminal` of the phase — and `rj`
has the same start time set / unset and the same phase).  All three models regenerate the
terminal-phase table from `Facts.terminalPhases`.  Then the three `IsStarted`, `IsActive` and
`IsQueued` coincide; in particular a Job with `startTime` set and a non-terminal phase is active
for the store that enforces `maxConcurrency` (C05), for `status.active` of the JobConfig (C15) and
for the job controller. -/
theorem started_job_counts_against_limit
    (q : Queue.JobV) (r : JcStatus.Job) (rj : Job) (hqr : SameJob q r)
    (hstart : rj.status.startTime.isSome = q.startTime.isSome) (hphase : rj.status.phase = r.phase) :
    (q.isActive = JcStatus.isActive r ∧ q.isActive = isActive rj) ∧
    (q.isQueued = JcStatus.isQueued r ∧ q.isQueued = isQueued rj) ∧
    (q.startTime.isSome = true → JcStatus.isTerminal r.phase = false →
      q.isActive = true ∧ JcStatus.isActive r = true ∧ isActive rj = true) := by
  have h1 : isActive rj = q.isActive := by
    unfold isActive isStarted phaseIsTerminal Queue.JobV.isActive Queue.JobV.isStarted
    rw [hstart, hphase, hqr.terminal]; rfl
  have h2 : isQueued rj = q.isQueued := by
    unfold isQueued isStarted phaseIsTerminal Queue.JobV.isQueued Queue.JobV.isStarted
    rw [hstart, hphase, hqr.terminal]; rfl
  refine ⟨⟨hqr.isActive.symm, h1.symm⟩, ⟨hqr.isQueued.symm, h2.symm⟩, fun hs ht => ?_⟩
  have : q.isActive = true := by
    simp [Queue.JobV.isActive, Queue.JobV.isStarted, hs, hqr.terminal, ht]
  exact ⟨this, by rw [hqr.isActive]; exact this, by rw [h1]; exact this⟩

/-- the hypothesis "not the pointer-to-zero-time" of the bridge cannot be dropped: the
JobConfig-status model keeps Go's distinction between a nil `*metav1.Time` and a pointer to the
zero time (`IsStarted = !StartTime.IsZero()` is false for both), the queue model's `startTime` is
"set" as soon as it is `some` -/
example :
    let q : Queue.JobV :=
      { name := "a", label := some "u", ownerName := none, ownerUid := none, created := 0,
        hasPolicy := false, policy := 0, startAfter := none, startTime := some JcStatus.zeroUnix,
        terminal := false, admErr := false, rv := 0 }
    let r : JcStatus.Job :=
      { ns := "ns", name := "a", uid := "x", created := 0, labelUid := some "u", owner := none,
        startTime := some JcStatus.zeroUnix, phase := "Queued", deletion := none, schedAnn := none }
    r.labelUid = q.label ∧ r.startTime = q.startTime ∧ q.terminal = JcStatus.isTerminal r.phase ∧
    q.isActive = true ∧ JcStatus.isActive r = false := by decide +kernel

/-- … and over a whole population: if the JobConfig controller's Job cache `cache` holds exactly the
authoritative Jobs `qs.jobs` of the queue model (pairwise the same objects, all in the JobConfig's
namespace — cache = server, as at quiescence), then `status.active` computed by `SyncOne` equals the
queue model's ground truth `trueActive` for the JobConfig's uid; and if moreover the queue
model's state is reachable and quiescent (no undelivered Job event, store handler idle), it
equals the counter that `CheckAndAdd` compares with `maxConcurrency`
(`C05.quiescent_exact` ∘ `C15.counts_match`). -/
theorem status_active_is_counted (qs : Queue.Sys) (jc : JcStatus.JobConfig)
    (views : List (Queue.JobV × JcStatus.Job))
    (hq : qs.jobs = views.map (·.1)) (cache : List JcStatus.Job) (hc : cache = views.map (·.2))
    (hviews : ∀ p ∈ views, SameJob p.1 p.2 ∧ p.2.ns = jc.ns) :
    (JcStatus.computeStatus jc (JcStatus.listJobs cache jc)).active = (Queue.trueActive qs jc.uid : Int) ∧
    (Queue.Reachable qs → qs.jobEvs = [] → qs.storeQ = [] →
      (JcStatus.computeStatus jc (JcStatus.listJobs cache jc)).active = Queue.getCtr qs.counter jc.uid) := by
  have h1 : (JcStatus.computeStatus jc (JcStatus.listJobs cache jc)).active
      = (Queue.trueActive qs jc.uid : Int) := by
    rw [(C15.counts_match jc (JcStatus.listJobs cache jc)).2.2.1, hc,
      active_count_agree jc views hviews, Queue.trueActive_eq, hq]
  refine ⟨h1, fun hr hev hsq => ?_⟩
  rw [h1, C05.quiescent_exact hr hev hsq jc.uid]

open Furiko.Props.C05 Furiko.Queue in
/-- non-vacuity: `C05`'s quiescent state `sQuiet` (JobConfig `c`, uid `u`, limit 1, Job `a` started
and everything delivered) seen by the JobConfig controller: one active Job, counter 1 -/
example :
    let r : JcStatus.Job :=
      { ns := "ns", name := "a", uid := "x", created := 0, labelUid := some "u", owner := none,
        startTime := some 0, phase := "Running", deletion := none, schedAnn := none }
    let jc : JcStatus.JobConfig := { ns := "ns", name := "c", uid := "u" }
    Reachable sQuiet ∧ sQuiet.jobEvs = [] ∧ sQuiet.storeQ = [] ∧
    (∃ q, sQuiet.jobs = [q] ∧ r.labelUid = q.label ∧ r.startTime = q.startTime ∧
      q.startTime ≠ some JcStatus.zeroUnix ∧ q.terminal = JcStatus.isTerminal r.phase) ∧
    (JcStatus.computeStatus jc (JcStatus.listJobs [r] jc)).active = 1 ∧
    getCtr sQuiet.counter "u" = 1 :=
  ⟨sQuiet_reachable, by decide, by decide, ⟨_, rfl, by decide⟩, by decide⟩

end Active

end Furiko.Props.Compose
