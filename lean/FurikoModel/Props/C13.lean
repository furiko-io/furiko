/-
C13 — "A Job object is removed from the API only after every task listed in its status has been
removed …; a finished Job is deleted by the controller no earlier than its finish time plus the
effective TTL."  Theorems over Model/JobCtl.lean (the executable model of
jobcontroller.Reconciler validated against the Go code by the `jobctl` engine).
-/
import FurikoModel.Model.JobCtl
import FurikoModel.Proofs.JobCtlPlanCreate

namespace Furiko.Props.C13
open Furiko Furiko.JobCtl

/-- The controller issues a Job delete only for a Job that is not already being deleted, is
finished, and whose finish time plus the effective TTL (job value, else controller default,
else 0) is not after the clock. -/
theorem ttl_not_early (s : Sys) (jo : JobObj) (rj : Job)
    (h : (handleTTL s jo rj).1.calls ≠ s.calls) :
    ¬ isDeleted rj = true ∧ ∃ fin, rj.status.condition.finished = some fin ∧
      fin.finishTimestamp.getD zeroTime + getTTLAfterFinished rj s.cfg ≤ s.clock := by
  unfold handleTTL at h
  by_cases hd : isDeleted rj = true
  · simp [hd] at h
  · simp only [hd] at h
    cases hf : rj.status.condition.finished with
    | none => simp [hf] at h
    | some fin =>
      simp only [hf] at h
      by_cases ht : fin.finishTimestamp.getD zeroTime + getTTLAfterFinished rj s.cfg > s.clock
      · simp [ht, enqueueAfter] at h
      · exact ⟨hd, fin, rfl, Int.not_lt.mp ht⟩

/-- The effective TTL is the job value if set, else the controller default, else 0 (seconds). -/
theorem ttl_effective (rj : Job) (cfg : ExecConfig) :
    getTTLAfterFinished rj cfg =
      secs (match rj.ttlSecondsAfterFinished with
            | some t => t
            | none => match cfg.defaultTTLSecondsAfterFinished with
              | some d => d
              | none => 0) := by
  unfold getTTLAfterFinished
  cases rj.ttlSecondsAfterFinished <;> cases cfg.defaultTTLSecondsAfterFinished <;> rfl

/-- a cached pod is an UNRECORDED task of the Job: labelled with the Job's uid, controlled by it,
and not named by any task of the status (what `adoptUnrecordedTasks` looks for: a task that was
created but whose recording status update failed) -/
def UnrecordedTaskPod (jo : JobObj) (rj : Job) (p : PodObj) : Prop :=
  p.jobLabel = some jo.uid ∧ p.ownerUid = some jo.uid ∧ ∀ r ∈ rj.status.tasks, r.name ≠ p.pod.name

/-- `finalizerTasks` is empty exactly when no task listed in the status can be found (cache, else
live GET) and the pod cache holds no unrecorded task of the Job -/
theorem finalizerTasks_nil_iff (s : Sys) (jo : JobObj) (rj : Job) :
    finalizerTasks s jo rj = [] ↔
      tasksForRefsConfirmed s jo rj.status.tasks = [] ∧
      ∀ p ∈ s.podCache, UnrecordedTaskPod jo rj p → podTask s.clock p = none := by
  simp only [List.eq_nil_iff_forall_not_mem, Furiko.JobCtlPlan.mem_finalizerTasks]
  constructor
  · intro h
    have hc : ∀ t, t ∉ tasksForRefsConfirmed s jo rj.status.tasks := fun t ht => h t (Or.inl ht)
    refine ⟨hc, fun p hp ⟨h1, h2, h3⟩ => Option.eq_none_iff_forall_ne_some.mpr fun t ht => ?_⟩
    exact h t (Or.inr ⟨p, hp, ht, h1, h2, fun t' ht' => (hc t' ht').elim, h3⟩)
  · rintro ⟨hc, hu⟩ t (h | ⟨p, hp, ht, h1, h2, _, h3⟩)
    · exact hc t h
    · rw [hu p hp ⟨h1, h2, h3⟩] at ht; cases ht

/-- The finalizer is dropped only in a sync in which no task listed in the status could be
found — neither in the pod cache nor, confirmed for every listed task, finished or not, on the
server — AND (repair of F-C20-1) the pod cache holds no unrecorded task of the Job: no pod labelled
with and controlled by the Job that the status does not list. -/
theorem finalizer_removed_only_when_gone (s : Sys) (jo : JobObj) (rj : Job) (s' : Sys) (rj' : Job)
    (h : handleFinalizer s jo rj true = (s', some (rj', false))) :
    rj.deletionTimestamp.isSome = true ∧ tasksForRefsConfirmed s jo rj.status.tasks = [] ∧
    (∀ p ∈ s.podCache, UnrecordedTaskPod jo rj p → podTask s.clock p = none) ∧
    finalizerTasks s jo rj = [] := by
  unfold handleFinalizer at h
  by_cases hdel : rj.deletionTimestamp.isNone = true
  · simp [hdel] at h
  · simp only [hdel] at h
    by_cases ht : (finalizerTasks s jo rj).isEmpty = true
    · have hnil : finalizerTasks s jo rj = [] := by simpa using ht
      refine ⟨?_, ((finalizerTasks_nil_iff s jo rj).mp hnil).1, ((finalizerTasks_nil_iff s jo rj).mp hnil).2, hnil⟩
      cases hdt : rj.deletionTimestamp with
      | none => simp [hdt] at hdel
      | some _ => rfl
    · simp only [ht] at h
      simp only [Bool.not_true, Bool.false_eq_true, ↓reduceIte, Bool.not_false] at h
      split at h <;> simp at h

/-- … which means that no task listed in the status exists on the server any more: the Job
object can only disappear (its last finalizer dropped) after its tasks are gone — whatever the
pod cache holds or lacks.  (`liveGetTask s jo n = none`: the server holds no pod named `n` that is
controlled by the Job and is a task — since the repair of F22 an object of that name that is not
controlled by the Job is not the task.) -/
theorem confirmed_empty_means_gone (s : Sys) (jo : JobObj) (refs : List TaskRef)
    (h : tasksForRefsConfirmed s jo refs = []) :
    ∀ r ∈ refs, liveGetTask s jo r.name = none := by
  intro r hr
  unfold tasksForRefsConfirmed at h
  rw [List.filterMap_eq_nil_iff] at h
  have := h r hr
  unfold getTaskForRefConfirmed at this
  split at this
  · cases this
  · exact this

/-- One pass (the history-level theorem of this name is `C13Hist.job_gone_implies_tasks_gone`): when
the finalizer step drops the finalizer, no pod CONTROLLED BY THE JOB that carries the name of a task
listed in the status exists on the server any more (other than one that is no task, `podTask = none`:
a pod whose `GetTaskRef` would panic), and no unrecorded task of the Job (created, recording failed)
is visible in the pod cache. -/
theorem job_gone_implies_tasks_gone (s : Sys) (jo : JobObj) (rj : Job) (s' : Sys) (rj' : Job)
    (h : handleFinalizer s jo rj true = (s', some (rj', false))) :
    (∀ r ∈ rj.status.tasks, ∀ p, findPod s.pods r.name = some p → p.ownerUid = some jo.uid → podTask s.clock p = none) ∧
    (∀ p ∈ s.podCache, UnrecordedTaskPod jo rj p → podTask s.clock p = none) := by
  refine ⟨?_, (finalizer_removed_only_when_gone s jo rj s' rj' h).2.2.1⟩
  intro r hr p hp hown
  have := confirmed_empty_means_gone s jo _ (finalizer_removed_only_when_gone s jo rj s' rj' h).2.1 r hr
  unfold liveGetTask isControlledByJob at this
  rw [hp] at this
  simpa [hown] using this

/-- F22, the finalizer: an object that is not controlled by the Job does not keep the finalizer,
whatever name it carries.  If every pod of the pod cache and of the server that carries the name of
a listed task is NOT controlled by the Job (the tasks themselves are gone; something else took their
names) and the pod cache holds no unrecorded task of the Job, the finalizer is dropped — and no call
is issued: the foreign pods are not deleted. -/
theorem foreign_pod_does_not_block_finalizer (s : Sys) (jo : JobObj) (rj : Job)
    (hdel : rj.deletionTimestamp.isSome = true)
    (hcache : ∀ r ∈ rj.status.tasks, ∀ p, findPod s.podCache r.name = some p → p.ownerUid ≠ some jo.uid)
    (hsrv : ∀ r ∈ rj.status.tasks, ∀ p, findPod s.pods r.name = some p → p.ownerUid ≠ some jo.uid)
    (hun : ∀ p ∈ s.podCache, UnrecordedTaskPod jo rj p → podTask s.clock p = none) :
    (handleFinalizer s jo rj true).2.map (·.2) = some false ∧ (handleFinalizer s jo rj true).1.calls = s.calls := by
  have hlive : ∀ r ∈ rj.status.tasks, liveGetTask s jo r.name = none := by
    intro r hr
    unfold liveGetTask isControlledByJob
    cases hp : findPod s.pods r.name with
    | none => rfl
    | some p => simp [hsrv r hr p hp]
  have hget : ∀ r ∈ rj.status.tasks, getTaskForRef s jo r = none := by
    intro r hr
    unfold getTaskForRef isControlledByJob
    cases hp : findPod s.podCache r.name with
    | none => simp only; split
              · rfl
              · exact hlive r hr
    | some p =>
      simp only [hcache r hr p hp, decide_false, Bool.not_false, ↓reduceIte]
      split
      · rfl
      · exact hlive r hr
  have hconf : tasksForRefsConfirmed s jo rj.status.tasks = [] := by
    unfold tasksForRefsConfirmed
    rw [List.filterMap_eq_nil_iff]
    intro r hr
    unfold getTaskForRefConfirmed
    rw [hget r hr]
    exact hlive r hr
  have hnil : finalizerTasks s jo rj = [] := (finalizerTasks_nil_iff s jo rj).mpr ⟨hconf, hun⟩
  have hdn : rj.deletionTimestamp.isNone = false := by
    cases hd : rj.deletionTimestamp with
    | none => rw [hd] at hdel; cases hdel
    | some _ => rfl
  unfold handleFinalizer
  simp only [hdn, Bool.false_eq_true, ↓reduceIte, Bool.not_true, hnil, List.isEmpty_nil]
  refine ⟨rfl, ?_⟩
  unfold updateTaskRefStatus syncJobStatusFromTaskRefs
  split
  · rfl
  · split
    · split
      · split
        · rfl
        · rfl
      · rfl
    · rfl

/-- conversely, an unrecorded task of the Job that the pod cache holds keeps the finalizer: the
step does not return "finalizer dropped" -/
theorem unrecorded_task_keeps_finalizer (s : Sys) (jo : JobObj) (rj : Job) (p : PodObj) (t : Task)
    (hp : p ∈ s.podCache) (hu : UnrecordedTaskPod jo rj p) (ht : podTask s.clock p = some t) :
    ∀ s' rj', handleFinalizer s jo rj true ≠ (s', some (rj', false)) := by
  intro s' rj' h
  have := (finalizer_removed_only_when_gone s jo rj s' rj' h).2.2.1 p hp hu
  rw [ht] at this; cases this

/-- … and a task that is listed, not recorded finished, and still exists on the server (a pod of
that name controlled by the Job) is always found (live GET), so the finalizer stays. -/
theorem existing_unfinished_task_found (s : Sys) (jo : JobObj) (ref : TaskRef) (p : PodObj) (t : Task)
    (hfin : ref.finishTimestamp = none) (hp : findPod s.pods ref.name = some p)
    (hown : p.ownerUid = some jo.uid)
    (hc : findPod s.podCache ref.name = none) (ht : podTask s.clock p = some t) :
    getTaskForRef s jo ref = some t := by
  unfold getTaskForRef liveGetTask isControlledByJob
  simp [hc, hfin, hp, ht, hown]

/-- `unrecorded_task_keeps_finalizer` / `finalizer_removed_only_when_gone`: a Job deleted by the
user whose status lists nothing while the pod cache holds a pod it created (recording failed):
the pod is deleted and the finalizer kept; without that pod the finalizer is dropped. -/
example :
    let p : PodObj := { pod := { name := "job-d-0", creationTimestamp := some 1000000000, retryIndex := some 0 },
                        ownerUid := some "u", ownerName := some "job", jobLabel := some "u" }
    let rj : Job := { template := some {}, deletionTimestamp := some 90000000000, status := { startTime := some 1000000000 } }
    let jo : JobObj := ⟨"job", "u", rj, true, 1⟩
    let s : Sys := { clock := 100000000000, d := { hash := "d" }, pods := [p], podCache := [p] }
    UnrecordedTaskPod jo rj p ∧ (podTask s.clock p).isSome = true ∧
    (handleFinalizer s jo rj true).2.map (·.2) = some true ∧
    (handleFinalizer s jo rj true).1.calls.map (fun c => (c.verb, c.res, c.name, c.out)) = [("delete", "pods", "job-d-0", "ok")] ∧
    (handleFinalizer { s with pods := [], podCache := [] } jo rj true).2.map (·.2) = some false := by
  refine ⟨⟨rfl, rfl, by intro r hr; cases hr⟩, by decide +kernel, by decide +kernel, by decide +kernel, by decide +kernel⟩

/-- `foreign_pod_does_not_block_finalizer` / `job_gone_implies_tasks_gone`: the status lists
`job-d-0`, whose pod is gone; a pod controlled by another Job carries that name on the server and in
the pod cache: the finalizer is dropped and nothing is deleted.  With the Job's own pod under that
name the finalizer stays and the pod is deleted. -/
example :
    let f : PodObj := { pod := { name := "job-d-0", creationTimestamp := some 1000000000, phase := .succeeded },
                        ownerUid := some "other-uid", ownerName := some "other" }
    let own : PodObj := { pod := { name := "job-d-0", creationTimestamp := some 1000000000, retryIndex := some 0 },
                          ownerUid := some "u", ownerName := some "job", jobLabel := some "u" }
    let ref : TaskRef := { name := "job-d-0", creationTimestamp := some 1000000000, retryIndex := 0 }
    let rj : Job := { template := some {}, deletionTimestamp := some 90000000000,
                      status := { startTime := some 1000000000, tasks := [ref], createdTasks := 1 } }
    let jo : JobObj := ⟨"job", "u", rj, true, 1⟩
    let s : Sys := { clock := 100000000000, d := { hash := "d" }, pods := [f], podCache := [f] }
    (podTask s.clock f).isSome = true ∧
    (handleFinalizer s jo rj true).2.map (·.2) = some false ∧ (handleFinalizer s jo rj true).1.calls = [] ∧
    (handleFinalizer { s with pods := [own], podCache := [own] } jo rj true).2.map (·.2) = some true ∧
    (handleFinalizer { s with pods := [own], podCache := [own] } jo rj true).1.calls.map
      (fun c => (c.verb, c.res, c.name, c.out)) = [("delete", "pods", "job-d-0", "ok")] := by
  decide +kernel

example : ∃ s jo rj, (handleTTL s jo rj).1.calls ≠ s.calls := by
  refine ⟨{ clock := 10000000000, job := some ⟨"job", "u", {}, true, 1⟩ }, ⟨"job", "u", {}, true, 1⟩,
    { status := { condition := { finished := some { finishTimestamp := some 5000000000 } } } }, ?_⟩
  decide +kernel

end Furiko.Props.C13
