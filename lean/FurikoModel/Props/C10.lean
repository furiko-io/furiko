/-
C10 — pure clauses (every input): what `GetParallelTaskSummary` / `GetCondition` report versus
what the task refs and the completion strategy imply, and the Pod → task-result mapping.
`Satisfied`, `Unsatisfiable`, `IndexSucceeded`, `IndexExhausted`, `IndexAllFinished` are
statements about the refs only (Proofs/StatusLemmas.lean).  The statements about the controller
are in `Props/C10Plan.lean` (one pass) and `Props/C10Hist.lean` (histories).
-/
import FurikoModel.Model.JobStatus
import FurikoModel.Proofs.StatusLemmas
import FurikoModel.Proofs.ConditionLemmas
import FurikoModel.Proofs.TaskfnFacts

namespace Furiko.Props.C10
open Furiko Furiko.StatusLemmas Furiko.ConditionLemmas

/-- Result `Success` ⇒ no kill timestamp, and the strategy is satisfied by refs whose result is
Succeeded (AllSuccessful: every index has one; AnySuccessful: some index has one). -/
theorem succeeded_sound (now : Time) (d : PIndex) (rj : Job) (f : CondFinished)
    (h : (getCondition now d rj).finished = some f) (hr : f.result = .success) :
    rj.killTimestamp = none ∧ Satisfied d rj rj.status.tasks := by
  rcases getCondition_finished now d rj f h with ⟨_, h2⟩ | ⟨_, _, _, ⟨_, h2⟩ | ⟨_, _, h2⟩⟩
  · rw [hr] at h2; cases h2
  · rw [hr] at h2; cases h2
  · rw [hr] at h2
    unfold finishedResult at h2
    cases hk : rj.killTimestamp with
    | some k => simp [hk] at h2
    | none =>
      refine ⟨rfl, ?_⟩
      simp only [hk, Option.isSome_none, Bool.false_eq_true, if_false] at h2
      apply (summary_iff d rj rj.status.tasks).1.mp
      show (getParallelStatus d rj rj.status.tasks).summary.successful = some true
      cases hs : (getParallelStatus d rj rj.status.tasks).summary.successful with
      | none => simp [hs] at h2
      | some b => cases b <;> simp [hs] at h2 ⊢

/-- Result `Failed` ⇒ the strategy can no longer be satisfied (AllSuccessful: some index has at
least `maxAttempts` finished refs and none succeeded; AnySuccessful: every index does). -/
theorem failed_sound (now : Time) (d : PIndex) (rj : Job) (f : CondFinished)
    (h : (getCondition now d rj).finished = some f) (hr : f.result = .failed) :
    Unsatisfiable d rj rj.status.tasks ∧ ¬ Satisfied d rj rj.status.tasks := by
  have hx := not_satisfied_and_unsatisfiable d rj rj.status.tasks
  rcases getCondition_finished now d rj f h with ⟨_, h2⟩ | ⟨_, _, _, ⟨_, h2⟩ | ⟨_, _, h2⟩⟩
  · rw [hr] at h2; cases h2
  · rw [hr] at h2; cases h2
  · rw [hr] at h2
    unfold finishedResult at h2
    have hu : Unsatisfiable d rj rj.status.tasks := by
      apply (summary_iff d rj rj.status.tasks).2.1.mp
      show (getParallelStatus d rj rj.status.tasks).summary.successful = some false
      cases hk : rj.killTimestamp with
      | some k => simp [hk] at h2
      | none =>
        simp only [hk, Option.isSome_none, Bool.false_eq_true, if_false] at h2
        cases hs : (getParallelStatus d rj rj.status.tasks).summary.successful with
        | none => simp [hs] at h2
        | some b => cases b <;> simp [hs] at h2 ⊢
    exact ⟨hu, fun hs => hx ⟨hs, hu⟩⟩

/-- `successful` and `failed` of `GetParallelTaskSummary` are never both true; on the refs:
the strategy is never both satisfied and unsatisfiable. -/
theorem summary_exclusive (d : PIndex) (job : Job) (tasks : List TaskRef) :
    ¬ (Satisfied d job tasks ∧ Unsatisfiable d job tasks) ∧
    ¬ ((strategyOutcome job.strategy (getParallelStatusCounters (indexStatuses d job tasks)) (job.indexes d).length).1 = true ∧
       (strategyOutcome job.strategy (getParallelStatusCounters (indexStatuses d job tasks)) (job.indexes d).length).2 = true) := by
  have hx := not_satisfied_and_unsatisfiable d job tasks
  have ho := outcome_iff d job tasks
  exact ⟨hx, fun ⟨a, b⟩ => hx ⟨ho.1.mp a, ho.2.mp b⟩⟩

/-- `Complete` iff one of them; `Successful` is set iff complete, is `true` iff the strategy is
satisfied and `false` iff it is unsatisfiable. -/
theorem summary_complete_iff (d : PIndex) (job : Job) (tasks : List TaskRef) :
    ((getParallelTaskSummary d job tasks).complete = true ↔ Satisfied d job tasks ∨ Unsatisfiable d job tasks) ∧
    ((getParallelTaskSummary d job tasks).complete = true ↔ (getParallelTaskSummary d job tasks).successful ≠ none) ∧
    ((getParallelTaskSummary d job tasks).successful = some true ↔ Satisfied d job tasks) ∧
    ((getParallelTaskSummary d job tasks).successful = some false ↔ Unsatisfiable d job tasks) := by
  have h := summary_iff d job tasks
  exact ⟨h.2.2.1, h.2.2.2, h.1, h.2.1⟩

/-- Outside the admission-error branch, a Finished condition means every ref of every index of
the spec carries a finish timestamp (and the Job is started). -/
theorem finished_means_all_terminated (now : Time) (d : PIndex) (rj : Job) (f : CondFinished)
    (hadm : rj.admissionError = false)
    (h : (getCondition now d rj).finished = some f) :
    rj.status.startTime.isSome = true ∧ ∀ i ∈ rj.indexes d, IndexAllFinished d rj.status.tasks i := by
  rcases getCondition_finished now d rj f h with ⟨h1, _⟩ | ⟨_, hs, ht, _⟩
  · rw [hadm] at h1; cases h1
  · exact ⟨hs, (terminated_ge_iff d rj rj.status.tasks).mp ht⟩

/-- The result of a Finished condition is never `FinalStateUnknown`: in the final branch complete
implies `Successful` is set (the `FinalStateUnknown` default of `GetCondition` is dead code). -/
theorem finished_result_known (now : Time) (d : PIndex) (rj : Job) (f : CondFinished)
    (h : (getCondition now d rj).finished = some f) : f.result ≠ .finalStateUnknown ∧ f.result ≠ .other := by
  rcases getCondition_finished now d rj f h with ⟨_, h2⟩ | ⟨_, _, _, ⟨_, h2⟩ | ⟨_, hc, h2⟩⟩
  · rw [h2]; simp
  · rw [h2]; simp
  · have := (summary_iff d rj rj.status.tasks).2.2.2.mp hc
    rw [h2]
    unfold finishedResult
    cases rj.killTimestamp with
    | some k => simp
    | none =>
      simp only [Option.isSome_none, Bool.false_eq_true, if_false]
      have e : (getParallelStatus d rj rj.status.tasks).summary.successful = (getParallelTaskSummary d rj rj.status.tasks).successful := rfl
      rw [e]
      cases hs : (getParallelTaskSummary d rj rj.status.tasks).successful with
      | none => exact absurd hs this
      | some b => cases b <;> simp

/-- A Pod maps to task result `Succeeded` only for phase Succeeded without an OOMKilled
container (current or last termination state); an OOMKilled container always gives `Failed`. -/
theorem pod_result_mapping (p : Pod) :
    (p.result = .succeeded ↔ p.phase = .succeeded ∧ p.isOOMKilled = false) ∧
    (p.isOOMKilled = true → p.result = .failed) ∧
    (p.result = .failed ↔ p.isOOMKilled = true ∨ p.phase = .failed) := by
  unfold Pod.result
  cases ho : p.isOOMKilled <;> cases hp : p.phase <;> simp

/-- the finish timestamp of a Pod task is set only for a terminal phase -/
theorem pod_finish_only_terminal (p : Pod) (t : Time) (h : p.finishTimestamp = some (some t)) :
    p.phase = .succeeded ∨ p.phase = .failed := by
  unfold Pod.finishTimestamp at h
  split at h
  · cases h
  · rename_i hf
    simp only [Pod.isFinished, Bool.not_eq_true] at hf
    by_cases h1 : p.phase = .succeeded
    · exact Or.inl h1
    · by_cases h2 : p.phase = .failed
      · exact Or.inr h2
      · simp_all

/-- Tie to the source: one iteration of `GetParallelStatusCounters` in the model equals the
increment tables regenerated from `parallel/status.go`, for every index status. -/
theorem counters_match_source (c : Counters) (s : IndexStatus) :
    c.add s = TaskfnFacts.evalIncr Facts.counterIncrByResult (TaskfnFacts.taskResultStr s.result)
                (TaskfnFacts.evalIncr Facts.counterIncrByState (TaskfnFacts.indexStateStr s.state) c) := by
  rcases s with ⟨i, h, n, st, r⟩
  -- the state switch and the result switch are independent: 4 + 6 cases
  calc c.add ⟨i, h, n, st, r⟩
      = TaskfnFacts.evalIncr Facts.counterIncrByResult (TaskfnFacts.taskResultStr r) (c.add ⟨i, h, n, st, .none⟩) := by cases r <;> rfl
    _ = _ := congrArg _ (by cases st <;> rfl)

/-- Tie to the source: the model's Pod → state / result mapping equals the phase switches
regenerated from `podtaskexecutor/pod_task.go`, for every Pod. -/
theorem pod_mapping_matches_source (p : Pod) :
    (p.state = if p.deletionTimestamp.isSome && !p.isFinished then .killing
               else TaskfnFacts.taskStateOfStr
                 ((Facts.podStateByPhase.lookup (TaskfnFacts.podPhaseStr p.phase)).getD Facts.podStateDefault)) ∧
    (p.result = if p.isOOMKilled then .failed
                else TaskfnFacts.taskResultOfStr ((Facts.podResultByPhase.lookup (TaskfnFacts.podPhaseStr p.phase)).getD "")) := by
  constructor
  · unfold Pod.state
    generalize p.phase = ph
    -- the tables are closed terms: one kernel evaluation per phase
    cases ph <;> exact congrArg _ (by decide +kernel)
  · unfold Pod.result
    generalize p.phase = ph
    cases ph <;> exact congrArg _ (by decide +kernel)

private def dIdx : PIndex := { hash := "d" }
private def okRef (h : String) : TaskRef :=
  { name := h, parallelIndex := some { hash := h }, finishTimestamp := some 10,
    status := { state := .terminated, result := .succeeded } }
private def badRef (h : String) (n : String) : TaskRef :=
  { name := n, parallelIndex := some { hash := h }, finishTimestamp := some 10,
    status := { state := .terminated, result := .failed } }
private def jobAll (tasks : List TaskRef) : Job :=
  { template := some { parallelism := some { strategy := .allSuccessful, indexes := [{ hash := "a" }, { hash := "b" }] },
                       maxAttempts := some 2 },
    status := { startTime := some 1, tasks := tasks } }

/-- two indexes both succeeded ⇒ Finished(Success) -/
example : ((getCondition 100 dIdx (jobAll [okRef "a", okRef "b"])).finished.map (·.result)) = some .success := by decide
/-- index b failed twice (maxAttempts 2), a succeeded ⇒ Finished(Failed) -/
example : ((getCondition 100 dIdx (jobAll [okRef "a", badRef "b" "b0", badRef "b" "b1"])).finished.map (·.result)) = some .failed := by decide
/-- index b failed once only ⇒ not finished (retry back-off) -/
example : (getCondition 100 dIdx (jobAll [okRef "a", badRef "b" "b0"])).waiting = some .retryBackoff := by decide
private def oomPod : Pod :=
  { name := "p", phase := PodPhase.succeeded, containers := [{ lastTerminated := some { reason := "OOMKilled" } }] }
example : oomPod.result = .failed := by decide

end Furiko.Props.C10
