/-
C09 — "… after recovery the same task is adopted rather than a second one being created for that
attempt, and every task the Job ever created stays listed in its status with its last known
state …  An existing object that occupies a task's name but does not belong to the Job is never
adopted and makes the Job end in AdmissionError …; a task whose object still exists is never
recorded as lost."  Theorems about ONE `syncCreateTask` and ONE `getTaskForRef` of
Model/JobCtl.lean (validated against the Go code by the `jobctl` engine), for every state; the
history level is `Props/C09Hist.lean`.
-/
import FurikoModel.Model.JobCtl

namespace Furiko.Props.C09
open Furiko Furiko.JobCtl

theorem nextFault_pods (s : Sys) : (nextFault s).2.pods = s.pods := by
  unfold nextFault popFault
  cases s.faults <;> rfl

/-- A create call that is answered `AlreadyExists` creates nothing: the set of pods on the
server is unchanged (name uniqueness: never a second object for one attempt). -/
theorem create_exists_creates_nothing (s s1 : Sys) (jo : JobObj) (idx : PIndex) (retry : Int)
    (h : apiCreatePod s jo idx retry = (s1, .exists)) : s1.pods = s.pods := by
  unfold apiCreatePod at h
  have hp := nextFault_pods s
  generalize nextFault s = r at h hp
  obtain ⟨f, s0⟩ := r
  simp only at h hp
  by_cases h1 : isFailFault f = true
  · simp [h1] at h
  · simp only [h1] at h
    by_cases h2 : (findPod s0.pods (taskName jo.name idx.hash retry)).isSome = true
    · simp only [h2, if_true, Bool.false_eq_true, if_false] at h
      obtain ⟨rfl, _⟩ := Prod.mk.inj h
      simpa [log] using hp
    · simp only [h2, Bool.false_eq_true, if_false] at h
      split at h <;> simp at h

/-- An object on the task's name that is NOT controlled by this Job is never adopted: the task
list is unchanged and the Job is marked with the admission error (so that it ends in
AdmissionError instead of retrying forever). -/
theorem foreign_not_adopted (s s1 : Sys) (jo : JobObj) (rj : Job) (tasks : List Task)
    (idx : PIndex) (retry : Int) (p : PodObj)
    (hc : apiCreatePod s jo idx retry = (s1, .exists))
    (hp : findPod s1.podCache (taskName jo.name idx.hash retry) = some p)
    (hown : p.ownerUid ≠ some jo.uid) :
    syncCreateTask s jo rj tasks idx retry = (s1, some ({ rj with admissionError := true }, tasks)) := by
  unfold syncCreateTask
  simp [hc, hp, hown]

/-- An existing task that IS controlled by this Job (created by an earlier pass that crashed or
failed before recording it) is adopted: it is appended to the task list, no admission error. -/
theorem adopt_not_duplicate (s s1 : Sys) (jo : JobObj) (rj : Job) (tasks : List Task)
    (idx : PIndex) (retry : Int) (p : PodObj) (t : Task)
    (hc : apiCreatePod s jo idx retry = (s1, .exists))
    (hp : findPod s1.podCache (taskName jo.name idx.hash retry) = some p)
    (hown : p.ownerUid = some jo.uid) (ht : podTask s.clock p = some t) :
    syncCreateTask s jo rj tasks idx retry = (s1, some (rj, tasks ++ [t])) ∧ s1.pods = s.pods := by
  refine ⟨?_, create_exists_creates_nothing s s1 jo idx retry hc⟩
  unfold syncCreateTask
  simp [hc, hp, hown, ht]

/-- If the existing object is not yet visible in the pod cache the pass fails (and is retried)
instead of guessing. -/
theorem exists_but_uncached_retries (s s1 : Sys) (jo : JobObj) (rj : Job) (tasks : List Task)
    (idx : PIndex) (retry : Int)
    (hc : apiCreatePod s jo idx retry = (s1, .exists))
    (hp : findPod s1.podCache (taskName jo.name idx.hash retry) = none) :
    syncCreateTask s jo rj tasks idx retry = (s1, none) := by
  unfold syncCreateTask
  simp [hc, hp]

/-- A task listed in the status that is not recorded finished and whose object — controlled by the
Job — still exists on the server is always found by the sync (cache, else live GET) — it is never
treated as lost.  An object that is not controlled by the Job is not the task (repair of F22);
a cached object of that name that is NOT controlled by the Job is a cache miss (the live GET
finds the task), so the hypothesis on the pod cache only concerns cached pods of the Job. -/
theorem existing_task_never_lost (s : Sys) (jo : JobObj) (ref : TaskRef) (p : PodObj)
    (hfin : ref.finishTimestamp = none) (hp : findPod s.pods ref.name = some p)
    (hown : p.ownerUid = some jo.uid)
    (hcache : ∀ q, findPod s.podCache ref.name = some q → q.ownerUid = some jo.uid → (podTask s.clock q).isSome)
    (ht : (podTask s.clock p).isSome) :
    (getTaskForRef s jo ref).isSome := by
  unfold getTaskForRef liveGetTask isControlledByJob
  cases hc : findPod s.podCache ref.name with
  | some q =>
    by_cases hqo : q.ownerUid = some jo.uid
    · have hq := hcache q hc hqo
      cases hpt : podTask s.clock q with
      | none => rw [hpt] at hq; cases hq
      | some t => simp [hfin, hpt, hqo]
    · simpa [hqo, hfin, hp, hown] using ht
  | none => simpa [hc, hfin, hp, hown] using ht

/-- F22, one lookup: whatever `getTaskForRef` returns for a ref was read from a pod — of the pod
cache or of the server — that carries the ref's name AND is controlled by the Job.  An object that
is not controlled by the Job is never read as a task. -/
theorem read_task_is_owned (s : Sys) (jo : JobObj) (ref : TaskRef) (t : Task)
    (h : getTaskForRef s jo ref = some t) :
    ∃ p, (findPod s.podCache ref.name = some p ∨ findPod s.pods ref.name = some p) ∧
      p.ownerUid = some jo.uid ∧ podTask s.clock p = some t := by
  have live : ∀ t, liveGetTask s jo ref.name = some t →
      ∃ p, findPod s.pods ref.name = some p ∧ p.ownerUid = some jo.uid ∧ podTask s.clock p = some t := by
    intro t h
    unfold liveGetTask isControlledByJob at h
    cases hp : findPod s.pods ref.name with
    | none => simp [hp] at h
    | some p =>
      simp only [hp] at h
      by_cases ho : p.ownerUid = some jo.uid
      · simp only [ho, decide_true, Bool.not_true, Bool.false_eq_true, ↓reduceIte] at h
        exact ⟨p, rfl, ho, h⟩
      · simp [ho] at h
  unfold getTaskForRef isControlledByJob at h
  cases hc : findPod s.podCache ref.name with
  | none =>
    simp only [hc] at h
    split at h
    · cases h
    · obtain ⟨p, hp, ho, hpt⟩ := live t h
      exact ⟨p, Or.inr hp, ho, hpt⟩
  | some q =>
    simp only [hc] at h
    by_cases ho : q.ownerUid = some jo.uid
    · simp only [ho, decide_true, Bool.not_true, Bool.false_eq_true, ↓reduceIte] at h
      cases hq : podTask s.clock q with
      | none => simp [hq] at h
      | some t' =>
        simp only [hq] at h
        split at h
        · cases h; exact ⟨q, Or.inl rfl, ho, hq⟩
        · obtain ⟨p, hp, ho', hpt⟩ := live t h
          exact ⟨p, Or.inr hp, ho', hpt⟩
    · simp only [ho, decide_false, Bool.not_false, ↓reduceIte] at h
      split at h
      · cases h
      · obtain ⟨p, hp, ho', hpt⟩ := live t h
        exact ⟨p, Or.inr hp, ho', hpt⟩

/-- … and a cached object of the ref's name that is not controlled by the Job is a cache MISS: a
finished ref is gone, an unfinished one is looked up on the server; the object a live GET returns
is the task only if it is controlled by the Job. -/
theorem foreign_cached_is_cache_miss (s : Sys) (jo : JobObj) (ref : TaskRef) (q : PodObj)
    (hq : findPod s.podCache ref.name = some q) (hown : q.ownerUid ≠ some jo.uid) :
    getTaskForRef s jo ref = if ref.finishTimestamp.isSome then none else liveGetTask s jo ref.name := by
  unfold getTaskForRef isControlledByJob
  simp [hq, hown]

/-- … so a foreign object in the pod cache AND on the server (or nothing on the server) under the
ref's name means "task absent". -/
theorem foreign_means_absent (s : Sys) (jo : JobObj) (ref : TaskRef) (q : PodObj)
    (hq : findPod s.podCache ref.name = some q) (hown : q.ownerUid ≠ some jo.uid)
    (hsrv : ∀ p, findPod s.pods ref.name = some p → p.ownerUid ≠ some jo.uid) :
    getTaskForRef s jo ref = none := by
  rw [foreign_cached_is_cache_miss s jo ref q hq hown]
  split
  · rfl
  · unfold liveGetTask isControlledByJob
    cases hp : findPod s.pods ref.name with
    | none => rfl
    | some p => simp [hsrv p hp]

theorem foreign_live_means_absent (s : Sys) (jo : JobObj) (name : String) (q : PodObj)
    (hq : findPod s.pods name = some q) (hown : q.ownerUid ≠ some jo.uid) :
    liveGetTask s jo name = none := by
  unfold liveGetTask isControlledByJob
  simp [hq, hown]

example : ∃ s jo idx retry s1, apiCreatePod s jo idx retry = (s1, .exists) := by
  refine ⟨{ pods := [{ pod := { name := "job-h-0" } }] }, ⟨"job", "u", {}, true, 1⟩, { hash := "h" }, 0, _, rfl⟩

end Furiko.Props.C09
