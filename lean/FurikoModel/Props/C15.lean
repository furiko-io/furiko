/-
C15 — JobConfig status reports the true queued/active Jobs and last schedule time.

Property theorems over Model/JobConfigStatus.lean (helper lemmas: Proofs/JcStatusLemmas.lean).
`computeStatus jc (listJobs cache jc)` is the status `Reconciler.SyncOne` computes when it reads
the JobConfig `jc` and the Job cache `cache`; `syncCore` adds the equality check and the
`UpdateStatus` call against the authoritative object (optimistic concurrency iff `occ`).
-/
import FurikoModel.Proofs.JcStatusLemmas

namespace Furiko.Props.C15
open Furiko Furiko.JcStatus

/-- the listing is exactly the cached Jobs in the JobConfig's namespace carrying its uid label -/
theorem listing_exact (jc : JobConfig) (cache : List Job) (j : Job) :
    j ∈ listJobs cache jc ↔ j ∈ cache ∧ j.ns = jc.ns ∧ j.labelUid = some jc.uid := by
  simp [listJobs]

/-- `IsTerminal` (regenerated table) is true exactly for the five finished phases -/
theorem terminal_table (p : String) :
    isTerminal p = true ↔ p ∈ ["Succeeded", "Failed", "Killed", "AdmissionError", "FinishedUnknown"] := by
  simp [isTerminal, Facts.terminalPhases]

/-! ## clause 1: the lists are exact and the counts match -/

/-- `activeJobs` / `queuedJobs` are, up to order, the references of exactly the listed Jobs that
are active / queued, and both are sorted by creation time. -/
theorem status_lists_exact (jc : JobConfig) (cache : List Job) :
    let rjs := listJobs cache jc
    let st := computeStatus jc rjs
    st.activeJobs.Perm ((rjs.filter isActive).map toRef) ∧
    st.queuedJobs.Perm ((rjs.filter isQueued).map toRef) ∧
    st.activeJobs.Pairwise (fun a b => a.created ≤ b.created) ∧
    st.queuedJobs.Pairwise (fun a b => a.created ≤ b.created) :=
  ⟨toJobReferences_perm _, toJobReferences_perm _, sortRefs_sorted _, sortRefs_sorted _⟩

/-- element-wise reading of `status_lists_exact`, for either list (`p` is `isActive` or `isQueued`):
the references are those of the cached Jobs of this JobConfig that satisfy `p` -/
theorem mem_listed_refs (jc : JobConfig) (cache : List Job) (p : Job → Bool) (r : JobRef) :
    r ∈ toJobReferences ((listJobs cache jc).filter p) ↔
      ∃ j ∈ cache, (j.ns = jc.ns ∧ j.labelUid = some jc.uid) ∧ p j = true ∧ toRef j = r := by
  simp [(toJobReferences_perm _).mem_iff, listing_exact, and_assoc]

/-- the counts are the lengths of the lists, which are the numbers of active / queued Jobs
listed; no Job is both. -/
theorem counts_match (jc : JobConfig) (rjs : List Job) :
    let st := computeStatus jc rjs
    st.active = st.activeJobs.length ∧ st.queued = st.queuedJobs.length ∧
    st.active = (rjs.filter isActive).length ∧ st.queued = (rjs.filter isQueued).length ∧
    ∀ j : Job, ¬ (isActive j = true ∧ isQueued j = true) := by
  refine ⟨rfl, rfl, ?_, ?_, ?_⟩
  · simp [computeStatus, toJobReferences_length]
  · simp [computeStatus, toJobReferences_length]
  · intro j; simp [isActive, isQueued]; intro h; simp [h]

/-! ## clause 2: the state -/

/-- `GetState` with the case order regenerated from the source: Executing > JobQueued >
ReadyDisabled / ReadyEnabled (cron schedule present) > Ready. -/
theorem state_table (jc : JobConfig) (rjs : List Job) :
    let st := computeStatus jc rjs
    st.state =
      if 0 < st.active then "Executing"
      else if 0 < st.queued then "JobQueued"
      else if jc.sched.hasSchedule && jc.sched.hasCron then
        (if jc.sched.disabled then "ReadyDisabled" else "ReadyEnabled")
      else "Ready" := by
  have table : ∀ (ap qp hs hc d : Bool),
      getStateB ap qp { hasSchedule := hs, hasCron := hc, disabled := d } =
        if ap then "Executing" else if qp then "JobQueued"
        else if hs && hc then (if d then "ReadyDisabled" else "ReadyEnabled") else "Ready" := by decide +kernel
  show getState _ _ jc.sched = _
  unfold getState
  have hs : jc.sched = { hasSchedule := jc.sched.hasSchedule, hasCron := jc.sched.hasCron, disabled := jc.sched.disabled } := rfl
  rw [hs, table]
  simp only [gt_iff_lt, decide_eq_true_eq]
  rfl

/-- the counts that drive the state are positive iff such a Job is listed -/
theorem state_reflects_jobs (jc : JobConfig) (rjs : List Job) :
    let st := computeStatus jc rjs
    (0 < st.active ↔ ∃ j ∈ rjs, isActive j = true) ∧ (0 < st.queued ↔ ∃ j ∈ rjs, isQueued j = true) := by
  have h := counts_match jc rjs
  simp only at h
  refine ⟨?_, ?_⟩
  · rw [h.2.2.1]
    simp [List.length_pos_iff_exists_mem]
  · rw [h.2.2.2.1]
    simp [List.length_pos_iff_exists_mem]

/-! ## clause 3: the maxima, one sync -/

/-- after a sync, `lastScheduled` is at least the schedule time of every LISTED Job, i.e. of every
Job that is in the Job cache when the sync runs (annotation parsed by `Atoi`; instants at or before
Go's zero time are ignored by the code).  Nothing is said about Jobs that are not in `rjs`: the
property's "any of its Jobs" is covered only as far as `maxima_cover_observed_partial` goes. -/
theorem lastScheduled_ge_listed (jc : JobConfig) (rjs : List Job) (j : Job) (t : Int)
    (hj : j ∈ rjs) (ht : labelScheduleTime j = some t) (hz : zeroUnix < t) :
    optLe (some t) (computeStatus jc rjs).lastScheduled := by
  rw [computeStatus_lastScheduled]
  exact timeMax_lastOf_ge (List.mem_filterMap.mpr ⟨j, hj, ht⟩) hz _

/-- … and at least the value on the object the sync read -/
theorem lastScheduled_monotone (jc : JobConfig) (rjs : List Job) :
    optLe jc.status.lastScheduled (computeStatus jc rjs).lastScheduled :=
  (computeStatus_maxLe jc rjs).1

/-- after a sync, `lastExecuted` is at least the start time of every LISTED started Job (same
restriction as `lastScheduled_ge_listed`) -/
theorem lastExecuted_ge_listed (jc : JobConfig) (rjs : List Job) (j : Job) (t : Int)
    (hj : j ∈ rjs) (ht : j.startTime = some t) (hz : zeroUnix < t) :
    optLe (some t) (computeStatus jc rjs).lastExecuted := by
  rw [computeStatus_lastExecuted]
  refine timeMax_lastOf_ge (List.mem_filterMap.mpr ⟨j, hj, ?_⟩) hz _
  have hne : t ≠ zeroUnix := by omega
  simp [countedStartTime, isStarted, tIsZero, ht, hne]

/-- the maxima never come from nowhere: a value that was not on the object read is the
schedule time of a listed Job -/
theorem lastScheduled_sound (jc : JobConfig) (rjs : List Job) (v : Int)
    (h : (computeStatus jc rjs).lastScheduled = some v) :
    jc.status.lastScheduled = some v ∨ ∃ j ∈ rjs, labelScheduleTime j = some v := by
  rw [computeStatus_lastScheduled] at h
  rcases (timeMax_spec (lastOf (rjs.filterMap labelScheduleTime)) jc.status.lastScheduled).2.2 with e | e
  · exact Or.inr (List.mem_filterMap.mp (lastOf_some_mem (e.symm.trans h)))
  · exact Or.inl (e.symm.trans h)

/-- a sync that reads what the previous sync wrote (same Jobs) computes the same status again,
i.e. issues no `UpdateStatus` -/
theorem sync_fixpoint (jc : JobConfig) (rjs : List Job) :
    computeStatus { jc with status := computeStatus jc rjs } rjs = computeStatus jc rjs := by
  -- only the two maxima read the status of `jc`, and `TimeMax` with the same first argument is idempotent
  simp only [computeStatus]
  congr 1 <;> split <;> simp [timeMax_idem, *]

theorem sync_fixpoint_noop (occ : Bool) (api : Option JobConfig) (jc : JobConfig) (cache : List Job) (n : Nat) :
    (syncCore occ api { jc with status := computeStatus jc (listJobs cache jc) } cache n).2.1 = Outcome.noop := by
  have hl : listJobs cache { jc with status := computeStatus jc (listJobs cache jc) } = listJobs cache jc := rfl
  unfold syncCore
  simp only [hl, sync_fixpoint, ↓reduceIte]

/-- E-OwnerLabel for one Job w.r.t. one JobConfig: it carries the uid label (in the namespace)
iff its controller owner reference names this JobConfig -/
def OwnerLabel (jc : JobConfig) (j : Job) : Prop :=
  (j.ns = jc.ns ∧ j.labelUid = some jc.uid) ↔
  (j.ns = jc.ns ∧ j.owner = some { kind := "JobConfig", name := jc.name, uid := jc.uid })

/-- cache = server and every Job inside E-OwnerLabel ⇒ the lists are the authoritative sets of
owned active / owned queued Jobs -/
theorem quiescent_status_true (jc : JobConfig) (jobs : List Job) (r : JobRef)
    (henv : ∀ j ∈ jobs, OwnerLabel jc j) :
    let st := computeStatus jc (listJobs jobs jc)
    let owned := fun (j : Job) => j.ns = jc.ns ∧ j.owner = some { kind := "JobConfig", name := jc.name, uid := jc.uid }
    (r ∈ st.activeJobs ↔ ∃ j ∈ jobs, owned j ∧ isActive j = true ∧ toRef j = r) ∧
    (r ∈ st.queuedJobs ↔ ∃ j ∈ jobs, owned j ∧ isQueued j = true ∧ toRef j = r) := by
  intro st owned
  have key : ∀ p : Job → Bool, r ∈ toJobReferences ((listJobs jobs jc).filter p) ↔
      ∃ j ∈ jobs, owned j ∧ p j = true ∧ toRef j = r := fun p =>
    (mem_listed_refs jc jobs p r).trans
      (exists_congr fun j => and_congr_right fun hj => and_congr_left' (henv j hj))
  exact ⟨key isActive, key isQueued⟩

/-! ## clause 3 over histories -/

/-- one sync whose JobConfig cache is up to date: it reads the authoritative object itself -/
def freshSync (jc : JobConfig) (cache : List Job) : JobConfig :=
  ((syncCore true (some jc) jc cache (jc.rv + 1)).1).getD jc

/-- a history of syncs with arbitrary Job caches (Jobs appear, change and disappear freely
between syncs), each reading what the previous one left on the API -/
def runFresh (jc : JobConfig) : List (List Job) → JobConfig
  | [] => jc
  | cache :: rest => runFresh (freshSync jc cache) rest

/-- the sync reads the object it writes to: afterwards the API carries the status it computed -/
theorem freshSync_status (jc : JobConfig) (cache : List Job) :
    (freshSync jc cache).status = computeStatus jc (listJobs cache jc) :=
  syncCore_current true rfl rfl cache _

theorem freshSync_ident (jc : JobConfig) (cache : List Job) :
    (freshSync jc cache).ns = jc.ns ∧ (freshSync jc cache).uid = jc.uid := by
  unfold freshSync
  rcases syncCore_api true jc jc cache (jc.rv + 1) with h | ⟨h, _⟩ <;> rw [h] <;> exact ⟨rfl, rfl⟩

theorem freshSync_mono (jc : JobConfig) (cache : List Job) : MaxLe jc.status (freshSync jc cache).status := by
  rw [freshSync_status]; exact computeStatus_maxLe jc _

theorem runFresh_append (jc : JobConfig) (pre post : List (List Job)) :
    runFresh jc (pre ++ post) = runFresh (runFresh jc pre) post := by
  induction pre generalizing jc with
  | nil => rfl
  | cons c rest ih => simp only [List.cons_append, runFresh, ih]

/-- the maxima never move backwards over any history of syncs, whatever happens to the Jobs
(in particular after the Job that carried the maximum is deleted) -/
theorem maxima_survive_deletion (jc : JobConfig) (caches : List (List Job)) :
    optLe jc.status.lastScheduled (runFresh jc caches).status.lastScheduled ∧
    optLe jc.status.lastExecuted (runFresh jc caches).status.lastExecuted := by
  induction caches generalizing jc with
  | nil => exact MaxLe.refl _
  | cons c rest ih => exact (freshSync_mono jc c).trans (ih (freshSync jc c))

/-- prefix form: every intermediate value is below every later value -/
theorem maxima_survive_deletion_prefix (jc : JobConfig) (pre post : List (List Job)) :
    optLe (runFresh jc pre).status.lastScheduled (runFresh jc (pre ++ post)).status.lastScheduled ∧
    optLe (runFresh jc pre).status.lastExecuted (runFresh jc (pre ++ post)).status.lastExecuted := by
  rw [runFresh_append]
  exact maxima_survive_deletion _ _

/-- a sync that completes covers what it LISTED: right after it the API value is at least the
schedule time of every Job in its listing (and of no Job outside it) -/
theorem freshSync_covers_listed (jc : JobConfig) (cache : List Job) (j : Job) (t : Int)
    (hj : j ∈ listJobs cache jc) (ht : labelScheduleTime j = some t) (hz : zeroUnix < t) :
    optLe (some t) (freshSync jc cache).status.lastScheduled := by
  rw [freshSync_status]
  exact lastScheduled_ge_listed jc _ j t hj ht hz

/-- … and keeps covering it for ever, also after the Job has been deleted: any Job LISTED BY SOME
SYNC of the history is covered by the final value.

PARTIAL with respect to the property's clause "at least the latest schedule time of ANY of its
Jobs, even after those Jobs are deleted": the hypothesis `hj` (the Job was in the Job cache at a
completed sync — envelope `E-JobObservedBeforeGone`) cannot be dropped.  A Job that is created and
deleted between two syncs of its JobConfig (both events reach the cache while the key waits in
the work queue, or the controller restarts in between) is never in any listing, and the status
stays below its schedule time for ever: `job_never_observed_witness` (known finding F33;
`Compose.unobserved_job_rerequested_witness` shows the schedule time being requested again after a
restart). -/
theorem maxima_cover_observed_partial (jc : JobConfig) (pre post : List (List Job)) (cache : List Job)
    (j : Job) (t : Int) (hj : j ∈ listJobs cache (runFresh jc pre))
    (ht : labelScheduleTime j = some t) (hz : zeroUnix < t) :
    optLe (some t) (runFresh jc (pre ++ cache :: post)).status.lastScheduled := by
  rw [runFresh_append, runFresh]
  exact optLe_trans (freshSync_covers_listed _ cache j t hj ht hz) (maxima_survive_deletion _ post).1

/-! ### stale reads: the JobConfig cache may lag behind the controller's own writes -/

/-- the API object together with every version a lagging cache may still hold -/
structure Sys where
  api : JobConfig
  versions : List JobConfig

inductive Act where
  /-- a sync that reads version number `idx` (any older version: stale cache) with an arbitrary Job cache -/
  | sync (idx : Nat) (cache : List Job)
  /-- another writer (a user editing the spec) bumps the resourceVersion -/
  | edit (s : Sched)

def stepSys (occ : Bool) (s : Sys) : Act → Sys
  | .sync idx cache =>
    match s.versions[idx]? with
    | none => s
    | some read =>
      let api' := ((syncCore occ (some s.api) read cache (s.api.rv + 1)).1).getD s.api
      { api := api', versions := api' :: s.versions }
  | .edit sc =>
    let api' := { s.api with sched := sc, rv := s.api.rv + 1 }
    { api := api', versions := api' :: s.versions }

def runSys (occ : Bool) (s : Sys) : List Act → Sys
  | [] => s
  | a :: rest => runSys occ (stepSys occ s a) rest

/-- resourceVersions identify versions: no retained version is newer than the API object, and
one with the current resourceVersion has the current status -/
def Sys.WF (s : Sys) : Prop :=
  ∀ v ∈ s.versions, v.rv ≤ s.api.rv ∧ (v.rv = s.api.rv → v.status = s.api.status)

theorem Sys.WF.single (jc : JobConfig) : Sys.WF ⟨jc, [jc]⟩ := fun v hv => by
  rw [List.mem_singleton.1 hv]; exact ⟨Nat.le_refl _, fun _ => rfl⟩

/-- a new version — the old object again, or one with the next resourceVersion — keeps `WF` -/
theorem Sys.WF.push {s : Sys} (h : s.WF) {a : JobConfig} (ha : a = s.api ∨ a.rv = s.api.rv + 1) :
    Sys.WF ⟨a, a :: s.versions⟩ := by
  intro v hv
  rcases List.mem_cons.1 hv with rfl | hv'
  · exact ⟨Nat.le_refl _, fun _ => rfl⟩
  · rcases ha with rfl | ha
    · exact h v hv'
    · have := (h v hv').1
      exact ⟨by show v.rv ≤ a.rv; omega, fun e => by have : v.rv = a.rv := e; omega⟩

theorem stepSys_wf_mono (s : Sys) (a : Act) (h : s.WF) :
    (stepSys true s a).WF ∧ MaxLe s.api.status (stepSys true s a).api.status := by
  cases a with
  | edit sc => exact ⟨h.push (Or.inr rfl), MaxLe.refl _⟩
  | sync idx cache =>
    simp only [stepSys]
    cases hr : s.versions[idx]? with
    | none => exact ⟨h, MaxLe.refl _⟩
    | some read =>
      rcases syncCore_api true s.api read cache (s.api.rv + 1) with he | ⟨he, hrv⟩ <;>
        simp only [he, Option.getD_some]
      · exact ⟨h.push (Or.inl rfl), MaxLe.refl _⟩
      · refine ⟨h.push (Or.inr rfl), ?_⟩
        rw [← (h read (List.mem_of_getElem? hr)).2 (hrv rfl)]
        exact computeStatus_maxLe read _

/-- with the API server's optimistic concurrency, the maxima on the API never move backwards
under ANY interleaving of syncs reading arbitrarily stale JobConfig versions, arbitrary Job
caches, and foreign writes -/
theorem maxima_survive_deletion_occ (s : Sys) (acts : List Act) (h : s.WF) :
    optLe s.api.status.lastScheduled (runSys true s acts).api.status.lastScheduled ∧
    optLe s.api.status.lastExecuted (runSys true s acts).api.status.lastExecuted := by
  induction acts generalizing s with
  | nil => exact MaxLe.refl _
  | cons a rest ih =>
    obtain ⟨hwf, h1⟩ := stepSys_wf_mono s a h
    exact h1.trans (ih (stepSys true s a) hwf)

/-- refutation of the regression under E-API: a sync that read a version with another
resourceVersion than the current one changes nothing on the API (its write conflicts) -/
theorem stale_write_conflicts (cur read : JobConfig) (cache : List Job) (n : Nat)
    (hstale : read.rv ≠ cur.rv) :
    (syncCore true (some cur) read cache n).1 = some cur := by
  rcases syncCore_api true cur read cache n with h | ⟨_, hrv⟩
  · exact h
  · exact absurd (hrv rfl) hstale

/-- the JobConfig, the Job and the history of the witness below -/
def witnessJC : JobConfig :=
  { ns := "nsa", name := "jc0", uid := "jc-1", sched := { hasSchedule := true, hasCron := true }, rv := 1 }
def witnessJob : Job :=
  { ns := "nsa", name := "j1", uid := "job-2", created := 1000, labelUid := some "jc-1",
    owner := some { kind := "JobConfig", name := "jc0", uid := "jc-1" }, startTime := none,
    phase := "Queued", deletion := none, schedAnn := some "1000" }
def witnessSys : Sys := { api := witnessJC, versions := [witnessJC] }
/-- sync with the Job cached (reads the only version); the Job is deleted; sync again while the
JobConfig cache still holds the first version (now at the end of `versions`) -/
def witnessActs : List Act := [.sync 0 [witnessJob], .sync 1 []]

/-- WITHOUT resourceVersion checking (what the default fake clientset does) a stale read after
the deletion of the Job that carried the maximum moves `lastScheduled` backwards on the API:
1000 → never.  With the check the same history keeps 1000.  The property therefore rests on the
API server's optimistic concurrency (assumption E-API); scenarios `stale-read-no-occ` /
`stale-read-occ` replay both on the real reconciler. -/
theorem stale_read_regression_witness :
    witnessSys.WF ∧
    (runSys false witnessSys (witnessActs.take 1)).api.status.lastScheduled = some 1000 ∧
    (runSys false witnessSys witnessActs).api.status.lastScheduled = none ∧
    (runSys true witnessSys witnessActs).api.status.lastScheduled = some 1000 :=
  ⟨.single _, by decide +kernel⟩

/-! ## F33: the clause "… of ANY of its Jobs, even after those Jobs are deleted", with ground truth

A history model that — unlike `runFresh` / `runSys`, whose Job caches are arbitrary — knows which
Jobs exist: the server's Jobs, the Job informer (undelivered events, then the cache, then the
handler that enqueues the JobConfig's key), the work queue (one key) and every Job that ever
existed.  The JobConfig cache is taken to be fresh (`freshSync`); a sync that writes the status
triggers its own JobConfig update event, which enqueues the key once more. -/

structure World where
  /-- the JobConfig on the server -/
  api : JobConfig
  /-- the Jobs on the server -/
  jobs : List Job := []
  /-- undelivered Job watch events, oldest first -/
  pending : List (EvKind × Job) := []
  /-- the controller's Job cache -/
  cache : List Job := []
  /-- the JobConfig's key is in the work queue -/
  queued : Bool := false
  /-- ground truth: every Job that ever existed on the server -/
  ever : List Job := []
deriving DecidableEq

inductive WAct where
  /-- a Job appears on the server (cron controller, user) -/
  | create (j : Job)
  /-- a Job disappears from the server (user, TTL after finishing) -/
  | delete (name : String)
  /-- the informer applies the oldest event to the cache and runs the handler -/
  | deliver
  /-- a worker takes the key (if queued) and runs `SyncOne` -/
  | sync
  /-- the controller process restarts: undelivered notifications are lost, the new process lists
  the server's Jobs and enqueues every JobConfig -/
  | restart

def wStep (w : World) : WAct → World
  | .create j =>
    { w with jobs := j :: w.jobs, pending := w.pending ++ [(.add, j)], ever := j :: w.ever }
  | .delete n =>
    match w.jobs.find? (fun j => j.name == n) with
    | none => w
    | some j => { w with jobs := w.jobs.filter (fun x => x.name != n), pending := w.pending ++ [(.delete, j)] }
  | .deliver =>
    match w.pending with
    | [] => w
    | (k, j) :: rest =>
      let others := w.cache.filter (fun x => x.name != j.name)
      { w with pending := rest,
               cache := if k == .delete then others else j :: others,
               queued := w.queued || (onJobEvent k [w.api] j).isSome }
  | .sync =>
    if w.queued then
      let api' := freshSync w.api w.cache
      { w with api := api', queued := decide (api' ≠ w.api) }
    else w
  | .restart => { w with pending := [], cache := w.jobs, queued := true }

def wRun (w : World) : List WAct → World
  | [] => w
  | a :: rest => wRun (wStep w a) rest

/-- everything delivered, nothing queued -/
def World.quiet (w : World) : Bool := w.pending.isEmpty && !w.queued

def f33JC : JobConfig := witnessJC
/-- scheduled at 1000, observed -/
def f33J1 : Job := witnessJob
/-- scheduled at 1010, created and deleted between two syncs -/
def f33J2 : Job := { witnessJob with name := "j2", uid := "job-3", created := 1010, schedAnn := some "1010" }

/-- `j1` is created, delivered and counted (the second sync is the no-op that follows the
controller's own status write); `j2` is created and deleted, both events are delivered while the
key waits for a worker; the sync lists `j1` only -/
def f33Hist : List WAct :=
  [.create f33J1, .deliver, .sync, .sync, .create f33J2, .delete "j2", .deliver, .deliver, .sync, .sync]

/-- the same with one sync between the two deliveries: `j2` is observed before it is gone -/
def f33HistObserved : List WAct :=
  [.create f33J1, .deliver, .sync, .sync, .create f33J2, .deliver, .sync, .sync, .delete "j2", .deliver, .sync, .sync]

/-- the state `f33Hist` ends in -/
def f33W : World := wRun { api := f33JC } f33Hist

/-- KNOWN FINDING F33 (replayed on the real reconciler by the jcstatus scenario
`f33-job-never-observed-misses-lastScheduled`, monitor `lastScheduled-ge-any-job`): the unrestricted
clause "lastScheduled is at least the schedule time of ANY of the JobConfig's Jobs, even after those
Jobs are deleted" is FALSE for the controller as it is.  In `f33Hist` the Job `j2` (inside
E-OwnerLabel, schedule time 1010) existed on the server and was deleted; at quiescence — every
event delivered, the work queue empty, one more sync a no-op — `status.lastScheduled` is 1000;
with no earlier Job it stays unset; the same after a controller restart (the deleted Job gets no
notification in the new process).  Had a sync run while `j2` was cached (`f33HistObserved`), 1010
would be recorded for ever (`maxima_cover_observed_partial`). -/
theorem job_never_observed_witness :
    f33W.quiet = true ∧ f33W.jobs = [f33J1] ∧ f33J2 ∈ f33W.ever ∧ wStep (wStep f33W .sync) .sync = f33W ∧
    labelScheduleTime f33J2 = some 1010 ∧ onJobEvent .add [f33JC] f33J2 = some "nsa/jc0" ∧
    f33W.api.status.lastScheduled = some 1000 ∧
    (wRun { api := f33JC } [.create f33J2, .delete "j2", .deliver, .deliver, .sync, .sync]).api.status.lastScheduled = none ∧
    (wRun { api := f33JC } [.create f33J2, .delete "j2", .restart, .sync, .sync]).api.status.lastScheduled = none ∧
    (wRun { api := f33JC } [.create f33J2, .delete "j2", .restart, .sync, .sync]).quiet = true ∧
    (wRun { api := f33JC } f33HistObserved).quiet = true ∧
    (wRun { api := f33JC } f33HistObserved).api.status.lastScheduled = some 1010 := by
  decide +kernel

/-- `j2` is inside E-OwnerLabel: the finding does not lean on the label-without-owner corner -/
example : OwnerLabel f33JC f33J2 := by
  simp [OwnerLabel, f33JC, f33J2, witnessJC, witnessJob]

/-- inside E-OwnerLabel, every Job event (add, update, delete) enqueues the key of the owning
JobConfig, provided that JobConfig (same uid) is in the JobConfig cache -/
theorem job_event_enqueues_owner (k : EvKind) (jcCache : List JobConfig) (jc : JobConfig) (j : Job)
    (hfind : jcCache.find? (fun c => c.ns == j.ns && c.name == jc.name) = some jc)
    (hown : j.owner = some { kind := "JobConfig", name := jc.name, uid := jc.uid })
    (hlab : j.labelUid = some jc.uid) :
    onJobEvent k jcCache j = some (keyOf jc.ns jc.name) := by
  have hreg : handlerRegistered Facts.jcInformerJobHandlers k = true := by cases k <;> rfl
  simp [onJobEvent, hreg, handleJob, hown, hfind, hlab]

/-- every JobConfig event enqueues its own key -/
theorem jobconfig_event_enqueues_self (k : EvKind) (jc : JobConfig) :
    onJobConfigEvent k jc = some (keyOf jc.ns jc.name) := by
  have hreg : handlerRegistered Facts.jcInformerJobConfigHandlers k = true := by cases k <;> rfl
  simp [onJobConfigEvent, hreg]

/-- outside E-OwnerLabel (recorded, not claimed): a Job that carries the label but no controller
owner reference is listed by `SyncOne` yet its own events enqueue nothing; only another event
or the informer resync brings the status up to date. -/
theorem label_without_owner_listed_not_enqueued (k : EvKind) (jcCache : List JobConfig) (jc : JobConfig)
    (cache : List Job) (j : Job) (hj : j ∈ cache) (hn : j.ns = jc.ns) (hlab : j.labelUid = some jc.uid)
    (hown : j.owner = none) :
    j ∈ listJobs cache jc ∧ onJobEvent k jcCache j = none := by
  refine ⟨(listing_exact jc cache j).mpr ⟨hj, hn, hlab⟩, ?_⟩
  simp [onJobEvent, handleJob, hown]

def loJC : JobConfig := { ns := "nsa", name := "jc0", uid := "jc-1", rv := 1 }
def loJob : Job :=
  { ns := "nsa", name := "j1", uid := "job-2", created := 1000, labelUid := some "jc-1", owner := none,
    startTime := none, phase := "Queued", deletion := none, schedAnn := none }

/-- KNOWN FINDING C15-label-only-job-not-routed, concrete history (replayed on the real code by
scenario `label-without-owner`): the creation of a label-only Job enqueues nothing; an
unrelated sync lists it as queued; its deletion enqueues nothing either, so with every event
delivered and the queue empty the status still names the deleted Job, although a sync — had
one been triggered — would clear it. -/
theorem label_only_stale_witness :
    onJobEvent .add [loJC] loJob = none ∧
    (freshSync loJC [loJob]).status.queuedJobs.map (·.name) = ["j1"] ∧
    (freshSync loJC [loJob]).status.state = "JobQueued" ∧
    onJobEvent .delete [freshSync loJC [loJob]] loJob = none ∧
    (freshSync (freshSync loJC [loJob]) []).status.queuedJobs = [] := by decide +kernel

/-- the deletion timestamp of a Job plays no role: a Job being deleted is reported by its phase
and start time until the object is gone -/
theorem deletion_ignored (jc : JobConfig) (rjs : List Job) (d : Job → Option Int) :
    computeStatus jc (rjs.map fun j => { j with deletion := d j }) = computeStatus jc rjs := by
  simp only [computeStatus, toJobReferences, getLastScheduleTime, getLastStartTime, List.filter_map,
    List.map_map, List.filterMap_map]
  rfl

/-! ## non-vacuity: the hypotheses above are met by concrete, non-trivial instances -/

section Examples

def exJC : JobConfig :=
  { ns := "nsa", name := "jc0", uid := "U", sched := { hasSchedule := true, hasCron := true, disabled := true },
    rv := 7, status := { lastScheduled := some 500, lastExecuted := some 90 } }
def exJob (name : String) (created : Int) (start : Option Int) (phase : String) (ann : Option String) : Job :=
  { ns := "nsa", name := name, uid := "u-" ++ name, created := created, labelUid := some "U",
    owner := some { kind := "JobConfig", name := "jc0", uid := "U" }, startTime := start, phase := phase,
    deletion := none, schedAnn := ann }
/-- unsorted cache: an active Job, a queued one, a finished one, a Job of another JobConfig, and
a malformed annotation -/
def exCache : List Job :=
  [ exJob "c" 30 (some 100) "Running" (some "700"),
    exJob "a" 10 none "Queued" (some "x12"),
    exJob "b" 20 (some 95) "Succeeded" (some "+650"),
    { exJob "z" 5 (some 999) "Running" (some "9999") with
        labelUid := some "OTHER", owner := some { kind := "JobConfig", name := "other", uid := "OTHER" } },
    exJob "d" 15 (some 80) "Pending" none ]

example : (computeStatus exJC (listJobs exCache exJC)) =
    { state := "Executing", queued := 1, active := 2,
      queuedJobs := [{ uid := "u-a", name := "a", created := 10, phase := "Queued", startTime := none }],
      activeJobs := [{ uid := "u-d", name := "d", created := 15, phase := "Pending", startTime := some 80 },
                     { uid := "u-c", name := "c", created := 30, phase := "Running", startTime := some 100 }],
      lastScheduled := some 700, lastExecuted := some 100 } := by decide +kernel

-- lastScheduled_ge_listed / lastExecuted_ge_listed: hypotheses satisfiable
example : exJob "c" 30 (some 100) "Running" (some "700") ∈ listJobs exCache exJC ∧
    labelScheduleTime (exJob "c" 30 (some 100) "Running" (some "700")) = some 700 ∧ zeroUnix < 700 := by decide +kernel
-- monotone with an old value above every Job: old value kept
example : (computeStatus { exJC with status := { lastScheduled := some 5000 } } (listJobs exCache exJC)).lastScheduled
    = some 5000 := by decide +kernel
-- Atoi model on odd spellings
example : [atoi "12", atoi "+12", atoi "-0", atoi "007", atoi "", atoi "+", atoi "1_0", atoi " 1", atoi "1e3",
    atoi "9223372036854775807", atoi "9223372036854775808", atoi "-9223372036854775808", atoi "-9223372036854775809"]
    = [some 12, some 12, some 0, some 7, none, none, none, none, none,
       some 9223372036854775807, none, some (-9223372036854775808), none] := by decide +kernel
-- state table rows
example : [getState 1 1 {}, getState 0 1 {}, getState 0 0 { hasSchedule := true, hasCron := true, disabled := true },
    getState 0 0 { hasSchedule := true, hasCron := true }, getState 0 0 { hasSchedule := true, disabled := true },
    getState 0 0 {}] = ["Executing", "JobQueued", "ReadyDisabled", "ReadyEnabled", "Ready", "Ready"] := by decide +kernel
-- maxima_survive_deletion on a history where the carrier of both maxima disappears
example : ((runFresh exJC [exCache, [], [exJob "q" 40 none "Queued" (some "600")]]).status.lastScheduled,
    (runFresh exJC [exCache, [], []]).status.lastExecuted, (runFresh exJC [exCache, []]).status.state,
    (runFresh exJC [exCache, []]).rv) = (some 700, some 100, "ReadyDisabled", 9) := by decide +kernel
-- maxima_survive_deletion_occ: WF holds for the witness system and is not vacuous
example : witnessSys.WF ∧ (runSys true witnessSys witnessActs).versions.length = 3 := by
  refine ⟨stale_read_regression_witness.1, by decide +kernel⟩
-- stale_write_conflicts: a stale version exists in the witness history
example : (syncCore true (some { witnessJC with rv := 2 }) witnessJC [] 3).2.1 = Outcome.conflict := by decide +kernel
-- job_event_enqueues_owner: hypotheses satisfiable
example : onJobEvent .delete [exJC] (exJob "c" 30 none "Queued" none) = some "nsa/jc0" := by decide +kernel
-- quiescent_status_true: E-OwnerLabel holds for every Job of exCache (for z, which belongs to another JobConfig, both sides are false)
example : ∀ j ∈ exCache, OwnerLabel exJC j := by
  unfold OwnerLabel
  decide +kernel
-- events of the differ
example : diffEvents [exJob "b" 20 (some 95) "Succeeded" none]
    [{ uid := "u-b", name := "b", created := 20, phase := "Running", startTime := some 95 },
     { uid := "u-g", name := "gone", created := 21, phase := "Running", startTime := some 96 }] = ["F:b", "D:gone"] := by decide +kernel

end Examples

end Furiko.Props.C15
