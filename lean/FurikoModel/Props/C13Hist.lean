/-
C13 — "A Job disappears only after its tasks are gone": HISTORY-level theorem over every state
reachable in the transition system of `Proofs/JobCtlSys.lean` (conventions as in `Props/C11Hist.lean`;
ALL actions are allowed: any fault pattern, informer lag, restart, kubelet, external pod deletion,
user kill / delete, foreign pods).
-/
import FurikoModel.Props.C13
import FurikoModel.Props.HistCommon

namespace Furiko.Props.C13Hist
open Furiko Furiko.JobCtl

/-- `job_gone_implies_tasks_gone`: in every reachable state, if a step makes the authoritative Job
object disappear and that object carries the delete-dependents finalizer, then
* the step is a controller pass (`work`) whose cached Job IS the authoritative object, and it has a
  deletion timestamp;
* that pass found no task listed in `status.tasks`: not in the pod cache and, confirmed by a live GET
  for EVERY listed task whether recorded finished or not (fix 27db662), not on the server — so no pod
  CONTROLLED BY THE JOB that is named in `status.tasks` exists in `s.pods` (other than one whose
  `GetTaskRef` would panic, which the kubelet model of the engine never produces).  Since the repair of
  F22 a pod of that name that is NOT controlled by the Job is not the task: it does not keep the
  finalizer (`foreign_pod_does_not_block_removal` below) and is not deleted;
* (repair of F-C20-1) that pass found no UNRECORDED task of the Job in the pod cache either: no cached
  pod labelled with and controlled by the Job that `status.tasks` does not name (a task that was
  created while the status update recording it failed) — `finalizerTasks s j j.job = []`;
* the pass issued no pod call: the server's pods are the same before and after.
(A Job WITHOUT the finalizer goes as soon as the user or the TTL deletes it; the property does not
speak about those.) -/
theorem job_gone_implies_tasks_gone {ok : Sys → Action → Prop} {j0 : JobObj} {s : Sys} (hr : Reach ok j0 s)
    (a : Action) (hal : Allowed j0 s a) (j : JobObj) (hj : s.job = some j) (hfin : j.finalizer = true)
    (hgone : (step s a).job = none) :
    a = .work ∧ s.jobCache = some j ∧ j.job.deletionTimestamp.isSome = true ∧
    (∀ r ∈ j.job.status.tasks, getTaskForRef s j r = none ∧ liveGetTask s j r.name = none ∧
      ∀ p, findPod s.pods r.name = some p → p.ownerUid = some j.uid → podTask s.clock p = none) ∧
    (∀ p ∈ s.podCache, p.jobLabel = some j.uid → p.ownerUid = some j.uid →
      (∀ r ∈ j.job.status.tasks, r.name ≠ p.pod.name) → podTask s.clock p = none) ∧
    finalizerTasks s j j.job = [] ∧
    (step s a).pods = s.pods := by
  obtain ⟨h1, h2, h3, h4', h5⟩ := gone_only_when_no_task (base_of_reach hr) a hal j hj hfin hgone
  obtain ⟨h4, hun⟩ := (Furiko.Props.C13.finalizerTasks_nil_iff s j j.job).mp h4'
  refine ⟨h1, h2, h3, ?_, fun p hp hl ho hn => hun p hp ⟨hl, ho, hn⟩, h4', h5⟩
  intro r hr'
  have hlive := Furiko.Props.C13.confirmed_empty_means_gone s j _ h4 r hr'
  refine ⟨?_, hlive, ?_⟩
  · unfold tasksForRefsConfirmed at h4
    rw [List.filterMap_eq_nil_iff] at h4
    have := h4 r hr'
    unfold getTaskForRefConfirmed at this
    cases hg : getTaskForRef s j r with
    | none => rfl
    | some t => rw [hg] at this; cases this
  · intro p hp ho
    unfold liveGetTask isControlledByJob at hlive
    rw [hp] at hlive
    simpa [ho] using hlive

/-- … and until that pass the finalizer stays on the object, whatever happens. -/
theorem finalizer_stays_until_gone {ok : Sys → Action → Prop} {j0 : JobObj} {s : Sys} (hr : Reach ok j0 s)
    (a : Action) (hal : Allowed j0 s a) (j j' : JobObj) (hj : s.job = some j) (hfin : j.finalizer = true)
    (hj' : (step s a).job = some j') : j'.finalizer = true :=
  finalizer_kept (base_of_reach hr) a hal j j' hj hfin hj'

/-- the hypotheses are met: in `Ex.sF` (Job finished, deleted by the user, its pod deleted by the
finalizer pass and removed by the kubelet, all events delivered) the next pass removes the Job -/
example : Reach anyAction Ex.job Ex.sF ∧ Ex.sF.job.map (·.finalizer) = some true ∧
    (step Ex.sF .work).job = none ∧ Ex.sF.pods = [] :=
  ⟨Ex.sF_reach, by decide +kernel⟩

/-- F22, the finalizer, on a history: from `Ex.sF` (Job deleted by the user, its pod `job-h-0` deleted by
the finalizer pass and gone) a pod controlled by ANOTHER Job is created under the recorded name
`job-h-0` and reaches the pod cache; the next pass still removes the Job — the foreign pod does not keep
the finalizer — and issues no pod call: the foreign pod is still there. -/
theorem foreign_pod_does_not_block_removal :
    let s := runActs Ex.sF [.createForeign Ex.foreignPod, .deliverPod]
    Reach anyAction Ex.job s ∧ s.job.map (fun j => (j.finalizer, refNames j.job)) = some (true, ["job-h-0"]) ∧
    s.podCache.map (fun p => (p.pod.name, p.ownerUid)) = [("job-h-0", some "other-uid")] ∧
    (step s .work).job = none ∧
    (step s .work).pods.map (fun p => (p.pod.name, p.ownerUid)) = [("job-h-0", some "other-uid")] ∧
    (step s .work).calls.map (fun c => (c.verb, c.res, c.name, c.out)) = [("update", "jobs", "job", "ok")] :=
  reach_run_and Ex.sF_reach (by decide +kernel)

/-- F18 regression.  Before commit 27db662 the finalizer pass trusted the pod cache for FINISHED refs:
from `Ex.sB` (Job Finished / Success; `job-h-0` recorded finished by a live GET, never seen by the pod
cache) the run `userDelete, deliverJob, deliverJob, work` dropped the finalizer and the Job object
disappeared while pod `job-h-0` still existed and no delete had been issued for it.  On the current
model the same pass confirms the absence with a live GET, finds the pod, issues its delete and keeps
the finalizer. -/
theorem f18_regression :
    Reach anyAction Ex.job Ex.sE ∧
    Ex.sE.job.map (fun j => (j.finalizer, j.job.deletionTimestamp.isSome)) = some (true, true) ∧
    Ex.sE.pods.map (fun p => (p.pod.name, p.pod.deletionTimestamp.isSome)) = [("job-h-0", true)] ∧
    Ex.sE.calls.map (fun c => (c.verb, c.res, c.name, c.out)) = [("delete", "pods", "job-h-0", "ok")] :=
  ⟨Ex.sE_reach, by decide +kernel⟩

/-- F-C20-1 regression.  Before the repair the finalizer swept only the tasks LISTED in the status:
from the start, the run `deliverJob, setFaults ["", "conflict"], work` creates pod `job-h-0` while the
status update that records it fails; after `deliverPod, userDelete, deliverJob` the finalizer pass
(`work`) found nothing listed, dropped the finalizer, and the Job object disappeared while `job-h-0`
still existed with no delete issued (only the garbage collector would have removed it).  On the
current model the same pass adopts the unrecorded task from the pod cache, issues its delete, records
it and KEEPS the finalizer (`Ex.sG`); once the kubelet has removed the pod and the events are delivered
(`Ex.sH`) the next pass removes the Job: it is gone only after its task is gone. -/
theorem f_c20_1_regression :
    Reach anyAction Ex.job Ex.sG ∧
    Ex.sG.job.map (fun j => (j.finalizer, j.job.deletionTimestamp.isSome, j.job.status.tasks.map (·.name))) =
      some (true, true, ["job-h-0"]) ∧
    Ex.sG.pods.map (fun p => (p.pod.name, p.pod.deletionTimestamp.isSome)) = [("job-h-0", true)] ∧
    Ex.sG.calls.map (fun c => (c.verb, c.res, c.name, c.out)) =
      [("delete", "pods", "job-h-0", "ok"), ("update", "jobs", "job", "ok")] ∧
    Reach anyAction Ex.job Ex.sH ∧ Ex.sH.job.map (·.finalizer) = some true ∧ Ex.sH.pods = [] ∧
    (step Ex.sH .work).job = none :=
  ⟨Ex.sG_reach, by decide +kernel, and_insert_third Ex.sH_reach (by decide +kernel)⟩

end Furiko.Props.C13Hist
