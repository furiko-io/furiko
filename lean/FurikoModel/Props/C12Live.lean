/-
C12, the LIVENESS half for the job controller ("once spec.killTimestamp has passed … every task that is
not finished is deleted … and the Job ends `Killed`"), with a COOPERATIVE KUBELET: a pod that carries a
deletion timestamp terminates (`Action.podGone`).

The environment is the deterministic round `Live.roundK` (`Proofs/JobCtlLiveReapRound.lean`), composed of
`Action`s of the transition system only:

    deliverAll ; reap ; deliverAll ; work ; deliverAll

* `deliverAll` — both informers deliver every pending watch event;
* `reap`       — the kubelet finishes the termination of every pod that carries a deletion timestamp
                 (`podGone`, guard: the deletion timestamp is set); no other kubelet write, no clock advance;
* `work`       — one step of `reconciler.Controller.work`.

Theorems (helper files `Proofs/JobCtlLiveKillStatus`, `…PodDeletes`, `…KillPass`, `…ReapRound`, `…KillRounds.lean`):
* `kill_converges` (from the Job's creation): a single-task Job runs any finite number of fair rounds
  under arbitrary fault lists (`Live.roundsF`, as in C20Live); then the user sets `spec.killTimestamp` to a
  time that has passed.  At most TWO rounds `roundK` later the authoritative Job is `Finished` with result
  `Killed`, every pod that was not finished is gone from the server (it got its deletion timestamp in the
  first pass — graceful `Delete` by `handleKillJob` — and the kubelet terminated it), the pods left are the
  ones that had finished before, and nothing is in flight.
* `kill_converges_from_quiescent_partial`: the same from ANY quiescent state of ANY Job (parallel or not)
  whose kill timestamp has passed (`Live.KState`); `_partial` because `KState` is not derived from
  reachability (see the theorem's docstring).
* `kill_converges_dead_kubelet` (with a DEAD kubelet, from the Job's creation; same helper files):
  after the kill no pod ever terminates on its own; the round is
  `Live.roundD adv = deliverAll ; advance adv ; work ; deliverAll` with `adv ≥ forceDeleteTaskTimeout > 0`
  nanoseconds passing before each pass, force deletion not forbidden by the template.  At most THREE rounds
  later the Job is `Finished`/`Killed` and every pod that was alive has been FORCE-deleted
  (`handleForceDeleteKillingTasks`).  `kill_converges_dead_kubelet_from_quiescent_partial`: the same from
  any `KState` without a pod being deleted yet.
-/
import FurikoModel.Proofs.JobCtlLiveKillRounds

set_option linter.unusedVariables false
set_option linter.unusedSimpArgs false

namespace Furiko.Props.C12Live
open Furiko Furiko.JobCtl Furiko.JobCtl.Live

/-- a kill round is a path of the transition system whose actions are controller passes, informer
deliveries and the kubelet terminating pods that carry a deletion timestamp -/
theorem kill_round_is_path (j0 : JobObj) (s : Sys) : Steps killEnv j0 s (roundK s) :=
  roundK_steps (fun _ _ h => h) s s (.refl s)

/-- **kill_converges_from_quiescent_partial** (from an invariant).  Go: `Reconciler.SyncOne` on a Job with
`Spec.KillTimestamp = kt ≤ now` (any template, parallel or not, started, no admission error, not being
deleted): `syncCreateTasks` creates nothing (`canCreateTask` is false) and adopts the unrecorded pods,
`handlePendingTasks` and `handleKillJob` issue a graceful `Delete` for every task that is not finished and
not being deleted, `handleForceDeleteKillingTasks` does nothing (no task is being deleted at that point),
and the recomputed status is written.  From any state `s` satisfying `KState` — caches = server, no watch
event pending, no fault queued; every pod on the server is controlled by and labelled with the Job and
cannot make `PodTask.GetTaskRef` panic; pod names pairwise distinct; the work queue idle and well-formed;
`F0` a lower bound of `kt` and of all finish times, the TTL after `F0` not elapsed — whose key is ready
(`hq`), at most two rounds `roundK` reach a state with the Job `Finished`/`Killed` (`KilledFinal`); every pod
left is finished and was finished, without deletion timestamp, in `s`: every pod that was alive is gone.
A further round that runs a pass keeps this (`Live.kill_final_stable`).
MISSING (hence `_partial`): (a) `KState` is assumed, not derived from reachability (a foreign pod with the
Job's label, or the panic shape of `GetTaskRef`, falsify it); (b) the kubelet is cooperative here; the
other extreme, a kubelet that terminates nothing, is `kill_converges_dead_kubelet…` below; a kubelet that
terminates some pods and not others is not covered; (c) faults during the kill rounds are not covered. -/
theorem kill_converges_from_quiescent_partial (j0 jo : JobObj) (kt : Time) (F0 : Int) (s : Sys) (h : KState jo kt F0 s)
    (hq : s.q.queue ≠ []) :
    ∃ k, 1 ≤ k ∧ k ≤ 2 ∧ Steps killEnv j0 s (roundKN k s) ∧ KilledFinal jo.name (roundKN k s) ∧
      (roundKN k s).clock = s.clock ∧
      ∀ p' ∈ (roundKN k s).pods, ∃ p ∈ s.pods, p.pod.name = p'.pod.name ∧ p.pod.isFinished = true ∧
        p.pod.deletionTimestamp = none := by
  obtain ⟨k, hk1, hk2, jo', hks, hn, _, hd, hc, hp⟩ := kill_core h hq
  exact ⟨k, hk1, hk2, roundKN_steps (fun _ _ h => h) k s s (.refl s), by rw [← hn]; exact killedFinal_of hks hd, hc, hp⟩

/-- **kill_converges** (from the Job's creation; the job-controller instance of C12's liveness clause).
The Job and the oracle as in `C20Live.single_task_job_converges_under_faults`: started, `Parallelism` nil,
`maxAttempts = n ≥ 1`, any retry delay / pending timeout.  The Job runs ANY finite list `fss` of fair rounds
whose passes run under arbitrary fault lists (so it may be anywhere in its life: between attempts, with a
live pod just created, with an unrecorded pod after a failed status update, or already finished); then the
user sets `spec.killTimestamp := t` with `t ≤ now` (`Action.kill t`, delivered by the informer: `killAt`).
At most two rounds `roundK` later (round 1: `handleKillJob` deletes every unfinished pod gracefully and the
kubelet terminates it; round 2: the refs of the vanished pods are recorded as finished and the condition is
recomputed) the authoritative Job is `Finished` with `Result = Killed`, every pod left on the server is
finished and had finished before the kill — every pod that was alive has been deleted — and nothing is in
flight.  The whole run is a path from the creation of the Job.  `hTF`, `hTk`: the TTL after finish, counted
from the lower bound `F0` of all finish times and of `t`, has not elapsed. -/
theorem kill_converges (orc : String → Outcome) (clock : Int) (cfg : ExecConfig) (d : PIndex)
    (j0 : JobObj) (hwf : WF j0) (hspec : SimpleSpec j0.job) (hn : 1 ≤ j0.job.maxAttempts)
    (hunf : j0.job.status.condition.finished = none) (hdash : '-' ∉ d.hash.toList) (F0 : Int)
    (hF0 : F0 ≤ secs (clock / 1000000000)) (fss : List (List String))
    (hTF : ∀ pre suf, fss = pre ++ suf → pre ≠ [] →
      (roundsF orc pre (startState clock cfg d j0)).clock < F0 + getTTLAfterFinished j0.job cfg)
    (t : Time) (ht : t ≤ (roundsF orc fss (startState clock cfg d j0)).clock) (hFt : F0 ≤ t)
    (hTk : (roundsF orc fss (startState clock cfg d j0)).clock < F0 + getTTLAfterFinished j0.job cfg) :
    ∃ k, 1 ≤ k ∧ k ≤ 2 ∧
      Steps killRunEnv j0 (startState clock cfg d j0) (roundKN k (killAt t (roundsF orc fss (startState clock cfg d j0)))) ∧
      KilledFinal j0.name (roundKN k (killAt t (roundsF orc fss (startState clock cfg d j0)))) ∧
      ∀ p' ∈ (roundKN k (killAt t (roundsF orc fss (startState clock cfg d j0)))).pods,
        ∃ p ∈ (roundsF orc fss (startState clock cfg d j0)).pods, p.pod.name = p'.pod.name ∧ p.pod.isFinished = true := by
  obtain ⟨jo, hname, hcan, httl⟩ := canon_after_rounds orc clock cfg d j0 hwf hspec hn hunf hdash F0 hF0 fss hTF
  obtain ⟨hks, hq, hpods, _⟩ := kill_stage hcan t ht hFt (by rw [httl]; exact hTk)
  obtain ⟨k, hk1, hk2, jo', hks', hn', _, hd, _, hp⟩ := kill_core hks hq
  refine ⟨k, hk1, hk2, roundKN_steps killEnv_in_killRunEnv k _ _
    (killAt_steps (fun _ => trivial) (fun _ => trivial) (fun _ _ => trivial) t _ _
      (roundsF_steps fair_in_killRunEnv (fun _ _ => trivial) orc fss _ _ (.refl _))), by rw [← hn'.trans hname]; exact killedFinal_of hks' hd, ?_⟩
  intro p' hp'
  obtain ⟨p, hpm, e1, e2, _⟩ := hp p' hp'
  exact ⟨p, by rw [← hpods]; exact hpm, e1, e2⟩

/-- a round with a dead kubelet is a path of the transition system whose actions are controller passes,
informer deliveries and clock advances -/
theorem dead_round_is_path (j0 : JobObj) (adv : Nat) (s : Sys) : Steps deadEnv j0 s (roundD adv s) :=
  roundD_steps (fun _ _ h => h) adv s s (.refl s)

/-- **kill_converges_dead_kubelet_from_quiescent_partial** (by force deletion, from an invariant).  Go: as in
`kill_converges_from_quiescent_partial`, and `handleForceDeleteKillingTasks`: for every listed task with a
deletion timestamp `D`, once `D + forceDeleteTaskTimeoutSeconds ≤ now` (timeout `> 0`, the template's
`forbidTaskForceDeletion` false) a forced `Delete` (grace period 0) removes the pod object.  The kubelet is
DEAD: no pod terminates on its own.  From any state `s` satisfying `KState` in which no pod carries a deletion
timestamp yet and whose key is ready, with `adv ≥` the force-delete timeout nanoseconds passing before each
pass, at most three rounds `roundD adv` (1: graceful deletes mark every unfinished pod; 2: the timeout has
elapsed, they are force-deleted; 3: the refs of the vanished pods are recorded as finished, the condition is
recomputed) reach a state with the Job `Finished`/`Killed`, every pod left finished and finished already in
`s`.  `httl`: the TTL after finish, counted from the lower bound `F0`, does not elapse during the three rounds.
MISSING (hence `_partial`): `KState` is assumed, not derived from reachability; pods that already carry a
deletion timestamp in `s`, a kubelet that terminates some pods and not others, and faults during these
rounds are not covered.  With timeout `0`/unset or `forbidTaskForceDeletion` the Job stays `Killing` forever
(no theorem: `handleForceDeleteKillingTasks` returns at once). -/
theorem kill_converges_dead_kubelet_from_quiescent_partial (j0 jo : JobObj) (kt : Time) (F0 : Int) (s : Sys)
    (h : KState jo kt F0 s) (hq : s.q.queue ≠ []) (hnodel : ∀ p ∈ s.pods, p.pod.deletionTimestamp = none)
    (hF : 0 < getForceDeleteTimeout s.cfg)
    (hforb : (jo.job.template.map (·.forbidTaskForceDeletion)).getD false = false)
    (adv : Nat) (hadv : getForceDeleteTimeout s.cfg ≤ adv)
    (httl : s.clock + 3 * adv < F0 + getTTLAfterFinished jo.job s.cfg) :
    ∃ k, 1 ≤ k ∧ k ≤ 3 ∧ Steps deadEnv j0 s (roundDN adv k s) ∧ KilledFinal jo.name (roundDN adv k s) ∧
      ∀ p' ∈ (roundDN adv k s).pods, ∃ p ∈ s.pods, p.pod.name = p'.pod.name ∧ p.pod.isFinished = true := by
  obtain ⟨k, hk1, hk2, jo', hks, hn, hd, hp⟩ := kill_core_dead h hq hnodel hF hforb adv hadv httl
  exact ⟨k, hk1, hk2, roundDN_steps (fun _ _ h => h) adv k s s (.refl s), by rw [← hn]; exact killedFinal_of hks hd, hp⟩

/-- **kill_converges_dead_kubelet** (by force deletion, from the Job's creation).  The Job, the oracle and
the run before the kill as in `kill_converges` (any finite list `fss` of fair rounds under arbitrary fault
lists — there the kubelet still works —, then `spec.killTimestamp := t ≤ now`, delivered).  From then on the
kubelet is dead; the force-delete timeout of the configuration is positive, the template does not forbid
force deletion, and `adv ≥` that timeout nanoseconds pass before each pass.  At most three rounds `roundD adv`
later the authoritative Job is `Finished` with `Result = Killed`, every pod left had finished before the
kill — every pod that was alive got a graceful delete in round 1 and a forced one in round 2 — and nothing
is in flight; the whole run is a path from the creation of the Job.  `hTk3`: the TTL does not elapse during
the three rounds. -/
theorem kill_converges_dead_kubelet (orc : String → Outcome) (clock : Int) (cfg : ExecConfig) (d : PIndex)
    (j0 : JobObj) (hwf : WF j0) (hspec : SimpleSpec j0.job) (hn : 1 ≤ j0.job.maxAttempts)
    (hunf : j0.job.status.condition.finished = none) (hdash : '-' ∉ d.hash.toList) (F0 : Int)
    (hF0 : F0 ≤ secs (clock / 1000000000)) (fss : List (List String))
    (hTF : ∀ pre suf, fss = pre ++ suf → pre ≠ [] →
      (roundsF orc pre (startState clock cfg d j0)).clock < F0 + getTTLAfterFinished j0.job cfg)
    (t : Time) (ht : t ≤ (roundsF orc fss (startState clock cfg d j0)).clock) (hFt : F0 ≤ t)
    (hF : 0 < getForceDeleteTimeout (roundsF orc fss (startState clock cfg d j0)).cfg)
    (hforb : (j0.job.template.map (·.forbidTaskForceDeletion)).getD false = false)
    (adv : Nat) (hadv : getForceDeleteTimeout (roundsF orc fss (startState clock cfg d j0)).cfg ≤ adv)
    (hTk3 : (roundsF orc fss (startState clock cfg d j0)).clock + 3 * adv < F0 + getTTLAfterFinished j0.job cfg) :
    ∃ k, 1 ≤ k ∧ k ≤ 3 ∧
      Steps deadRunEnv j0 (startState clock cfg d j0) (roundDN adv k (killAt t (roundsF orc fss (startState clock cfg d j0)))) ∧
      KilledFinal j0.name (roundDN adv k (killAt t (roundsF orc fss (startState clock cfg d j0)))) ∧
      ∀ p' ∈ (roundDN adv k (killAt t (roundsF orc fss (startState clock cfg d j0)))).pods,
        ∃ p ∈ (roundsF orc fss (startState clock cfg d j0)).pods, p.pod.name = p'.pod.name ∧ p.pod.isFinished = true := by
  have hTk : (roundsF orc fss (startState clock cfg d j0)).clock < F0 + getTTLAfterFinished j0.job cfg := by
    have : (roundsF orc fss (startState clock cfg d j0)).clock ≤ (roundsF orc fss (startState clock cfg d j0)).clock + 3 * adv := by
      omega
    exact Int.lt_of_le_of_lt this hTk3
  obtain ⟨jo, hname, hcan, httl⟩ := canon_after_rounds orc clock cfg d j0 hwf hspec hn hunf hdash F0 hF0 fss hTF
  obtain ⟨hks, hq, hpods, hclock, hcfg, hnodel, htm, httl'⟩ := kill_stage hcan t ht hFt (by rw [httl]; exact hTk)
  obtain ⟨k, hk1, hk2, jo', hks', hn', hd, hp⟩ := kill_core_dead hks hq hnodel (by rw [hcfg]; exact hF)
    (by rw [htm, hcan.ver.template]; exact hforb) adv (by rw [hcfg]; exact hadv) (by rw [hclock, httl', httl]; exact hTk3)
  refine ⟨k, hk1, hk2, roundDN_steps deadEnv_in_deadRunEnv adv k _ _
    (killAt_steps (fun _ => trivial) (fun _ => trivial) (fun _ _ => trivial) t _ _
      (roundsF_steps fair_in_deadRunEnv (fun _ _ => trivial) orc fss _ _ (.refl _))), by rw [← hn'.trans hname]; exact killedFinal_of hks' hd, ?_⟩
  intro p' hp'
  obtain ⟨p, hpm, e1, e2⟩ := hp p' hp'
  exact ⟨p, by rw [← hpods]; exact hpm, e1, e2⟩

/-! ### non-vacuity: the Job of `JobCtlInvExamples` (two attempts), killed while its first pod runs -/

def orcFail : String → Outcome := fun _ => .fail
def start : Sys := startState 0 {} Ex.d Ex.job

/-- after the first round the pod of attempt 0 is alive and the Job unfinished; the user's kill timestamp 0 is
delivered; round 1 of the kill gives the pod its deletion timestamp (the Job is not finished yet), round 2
finds it gone: the Job is Finished/Killed with the one ref finished, no pod is left -/
example :
    (roundsF orcFail [[]] start).pods.map (fun p => (p.pod.name, p.pod.isFinished)) = [("job-h-0", false)] ∧
    (0 : Int) ≤ (roundsF orcFail [[]] start).clock ∧
    (roundsF orcFail [[]] start).clock < 0 + getTTLAfterFinished Ex.job.job {} ∧
    (roundKN 1 (killAt 0 (roundsF orcFail [[]] start))).pods.map (fun p => (p.pod.name, p.pod.deletionTimestamp.isSome)) =
      [("job-h-0", true)] ∧
    (roundKN 1 (killAt 0 (roundsF orcFail [[]] start))).job.map (fun j => j.job.status.condition.finished.isSome) = some false ∧
    (roundKN 2 (killAt 0 (roundsF orcFail [[]] start))).pods = [] ∧
    (roundKN 2 (killAt 0 (roundsF orcFail [[]] start))).job.map
        (fun j => (j.job.status.condition.finished.map (·.result), j.job.status.tasks.map (·.finishTimestamp.isSome))) =
      some (some .killed, [true]) := by
  decide +kernel

/-- the hypotheses of `kill_converges` hold for that run, hence those of `kill_converges_from_quiescent_partial`
for the state after the kill was delivered -/
example : ∃ jo, KState jo 0 0 (killAt 0 (roundsF orcFail [[]] start)) ∧ (killAt 0 (roundsF orcFail [[]] start)).q.queue ≠ [] := by
  have hrun : (0 : Int) ≤ (roundsF orcFail [[]] start).clock ∧
      (roundsF orcFail [[]] start).clock < 0 + getTTLAfterFinished Ex.job.job {} := by decide +kernel
  obtain ⟨jo, _, hcan, httl⟩ := canon_after_rounds orcFail 0 {} Ex.d Ex.job Ex.wf_job ex_spec (by decide) (by decide) (by decide) 0
    (by decide) [[]] (fun pre suf e hne => prefix_of_singleton e hne ▸ hrun.2)
  obtain ⟨h, hq, _⟩ := kill_stage hcan 0 hrun.1 (by decide) (by rw [httl]; exact hrun.2)
  -- `h` and `hq` speak of `startState 0 {} Ex.d Ex.job`: unfold `start` first, the unifier is slow to do it
  unfold start
  exact ⟨_, h, hq⟩

/-! ### non-vacuity, dead kubelet: the same Job under a configuration with a force-delete timeout of 1 s -/

def cfgF : ExecConfig := { forceDeleteTaskTimeoutSeconds := some 1 }
def startF : Sys := startState 0 cfgF Ex.d Ex.job

/-- one second passes before each pass.  Round 1 of the kill gives the live pod its deletion timestamp, it stays
(dead kubelet); round 2 force-deletes it (the Job is not finished yet); round 3 records it: the Job is
Finished/Killed, no pod is left -/
example :
    (roundsF orcFail [[]] startF).pods.map (fun p => (p.pod.name, p.pod.isFinished)) = [("job-h-0", false)] ∧
    (0 : Int) < getForceDeleteTimeout (roundsF orcFail [[]] startF).cfg ∧
    getForceDeleteTimeout (roundsF orcFail [[]] startF).cfg ≤ (1000000000 : Nat) ∧
    (Ex.job.job.template.map (·.forbidTaskForceDeletion)).getD false = false ∧
    (roundsF orcFail [[]] startF).clock + 3 * (1000000000 : Nat) < 0 + getTTLAfterFinished Ex.job.job cfgF ∧
    (roundDN 1000000000 1 (killAt 0 (roundsF orcFail [[]] startF))).pods.map
        (fun p => (p.pod.name, p.pod.deletionTimestamp.isSome)) = [("job-h-0", true)] ∧
    (roundDN 1000000000 2 (killAt 0 (roundsF orcFail [[]] startF))).pods = [] ∧
    (roundDN 1000000000 2 (killAt 0 (roundsF orcFail [[]] startF))).job.map
        (fun j => j.job.status.condition.finished.isSome) = some false ∧
    ((JobCtl.work (step (roundDN 1000000000 1 (killAt 0 (roundsF orcFail [[]] startF))) (.advance 1000000000))).1.calls.filter
        (fun c => c.verb = "delete")).map (fun c => (c.name, c.force)) = [("job-h-0", true)] ∧
    (roundDN 1000000000 3 (killAt 0 (roundsF orcFail [[]] startF))).job.map
        (fun j => (j.job.status.condition.finished.map (·.result), j.job.status.tasks.map (·.finishTimestamp.isSome))) =
      some (some .killed, [true]) := by
  -- the pass of round 2 is the dearest part of the evaluation.  Nothing is pending after round 1, so the state it
  -- starts in can be written here as it occurs inside `roundDN … 2`: the kernel then evaluates that pass once
  have hR1 : roundDN 1000000000 1 (killAt 0 (roundsF orcFail [[]] startF)) =
      deliverAll (roundD 1000000000 (killAt 0 (roundsF orcFail [[]] startF))) := by
    have h : (roundD 1000000000 (killAt 0 (roundsF orcFail [[]] startF))).jobEvs.isEmpty = true ∧
        (roundD 1000000000 (killAt 0 (roundsF orcFail [[]] startF))).podEvs.isEmpty = true := by decide +kernel
    exact (deliverAll_idle _ (List.isEmpty_iff.mp h.1) (List.isEmpty_iff.mp h.2)).symm
  rw [hR1]
  decide +kernel

/-- the hypotheses of `kill_converges_dead_kubelet_from_quiescent_partial` hold for the state after the kill was
delivered in that run -/
example : ∃ jo, KState jo 0 0 (killAt 0 (roundsF orcFail [[]] startF)) ∧
    (killAt 0 (roundsF orcFail [[]] startF)).q.queue ≠ [] ∧
    (∀ p ∈ (killAt 0 (roundsF orcFail [[]] startF)).pods, p.pod.deletionTimestamp = none) := by
  have hrun : (0 : Int) ≤ (roundsF orcFail [[]] startF).clock ∧
      (roundsF orcFail [[]] startF).clock < 0 + getTTLAfterFinished Ex.job.job cfgF := by decide +kernel
  obtain ⟨jo, _, hcan, httl⟩ := canon_after_rounds orcFail 0 cfgF Ex.d Ex.job Ex.wf_job ex_spec (by decide)
    (by decide) (by decide) 0 (by decide) [[]] (fun pre suf e hne => prefix_of_singleton e hne ▸ hrun.2)
  obtain ⟨h, hq, _, _, _, hnodel, _⟩ := kill_stage hcan 0 hrun.1 (by decide) (by rw [httl]; exact hrun.2)
  unfold startF
  exact ⟨_, h, hq, hnodel⟩

end Furiko.Props.C12Live
