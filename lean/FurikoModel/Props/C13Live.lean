/-
C13, the LIVENESS half for the job controller (`deletion_completes`: "once the Job carries a deletion
timestamp its tasks are deleted, then the finalizer is removed, then the object disappears"), with a
COOPERATIVE KUBELET.  The environment is the round `Live.roundK`
(`Proofs/JobCtlLiveReapRound.lean`, the one of `Props/C12Live.lean`):

    deliverAll ; reap ; deliverAll ; work ; deliverAll

Theorems (helper files `Proofs/JobCtlLiveDeletePass.lean`, `Proofs/JobCtlLiveDeleteRounds.lean`):
* `delete_converges` (from the Job's creation): a single-task Job runs any finite number of fair rounds
  under arbitrary fault lists; the Job on the server carries the delete-dependents finalizer; the user
  deletes it (`Action.userDelete`: the API server sets `metadata.deletionTimestamp`).  At most TWO rounds
  `roundK` later the Job object and every pod are gone from the server and from the controller's caches
  and nothing is in flight: round 1 `handleFinishFinalizer` deletes every pod (finished or not) gracefully
  and the kubelet terminates them; round 2 it finds no task left, drops the finalizer, and the `Update` that
  drops it removes the object.  Every further round leaves that state as it is.
* `delete_converges_from_quiescent_partial`: the same from ANY quiescent state of ANY Job that carries a
  deletion timestamp and the finalizer (`Live.DState`); `_partial` as in C12Live.
-/
import FurikoModel.Proofs.JobCtlLiveDeleteRounds

set_option linter.unusedVariables false
set_option linter.unusedSimpArgs false

namespace Furiko.Props.C13Live
open Furiko Furiko.JobCtl Furiko.JobCtl.Live

/-- **delete_converges_from_quiescent_partial** (from an invariant).  Go: `Reconciler.SyncOne` on a Job with
`metadata.deletionTimestamp` set and the delete-dependents finalizer (any template, started or not):
`syncJobTasks` is skipped (`IsDeleted`), `handleTTLAfterFinished` returns, and `handleFinishFinalizer` looks
up the tasks of the status (cache, absence confirmed by a live GET) plus the unrecorded pods of the cache;
while there are any it marks their refs `JobDeleted`, issues a graceful `Delete` for each and keeps the
finalizer; when there is none it returns the Job without the finalizer, and `SyncOne`'s `Update` of the
finalizers removes the object (the `UpdateStatus` that may follow is answered NotFound and the pass
reports an error — the object is gone all the same).  From any state `s` satisfying `DState` — caches =
server, nothing pending, no fault queued; every pod on the server controlled by and labelled with the Job and
readable; names distinct; the work queue idle and well-formed — whose key is ready, at most two rounds
`roundK` reach `Gone`: no Job object and no pod on the server or in the caches, no event pending; and
`Gone` is kept by every further round.
MISSING (hence `_partial`): as for `C12Live.kill_converges_from_quiescent_partial` — `DState` is assumed, not
derived from reachability; the kubelet is cooperative (a pod that never terminates blocks the finalizer:
there is no force-delete on this path); faults during these rounds are not covered. -/
theorem delete_converges_from_quiescent_partial (j0 jo : JobObj) (s : Sys) (h : DState jo s) (hq : s.q.queue ≠ []) :
    ∃ k, 1 ≤ k ∧ k ≤ 2 ∧ Steps killEnv j0 s (roundKN k s) ∧ Gone (roundKN k s) ∧
      ∀ n, Gone (roundKN n (roundKN k s)) := by
  obtain ⟨k, hk1, hk2, hg⟩ := delete_core h hq
  exact ⟨k, hk1, hk2, roundKN_steps (fun _ _ h => h) k s s (.refl s), hg, gone_forever hg⟩

/-- **delete_converges** (from the Job's creation; the job-controller instance of C13's
`deletion_completes`).  The Job and the oracle as in `C20Live.single_task_job_converges_under_faults`.  The
Job runs ANY finite list `fss` of fair rounds under arbitrary fault lists (it may have live, finished,
unrecorded or no pods, and be finished or not); the Job on the server then carries the finalizer (`hfz`;
the controller never adds or drops it before the deletion); the user deletes the Job (`deleteAt`: the
deletion timestamp is set and delivered).  At most two rounds `roundK` later the Job object and all its
pods are gone from server and caches, nothing is in flight (`Gone`), and every further round keeps it.
The whole run is a path from the creation of the Job. -/
theorem delete_converges (orc : String → Outcome) (clock : Int) (cfg : ExecConfig) (d : PIndex)
    (j0 : JobObj) (hwf : WF j0) (hspec : SimpleSpec j0.job) (hn : 1 ≤ j0.job.maxAttempts)
    (hunf : j0.job.status.condition.finished = none) (hdash : '-' ∉ d.hash.toList) (F0 : Int)
    (hF0 : F0 ≤ secs (clock / 1000000000)) (fss : List (List String))
    (hTF : ∀ pre suf, fss = pre ++ suf → pre ≠ [] →
      (roundsF orc pre (startState clock cfg d j0)).clock < F0 + getTTLAfterFinished j0.job cfg)
    (hfz : ∀ jo, (roundsF orc fss (startState clock cfg d j0)).job = some jo → jo.finalizer = true) :
    ∃ k, 1 ≤ k ∧ k ≤ 2 ∧
      Steps deleteRunEnv j0 (startState clock cfg d j0) (roundKN k (deleteAt (roundsF orc fss (startState clock cfg d j0)))) ∧
      Gone (roundKN k (deleteAt (roundsF orc fss (startState clock cfg d j0)))) ∧
      ∀ n, Gone (roundKN n (roundKN k (deleteAt (roundsF orc fss (startState clock cfg d j0))))) := by
  obtain ⟨jo, _, hcan, _⟩ := canon_after_rounds orc clock cfg d j0 hwf hspec hn hunf hdash F0 hF0 fss hTF
  obtain ⟨hds, hq, _⟩ := delete_stage hcan (hfz jo hcan.fresh.job)
  obtain ⟨k, hk1, hk2, hg⟩ := delete_core hds hq
  exact ⟨k, hk1, hk2, roundKN_steps killEnv_in_deleteRunEnv k _ _
    (deleteAt_steps (fun _ => trivial) (fun _ => trivial) (fun _ => trivial) _ _
      (roundsF_steps fair_in_deleteRunEnv (fun _ _ => trivial) orc fss _ _ (.refl _))), hg, gone_forever hg⟩

/-! ### non-vacuity: the Job of `JobCtlInvExamples` with the finalizer, deleted while its first pod runs -/

def orcFail : String → Outcome := fun _ => .fail
def start : Sys := startState 0 {} Ex.d exJobF
/-- after the first round the pod of attempt 0 is alive and the Job carries the finalizer; the user's delete is
delivered; round 1 gives the pod its deletion timestamp and keeps the Job (with the finalizer), round 2 finds
the pod gone and removes the object; round 3 changes nothing -/
example :
    (roundsF orcFail [[]] start).pods.map (fun p => (p.pod.name, p.pod.isFinished)) = [("job-h-0", false)] ∧
    (roundsF orcFail [[]] start).job.map (·.finalizer) = some true ∧
    (roundKN 1 (deleteAt (roundsF orcFail [[]] start))).pods.map (fun p => (p.pod.name, p.pod.deletionTimestamp.isSome)) =
      [("job-h-0", true)] ∧
    (roundKN 1 (deleteAt (roundsF orcFail [[]] start))).job.map (fun j => (j.finalizer, j.job.deletionTimestamp.isSome)) =
      some (true, true) ∧
    (roundKN 2 (deleteAt (roundsF orcFail [[]] start))).pods = [] ∧
    (roundKN 2 (deleteAt (roundsF orcFail [[]] start))).job = none ∧
    (roundKN 2 (deleteAt (roundsF orcFail [[]] start))).jobCache = none ∧
    (roundKN 3 (deleteAt (roundsF orcFail [[]] start))).job = none := by
  decide +kernel

/-- the hypotheses of `delete_converges` hold for that run, hence those of
`delete_converges_from_quiescent_partial` for the state after the delete was delivered -/
example : ∃ jo, DState jo (deleteAt (roundsF orcFail [[]] start)) ∧ (deleteAt (roundsF orcFail [[]] start)).q.queue ≠ [] := by
  have hrun : (roundsF orcFail [[]] start).clock < 0 + getTTLAfterFinished exJobF.job {} ∧
      (roundsF orcFail [[]] start).job.map (·.finalizer) = some true := by decide +kernel
  have hfz : ∀ jo, (roundsF orcFail [[]] start).job = some jo → jo.finalizer = true := by
    intro jo hjo
    have h2 := hrun.2
    rw [hjo] at h2
    exact Option.some.inj h2
  obtain ⟨jo, _, hcan, _⟩ := canon_after_rounds orcFail 0 {} Ex.d exJobF ex_wfF ex_specF (by decide) (by decide) (by decide) 0
    (by decide) [[]] (fun pre suf e hne => prefix_of_singleton e hne ▸ hrun.1)
  obtain ⟨h, hq, _⟩ := delete_stage hcan (hfz jo hcan.fresh.job)
  -- `h` and `hq` speak of `startState 0 {} Ex.d exJobF`: unfold `start` first, the unifier is slow to do it
  unfold start
  exact ⟨_, h, hq⟩

end Furiko.Props.C13Live
