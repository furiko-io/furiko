/-
C11 — "A Job's start time, once set, never changes or disappears": the JobQueueController's share.

`Props/C11Hist.lean` proves `startTime_stable` for the JOB controller's transition system (which
never writes `status.startTime`).  The only controller that sets it is the job-queue controller
(`JobControl.StartJob`), so the clause is proved here for the transition system of
`Proofs/QueueEnv.lean` (`Act`, `step`, `Reachable`): the authoritative Job list, per-object watch
lag, both reconcilers with any pattern of `err`/`conflict`/`timeout` faults, resync, restart, user
edits of `startAfter`, finish, delete.

What makes it true: `StartJob` submits the CACHED copy, so a start write decided on a stale cache
carries a stale resourceVersion and is refused; (name, rv) identifies the version (`Inv.verFn`), so
a write that passes the check was decided on the authoritative, still unstarted version.  (A
`StartJob` that re-read the Job from the server and wrote `startTime = now` on that copy would
overwrite a start time that is set.)

Outside `Act` (exercised by the Go `queue` engine for the model/code tie, not part of these
theorems): `q.extstart` (an external writer sets `startTime` when it is nil — the envelope has no
external start; it never changes a set start time either), `q.phase n 0` (a finished Job becoming
unfinished), `q.jcdel`, `q.fault applied-err` (outside E-ErrNotApplied), and the mid-pass
interleaving `q.work cfg k` (`Model/QueueMid.lean`).  `q.flush`, `q.markdel`, `q.clearfaults` are
compositions / no-ops of actions in `Act`.
-/
import FurikoModel.Proofs.QueueSys

set_option linter.unusedSimpArgs false
set_option linter.unusedVariables false

namespace Furiko.Props.C11Queue
open Furiko Furiko.Queue Furiko.WQ Furiko.Queue.Scen

/-- `l'` evolved from `l` without creating or deleting a Job and without changing or clearing a
start time that was set: per name, absent stays absent, and a present Job is still present with
every set `startTime` kept -/
def Evol (l l' : List JobV) : Prop :=
  ∀ n, (findJob l n = none → findJob l' n = none) ∧
    (∀ j, findJob l n = some j →
      ∃ j', findJob l' n = some j' ∧ ∀ t, j.startTime = some t → j'.startTime = some t)

theorem Evol.refl (l : List JobV) : Evol l l :=
  fun n => ⟨id, fun j hj => ⟨j, hj, fun _ h => h⟩⟩

theorem Evol.of_eq {l l' : List JobV} (h : l' = l) : Evol l l' := by rw [h]; exact Evol.refl l

/-- replacing the Job `cur` by a version that keeps its start time (if set) -/
theorem evol_setJob {l : List JobV} {cur nj : JobV} (hcur : findJob l nj.name = some cur)
    (hk : ∀ t, cur.startTime = some t → nj.startTime = some t) : Evol l (setJob l nj) := by
  intro n
  rw [findJob_setJob]
  by_cases hn : nj.name = n
  · subst hn
    simp only [if_true]
    refine ⟨fun h => (by rw [hcur] at h; cases h), fun j hj => ?_⟩
    rw [hcur] at hj; cases hj
    exact ⟨nj, rfl, hk⟩
  · simp only [hn, if_false]
    exact ⟨id, fun j hj => ⟨j, hj, fun _ h => h⟩⟩

/-- an external or user mutation through `mutateJob` that does not touch `startTime` -/
theorem evol_mutateJob (s : Sys) (n : String) (f : JobV → JobV)
    (hf : ∀ j, (f j).name = j.name ∧ (f j).startTime = j.startTime) :
    Evol s.jobs (mutateJob s n f).jobs := by
  unfold mutateJob
  cases hfind : findJob s.jobs n with
  | none => exact Evol.refl _
  | some cur =>
    simp only
    refine evol_setJob (cur := cur) ?_ ?_
    · simp only [(hf cur).1, findJob_some_name hfind, hfind]
    · intro t ht; simp only [(hf cur).2, ht]

/-- the per-config pass from a state satisfying the invariant: a Job changes only through an
applied write, which hit the cached = authoritative, still queued (hence unstarted) version -/
theorem pass_evol {jc : JCV} {rjs : List JobV} {s : Sys} {ac : Int} {cs : List Call} {s' : Sys}
    {ok : Bool} (h : Pass jc rjs s ac cs s' ok) (hinv : Inv s) (hq : QueuedIn s jc rjs)
    (hnd : (names rjs).Nodup) : Evol s.jobs s'.jobs := by
  obtain ⟨_, _, h3, h4⟩ := h.sys hinv hq hnd
  intro n
  rcases h3 n with e | ⟨c, hc, hok, rfl⟩
  · rw [e]; exact Evol.refl _ n
  · obtain ⟨j, hj, hn, hf, a, ha, _⟩ := h4 c hc hok
    have hnone : j.startTime = none := by
      simpa [JobV.isStarted] using ((isQueued_iff j).mp (hq j hj).2.2).1
    rw [← hn, hf, ha]
    exact ⟨(fun h => nomatch h), fun j' hj' => ⟨a, rfl, fun t ht => by
      cases hj'; rw [hnone] at ht; cases ht⟩⟩

theorem workConfig_evol {s : Sys} (h : Inv s) : Evol s.jobs (workConfig s).1.jobs := by
  rcases workConfig_cases s with ⟨_, _, hj⟩ | ⟨k, q1, jc, hg, hjc⟩
  · exact Evol.of_eq hj
  · obtain ⟨s1, ok, hp, hw⟩ := workConfig_Pass hg hjc
    rw [hw]
    have hq : QueuedIn (cfgPre s q1) jc (listQueued s.jobCache jc) := queuedIn_listQueued s jc
    exact show Evol (cfgPre s q1).jobs s1.jobs from
      pass_evol hp (Inv_cfgPre h q1) hq (nodup_names_listQueued jc h.cacheNodup)

theorem workIndependent_evol {s : Sys} (h : Inv s) : Evol s.jobs (workIndependent s).1.jobs := by
  rcases h.workIndependent_step.2 with ⟨hj, _⟩ | ⟨j, _, hq, _, _, hf, hj, _⟩ <;> rw [hj]
  · exact Evol.refl _
  · have hnone : j.startTime = none := by simpa [JobV.isStarted] using ((isQueued_iff j).mp hq).1
    exact evol_setJob (cur := j) (nj := startedJob s j j) hf
      (fun t ht => by rw [hnone] at ht; cases ht)

theorem jobs_userAddJC (s : Sys) (jc : JCV) : (userAddJC s jc).jobs = s.jobs := by
  unfold userAddJC; split <;> rfl

theorem jobs_setMaxConc (s : Sys) (n : String) (m : Int) : (setMaxConc s n m).jobs = s.jobs := by
  unfold setMaxConc; split <;> rfl

theorem jobs_deliverJC (s : Sys) : (deliverJC s).jobs = s.jobs := by
  unfold deliverJC; split <;> rfl

theorem evol_editStartAfter (s : Sys) (n : String) (t : Option Int) :
    Evol s.jobs (editStartAfter s n t).jobs := by
  unfold editStartAfter
  split
  · exact Evol.refl _
  · split
    · exact evol_mutateJob s n _ (fun j => ⟨rfl, rfl⟩)
    · exact Evol.refl _

/-- one step that is neither a creation nor a deletion of a Job -/
theorem step_evol {s : Sys} (h : Inv s) (a : Act) (hadd : ∀ j, a ≠ .addJob j)
    (hdel : ∀ n, a ≠ .removeJob n) : Evol s.jobs (step s a).jobs := by
  cases a with
  | addJob j => exact absurd rfl (hadd j)
  | removeJob n => exact absurd rfl (hdel n)
  | finishJob n | markRejected n => exact evol_mutateJob s n finish (fun j => ⟨rfl, rfl⟩)
  | editStartAfter n t => exact evol_editStartAfter s n t
  | tick d | resync | fault f | restart => exact Evol.refl _
  | addJC jc => exact Evol.of_eq (jobs_userAddJC s jc)
  | setMaxConc n m => exact Evol.of_eq (jobs_setMaxConc s n m)
  | deliverJob => exact Evol.of_eq (congrArg Prod.fst (deliverJob_keep s).2)
  | deliverJC => exact Evol.of_eq (jobs_deliverJC s)
  | notifyStore => exact Evol.of_eq (congrArg Prod.fst (notifyStore_keep s).2)
  | notifyCtrl => exact Evol.of_eq (congrArg Prod.fst (notifyCtrl_keep s).2.2)
  | workConfig => exact workConfig_evol h
  | workIndependent => exact workIndependent_evol h

/-- one step, persistence form: in a reachable state, a Job named `n` whose authoritative
`status.startTime` is `some t` is, after ANY action of `Act` other than the deletion of `n`, still
there with `startTime = some t` (no `Allowed` hypothesis is needed for the step itself) -/
theorem startTime_kept_queue_step {s : Sys} (h : Reachable s) (a : Act) {n : String} {j : JobV}
    {t : Int} (hf : findJob s.jobs n = some j) (ht : j.startTime = some t)
    (hne : a ≠ .removeJob n) :
    ∃ j', findJob (step s a).jobs n = some j' ∧ j'.startTime = some t := by
  by_cases hadd : ∃ x, a = .addJob x
  · obtain ⟨x, rfl⟩ := hadd
    refine ⟨j, ?_, ht⟩
    show findJob (userAddJob s x).jobs n = some j
    unfold userAddJob
    split
    · exact hf
    · simp only [findJob, List.find?_append] at hf ⊢
      rw [hf]; rfl
  · by_cases hdel : ∃ m, a = .removeJob m
    · obtain ⟨m, rfl⟩ := hdel
      refine ⟨j, ?_, ht⟩
      show findJob (removeJob s m).jobs n = some j
      have hmn : m ≠ n := fun e => hne (by rw [e])
      unfold removeJob
      split
      · exact hf
      · simp only [findJob_delJob, hmn, if_false]; exact hf
    · have := step_evol h.inv a (fun x e => hadd ⟨x, e⟩) (fun m e => hdel ⟨m, e⟩)
      obtain ⟨j', hj', hk⟩ := (this n).2 j hf
      exact ⟨j', hj', hk t ht⟩

/-- `startTime_stable`, one step of the job-queue controller's transition system: for every
reachable state, every action `a : Act` and every authoritative Job `j` with
`status.startTime = some t`, the Job of that name after the step — if it still exists (`removeJob`
may delete it) — has `startTime = some t`.  Whatever the caches hold, whatever faults are injected. -/
theorem startTime_stable_queue_step {s : Sys} (h : Reachable s) (a : Act) {j : JobV}
    (hj : j ∈ s.jobs) {t : Int} (ht : j.startTime = some t) :
    ∀ j', findJob (step s a).jobs j.name = some j' → j'.startTime = some t := by
  intro j' hj'
  have hf : findJob s.jobs j.name = some j := findJob_of_mem_nodup h.inv.jobsNodup hj
  by_cases hdel : a = .removeJob j.name
  · subst hdel
    have hnone : findJob (removeJob s j.name).jobs j.name = none := by
      unfold removeJob
      rw [hf]
      simp only [findJob_delJob, if_true]
    rw [show (step s (.removeJob j.name)).jobs = (removeJob s j.name).jobs from rfl, hnone] at hj'
    cases hj'
  · obtain ⟨j'', hj'', hk⟩ := startTime_kept_queue_step h a hf ht hdel
    rw [hj''] at hj'; cases hj'; exact hk

/-- `startTime_stable` along action lists: from a reachable state, along every allowed
continuation that does not delete the Job, a Job started at `t` is still there and still started
at `t` -/
theorem startTime_stable_queue {s : Sys} (h : Reachable s) (acts : List Act)
    (hall : AllowedAll s acts) {n : String} {j : JobV} {t : Int}
    (hf : findJob s.jobs n = some j) (ht : j.startTime = some t)
    (hno : Act.removeJob n ∉ acts) :
    ∃ j', findJob (runActs s acts).jobs n = some j' ∧ j'.startTime = some t := by
  induction acts generalizing s j with
  | nil => exact ⟨j, hf, ht⟩
  | cons a rest ih =>
    have hne : a ≠ .removeJob n := fun e => hno (by rw [e]; exact List.mem_cons_self)
    obtain ⟨j1, hf1, ht1⟩ := startTime_kept_queue_step h a hf ht hne
    exact ih (Reachable.step s a h hall.1) hall.2 hf1 ht1
      (fun hm => hno (List.mem_cons_of_mem _ hm))

/-- … and in the "if it still exists" form over action lists: whatever Job bears the name at the
end of an allowed continuation has `startTime = some t`, unless the continuation deleted the Job
(after which the name may be given to a new Job: E-FreshName) -/
theorem startTime_stable_queue_runActs {s : Sys} (h : Reachable s) (acts : List Act)
    (hall : AllowedAll s acts) {j : JobV} (hj : j ∈ s.jobs) {t : Int} (ht : j.startTime = some t) :
    Act.removeJob j.name ∈ acts ∨
      ∀ j', findJob (runActs s acts).jobs j.name = some j' → j'.startTime = some t := by
  by_cases hno : Act.removeJob j.name ∈ acts
  · exact Or.inl hno
  · right
    intro j' hj'
    obtain ⟨j'', hj'', hk⟩ := startTime_stable_queue h acts hall
      (findJob_of_mem_nodup h.inv.jobsNodup hj) ht hno
    rw [hj''] at hj'; cases hj'; exact hk

/-- a Job that is authoritatively started is never started again: no start call for it is logged
"ok" by either worker, whatever the caches hold (the mechanism behind the stability theorem) -/
theorem started_never_restarted {s : Sys} (h : Reachable s) {n : String} {cur : JobV} {t : Int}
    (hcur : findJob s.jobs n = some cur) (ht : cur.startTime = some t) :
    ⟨"start", n, "ok"⟩ ∉ (workConfig s).1.calls ∧
    ⟨"start", n, "ok"⟩ ∉ (workIndependent s).1.calls :=
  h.not_queued_never_started hcur (by simp [JobV.isQueued, JobV.isStarted, ht])

def jcC : JCV := { name := "c", uid := "u", maxConc := 3, rv := 0 }
def flush : List Act := [.deliverJob, .notifyStore, .notifyCtrl]

/-- the owned Job `a` and the independent Job `i` are created and delivered; both workers run and
start them at 0 s; the two update events are NOT delivered; 3 s later a resync of the (stale) cache
re-queues both keys -/
def histTwice : List Act :=
  [.addJC jcC, .deliverJC, .addJob (mk "a" false 0 none)] ++ flush ++
  [.addJob (mkInd "i" false none)] ++ flush ++
  [.workConfig, .workIndependent, .tick 3000000000, .resync, .notifyCtrl, .notifyCtrl]
def sTwice : Sys := runActs {} histTwice
theorem sTwice_reachable : Reachable sTwice := reachable_runB _ (by decide +kernel)

/-- in the reachable state `sTwice` both Jobs are started at 0 s on the server while the cache still
holds the unstarted copies and both keys are ready; the second worker step of each queue is refused
with a conflict and leaves `startTime = 0 s` (at clock 3 s) -/
example : Reachable sTwice ∧ sTwice.clock = 3000000000 ∧ sTwice.jobEvs.length = 2 ∧
    (findJob sTwice.jobs "a").map (·.startTime) = some (some 0) ∧
    (findJob sTwice.jobCache "a").map (·.startTime) = some none ∧
    (findJob sTwice.jobs "i").map (·.startTime) = some (some 0) ∧
    (findJob sTwice.jobCache "i").map (·.startTime) = some none ∧
    (workConfig sTwice).1.calls = [⟨"start", "a", "conflict"⟩] ∧
    (workIndependent sTwice).1.calls = [⟨"start", "i", "conflict"⟩] ∧
    (findJob (workConfig sTwice).1.jobs "a").map (·.startTime) = some (some 0) ∧
    (findJob (workIndependent sTwice).1.jobs "i").map (·.startTime) = some (some 0) :=
  ⟨sTwice_reachable, by decide +kernel⟩

/-- the list theorem is applicable there: the continuation [second sync of both queues, delivery of
everything, third sync] is allowed and deletes nothing -/
example : allowedAllB sTwice ([.workConfig, .workIndependent] ++ flush ++ flush ++
    [.workConfig, .workIndependent]) = true := by decide +kernel

end Furiko.Props.C11Queue
