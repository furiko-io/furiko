import FurikoModel.Props.C14
import FurikoModel.Proofs.HashEncLemmas
import FurikoModel.Generated.Facts
import Batteries.Data.List.Perm
import Mathlib.Data.List.Nodup
/-!
# C14 — the identity of an index: the encoding half of `parallel.HashIndex`

`Props/C14.lean` treats `hash : Index → String` as a parameter and carries "hashes contain no `-`" as a hypothesis
that only the harness monitor `hash-format` checks.  Here the part of `HashIndex` that is furiko's own code —
decimal rendering of the uint64 structure hash, base32, the first six characters, lower-casing (`Model/HashEnc.lean`, tied by op
`idx.enc`) — is a function `hashEnc : Nat → String`, and `hash = hashEnc ∘ structHash` where only
`structHash : Index → Nat` (the library `hashstructure`) stays opaque.  For every uint64 (indeed every natural
number):

* the slice `hash[:6]` never panics and the result has exactly six characters (`hashIndex_six_chars`);
* it contains no `-` (`hashIndex_no_dash`), so task names are injective in (hash, retry) with NO side condition
  (`task_names_injective`) — "distinct indexes never share a task name" rests only on the hashes being distinct;
* for a structure hash ≥ 1000 all six characters are in `a–z2–7` (`hash_is_name_safe`: valid in Pod names and label
  values); below 1000 — and only there — the hash contains base32 padding `=` (`short_hash_has_padding`);
* the six characters read only the first four decimal digits, the fourth only up to division by four
  (`hashEnc_reads_four_digits`, `hashEnc_of_code`): there are at most 4110 different identities
  (`identity_space_bound`), whatever the structure hash is — the quantitative root cause of finding F3;
* therefore the validator (`validateParallelismSpecFixed`, the one in /repo since fix 4b8da56), which accepts a spec
  only when the hashes of its indexes are pairwise distinct, accepts no spec with more than 4110 indexes
  (`accepted_spec_at_most_4110_indexes`, `withCount_above_4110_rejected`): "admission rejects specs for which this cannot hold", for all sizes.
-/
namespace Furiko.Props.C14Hash
open Furiko.Indexes Furiko.HashEnc

/-- the tie to the source as it is now (regenerated on every run by `harness/cmd/extract/hash_facts.go`): `HashIndex`
is the library hash, then `base32.StdEncoding` of the decimal rendering, then the lower-cased first six characters —
what `Model/HashEnc.lean` models.  Another radix, encoding, slice bound or case mapping breaks this obligation. -/
theorem source_encodes_as_modelled : Furiko.Facts.hashIndexShape =
    ["hashInt := hashstructure.Hash(index, hashstructure.FormatV2, nil)",
     "hash := base32.StdEncoding.EncodeToString([]byte(strconv.FormatUint(hashInt, 10)))",
     "return strings.ToLower(hash[:6])"] := rfl

/-- `strings.ToLower(hash[:6])` is defined for every structure hash and has six characters. -/
theorem hashIndex_six_chars (u : Nat) : (hashEnc u).length = 6 := by
  simp [hashEnc, hashEncChars, b32First6_length _ (decBytes_ne_nil u)]

/-- no hash contains the separator of `GenerateTaskName`. -/
theorem hashIndex_no_dash (u : Nat) : '-' ∉ (hashEnc u).toList := by
  simp only [hashEnc, String.toList_ofList, hashEncChars]
  exact b32First6_nodash _

/-- **task_names_injective**: for the hashes `HashIndex` really produces, equal task names mean equal index hash and
equal retry number — the side conditions of `C14.generateTaskName_injective` are discharged. -/
theorem task_names_injective (name : String) (u1 u2 : Nat) (r1 r2 : Int)
    (e : generateTaskName name (hashEnc u1) r1 = generateTaskName name (hashEnc u2) r2) :
    hashEnc u1 = hashEnc u2 ∧ r1 = r2 :=
  C14.generateTaskName_injective name _ _ r1 r2 (hashIndex_no_dash u1) (hashIndex_no_dash u2) e

/-- **hash_is_name_safe**: for a structure hash of at least four decimal digits (every uint64 except 0 … 999) the six
characters all come from the lower-case base32 alphabet `a–z2–7` — they are valid in a Pod name (DNS-1123) and in a
label value, which is where `GenerateTaskName` and `NewPod` put them. -/
theorem hash_is_name_safe (u : Nat) (h : 1000 ≤ u) : ∀ c ∈ (hashEnc u).toList, c ∈ b32Alphabet := by
  simp only [hashEnc, String.toList_ofList, hashEncChars]
  exact b32First6_alphabet _ (fun b hb => by have := decBytes_range u b hb; unfold Digit at this; omega)
    (decBytes_length_ge4 u h)

/-- … and ONLY for those: a structure hash below 1000 yields base32 padding, `=`, inside the task name and the label
value (`"g4===="` for 7), which the API server refuses (the Job then ends in AdmissionError).  One index in 2^64/1000:
recorded as a precise boundary of "each index has its own identity", not as a finding. -/
theorem short_hash_has_padding (u : Nat) (h : u < 1000) : '=' ∈ (hashEnc u).toList := by
  simp only [hashEnc, String.toList_ofList, hashEncChars]
  exact b32First6_padding _ (decBytes_ne_nil u) (decBytes_length_le3 u h)

example : hashEnc 7 = "g4====" := by decide +kernel

/-- the identity reads the first four decimal digits of the structure hash only. -/
theorem hashEnc_reads_four_digits (u : Nat) : hashEncChars u = b32First6 ((decBytes u).take 4) :=
  b32First6_take4 _

/-- … and of the fourth digit only its quotient by four: `code u < 4110` determines the hash. -/
theorem hashEnc_of_code (u v : Nat) (e : code u = code v) : hashEnc u = hashEnc v :=
  Furiko.HashEnc.hashEnc_of_code u v e

/-- **identity_space_bound**: pairwise different hashes ⇒ at most 4110 of them, for any structure hashes. -/
theorem identity_space_bound (us : List Nat) (h : (us.map hashEnc).Nodup) : us.length ≤ 4110 := by
  have hc : (us.map code).Nodup := by
    have hinj := List.inj_on_of_nodup_map h
    have hus : us.Nodup := List.Nodup.of_map _ h
    exact List.Nodup.map_on (fun x hx y hy e => hinj hx hy (hashEnc_of_code x y e)) hus
  have hsub : us.map code ⊆ List.range 4110 := by
    intro c hcm
    obtain ⟨u, _, rfl⟩ := List.mem_map.1 hcm
    exact List.mem_range.2 (code_lt u)
  have := (List.subperm_of_subset hc hsub).length_le
  simpa using this

/-- **accepted_spec_at_most_4110_indexes**: whatever `hashstructure` computes (`sh`), a spec the validator accepts
expands to at most 4110 indexes. -/
theorem accepted_spec_at_most_4110_indexes (sh : Index → Nat) (spec : Spec) (hkn : KeysNodup spec.withMatrix)
    (h : validateParallelismSpecFixed (fun ix => hashEnc (sh ix)) spec = []) :
    ∃ ixs, generateIndexes (some spec) = some ixs ∧ ixs.length ≤ 4110 := by
  obtain ⟨ixs, hgen, hnd, hinj, _⟩ := C14.validation_rejects_bad_specs_fixed _ spec hkn h
  refine ⟨ixs, hgen, ?_⟩
  have h1 : (ixs.map fun ix => hashEnc (sh ix)).Nodup := List.Nodup.map_on (fun a ha b hb e => hinj a ha b hb e) hnd
  have h2 : ((ixs.map sh).map hashEnc).Nodup := by simpa [List.map_map, Function.comp_def] using h1
  simpa using identity_space_bound _ h2

/-- `withCount: n` with n > 4110 is rejected, for every n. -/
theorem withCount_above_4110_rejected (sh : Index → Nat) (sp : Spec) (n : Int) (hc : sp.withCount = some n)
    (hn : 4110 < n) (hkn : KeysNodup sp.withMatrix) :
    validateParallelismSpecFixed (fun ix => hashEnc (sh ix)) sp ≠ [] := by
  intro h
  obtain ⟨ixs, hgen, hlen⟩ := accepted_spec_at_most_4110_indexes sh sp hkn h
  have hx := C14.withCount_exact sp n hc (by omega)
  rw [hx] at hgen
  cases hgen
  simp at hlen
  omega

/-- non-vacuity: with a structure hash that spreads the indexes, a three-index spec is accepted. -/
example : validateParallelismSpecFixed (fun ix => hashEnc (1000 + (ix.num.getD 0).toNat * 4))
    { withCount := some 3, strategy := "AllSuccessful" } = [] := by
  decide +kernel

example : hashEnc 18446744073709551615 = "ge4din" := by decide +kernel
example : hashEnc 1844 = hashEnc 18479999 := by decide +kernel   -- same first three digits, fourth digits 4 and 7

end Furiko.Props.C14Hash
