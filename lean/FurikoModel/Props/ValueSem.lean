import FurikoModel.Generated.Facts
/-!
# Value semantics of the model vs. copies in the code (registered under C14 and C16)

The Lean model is purely functional: `Validation.newJobFromJobConfig`, `Indexes.newPod`, `Mutation.mutateUpdateJobConfig`
return new values and never change their arguments.  The Go functions receive objects that are SHARED — a JobConfig from
an informer cache, the pod template every task of a Job is built from — and the functional reading is faithful only
while they copy what they rewrite.  The regenerated fact `Facts.deepCopyCounts`
(`harness/cmd/extract/copies_facts.go`) counts the `.DeepCopy()` calls in those functions; the theorem demands at least
the copies the model relies on, so that removing one (seeded changes C16w4-1 and C14w4-2 did exactly that) breaks a
proof obligation, while adding one does not.  The behavioural side of the same tie: the admission engine keeps its own
record of the stored JobConfigs apart from the webhooks' cache, the shared-Job pod pass judges every container list, and
`sim.FakeInformer.Drifted` counts cached objects that were written through.
-/
namespace Furiko.Props.ValueSem

def required : List (String × Nat) :=
  [("jobconfig.NewJobFromJobConfig", 1), ("podtaskexecutor.SubstitutePodSpec", 1), ("mutation.MutateUpdateJobConfig", 1)]

/-- every function whose model relies on value semantics still makes (at least) the copies it made when the model was
written. -/
theorem source_copies_what_it_rewrites :
    ∀ p ∈ required, ∃ n, Furiko.Facts.deepCopyCounts.lookup p.1 = some n ∧ p.2 ≤ n := by decide +kernel

end Furiko.Props.ValueSem
