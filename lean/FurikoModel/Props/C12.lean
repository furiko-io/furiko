/-
C12 — pure clauses (every input): which timeout values the controller uses (job value, else
controller default, else 0) and when `GetCondition` reports Killed.  The clauses about delete
calls, timers and eventual termination are in `Props/C12Plan.lean` (one pass), `Props/C12Hist.lean`
(histories) and `Props/C12Live.lean` (liveness).
-/
import FurikoModel.Model.JobStatus
import FurikoModel.Proofs.StatusLemmas
import FurikoModel.Proofs.ConditionLemmas

namespace Furiko.Props.C12
open Furiko Furiko.StatusLemmas Furiko.ConditionLemmas

/-- Pending timeout: the job value if set and `≥ 0`; otherwise the controller default if set;
otherwise 0 (disabled).  A Job without template makes the source dereference nil (`none`). -/
theorem pending_timeout_value (rj : Job) (cfg : ExecConfig) :
    (rj.template = none → getPendingTimeout rj cfg = none) ∧
    (∀ t, rj.template = some t →
      (∀ p, t.taskPendingTimeoutSeconds = some p → 0 ≤ p → getPendingTimeout rj cfg = some (secs p)) ∧
      ((t.taskPendingTimeoutSeconds = none ∨ ∃ p, t.taskPendingTimeoutSeconds = some p ∧ p < 0) →
        (∀ c, cfg.defaultPendingTimeoutSeconds = some c → getPendingTimeout rj cfg = some (secs c)) ∧
        (cfg.defaultPendingTimeoutSeconds = none → getPendingTimeout rj cfg = some 0))) := by
  unfold getPendingTimeout
  refine ⟨fun h => by rw [h], ?_⟩
  intro t ht
  rw [ht]
  refine ⟨?_, ?_⟩
  · intro p hp h0
    simp [hp, h0]
  · rintro (hn | ⟨p, hp, hneg⟩)
    · refine ⟨fun c hc => by simp [hn, hc], fun hc => by simp [hn, hc, secs]⟩
    · have : ¬ p ≥ 0 := by omega
      refine ⟨fun c hc => by simp [hp, hc, this], fun hc => by simp [hp, hc, this, secs]⟩

/-- Force-delete timeout: the controller value if set, else 0 (never force delete). -/
theorem force_delete_timeout_value (cfg : ExecConfig) :
    (∀ c, cfg.forceDeleteTaskTimeoutSeconds = some c → getForceDeleteTimeout cfg = secs c) ∧
    (cfg.forceDeleteTaskTimeoutSeconds = none → getForceDeleteTimeout cfg = 0) := by
  unfold getForceDeleteTimeout
  exact ⟨fun c hc => by simp [hc], fun hc => by simp [hc, secs]⟩

/-- TTL after finished: the job value if set (any value), else the controller default, else 0. -/
theorem ttl_value (rj : Job) (cfg : ExecConfig) :
    (∀ v, rj.ttlSecondsAfterFinished = some v → getTTLAfterFinished rj cfg = secs v) ∧
    (rj.ttlSecondsAfterFinished = none →
      (∀ c, cfg.defaultTTLSecondsAfterFinished = some c → getTTLAfterFinished rj cfg = secs c) ∧
      (cfg.defaultTTLSecondsAfterFinished = none → getTTLAfterFinished rj cfg = 0)) := by
  unfold getTTLAfterFinished
  refine ⟨fun v hv => by simp [hv], fun hn => ⟨fun c hc => by simp [hn, hc], fun hc => by simp [hn, hc, secs]⟩⟩

/-- Killed: a started Job without admission error whose kill timestamp has passed and all of
whose indexes are terminated (every ref of every spec index is finished) has condition
`Finished` with result `Killed` — and nothing else set. -/
theorem killed_condition (now : Time) (d : PIndex) (rj : Job)
    (hadm : rj.admissionError = false) (hstarted : rj.status.startTime.isSome = true)
    (hkill : isTimeSetAndEarlierOrEqual now rj.killTimestamp = true)
    (hterm : ∀ i ∈ rj.indexes d, IndexAllFinished d rj.status.tasks i) :
    ∃ f, (getCondition now d rj).finished = some f ∧ f.result = .killed ∧
      (getCondition now d rj).queueing = none ∧ (getCondition now d rj).waiting = none ∧
      (getCondition now d rj).running = none := by
  have ht : (getParallelStatusCounters (getParallelStatus d rj rj.status.tasks).indexes).terminated ≥ ((rj.indexes d).length : Int) :=
    (terminated_ge_iff d rj rj.status.tasks).mpr hterm
  have hs : ¬ rj.status.startTime.isNone = true := by cases h : rj.status.startTime <;> simp_all
  unfold getCondition
  simp only
  rw [if_neg (by simp [hadm]), if_neg hs, if_pos hkill, if_pos ht]
  exact ⟨_, rfl, rfl, rfl, rfl, rfl⟩

/-- … and while some index still has an unfinished ref, the same Job is `Waiting` (DeletingTasks),
never finished. -/
theorem killing_waits (now : Time) (d : PIndex) (rj : Job)
    (hadm : rj.admissionError = false) (hstarted : rj.status.startTime.isSome = true)
    (hkill : isTimeSetAndEarlierOrEqual now rj.killTimestamp = true)
    (hlive : ¬ ∀ i ∈ rj.indexes d, IndexAllFinished d rj.status.tasks i) :
    (getCondition now d rj).waiting = some .deletingTasks ∧ (getCondition now d rj).finished = none := by
  have ht : ¬ (getParallelStatusCounters (getParallelStatus d rj rj.status.tasks).indexes).terminated ≥ ((rj.indexes d).length : Int) :=
    fun h => hlive ((terminated_ge_iff d rj rj.status.tasks).mp h)
  have hs : ¬ rj.status.startTime.isNone = true := by cases h : rj.status.startTime <;> simp_all
  unfold getCondition
  simp only
  rw [if_neg (by simp [hadm]), if_neg hs, if_pos hkill, if_neg ht]
  exact ⟨rfl, rfl⟩

/-- the kill timestamp counts as passed exactly when it is set and `≤ now` -/
theorem kill_passed_iff (now : Int) (k : Option Int) :
    isTimeSetAndEarlierOrEqual now k = true ↔ ∃ t, k = some t ∧ t ≤ now := by
  unfold isTimeSetAndEarlierOrEqual
  cases k with
  | none => simp
  | some t =>
    simp only [Bool.or_eq_true, decide_eq_true_eq, Option.some.injEq, exists_eq_left']
    exact Int.le_iff_lt_or_eq.symm

/-- An admission error wins over everything else, kill included (`Finished(AdmissionError)`). -/
theorem admission_error_condition (now : Time) (d : PIndex) (rj : Job) (hadm : rj.admissionError = true) :
    ∃ f, (getCondition now d rj).finished = some f ∧ f.result = .admissionError := by
  unfold getCondition
  simp only
  rw [if_pos hadm]
  exact ⟨_, rfl, rfl⟩

example : getPendingTimeout { template := some { taskPendingTimeoutSeconds := some 0 } } { defaultPendingTimeoutSeconds := some 900 } = some 0 := by decide
example : getPendingTimeout { template := some { taskPendingTimeoutSeconds := some (-1) } } { defaultPendingTimeoutSeconds := some 900 } = some (900 * 1000000000) := by decide
example : getPendingTimeout { template := some {} } {} = some 0 := by decide
example : getTTLAfterFinished { ttlSecondsAfterFinished := some 0 } { defaultTTLSecondsAfterFinished := some 3600 } = 0 := by decide

private def killedJob : Job :=
  { template := some { parallelism := some { indexes := [{ hash := "a" }, { hash := "b" }] } },
    killTimestamp := some 100,
    status := { startTime := some 1,
                tasks := [{ name := "a0", parallelIndex := some { hash := "a" }, finishTimestamp := some 90 }] } }

/-- kill timestamp equal to the clock, one index finished, the other never created ⇒ Killed -/
example : ((getCondition 100 { hash := "d" } killedJob).finished.map (·.result)) = some .killed := by decide
/-- one nanosecond earlier the kill timestamp has not passed -/
example : isTimeSetAndEarlierOrEqual 99 killedJob.killTimestamp = false := by decide
/-- with a live ref the same Job waits for the deletion -/
example : (getCondition 100 { hash := "d" }
    { killedJob with status := { killedJob.status with tasks := [{ name := "b0", parallelIndex := some { hash := "b" } }] } }).waiting
      = some .deletingTasks := by decide

end Furiko.Props.C12
