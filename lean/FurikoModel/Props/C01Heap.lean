/-
C01 (heap part) — the schedule's priority queue (`pkg/utils/heap`, model Model/Heap.lean) refines a
finite map `name ⇀ priority` (read through `Heap.search`), keeps its bookkeeping/heap-order
invariant `Heap.Inv`, and `peek`/`pop` deliver an entry of minimal priority.
These are the interface theorems of Proofs/HeapSpec.lean.
-/
import FurikoModel.Proofs.HeapSpec

namespace Furiko.Props.C01Heap
open Furiko Furiko.Heap

/-- `New(items)` (distinct names) establishes the invariant -/
theorem heap_inv_new (items : List (String × Int)) (hnd : (items.map Prod.fst).Nodup) :
    Inv (new items) := (new_spec items hnd).1

/-- `New(items)` holds exactly the items -/
theorem heap_refines_map_new (items : List (String × Int)) (hnd : (items.map Prod.fst).Nodup)
    (k : String) : search (new items) k = lookupItems items k := (new_spec items hnd).2 k

example : ([("a", 10), ("b", 5), ("c", (7 : Int))].map Prod.fst).Nodup ∧
    search (new [("a", 10), ("b", 5), ("c", 7)]) "b" = some 5 ∧
    (peek (new [("a", 10), ("b", 5), ("c", 7)])).map (fun it => (it.name, it.prio))
      = some ("b", 5) :=
  ⟨by decide +kernel, by decide +kernel, by decide +kernel⟩

/-- `Push` of a fresh name preserves the invariant -/
theorem heap_inv_push {pq : PQ} (h : Inv pq) (n : String) (p : Int)
    (hfresh : search pq n = none) : Inv (push pq n p) := (push_spec h n p hfresh).1

/-- `Push` of a fresh name adds exactly that binding -/
theorem heap_refines_map_push {pq : PQ} (h : Inv pq) (n : String) (p : Int)
    (hfresh : search pq n = none) (k : String) :
    search (push pq n p) k = if k = n then some p else search pq k := (push_spec h n p hfresh).2 k

example : Inv (new [("a", 10)]) ∧ search (new [("a", 10)]) "b" = none ∧
    search (push (new [("a", 10)]) "b" 3) "b" = some 3 :=
  ⟨(new_spec [("a", 10)] (List.pairwise_singleton _ _)).1, by decide +kernel, by decide +kernel⟩

/-- `Update` of an absent name changes nothing and reports `false` -/
theorem heap_update_miss {pq : PQ} (n : String) (p : Int) (hmiss : search pq n = none)
    (h : Inv pq) : update pq n p = (pq, false) :=
  have _ := h
  update_none n p ((search_none_iff pq n).1 hmiss)

/-- `Update` preserves the invariant -/
theorem heap_inv_update {pq : PQ} (h : Inv pq) (n : String) (p : Int) :
    Inv (update pq n p).1 := (update_spec h n p).1

/-- `Update` of a present name rebinds exactly that name -/
theorem heap_refines_map_update {pq : PQ} (h : Inv pq) (n : String) (p : Int)
    (hk : search pq n ≠ none) (k : String) :
    search (update pq n p).1 k = if k = n then some p else search pq k :=
  (update_spec h n p).2 hk k

example : Inv (new [("a", 10)]) ∧ search (new [("a", 10)]) "a" ≠ none ∧
    search (update (new [("a", 10)]) "a" 4).1 "a" = some 4 :=
  ⟨(new_spec [("a", 10)] (List.pairwise_singleton _ _)).1, by decide, by decide⟩

/-- `Delete` preserves the invariant -/
theorem heap_inv_delete {pq : PQ} (h : Inv pq) (n : String) : Inv (delete pq n).1 :=
  (delete_spec h n).1

/-- `Delete` removes exactly that name (no-op if absent) -/
theorem heap_refines_map_delete {pq : PQ} (h : Inv pq) (n : String) (k : String) :
    search (delete pq n).1 k = if k = n then none else search pq k := (delete_spec h n).2 k

/-- `Peek` is empty iff the map is empty -/
theorem heap_peek_none_iff {pq : PQ} (h : Inv pq) :
    peek pq = none ↔ ∀ k, search pq k = none := peek_none_iff h

/-- `Peek` returns a binding of the map with minimal priority -/
theorem heap_peek_min {pq : PQ} (h : Inv pq) {it : Item} (hp : peek pq = some it) :
    search pq it.name = some it.prio ∧ ∀ k p, search pq k = some p → it.prio ≤ p :=
  peek_min h hp

/-- `Pop` removes exactly the peeked (minimal) binding and preserves the invariant -/
theorem heap_pop_spec {pq : PQ} (h : Inv pq) {it : Item} (hp : peek pq = some it) :
    ∃ pq' it', pop pq = some (pq', it') ∧ it'.name = it.name ∧ it'.prio = it.prio ∧ Inv pq' ∧
      ∀ k, search pq' k = if k = it.name then none else search pq k := pop_spec h hp

example : Inv (new [("a", 10)]) ∧
    (peek (new [("a", 10)])).map (fun it => (it.name, it.prio)) = some ("a", 10) :=
  ⟨(new_spec [("a", 10)] (List.pairwise_singleton _ _)).1, by decide⟩

/-- `Pop` fails (Go: panics) exactly on the empty heap -/
theorem heap_pop_none_iff {pq : PQ} : pop pq = none ↔ peek pq = none := by
  rw [peek_none]
  unfold pop PQ.len
  split
  · exact ⟨fun _ => (by assumption), fun _ => rfl⟩
  · exact ⟨fun h => (by cases h), fun h => (by omega)⟩

end Furiko.Props.C01Heap
