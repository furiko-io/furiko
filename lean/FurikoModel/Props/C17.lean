/-
C17 — Whatever admission accepts the controllers can process; immutable fields stay so.

Property theorems over `Model/Validation.lean` (the executable model of the admission validators, of the
scheduler-side load `cronschedule.New` and of `NewJobFromJobConfig`; tied to the Go code by the `validate`
engine).  Everything is universally quantified over specs, dynamic configurations, library oracles and
(old,new) pairs.  Finite tables come from `Generated/Facts.lean` (regenerated from the Go source on every
run): the lists of `ValidateImmutableField` calls, the numeric bounds, the guard of the startPolicy check.

Named hypotheses (envelopes):
  `ParseHashIndependent P`  the cron library's verdict on a line does not depend on the hash id.
                            FALSE for cronexpr v0.1.3 (finding F-C17-1).  Since fix d9dad79 the validator
                            re-parses the schedule with the JobConfig's namespaced name
                            (`Facts.valJobConfigScheduleRecheck`), so `accepted_loadable` does not need it
                            for a JobConfig admitted with a non-empty name; it is needed for an
                            object admitted with an empty name (generateName), see
                            `accepted_not_loadable_unnamed_witness`; `f_c17_1_regression` shows the witness
                            of the finding is rejected since the fix.
  `DefaultTzValid E`        the timezone the scheduler falls back to (dynamic configuration, else "UTC")
                            parses.  Without it the clause fails (finding F-C17-2),
                            see `accepted_not_loadable_default_tz_witness`.
-/
import FurikoModel.Model.Validation
import FurikoModel.Proofs.ValidationLemmas
import FurikoModel.Proofs.IndexesLemmas

namespace Furiko.Props.C17
open Furiko Furiko.Validation Furiko.ValidationLemmas

/-- cron library contract (sampled by the monitor `parse-hash-independent`) -/
abbrev ParseHashIndependent := ValidationLemmas.ParseHashIndependent

/-- the timezone `getTimezone` falls back to when the JobConfig names none -/
def effectiveDefaultTz (cfg : CronCfg) : String := getTimezone {} cfg

abbrev DefaultTzValid (E : Env) : Prop := E.parseTz (effectiveDefaultTz E.cfg) = true

/-- an admitted JobConfig (the validating webhook answered "allowed") -/
abbrev Accepted (E : Env) (jc : JobConfig) : Prop := validateJobConfig E jc = some []

/-- the timezone half shared by both versions below -/
theorem accepted_timezone_ok (E : Env) (c : CronSchedule) (hTz : DefaultTzValid E)
    (acc : CronAccepted E c) : E.parseTz (getTimezone c E.cfg) = true := by
  by_cases hz : c.timezone = ""
  · have : getTimezone c E.cfg = effectiveDefaultTz E.cfg := by
      unfold effectiveDefaultTz getTimezone
      simp [hz]
    rw [this]; exact hTz
  · have : getTimezone c E.cfg = c.timezone := by unfold getTimezone; simp [hz]
    rw [this]; exact acc.tz hz

/-- common skeleton: an accepted JobConfig parses on the scheduler side as soon as its cron lines parse
with the scheduler's hash id -/
theorem accepted_parses_of (E : Env) (jc : JobConfig) (hTz : DefaultTzValid E) (h : Accepted E jc)
    (hexpr : ∀ s c, jc.schedule = some s → s.cron = some c → CronAccepted E c →
      newExpression E.P (newParserFromConfig E.cfg) jc.key (getExpressions c) = .ok) :
    parseCronAndTimezone E jc = .ok ∨ parseCronAndTimezone E jc = .skip := by
  obtain ⟨_, _, _, _, hs, _⟩ := validateJobConfig_some_nil E jc h
  unfold parseCronAndTimezone
  cases hsch : jc.schedule with
  | none => right; rfl
  | some s =>
    simp only
    by_cases hd : s.disabled = true
    · right; simp [hd]
    · simp only [hd]
      cases hc : s.cron with
      | none => right; rfl
      | some c =>
        left
        rw [hsch] at hs
        simp only [validateScheduleSpec, hc] at hs
        have acc := validateCronSchedule_nil E c _ hs
        simp only [Bool.false_eq_true, ↓reduceIte, hexpr s c hsch hc acc, accepted_timezone_ok E c hTz acc]

/-- Every JobConfig accepted under a non-empty name is parsed without error by
`Schedule.parseCronAndTimezone` (it is either scheduled or skipped as disabled / without cron schedule) —
WITHOUT any assumption on the cron library: the validator itself parsed the lines with the scheduler's
hash id (fix d9dad79). -/
theorem accepted_parses (E : Env) (jc : JobConfig) (hname : jc.name ≠ "")
    (hTz : DefaultTzValid E) (h : Accepted E jc) :
    parseCronAndTimezone E jc = .ok ∨ parseCronAndTimezone E jc = .skip :=
  accepted_parses_of E jc hTz h fun s c hs hc _ =>
    recheck_newExpression_ok E jc s c hs hc hname (validateJobConfig_recheck E jc (by decide) h)

/-- the version for any name (also the empty one of generateName), under the library contract -/
theorem accepted_parses_of_hash_independent (E : Env) (jc : JobConfig)
    (hP : ParseHashIndependent E.P) (hTz : DefaultTzValid E) (h : Accepted E jc) :
    parseCronAndTimezone E jc = .ok ∨ parseCronAndTimezone E jc = .skip :=
  accepted_parses_of E jc hTz h fun _ c _ _ acc => by
    apply newExpression_ok
    intro l hl
    rw [parse_hash_irrelevant E.P hP _ l jc.key Facts.valCronHashID]
    exact acc.lines l (getExpressions_subset c l hl)

/-- `accepted_loadable`: `validateJobConfig cfg jc = ok → scheduleLoad cfg [jc] ≠ error` (in fact `= ok`),
for every JobConfig admitted under a non-empty name. -/
theorem accepted_loadable (E : Env) (jc : JobConfig) (hname : jc.name ≠ "")
    (hTz : DefaultTzValid E) (h : Accepted E jc) :
    scheduleLoad E [jc] = .ok :=
  (scheduleLoad_ok_iff E [jc]).mpr (by
    intro x hx
    rw [List.mem_singleton.mp hx]
    exact accepted_parses E jc hname hTz h)

/-- … and any set of accepted, named JobConfigs loads together (`cronschedule.New` on the whole cache). -/
theorem accepted_loadable_all (E : Env) (jcs : List JobConfig)
    (hTz : DefaultTzValid E) (h : ∀ jc ∈ jcs, jc.name ≠ "" ∧ Accepted E jc) :
    scheduleLoad E jcs = .ok :=
  (scheduleLoad_ok_iff E jcs).mpr fun jc hjc => accepted_parses E jc (h jc hjc).1 hTz (h jc hjc).2

/-- … for any names (also the empty one of generateName), under `ParseHashIndependent` -/
theorem accepted_loadable_all_of_hash_independent (E : Env) (jcs : List JobConfig)
    (hP : ParseHashIndependent E.P) (hTz : DefaultTzValid E) (h : ∀ jc ∈ jcs, Accepted E jc) :
    scheduleLoad E jcs = .ok :=
  (scheduleLoad_ok_iff E jcs).mpr fun jc hjc => accepted_parses_of_hash_independent E jc hP hTz (h jc hjc)

/-- `one_bad_aborts_all`: `cronschedule.New` fails as soon as one element fails — whatever the others are
(which is why `accepted_loadable` matters: one object would wedge scheduling for everyone). -/
theorem one_bad_aborts_all (E : Env) (jcs : List JobConfig) (bad : JobConfig) (hm : bad ∈ jcs)
    (hbad : parseCronAndTimezone E bad = .error) : scheduleLoad E jcs ≠ .ok := by
  intro hok
  have := (scheduleLoad_ok_iff E jcs).mp hok bad hm
  rw [hbad] at this
  rcases this with h | h <;> cases h

/-- the same with the exact outcome, when the library does not panic -/
theorem one_bad_aborts_all_error (E : Env) (jcs : List JobConfig) (bad : JobConfig) (hm : bad ∈ jcs)
    (hbad : parseCronAndTimezone E bad = .error)
    (hnp : ∀ jc ∈ jcs, parseCronAndTimezone E jc ≠ .panic) : scheduleLoad E jcs = .error := by
  induction jcs with
  | nil => cases hm
  | cons jc rest ih =>
    unfold scheduleLoad
    rcases List.mem_cons.mp hm with rfl | hm
    · rw [hbad]
    · have hj := hnp jc (List.mem_cons_self ..)
      have hr := ih hm (fun x hx => hnp x (List.mem_cons_of_mem _ hx))
      cases hp : parseCronAndTimezone E jc <;> simp_all

/-! ### the hypotheses cannot be dropped: concrete witnesses (replayed on the real code) -/

/-- a JobConfig with one cron line and nothing else of interest -/
def wJC (ns name line tz : String) : JobConfig :=
  { ns := ns, name := name, uid := "u",
    template := { pod := some { k8sValid := true, restartAlways := false, restartEmpty := true, id := 1 } },
    concurrency := { policy := "Forbid" },
    schedule := some { cron := some { expression := line, timezone := tz } } }

/-- a library whose verdict on `0 0 H/5 * *` depends on the hash id, as cronexpr v0.1.3 does
(`H/5` in day-of-month: offset `hash mod 5`, rejected when it is 0 because days start at 1) -/
def wHashDependent : ParseFn := fun _ id line =>
  if line = "0 0 H/5 * *" then (if id = some "default/b" ∨ id = some "default/" then .err else .ok) else .ok

def wEnv (P : ParseFn) (cfg : CronCfg) (tzOk : String → Bool) : Env :=
  { cfg := cfg, P := P, parseTz := tzOk,
    hash := fun ix => match ix.num with | some n => toString n | none => ix.key }

def wE1 : Env := wEnv wHashDependent {} (fun _ => true)
def wGood1 : JobConfig := wJC "default" "a" "0 * * * *" ""
def wGood2 : JobConfig := wJC "prod" "report" "0 0 H/5 * *" ""
def wBad : JobConfig := wJC "default" "b" "0 0 H/5 * *" ""
/-- the same object as it reaches admission with `generateName: b-` (no name yet) -/
def wUnnamed : JobConfig := wJC "default" "" "0 0 H/5 * *" ""

/-- F-C17-1, regression (fixed by d9dad79): the former witness — `default/b`, which the validator's parse
with hash id "" accepts and the scheduler's parse with `default/b` refuses — is now REJECTED by the
validator, at `spec.schedule.cron`, also when its schedule is disabled; the same line under a name for
which it parses is still admitted and loads. -/
theorem f_c17_1_regression :
    validateJobConfig wE1 wBad = some [⟨"spec.schedule.cron", .invalid⟩] ∧
    validateJobConfig wE1 { wBad with schedule := wBad.schedule.map fun s => { s with disabled := true } } =
      some [⟨"spec.schedule.cron", .invalid⟩] ∧
    Accepted wE1 wGood1 ∧ Accepted wE1 wGood2 ∧ scheduleLoad wE1 [wGood1, wGood2] = .ok ∧
    scheduleLoad wE1 [wGood1, wGood2, wBad] = .error := by
  decide +kernel

/-- What remains of F-C17-1: an object admitted with an empty name (generateName).  The scheduler-style
parse is skipped for it (the final name is not known at admission), so without `ParseHashIndependent`
the clause is still false there. -/
theorem accepted_not_loadable_unnamed_witness :
    wUnnamed.name = "" ∧ Accepted wE1 wUnnamed ∧ DefaultTzValid wE1 ∧
    scheduleLoad wE1 [wUnnamed] = .error ∧ scheduleLoad wE1 [wGood1, wGood2, wUnnamed] = .error := by
  decide +kernel

def wE2 : Env :=
  wEnv (fun _ _ _ => .ok) { defaultTimezone := some "Mars/Olympus" } (fun tz => tz != "Mars/Olympus")
def wExplicit : JobConfig := wJC "default" "explicit" "0 * * * *" "Asia/Singapore"
def wImplicit : JobConfig := wJC "default" "implicit" "0 * * * *" ""

/-- F-C17-2: without `DefaultTzValid`, `accepted_loadable` is false: a JobConfig that names no timezone is
admitted whatever the dynamic configuration's `defaultTimezone` is; the scheduler then fails on it. -/
theorem accepted_not_loadable_default_tz_witness :
    ParseHashIndependent wE2.P ∧ Accepted wE2 wExplicit ∧ Accepted wE2 wImplicit ∧
    scheduleLoad wE2 [wExplicit] = .ok ∧ scheduleLoad wE2 [wExplicit, wImplicit] = .error := by
  refine ⟨fun _ _ _ _ => rfl, ?_⟩
  decide +kernel

/-- `NewJobFromJobConfig` succeeds on every accepted JobConfig (the default value of every option
evaluates: Bool formats are valid by validation), for every job type and time. -/
theorem accepted_instantiable (E : Env) (jc : JobConfig) (jobType : String) (ts : Int) (h : Accepted E jc) :
    ∃ j, newJobFromJobConfig jc jobType ts = some j ∧
      j.template = some jc.template ∧ j.type = jobType ∧ j.uidLabel = jc.uid ∧ j.startPolicy = none ∧
      j.name = generateName jc.name ts := by
  obtain ⟨_, _, _, _, _, ho⟩ := validateJobConfig_some_nil E jc h
  obtain ⟨r, hr⟩ := makeDefaultOptions_of_accepted jc.option _ ho
  unfold newJobFromJobConfig
  rw [hr]
  exact ⟨_, rfl, rfl, rfl, rfl, rfl, rfl⟩

/-- hypotheses on the dynamic Job configuration and on Kubernetes' validator under which the produced Job
is valid: the configured defaults are not negative, and defaulting an empty `restartPolicy` to `Never`
does not turn a valid pod template into an invalid one -/
structure InstEnvelope (E : Env) (k8sAfter : PodT → Bool) : Prop where
  pending : ∀ v, E.defaultPendingTimeout = some v → 0 ≤ v
  ttl : ∀ v, E.defaultTTL = some v → 0 ≤ v
  pod : ∀ p : PodT, p.k8sValid = true → k8sAfter p = true

/-- the defaulted template of an accepted template is accepted -/
theorem mutated_template_ok (E : Env) (k8sAfter : PodT → Bool) (env : InstEnvelope E k8sAfter)
    (t : JobTemplate) (h : templateOk E.hash t) : templateOk E.hash (mutateJobTemplate E k8sAfter t) := by
  obtain ⟨⟨p, hp, hk, ha⟩, h2, h3, h4, h5⟩ := h
  refine ⟨?_, ?_, ?_, ?_, ?_⟩
  · refine ⟨mutatePodTemplate k8sAfter p, by simp [mutateJobTemplate, hp], ?_, ?_⟩
    · unfold mutatePodTemplate
      split
      · exact env.pod p hk
      · exact hk
    · unfold mutatePodTemplate
      split <;> exact ha
  · intro sp hsp
    obtain ⟨sp0, hpar, rfl⟩ := Option.map_eq_some_iff.1 hsp
    have h0 := h2 sp0 hpar
    -- an accepted spec names its strategy, so defaulting leaves it as it is
    have hs : sp0.strategy ≠ "" := by
      rcases (Indexes.validateSpecWith_nil (Indexes.validateSpecWith_of_fixed_nil h0)).1 with e | e <;> simp [e]
    rw [if_neg hs]
    exact h0
  · intro v hv
    simp only [mutateJobTemplate] at hv
    split at hv
    · next v0 hpt => cases hv; exact h3 _ hpt
    · exact env.pending v hv
  · intro v hv
    cases hv
    cases hma : t.maxAttempts with
    | none => decide
    | some v0 => exact h4 v0 hma
  · intro v hv
    simp only [mutateJobTemplate] at hv
    exact h5 v hv

/-- `accepted_instantiable_partial`: the Job produced from an accepted JobConfig passes defaulting
(`MutateJob`) and then `ValidateJob`, for the two job types the controllers use, when its generated name
fits (the timestamp renders in at most 10 bytes: any time before the year 2286) and under `InstEnvelope`.

Partial with respect to the property's sentence in three ways: (1) the option-evaluation half of
`MutateCreateJob` ("given values for its required options") is C16/C18's model, not this one — the
monitor `accepted-instantiable` runs the real mutator with such values; (2) Kubernetes' validator is the
opaque bit `k8sValid`, so "defaulting keeps the pod template valid" is the hypothesis `InstEnvelope.pod`;
(3) `NewPod` is total in the model by construction (`Indexes.newPod`, C14), so "turned into task objects
without error" has no separate statement here and is judged by the monitor on the real code. -/
theorem accepted_instantiable_partial (E : Env) (k8sAfter : PodT → Bool) (env : InstEnvelope E k8sAfter)
    (jc : JobConfig) (jobType : String) (ts : Int)
    (hty : jobType = Facts.jobTypeAdhoc ∨ jobType = Facts.jobTypeScheduled)
    (hts : (toString ts).utf8ByteSize ≤ 10)
    (h : Accepted E jc) :
    ∃ j, newJobFromJobConfig jc jobType ts = some j ∧ validateJob E.hash (mutateJob E k8sAfter j) = [] := by
  obtain ⟨_, hlen, ht, _, _, ho⟩ := validateJobConfig_some_nil E jc h
  obtain ⟨r, hr⟩ := makeDefaultOptions_of_accepted jc.option _ ho
  have hmut := mutated_template_ok E k8sAfter env jc.template
    ((validateJobTemplateSpec_nil_iff E.hash jc.template _).mp ht)
  refine ⟨_, by rw [newJobFromJobConfig, hr], ?_⟩
  have hjt : (if jobType = "" then Facts.jobTypeAdhoc else jobType) = jobType := by
    rcases hty with h | h <;> simp [h, Facts.jobTypeAdhoc, Facts.jobTypeScheduled]
  simp only [validateJob, validateJobSpec, mutateJob, append_eq_nil, hjt, Option.getD_some]
  refine ⟨?_, ⟨⟨?_, rfl⟩, (validateJobTemplateSpec_nil_iff E.hash _ _).mpr hmut⟩, ?_⟩
  · -- name: |jc.name| ≤ 49, one separator, ≤ 10 digits
    unfold validateMaxLength at hlen ⊢
    have h49 : ¬ cmpOp Facts.valMaxLengthRejectOp jc.name.utf8ByteSize Facts.valJobConfigNameMaxLen = true := by
      intro hc; rw [if_pos hc] at hlen; cases hlen
    have hsz : (generateName jc.name ts).utf8ByteSize = jc.name.utf8ByteSize + 1 + (toString ts).utf8ByteSize := by
      unfold generateName
      rw [String.utf8ByteSize_append, String.utf8ByteSize_append]
      rfl
    rw [if_neg]
    rw [hsz]
    simp only [cmpOp, Facts.valMaxLengthRejectOp, Facts.valJobConfigNameMaxLen, Facts.valJobNameMaxLen] at h49 ⊢
    simp at h49 hts ⊢
    omega
  · rw [validateJobType, if_pos hty]
  · cases httl : E.defaultTTL with
    | none => rfl
    | some v => exact (validateNonnegative_nil _ _).mpr (env.ttl v httl)

/-- … and it passes `ValidateJobCreate` when the lister holds its JobConfig (same uid) and the queue of
that JobConfig is not full. -/
theorem accepted_instantiable_create (E : Env) (k8sAfter : PodT → Bool) (jc : JobConfig) (jobType : String)
    (ts : Int) (j : Job) (lister : List JCEntry) (e : JCEntry)
    (hj : newJobFromJobConfig jc jobType ts = some j)
    (hfind : lister.find? (·.name = jc.name) = some e) (huid : e.uid = jc.uid)
    (hq : ∀ max, E.maxEnqueuedJobs = some max → e.queued < max) :
    validateJobCreate E (mutateJob E k8sAfter j) lister = [] := by
  unfold newJobFromJobConfig at hj
  split at hj
  · cases hj
  · cases hj
    simp only [validateJobCreate, validateLookupJobOwner, controllerOf, mutateJob, List.find?_cons_of_pos,
      ne_eq, not_true_eq_false, ↓reduceIte, hfind, huid, validateJobCreateWithJobConfig, List.nil_append]
    cases hm : E.maxEnqueuedJobs with
    | none => rfl
    | some max =>
      have := hq max hm
      simp only
      rw [if_neg (by omega)]

/-- `immutable_fields`: an accepted update changes none of: task template, parallelism, maxAttempts,
retry delay, type, option values, substitutions, configName, the JobConfig uid label; nor the start policy
if the (new) object is started; nor the kill timestamp if the old one lies strictly before the clock.
(The lists of immutable fields and the guard object are read from the Go source through `Facts`.) -/
theorem immutable_fields (now : Int) (old new : Job) (h : validateJobUpdate now old new = some []) :
    (∃ ot nt, old.template = some ot ∧ new.template = some nt ∧
        ot.pod = nt.pod ∧ ot.parallelism = nt.parallelism ∧ ot.maxAttempts = nt.maxAttempts ∧
        ot.retryDelay = nt.retryDelay) ∧
    old.type = new.type ∧ old.optionValues = new.optionValues ∧ old.substitutions = new.substitutions ∧
    old.configName = new.configName ∧ old.uidLabel = new.uidLabel ∧
    (new.started = true → old.startPolicy = new.startPolicy) ∧
    (∀ k, old.killTimestamp = some k → k * 1000000000 < now → new.killTimestamp = some k) := by
  unfold validateJobUpdate validateJobSpecUpdate at h
  cases hot : old.template <;> cases hnt : new.template <;>
    simp only [hot, hnt, Option.some.injEq, append_eq_nil, reduceCtorEq] at h
  rename_i ot nt
  obtain ⟨⟨hmeta, ⟨hspec, htpl⟩, hkill⟩, hsp⟩ := h
  have hS := fun fp hfp => immutable_of_nil specFieldEq _ old new "spec" (fp := fp) hfp hspec
  have hT := fun fp hfp => immutable_of_nil templateFieldEq _ ot nt _ (fp := fp) hfp htpl
  refine ⟨⟨ot, nt, rfl, rfl, ?_, ?_, ?_, ?_⟩, ?_, ?_, ?_, ?_, ?_, ?_, ?_⟩
  · simpa [templateFieldEq] using hT ("TaskTemplate", "taskTemplate") (by decide)
  · simpa [templateFieldEq] using hT ("Parallelism", "parallelism") (by decide)
  · simpa [templateFieldEq] using hT ("MaxAttempts", "maxAttempts") (by decide)
  · simpa [templateFieldEq] using hT ("RetryDelaySeconds", "retryDelaySeconds") (by decide)
  · simpa [specFieldEq] using hS ("Type", "type") (by decide)
  · simpa [specFieldEq] using hS ("OptionValues", "optionValues") (by decide)
  · simpa [specFieldEq] using hS ("Substitutions", "substitutions") (by decide)
  · simpa [specFieldEq] using hS ("ConfigName", "configName") (by decide)
  · unfold validateJobMetadataUpdate at hmeta
    split at hmeta
    · rename_i heq; exact heq.symm
    · cases hmeta
  · intro hstarted
    simp only [startGuard, Facts.valStartPolicyGuardObject] at hsp
    simp [hstarted] at hsp
    exact hsp.symm
  · intro k hk hlt
    simp only [validateKillTimestampUpdate, hk] at hkill
    split at hkill
    · cases hkill
    · next hn => exact Decidable.byContradiction fun hx => hn ⟨hlt, fun hc => hx hc.symm⟩

/-- the same for the whole Job validating webhook on UPDATE (`ValidateJob` + `ValidateJobUpdate`) -/
theorem immutable_fields_webhook (E : Env) (old new : Job) (h : webhookJobUpdate E old new = some []) :
    validateJobUpdate E.now old new = some [] := by
  unfold webhookJobUpdate at h
  cases hu : validateJobUpdate E.now old new <;>
    simp only [hu, Option.some.injEq, append_eq_nil, reduceCtorEq] at h
  rw [h.2]

/-- start policy under the API server's status-subresource semantics (a spec update carries the stored
status, so `new.started = old.started`): immutable once the stored Job is started. -/
theorem startPolicy_immutable_once_started (now : Int) (old new : Job)
    (h : validateJobUpdate now old new = some []) (hapi : new.started = old.started)
    (hstarted : old.started = true) : old.startPolicy = new.startPolicy :=
  (immutable_fields now old new h).2.2.2.2.2.2.1 (hapi.trans hstarted)

/-- The guard of the startPolicy check reads the NEW object's start time: a bare request whose new object
drops `status.startTime` changes the start policy of a started Job and is accepted.  (Not reachable
through an API server with the status subresource enabled, as furiko's CRDs have; corpus scenario
`startpolicy-guard-reads-new-status`.) -/
theorem startPolicy_guard_reads_new_status :
    ∃ (now : Int) (old new : Job), old.started = true ∧ new.started = false ∧
      old.startPolicy ≠ new.startPolicy ∧ validateJobUpdate now old new = some [] :=
  ⟨0, { template := some {}, started := true, startPolicy := some { policy := "Enqueue" } },
      { template := some {}, started := false, startPolicy := some { policy := "Allow" } }, by decide +kernel⟩

/-- Boundary: a kill timestamp EQUAL to the clock has not "passed" for the validator (`Before` is strict)
and can still be moved or removed — while the job controller already acts on it
(`IsTimeSetAndEarlierOrEqual`).  Corpus scenario `kill-timestamp-boundary`. -/
theorem killTimestamp_equal_now_is_mutable :
    ∃ (now : Int) (old new : Job), old.killTimestamp = some 5 ∧ 5 * 1000000000 = now ∧
      new.killTimestamp = none ∧ validateJobUpdate now old new = some [] :=
  ⟨5000000000, { template := some {}, killTimestamp := some 5 }, { template := some {} }, by decide +kernel⟩

/-- … and one nanosecond later it is locked -/
theorem killTimestamp_locked_after (old new : Job) (k : Int) (now : Int)
    (hk : old.killTimestamp = some k) (hlt : k * 1000000000 < now) (hne : new.killTimestamp ≠ some k) :
    validateJobUpdate now old new ≠ some [] := by
  intro h
  exact hne ((immutable_fields now old new h).2.2.2.2.2.2.2 k hk hlt)

/-! ## facts the statements above rest on (re-proved against today's source on every run) -/

/-- the validator parses with the empty hash id -/
theorem fact_validator_hash_id : Facts.valCronHashID = "" := rfl

/-- … and, when nothing else was rejected, once more the way the scheduler will (fix d9dad79): the call is
there, skipped exactly as modelled, and uses the scheduler's hash id -/
theorem fact_schedule_recheck :
    Facts.valJobConfigScheduleRecheck = true ∧
    Facts.valScheduleRecheckSkipGuard = "schedule == nil || schedule.Cron == nil || rjc.Name == \"\"" ∧
    Facts.valScheduleRecheckHashID = "cache.MetaNamespaceKeyFunc(rjc)" := ⟨rfl, rfl, rfl⟩

/-- every field the property lists is declared immutable in the source -/
theorem fact_immutable_lists :
    (Facts.valJobSpecImmutable.map (·.1)) = ["ConfigName", "Type", "OptionValues", "Substitutions"] ∧
    (Facts.valJobTemplateImmutable.map (·.1)) = ["TaskTemplate", "Parallelism", "MaxAttempts", "RetryDelaySeconds"] ∧
    Facts.valJobSpecUpdateDelegates.map (·.1) = ["ValidateJobTemplateSpecImmutable", "ValidateKillTimestampUpdate"] :=
  ⟨rfl, rfl, rfl⟩

/-- the condition of `ValidateKillTimestampUpdate`, as modelled -/
theorem fact_kill_guard :
    Facts.valKillTimestampGuard = "!oldTimestamp.IsZero() && oldTimestamp.Before(&now) && !oldTimestamp.Equal(timestamp)" :=
  rfl

/-- the early return of `parseCronAndTimezone`, as modelled -/
theorem fact_sched_skip_guard :
    Facts.schedSkipGuard = "schedule == nil || schedule.Disabled || schedule.Cron == nil" := rfl

/-- maxAttempts: accepted exactly for 1 ≤ n ≤ 50 (the bounds of the source) -/
theorem maxAttempts_bounds (n : Int) (p : String) : validateMaxRetryAttempts n p = [] ↔ 1 ≤ n ∧ n ≤ 50 := by
  unfold validateMaxRetryAttempts boundChecks
  simp only [Facts.valMaxAttemptsChecks, List.filterMap_cons, List.filterMap_nil, boundRejects,
    Facts.valBoundRejectOp, List.lookup, cmpOp]
  simp
  by_cases h1 : n ≤ 0 <;> by_cases h2 : 50 < n <;> simp [h1, h2] <;> omega

/-! ## non-vacuity: the hypotheses of every theorem are satisfiable by concrete instances -/

def exEnv : Env := wEnv (fun _ _ _ => .ok) {} (fun _ => true)

def exJC : JobConfig :=
  { wJC "default" "hourly" "0 * * * *" "Asia/Singapore" with
    option := some [{ type := .bool, name := "flag".toList, bool := some { format := "TrueFalse".toList } },
                    { type := .string, name := "who".toList, required := true }],
    template := { pod := some { k8sValid := true, restartAlways := false, restartEmpty := true, id := 1 },
                  parallelism := some { withCount := some 3, strategy := "AllSuccessful" },
                  maxAttempts := some 50, retryDelay := some 0 } }

/-- evaluated once; several instances below start from it -/
theorem exJC_accepted : Accepted exEnv exJC := by decide +kernel

example : ParseHashIndependent exEnv.P ∧ DefaultTzValid exEnv ∧ Accepted exEnv exJC :=
  ⟨fun _ _ _ _ => rfl, by decide +kernel, exJC_accepted⟩

/-- accepted_parses / accepted_loadable / accepted_loadable_all — with a library whose verdicts DO depend
on the hash id (`wHashDependent`): no contract on the library is needed for named JobConfigs -/
example : scheduleLoad wE1 [exJC, wGood2] = .ok :=
  accepted_loadable_all wE1 _ (by decide +kernel) (by
    intro jc hjc
    simp only [List.mem_cons, List.not_mem_nil, or_false] at hjc
    rcases hjc with rfl | rfl <;> exact ⟨by decide +kernel, by decide +kernel⟩)

/-- accepted_parses_of_hash_independent / accepted_loadable_all_of_hash_independent: an unnamed object -/
example : scheduleLoad exEnv [wUnnamed, exJC] = .ok :=
  accepted_loadable_all_of_hash_independent exEnv _ (fun _ _ _ _ => rfl) (by decide +kernel) (by
    intro jc hjc
    simp only [List.mem_cons, List.not_mem_nil, or_false] at hjc
    rcases hjc with rfl | rfl
    · decide +kernel
    · exact exJC_accepted)

/-- one_bad_aborts_all: an element on which the scheduler's parse fails -/
example : let E := wEnv wHashDependent {} (fun _ => true)
    parseCronAndTimezone E (wJC "default" "b" "0 0 H/5 * *" "") = .error ∧
    scheduleLoad E [exJC, wJC "default" "b" "0 0 H/5 * *" ""] ≠ .ok :=
  ⟨by decide +kernel, one_bad_aborts_all _ _ (wJC "default" "b" "0 0 H/5 * *" "") (by simp) (by decide +kernel)⟩

/-- accepted_instantiable(_partial/_create): concrete envelope and JobConfig -/
example : InstEnvelope { exEnv with defaultPendingTimeout := some 900, defaultTTL := some 3600 } (fun _ => true) :=
  ⟨(by intro v h; cases h; decide), (by intro v h; cases h; decide), fun _ _ => rfl⟩

example : ∃ j, newJobFromJobConfig exJC "Scheduled" 1715000000 = some j ∧
    validateJob exEnv.hash (mutateJob exEnv (fun _ => true) j) = [] :=
  accepted_instantiable_partial exEnv (fun _ => true)
    ⟨(by intro v h; cases h), (by intro v h; cases h), fun _ _ => rfl⟩ exJC "Scheduled" 1715000000
    (Or.inr rfl) (by decide +kernel) exJC_accepted

example : ∃ j, newJobFromJobConfig exJC "Adhoc" 0 = some j ∧
    validateJobCreate exEnv (mutateJob exEnv (fun _ => true) j) [{ name := "hourly", uid := "u", queued := 3 }] = [] := by
  obtain ⟨j, hj, _⟩ := accepted_instantiable exEnv exJC "Adhoc" 0 exJC_accepted
  exact ⟨j, hj, accepted_instantiable_create exEnv _ exJC "Adhoc" 0 j _ { name := "hourly", uid := "u", queued := 3 }
    hj (by decide +kernel) rfl (by intro max h; cases h)⟩

/-- immutable_fields: an accepted update that does change something (a mutable field and the clock-guarded
kill timestamp in the future) -/
example : validateJobUpdate 1000 { template := some { maxAttempts := some 2 }, killTimestamp := some 7, started := true }
    { template := some { maxAttempts := some 2, pendingTimeout := some 5 }, killTimestamp := some 9, ttl := some 1,
      started := true } = some [] := by decide +kernel

/-- … and a rejected one for every class of rule -/
example : validateJobUpdate 8000000000 { template := some { maxAttempts := some 2 }, killTimestamp := some 7, type := "Adhoc" }
    { template := some { maxAttempts := some 3 }, killTimestamp := some 9, type := "Scheduled", uidLabel := "x" } =
    some [⟨"metadata.labels[execution.furiko.io/job-config-uid]", .invalid⟩, ⟨"spec.type", .invalid⟩,
          ⟨"spec.template.maxAttempts", .invalid⟩, ⟨"spec.killTimestamp", .invalid⟩] := by decide +kernel

end Furiko.Props.C17
