/-
C05  "A Job whose start policy is Forbid or Enqueue is never started at a moment when its JobConfig
already has maxConcurrency Jobs that are started and not finished. This holds across lagging
caches, failed or conflicting API writes, Job deletions and controller restarts."

Model: `Model/Queue.lean`.  Envelope, reachability and the invariant: `Proofs/QueueEnv.lean`
(`Act`, `step`, `Allowed`, `Reachable`, `Inv`).  `Reachable` starts from ANY state whose API part is
sane (`ApiOK`) by a `restart`, in particular from the empty system (`reachable_init`), and is closed
under the allowed actions.
-/
import FurikoModel.Proofs.QueueReach

namespace Furiko.Props.C05
open Furiko.Queue Furiko.WQ

def jcC : JCV := { name := "c", uid := "u", maxConc := 1, rv := 0 }

/-- a Job of JobConfig `c` (`owned`), with/without the uid label, policy `pol`, `startAfter` -/
def mkJob (n : String) (owned label : Bool) (pol : Nat) (sa : Option Int) : JobV :=
  { name := n, label := if label then some "u" else none, ownerName := if owned then some "c" else none, ownerUid := if owned then some "u" else none, created := 0, hasPolicy := true, policy := pol, startAfter := sa, startTime := none, terminal := false, admErr := false, rv := 0 }

/-- deliver one watch event and run both handlers -/
def flush : List Act := [.deliverJob, .notifyStore, .notifyCtrl]

/-- JobConfig `c` (limit 1) and a Forbid Job `a`, everything delivered, `a` not yet started -/
def hist1 : List Act := [.addJC jcC, .deliverJC, .addJob (mkJob "a" true true 1 none)] ++ flush
def sQueued : Sys := runActs {} hist1
/-- … after the pass that starts `a`: the start event is still undelivered -/
def sStarted : Sys := runActs {} (hist1 ++ [.workConfig])
/-- … after the start event went through the whole pipeline -/
def sQuiet : Sys := runActs {} (hist1 ++ [.workConfig] ++ flush)

theorem sQueued_reachable : Reachable sQueued := reachable_runB _ (by decide +kernel)
theorem sStarted_reachable : Reachable sStarted := reachable_runB _ (by decide +kernel)
theorem sQuiet_reachable : Reachable sQuiet := reachable_runB _ (by decide +kernel)

/-- `startJob`: success ⇒ the counter was `oldCount` and is `oldCount + 1`; failure ⇒ every counter
is unchanged overall; CAS failure ⇒ the state is untouched (no API call); other keys are never
touched. -/
theorem startJob_counter (s : Sys) (jc : JCV) (j : JobV) (old : Int) :
    ((startJob s jc j old).2 = true →
        getCtr s.counter jc.uid = old ∧ getCtr (startJob s jc j old).1.counter jc.uid = old + 1) ∧
    ((startJob s jc j old).2 = false →
        ∀ k, getCtr (startJob s jc j old).1.counter k = getCtr s.counter k) ∧
    (getCtr s.counter jc.uid ≠ old → startJob s jc j old = (s, false)) ∧
    (∀ k, k ≠ jc.uid → getCtr (startJob s jc j old).1.counter k = getCtr s.counter k) := by
  rcases startJob_cases s jc j old with ⟨hne, heq⟩ | ⟨hcas, res, _, _, heq⟩ |
      ⟨hcas, cur, _, _, _, ⟨_, heq⟩ | ⟨_, heq⟩⟩
  all_goals rw [heq]
  · simp [hne]
  · refine ⟨by simp, fun _ k => ?_, fun h => absurd hcas h, fun k _ => ?_⟩ <;>
      simp [failWrite, getCtr_rollback hcas]
  · refine ⟨fun _ => ⟨hcas, ?_⟩, by simp, fun h => absurd hcas h, fun k hk => ?_⟩
    · simp [applyWrite, getCtr_setCtr]
    · simp [applyWrite, getCtr_setCtr, Ne.symm hk]
  · refine ⟨by simp, fun _ k => ?_, fun h => absurd hcas h, fun k _ => ?_⟩ <;>
      simp [applyWrite, getCtr_rollback hcas]

example : (startJob sQueued jcC (mkJob "a" true true 1 none) 0).2 = false := by decide  -- stale rv
example : (startJob sQueued jcC { mkJob "a" true true 1 none with rv := 2 } 0).2 = true := by decide
example : (startJob sQueued jcC { mkJob "a" true true 1 none with rv := 2 } 5).1.calls = [] := by
  decide  -- CAS failure: no API call

/-- `Store.OnUpdate` / `OnDelete` / add change the counter of `old.label` by exactly `noteDelta`
(`store_delta_spec`: −1 active→inactive, 0 unstarted→started, +1 any other inactive→active, 0
otherwise; −1 for deleting an active Job) and touch no other key. -/
theorem store_delta (c : List (String × Int)) (n : Note) (k : String) :
    getCtr (storeNotify c n) k = getCtr c k + noteDelta n k :=
  Furiko.Queue.store_delta c n k

theorem store_delta_spec (old new : JobV) :
    updDelta old new =
      if old.isActive = true ∧ new.isActive = false then -1
      else if old.isStarted = false ∧ new.isStarted = true then 0
      else if old.isActive = false ∧ new.isActive = true then 1
      else 0 := by
  unfold updDelta JobV.isActive
  cases old.isStarted <;> cases new.isStarted <;> cases old.terminal <;> cases new.terminal <;> simp

theorem store_delta_other (c : List (String × Int)) (n : Note) (k : String)
    (h : match n with
      | .add _ => True | .update o _ => o.label ≠ some k | .delete j => j.label ≠ some k) :
    getCtr (storeNotify c n) k = getCtr c k := by
  rw [store_delta]
  cases n <;> simp_all [noteDelta]

example : getCtr (storeNotify [("u", 1)] (.update (mkJob "a" true true 1 none) (mkJob "b" true true 1 none))) "v"
    = getCtr [("u", 1)] "v" := store_delta_other _ _ _ (by decide)

/-- `Store.Recover` counts exactly the active labelled Jobs -/
theorem recover_counts (jobs : List JobV) (uid : String) :
    getCtr (storeRecover jobs) uid = (jobs.filter (fun j => j.label = some uid && j.isActive)).length :=
  Furiko.Queue.recover_counts jobs uid

/-- every reachable state satisfies the invariant `Inv` (pipeline consistency, counter equation
`counter + Σ pending deltas = trueActive`, pending deltas never positive, (name, rv) identifies a
version, per name the spec but for `startAfter` is fixed, independent-queue keys name unlabelled
Jobs, faults in the envelope) -/
theorem reachable_inv {s : Sys} (h : Reachable s) : Inv s := h.inv

/-- the counter never undercounts: key safety fact -/
theorem counter_upper {s : Sys} (h : Reachable s) (uid : String) :
    (trueActive s uid : Int) ≤ getCtr s.counter uid := h.counter_upper uid

example : Reachable sStarted ∧ sStarted.jobEvs.length = 1 ∧ trueActive sStarted "u" = 1 ∧
    getCtr sStarted.counter "u" = 1 := ⟨sStarted_reachable, by decide +kernel⟩

/-- erasure: the instrumented pass is the pass -/
theorem obs_erasure (s : Sys) : (workConfigObs s).1 = workConfig s := workConfigObs_fst s

theorem obs_erasure_loop (jc : JCV) (rjs : List JobV) (s : Sys) (ac : Int) :
    (passLoopObs jc rjs s ac).1 = passLoop jc rjs s ac := passLoopObs_fst jc rjs s ac

/-- In every reachable state, every start write applied by a per-config pass for a Job with policy
Forbid (1) or Enqueue (2) happens when the number of started-and-unfinished Jobs with the
JobConfig's uid label, in the authoritative state just before the write, is below `maxConc`. -/
theorem never_over_limit {s : Sys} (h : Reachable s) :
    ∀ o ∈ (workConfigObs s).2, o.job.hasPolicy = true → (o.job.policy = 1 ∨ o.job.policy = 2) →
      (o.activeBefore : Int) + 1 ≤ o.maxConc := h.never_over_limit

/-- the started Job carries the label whose counter was used -/
theorem obs_label {s : Sys} (h : Reachable s) :
    ∀ o ∈ (workConfigObs s).2, o.job.label = some o.uid :=
  fun o ho => ((workConfigObs_inv s h.inv).2 o ho).1

example : Reachable sQueued ∧
    (workConfigObs sQueued).2.map (fun o => (o.job.name, o.job.policy, o.activeBefore, o.maxConc))
      = [("a", 1, 0, 1)] := ⟨sQueued_reachable, by decide +kernel⟩

/-- the other start path: in a reachable state the independent reconciler only starts Jobs without
the uid label, so it never changes the number of active Jobs of any JobConfig -/
theorem independent_never_counts {s : Sys} (h : Reachable s) (uid : String) :
    trueActive (workIndependent s).1 uid = trueActive s uid := by
  simp only [trueActive_eq]
  rcases h.inv.workIndependent_step.2 with ⟨hj, _⟩ | ⟨j, _, _, _, hlab, hf, hj, _⟩ <;> rw [hj]
  have := actCount_setJob (j := startedJob s j j) uid h.inv.jobsNodup hf
  simpa [actInd, startedJob, startF, hlab] using this

/-- an independent Job `y` is delivered and started by the independent reconciler -/
def histInd : List Act := hist1 ++ [.addJob (mkJob "y" false false 0 none)] ++ flush

example : Reachable (runActs {} histInd) ∧
    (workIndependent (runActs {} histInd)).1.calls.map (fun c => (c.verb, c.job, c.res))
      = [("start", "y", "ok")] := ⟨reachable_runB _ (by decide +kernel), by decide +kernel⟩

theorem quiescent_exact {s : Sys} (h : Reachable s) (hev : s.jobEvs = []) (hsq : s.storeQ = [])
    (uid : String) : getCtr s.counter uid = trueActive s uid := h.quiescent_exact hev hsq uid

example : Reachable sQuiet ∧ sQuiet.jobEvs = [] ∧ sQuiet.storeQ = [] ∧ trueActive sQuiet "u" = 1 :=
  ⟨sQuiet_reachable, by decide +kernel⟩

/-- from ANY state (even a corrupted one) the recount after `restart` is exact -/
theorem restart_recounts (s : Sys) (uid : String) :
    getCtr (restart s).counter uid = trueActive s uid ∧
    trueActive (restart s) uid = trueActive s uid := Furiko.Queue.restart_recounts s uid

/-- from ANY state whose API part is sane (unique names, rv bounded, well-formed Jobs; caches,
queues, counter arbitrarily corrupted) `restart` re-establishes the invariant; the result is a
reachable state -/
theorem restart_reestablishes {s : Sys} (h : ApiOK s) : Inv (restart s) ∧ Reachable (restart s) :=
  Furiko.Queue.restart_reestablishes h

/-- a corrupted state: counter garbage, stale cache, junk notifications -/
def sCorrupt : Sys :=
  { sQuiet with counter := [("u", -7), ("zz", 3)], jobCache := [], storeQ := [.delete (mkJob "q" true true 1 none)] }

example : getCtr sCorrupt.counter "u" = -7 ∧ getCtr (restart sCorrupt).counter "u" = 1 := by decide +kernel
example : ApiOK sCorrupt := by
  -- the API part of `sCorrupt` is that of the reachable `sQuiet`, without evaluating it
  have h : ApiOK sQuiet := sQuiet_reachable.inv.apiOK
  unfold sCorrupt
  dsimp only [ApiOK] at h ⊢
  exact h

/-- E-OwnerLabel violated: Job `x` carries the uid label but has no owner reference, so the
independent reconciler starts it without the compare-and-swap.  After everything is delivered the
counter says 0 while one Job is active; the Forbid Job `b` is then started over the limit. -/
def histLabel : List Act :=
  [.addJC jcC, .deliverJC, .addJob (mkJob "x" false true 1 none)] ++ flush ++ [.workIndependent] ++ flush ++
  [.addJob (mkJob "b" true true 1 none)] ++ flush

theorem undercount_witness_label :
    let s := runActs {} histLabel
    allowedAllB {} histLabel = false ∧                      -- outside the envelope
    s.jobEvs = [] ∧ s.storeQ = [] ∧                         -- quiescent
    getCtr s.counter "u" = 0 ∧ trueActive s "u" = 1 ∧        -- undercount
    (workConfigObs s).2.map (fun o => (o.job.name, o.job.policy, o.activeBefore, o.maxConc))
      = [("b", 1, 1, 1)] ∧                                  -- Forbid Job started with 1 active, limit 1
    trueActive (workConfig s).1 "u" = 2 := by decide +kernel

/-- E-ErrNotApplied violated: the start write of `a` is applied but reported as failed; the
rollback makes the counter 0 while `a` is active; the Forbid Job `b` is then started over the
limit. -/
def histApplied : List Act :=
  [.addJC jcC, .deliverJC, .addJob (mkJob "a" true true 1 none)] ++ flush ++ [.fault "applied-err", .workConfig] ++ flush ++
  [.addJob (mkJob "b" true true 1 none)] ++ flush

theorem undercount_witness_applied_error :
    let s := runActs {} histApplied
    allowedAllB {} histApplied = false ∧
    s.jobEvs = [] ∧ s.storeQ = [] ∧
    getCtr s.counter "u" = 0 ∧ trueActive s "u" = 1 ∧
    (workConfigObs s).2.map (fun o => (o.job.name, o.job.policy, o.activeBefore, o.maxConc))
      = [("b", 1, 1, 1)] ∧
    trueActive (workConfig s).1 "u" = 2 := by decide +kernel

/-- E-FreshName violated: the independent Job `x` (startAfter = 1000 s) leaves a delayed key in the
independent queue; `x` is deleted and an Enqueue Job of JobConfig `c` is created under the same
name while `c` is at its limit.  When the timer fires the independent reconciler starts the new
`x` without consulting the counter: 2 active Jobs, limit 1. -/
def histReuse : List Act :=
  [.addJC jcC, .deliverJC, .addJob (mkJob "a" true true 2 none)] ++ flush ++ [.workConfig] ++ flush ++
  [.addJob (mkJob "x" false false 0 (some 1000))] ++ flush ++ [.workIndependent, .removeJob "x"] ++ flush ++
  [.workIndependent, .addJob (mkJob "x" true true 2 none)] ++ flush ++
  [.workConfig, .tick 1000000000000, .workIndependent]

theorem undercount_witness_name_reuse :
    let s := runActs {} histReuse
    allowedAllB {} histReuse = false ∧
    allowedAllB {} (histReuse.take 20) = true ∧             -- everything before the re-creation is allowed
    freshNameB (runActs {} (histReuse.take 20)) "x" = false ∧
    s.calls.map (fun c => (c.verb, c.job, c.res)) = [("start", "x", "ok")] ∧
    getCtr s.counter "u" = 1 ∧ trueActive s "u" = 2 := by decide +kernel

/-! ### (g) known findings F26, F27, F28 (and F35): the witnesses that delimit the enveloped theorems

`never_over_limit`, `counter_upper` and `quiescent_exact` above are theorems about `Reachable`, whose
actions (`Proofs/QueueEnv.Act`, `Allowed`) fix three assumptions about the environment that C05's
text does not grant ("all restart points (the active count is rebuilt from the API); all patterns
of failed/conflicting start writes"):

* E-ErrNotApplied     `Allowed (.fault f) = okFault f`: a write reported as failed was not applied;
* E-FreshInitialList  `Act.restart` sets the caches to the server's CURRENT state;
* E-QuiescentRecover  `Act.restart` recounts atomically: nothing reaches the cache between the
                      registration of the store's handler and the lister read of `Store.Recover`.

Each witness below is the shortest history outside exactly one of them, evaluated on the executable
model by `decide`; the harness replays the same history on the real `Store`, `PerConfigReconciler`
and `JobControl` (corpus scenarios `f26-start-write-applied-but-reported-failed`,
`f27-recover-window-double-decrement`, `f28-stale-initial-list-undercounts` of the `queue` engine,
model and code agreeing line by line) and the monitor `never-over-limit` fires there.  They are
recorded in KNOWN_FINDINGS.jsonl; none is repaired (reasons there and in DESIGN.md §6 C05). -/

/-- an Enqueue Job of JobConfig `c` -/
def enq (n : String) : JobV := mkJob n true true 2 none

/-- JobConfig `c` (limit 1) and the Enqueue Job `j01`, everything delivered, `j01` queued -/
def histE : List Act := [.addJC jcC, .deliverJC, .addJob (enq "j01")] ++ flush

/-- F26: the start write of `j01` is applied but reported as failed (rollback); the start event
goes through the pipeline (the store does not count unstarted → started); `j02` is created and
delivered.  (The harness scenario also runs the rate-limited retry between the failed pass and the
delivery; its body is `syncConfig s1 "c"` below: Conflict on the cached copy, rolled back again.) -/
def histF26 : List Act :=
  histE ++ [.fault "applied-err", .workConfig] ++ flush ++ [.addJob (enq "j02")] ++ flush

/-- F26 (outside E-ErrNotApplied): the start write of `j01` is applied but reported as failed; the
rollback and the retry's Conflict leave the counter at 0 while `j01` is active, the informer's
unstarted → started is not counted, and the Enqueue Job `j02` is started with 1 active Job and
limit 1. -/
theorem f26_applied_but_reported_failed_witness :
    let s1 := runActs {} (histE ++ [.fault "applied-err", .workConfig])
    let s := runActs {} histF26
    allowedAllB {} histE = true ∧                            -- inside the envelope up to the fault
    allowedAllB {} histF26 = false ∧                         -- E-ErrNotApplied is the assumption left
    -- the write was applied, the pass failed, the reservation was rolled back
    s1.calls.map (fun c => (c.verb, c.job, c.res)) = [("start", "j01", "ok")] ∧
    trueActive s1 "u" = 1 ∧ getCtr s1.counter "u" = 0 ∧
    -- the retry submits the cached copy: Conflict (stale resourceVersion), rolled back again
    (syncConfig s1 "c").2 = false ∧
    (syncConfig s1 "c").1.calls.map (fun c => (c.verb, c.job, c.res))
      = [("start", "j01", "ok"), ("start", "j01", "conflict")] ∧
    getCtr (syncConfig s1 "c").1.counter "u" = 0 ∧
    -- quiescent, the counter is 0, one Job is active
    s.jobEvs = [] ∧ s.storeQ = [] ∧ getCtr s.counter "u" = 0 ∧ trueActive s "u" = 1 ∧
    -- the Enqueue Job j02 is started with 1 active Job and limit 1
    (workConfigObs s).2.map (fun o => (o.job.name, o.job.policy, o.activeBefore, o.maxConc))
      = [("j02", 2, 1, 1)] ∧
    trueActive (workConfig s).1 "u" = 2 := by decide +kernel

/-- the state just before the new process starts in F28: `j01` was started by the pass, its update
event has not been delivered to anybody -/
def histF28pre : List Act := histE ++ [.workConfig]

/-- F28: the process dies right after starting `j01`; the new process's initial LIST is the old
cache (`restartStale 0 0`: `j01` unstarted), the watch replays unstarted → started (ignored by the
store: "CheckAndAdd did it" — in the dead process), `j02` is created and delivered. -/
theorem f28_stale_initial_list_witness :
    let s0 := runActs {} histF28pre
    let s1 := restartStale s0 0 0
    let post : List Act := [.addJob (enq "j02")] ++ flush ++ flush
    let s := runActs s1 post
    allowedAllB {} histF28pre = true ∧                       -- `s0` is a reachable state
    allowedAllB s1 post = true ∧                             -- and so is every later action
    trueActive s0 "u" = 1 ∧ s0.jobEvs.length = 1 ∧
    getCtr (restart s0).counter "u" = 1 ∧                    -- a fresh LIST would count j01
    getCtr s1.counter "u" = 0 ∧ s1.jobEvs.length = 1 ∧       -- the stale LIST does not; the event is replayed
    s.jobEvs = [] ∧ s.storeQ = [] ∧ getCtr s.counter "u" = 0 ∧ trueActive s "u" = 1 ∧
    (workConfigObs s).2.map (fun o => (o.job.name, o.job.policy, o.activeBefore, o.maxConc))
      = [("j02", 2, 1, 1)] ∧
    trueActive (workConfig s).1 "u" = 2 := by decide +kernel

/-- the state just before the new process starts in F27: `j01` is active, everything has been
delivered, and the previous leader's last write has just finished `j01` (event undelivered) -/
def histF27pre : List Act := histE ++ [.workConfig] ++ flush ++ [.finishJob "j01"]

/-- … or a user has just removed the active `j01` (it carries no finalizer) -/
def histF27preDel : List Act := histE ++ [.workConfig] ++ flush ++ [.removeJob "j01"]

/-- F27: the new process's initial LIST is older than that write (`j01` active), the store's
handler registers, the watch delivers the write inside `Recover`'s window (`restartStaleWin 0 0 1`),
then `Recover` reads the lister: `j01` is not counted AND is decremented by its notification.
Counter −1; `j02` and `j03` both start with limit 1.  Same for the removal. -/
theorem f27_recover_window_witness :
    let post : List Act :=
      [.notifyStore, .addJob (enq "j02")] ++ flush ++ [.addJob (enq "j03")] ++ flush
    (∀ pre ∈ [histF27pre, histF27preDel],
      let s0 := runActs {} pre
      let s1 := restartStaleWin s0 0 0 1
      let s := runActs s1 post
      allowedAllB {} pre = true ∧ allowedAllB s1 post = true ∧
      getCtr s0.counter "u" = 1 ∧ s0.jobEvs.length = 1 ∧
      -- atomic Recover on the same stale LIST is right (the event then arrives as a notification
      -- for a Job that WAS counted), and so is a fresh LIST
      getCtr (runActs (restartStale s0 0 0) [.deliverJob, .notifyStore]).counter "u" = 0 ∧
      getCtr (restart s0).counter "u" = 0 ∧
      -- the window: not counted by the list, notification pending
      getCtr s1.counter "u" = 0 ∧ s1.storeQ.length = 1 ∧ s1.ctrlQ = [] ∧ s1.jobEvs = [] ∧
      getCtr (notifyStore s1).counter "u" = -1 ∧ trueActive s1 "u" = 0 ∧
      -- both Enqueue Jobs are started in one pass, the second one with 1 active Job and limit 1
      s.jobEvs = [] ∧ s.storeQ = [] ∧ getCtr s.counter "u" = -1 ∧
      (workConfigObs s).2.map (fun o => (o.job.name, o.job.policy, o.activeBefore, o.maxConc))
        = [("j02", 2, 0, 1), ("j03", 2, 1, 1)] ∧
      trueActive (workConfig s).1 "u" = 2) := by decide +kernel

/-- inside E-FreshInitialList ∧ E-QuiescentRecover (`kj` = all undelivered Job events, `w = 0`) the
new process start IS `restart` on everything that concerns Jobs, in every state whose pipeline is
consistent (`Inv.pipe`, in particular every reachable state); the two JobConfig fields are the only
difference (the model keeps no pipeline invariant for JobConfigs). -/
theorem restartStaleWin_fresh_jobs (s : Sys) (h : applyEvs s.jobCache s.jobEvs = s.jobs) (kc : Nat) :
    restartStaleWin s s.jobEvs.length kc 0 =
      { restart s with jcEvs := s.jcEvs.drop kc,
                       jcCache := (s.jcEvs.take kc).foldl cacheApplyJC s.jcCache } := by
  have hc : cacheApplyJob = applyEv := by
    funext c e; cases e <;> rfl
  have h' : List.foldl cacheApplyJob s.jobCache s.jobEvs = s.jobs := by rw [hc]; exact h
  simp [restartStaleWin, restart, iterN, h']

/-- … hence the recount of such a start is exact in every reachable state (the analogue of
`restart_recounts` for the extended start, inside E-FreshInitialList ∧ E-QuiescentRecover) -/
theorem restartStaleWin_fresh_recounts {s : Sys} (hr : Reachable s) (kc : Nat) (uid : String) :
    getCtr (restartStaleWin s s.jobEvs.length kc 0).counter uid = trueActive s uid := by
  rw [restartStaleWin_fresh_jobs s hr.inv.pipe kc]
  exact (Furiko.Queue.restart_recounts s uid).1

example : Reachable (runActs {} histF28pre) ∧
    getCtr (restartStaleWin (runActs {} histF28pre) 1 0 0).counter "u" = 1 :=
  ⟨reachable_runB _ (by decide +kernel), by decide +kernel⟩

/-- JobConfigs `c` (uid `u`) and `d` (uid `v`), both limit 1 -/
def jcD : JCV := { name := "d", uid := "v", maxConc := 1, rv := 0 }
def enqD (n : String) : JobV :=
  { enq n with label := some "v", ownerName := some "d", ownerUid := some "v" }

/-- `j01` of `c` and `j02` of `d` are running, everything delivered -/
def histTwo : List Act :=
  [.addJC jcC, .addJC jcD, .deliverJC, .deliverJC, .addJob (enq "j01")] ++ flush ++
  [.addJob (enqD "j02")] ++ flush ++ [.workConfig, .workConfig] ++ flush ++ flush

/-- The relist pairs cached and listed objects BY NAME: while the watch is down `j01` (active, of
`c`) is removed and a new, queued `j01` is created for `d`.  The store is handed
`OnUpdate(old = j01 of c, new = j01 of d)` and releases the slot of the OLD object's JobConfig: the
counters end at c = 0, d = 1 and nothing of `d` may start.  (A store that read the key from the
new object would end at d = 0 with `j02` active.  Corpus scenario
`relist-pairs-recreated-job-of-other-jobconfig`.) -/
theorem relist_pairs_by_name_releases_old_jobconfig :
    let s0 := runActs {} histTwo
    let s1 := runActs s0 [.removeJob "j01", .addJob (enqD "j01")]    -- inside the outage: nothing delivered
    let s2 := relist s1
    let s := runActs s2 [.notifyStore, .notifyCtrl]
    allowedAllB {} histTwo = true ∧
    getCtr s0.counter "u" = 1 ∧ getCtr s0.counter "v" = 1 ∧
    s2.jobEvs = [] ∧ s2.jobCache = s1.jobs ∧
    s2.storeQ.map (fun n => match n with
      | .update o n => (o.name, o.label, o.isActive, n.label, n.isActive)
      | _ => ("", none, false, none, false)) = [("j01", some "u", true, some "v", false)] ∧
    getCtr s.counter "u" = 0 ∧ getCtr s.counter "v" = 1 ∧
    trueActive s "u" = 0 ∧ trueActive s "v" = 1 ∧
    (workConfigObs s).2 = [] := by decide +kernel

/-- F35 (outside E-FinalizerPresent): the watch is down when the pass starts `j01`, so the cache keeps
the unstarted copy; a user removes `j01` (no finalizer) inside the outage; the relist sends the
tombstone with the last CACHED state (unstarted) and `Store.OnDelete` does not release the slot
`CheckAndAdd` reserved.  Counter 1 with no active Job: the Enqueue Job `j02` waits for ever. -/
theorem f35_relist_leak_witness :
    let s0 := runActs {} (histE ++ [.workConfig, .removeJob "j01", .addJob (enq "j02")])
    let s1 := relist s0
    let s := runActs s1 [.notifyStore, .notifyCtrl, .notifyStore, .notifyCtrl, .workConfig]
    allowedAllB {} (histE ++ [.workConfig, .removeJob "j01", .addJob (enq "j02")]) = true ∧
    s1.storeQ.map (fun n => match n with
      | .add j => ("add", j.name, j.isStarted)
      | .delete j => ("delete", j.name, j.isStarted)
      | .update _ j => ("update", j.name, j.isStarted)) = [("add", "j02", false), ("delete", "j01", false)] ∧
    s.jobEvs = [] ∧ s.storeQ = [] ∧ s.calls = [] ∧           -- quiescent; the pass started nothing
    getCtr s.counter "u" = 1 ∧ trueActive s "u" = 0 ∧          -- a slot is reserved for nobody
    (s.jobs.filter (·.isQueued)).map (·.name) = ["j02"] := by decide +kernel

end Furiko.Props.C05
