/-
C07 property theorems: `startAfter` is honoured (no start before it, a timer is armed for it),
independent Jobs are enqueued on creation and started by the independent worker.
The statements about single functions of `Model/Queue.lean` hold for every input; the `…_reachable`
theorems and `stale_startAfter_stale_rv`, `postponed_stale_cache_conflict_independent` are about the
states of `Reachable` (envelope: `Proofs/QueueEnv.lean`).
-/
import FurikoModel.Proofs.QueueCor
import FurikoModel.Proofs.QueueSys

set_option linter.unusedSimpArgs false
set_option linter.unusedVariables false

namespace Furiko.Props.C07
open Furiko Furiko.Queue Furiko.WQ Furiko.Queue.Scen

/-- per-config worker: every `start` call is for a cached queued Job that is due; for a
well-formed Job (`startAfter` only with a start policy) the clock has reached `startAfter`; an
applied start writes `startTime = now` to the authoritative Job. -/
theorem never_before_startAfter (s : Sys) (c : Call) (hc : c ∈ (workConfig s).1.calls)
    (hv : c.verb = "start") :
    ∃ j ∈ s.jobCache, j.name = c.job ∧ j.isQueued = true ∧ due j s.clock ∧
      ((j.hasPolicy = false → j.startAfter = none) →
        ∀ t, j.startAfter = some t → t * 1000000000 ≤ s.clock) ∧
      (c.res = "ok" → ∃ a, findJob (workConfig s).1.jobs c.job = some a ∧
        a.startTime = some (s.clock / 1000000000)) := by
  rcases workConfig_Run s with ⟨h, _⟩ | ⟨jc, ok, acf, hr, _, hw, hclk⟩
  · rw [h] at hc; simp at hc
  · obtain ⟨j, hj, hn, ac', _, ⟨hrej, _⟩ | ⟨_, hsv⟩⟩ := hr.call_spec c hc
    · rw [hv] at hrej; exact absurd hrej (by decide)
    · have hm := mem_listQueued.mp hj
      refine ⟨j, hm.1, hn.symm, hm.2.2, hsv.1, due_startAfter hsv.1, fun hok => ?_⟩
      obtain ⟨a, ha, h1, _⟩ := hw c hc hok
      exact ⟨a, ha, by rw [← hclk]; exact h1 hv⟩

/-- non-vacuous: `a` and `d` are started at clock 0 with `startTime = 0` -/
example : (⟨"start", "a", "ok"⟩ : Call) ∈ (workConfig s4).1.calls ∧
    (findJob (workConfig s4).1.jobs "a").map (·.startTime) = some (some 0) := by decide +kernel

/-- the well-formedness hypothesis is needed: the model reads `startAfter` only under a start
policy, so a (malformed) Job with `startAfter` but `hasPolicy = false` starts at once -/
example : (canStartJob {} (jcN 1) (mk "x" false 0 (some 5)) 0).2 = .start := by decide

/-- non-vacuous the other way: a Job with `startAfter = 5 s` is not started at clock 1 s -/
example : (workConfig sLater).2 = "ok" ∧ (workConfig sLater).1.calls = [] := by decide +kernel

/-- independent worker: every call is a `start` of a cached queued due Job, with the same
consequences -/
theorem never_before_startAfter_independent (s : Sys) (c : Call)
    (hc : c ∈ (workIndependent s).1.calls) :
    c.verb = "start" ∧
    ∃ j ∈ s.jobCache, j.name = c.job ∧ j.isQueued = true ∧ due j s.clock ∧
      ((j.hasPolicy = false → j.startAfter = none) →
        ∀ t, j.startAfter = some t → t * 1000000000 ≤ s.clock) ∧
      (c.res = "ok" → ∃ a, findJob (workIndependent s).1.jobs c.job = some a ∧
        a.startTime = some (s.clock / 1000000000)) := by
  rcases workIndependent_cases s with ⟨_, hw⟩ | ⟨k, q1, _, ⟨_, hw⟩ | ⟨j, _, _, _, _, hw⟩ |
      ⟨j, hj, hq, hd, ⟨res, hres, _, hw⟩ | ⟨cur, hcur, _, _, hw⟩⟩⟩
  · rw [hw] at hc; simp at hc
  · rw [hw] at hc; simp [indPost, indPre] at hc
  · rw [hw] at hc; simp [indPost, indLater, indPre] at hc
  · rw [hw] at hc ⊢
    simp only [indPost, failWrite, indPre, List.nil_append, List.mem_singleton] at hc
    subst hc
    exact ⟨rfl, j, findJob_some_mem hj, rfl, hq, hd, due_startAfter hd, fun h => absurd h hres⟩
  · rw [hw] at hc ⊢
    simp only [indPost, applyWrite, indPre, List.nil_append, List.mem_singleton] at hc
    subst hc
    refine ⟨rfl, j, findJob_some_mem hj, rfl, hq, hd, due_startAfter hd, fun _ => ?_⟩
    have hn : (startedJob s j cur).name = j.name := (findJob_some_name hcur : cur.name = j.name)
    exact ⟨startedJob s j cur, by simp [indPost, applyWrite, indPre, findJob_setJob, hn], rfl⟩

example : (workIndependent sInd).1.calls = [⟨"start", "i", "ok"⟩] ∧
    (findJob (workIndependent sInd).1.jobs "i").map (·.startTime) = some (some 0) := by decide +kernel

/-- per-config worker returned "ok": the JobConfig's key is scheduled no later than the
`startAfter` of every deferred Job, or than 1 s from now if that is later (`AddAfter` waits at
least 1 s) -/
theorem timer_armed (s : Sys) (k : String) (q1 : WQ) (jc : JCV) (j : JobV) (t : Int)
    (hg : (s.cfgQ.advance s.clock).get = some (k, q1))
    (hjc : findJC s.jcCache (keyName k) = some jc)
    (hj : j ∈ listQueued s.jobCache jc) (hp : j.hasPolicy = true)
    (hl : startAfterLater j s.clock = true) (ht : j.startAfter = some t)
    (hok : (workConfig s).2 = "ok") :
    HasDeadline (workConfig s).1.cfgQ.delayed ("ns/" ++ jc.name)
      (max (s.clock + 1000000000) (t * 1000000000)) := by
  obtain ⟨s1, ok, hpass, hw⟩ := workConfig_Pass hg hjc
  rw [hw] at hok ⊢
  cases ok with
  | false => simp at hok
  | true =>
    rw [cfgPost_delayed_ok]
    have := hpass.deferred_deadline rfl j hj hp hl
    rw [ht] at this
    exact this

/-- per-config worker returned "err": the key itself is re-queued with the rate limiter, at most
320 ms ahead (whatever the pass did) -/
theorem err_requeued (s : Sys) (k : String) (q1 : WQ)
    (hg : (s.cfgQ.advance s.clock).get = some (k, q1)) (herr : (workConfig s).2 = "err") :
    HasDeadline (workConfig s).1.cfgQ.delayed k (s.clock + 320000000) := by
  cases hjc : findJC s.jcCache (keyName k) with
  | none => rw [workConfig_noJC hg hjc] at herr; simp at herr
  | some jc =>
    obtain ⟨s1, ok, hpass, hw⟩ := workConfig_Pass hg hjc
    rw [hw] at herr ⊢
    cases ok with
    | true => simp at herr
    | false =>
      have := cfgPost_delayed_err s1 k
      rw [hpass.clock] at this
      exact this

/-- non-vacuous: `a` must wait until 5 s; at clock 1 s the pass arms `ns/c` for 5 s -/
example :
    let j : JobV := { mk "a" true 0 (some 5) with rv := 2 }
    (sLater.cfgQ.advance sLater.clock).get.map (·.1) = some "ns/c" ∧
    j ∈ listQueued sLater.jobCache (jcN 1) ∧ startAfterLater j sLater.clock = true ∧
    (workConfig sLater).2 = "ok" ∧
    (workConfig sLater).1.cfgQ.delayed = [("ns/c", 5000000000)] := by decide +kernel

example : (workConfig s4err).2 = "err" ∧
    (workConfig s4err).1.cfgQ.delayed = [("ns/c", 5000000)] := by decide +kernel

/-- independent worker: a queued Job whose `startAfter` is in the future is not written; its
key is scheduled no later than `startAfter` -/
theorem timer_armed_independent (s : Sys) (k : String) (q1 : WQ) (j : JobV) (t : Int)
    (hg : (s.indQ.advance s.clock).get = some (k, q1))
    (hj : findJob s.jobCache (keyName k) = some j) (hq : j.isQueued = true)
    (hp : j.hasPolicy = true) (hl : startAfterLater j s.clock = true)
    (ht : j.startAfter = some t) :
    (workIndependent s).2 = "ok" ∧ (workIndependent s).1.calls = [] ∧
    (workIndependent s).1.jobs = s.jobs ∧
    HasDeadline (workIndependent s).1.indQ.delayed ("ns/" ++ keyName k)
      (max (s.clock + 1000000000) (t * 1000000000)) := by
  rcases workIndependent_cases_of_get hg with ⟨h, _⟩ | ⟨j', hj', _, _, _, hw⟩ |
      ⟨j', hj', _, hd, _⟩
  · rcases h with h | ⟨j', hj', hq'⟩
    · rw [hj] at h; cases h
    · rw [hj] at hj'; cases hj'; rw [hq] at hq'; cases hq'
  · rw [hj] at hj'; cases hj'
    rw [hw]
    refine ⟨rfl, rfl, rfl, ?_⟩
    rw [indPost_delayed_ok]
    simp only [indLater, ht, Option.getD_some]
    exact HasDeadline.weaken (hasDeadline_addAfter_self q1 _ _ _) (by split <;> omega)
  · rw [hj] at hj'; cases hj'
    exact absurd ⟨hp, hl⟩ hd

theorem err_requeued_independent (s : Sys) (k : String) (q1 : WQ)
    (hg : (s.indQ.advance s.clock).get = some (k, q1))
    (herr : (workIndependent s).2 = "err") :
    HasDeadline (workIndependent s).1.indQ.delayed k (s.clock + 320000000) := by
  rcases workIndependent_cases_of_get hg with ⟨_, hw⟩ | ⟨_, _, _, _, _, hw⟩ |
      ⟨j, _, _, _, ⟨res, _, _, hw⟩ | ⟨cur, _, _, _, hw⟩⟩
  · rw [hw] at herr; simp at herr
  · rw [hw] at herr; simp at herr
  · rw [hw]; exact indPost_delayed_err _ k
  · rw [hw] at herr ⊢
    by_cases ha : nextFault s = "applied-err"
    · simp only [ha, ne_eq, not_true_eq_false, decide_false]
      exact indPost_delayed_err _ k
    · simp [ha] at herr

example :
    let s := { sInd with faults := ["err"] }
    (workIndependent s).2 = "err" ∧ (workIndependent s).1.calls = [⟨"start", "i", "err"⟩] ∧
    (workIndependent s).1.indQ.delayed = [("ns/i", 5000000)] := by decide +kernel

example : (workIndependent sIndLater).2 = "ok" ∧ (workIndependent sIndLater).1.calls = [] ∧
    (workIndependent sIndLater).1.indQ.delayed = [("ns/i", 5000000000)] := by decide +kernel

theorem independent_starts_on_create (s : Sys) (j : JobV) (rest : List Ev)
    (hev : s.jobEvs = .add j :: rest) (ho : j.ownerName = none) :
    ("ns/" ++ j.name) ∈ (drainCtrl (deliverJob s)).indQ.dirty := by
  obtain ⟨note, hn, hq, hc⟩ := deliverJob_add hev
  have := (drainCtrl_wakes (deliverJob s) note (by rw [hq]; simp)).2
  rw [hn] at this
  exact this (lookupOwner_independent _ ho)

/-- with no older notification pending, one handler run suffices -/
theorem independent_starts_on_create_now (s : Sys) (j : JobV) (rest : List Ev)
    (hev : s.jobEvs = .add j :: rest) (ho : j.ownerName = none) (hq : s.ctrlQ = []) :
    ("ns/" ++ j.name) ∈ (notifyCtrl (deliverJob s)).indQ.dirty := by
  obtain ⟨note, hn, hq', hc⟩ := deliverJob_add hev
  rw [hq, List.nil_append] at hq'
  rw [notifyCtrl_cons hq', hn]
  exact (ctrlNotify_wakes _ j).2 (lookupOwner_independent _ ho)

example :
    let s := userAddJob {} (mkInd "i" false none)
    s.jobEvs.length = 1 ∧ s.ctrlQ = [] ∧
    (notifyCtrl (deliverJob s)).indQ.dirty = ["ns/i"] ∧
    (notifyCtrl (deliverJob s)).indQ.queue = ["ns/i"] := by decide +kernel

/-- the independent worker, no faults, cached version current: it starts the Job exactly when the
Job is queued and due -/
theorem independent_starts_iff (s : Sys) (k : String) (q1 : WQ) (j cur : JobV)
    (hf : s.faults = []) (hg : (s.indQ.advance s.clock).get = some (k, q1))
    (hj : findJob s.jobCache (keyName k) = some j)
    (hcur : findJob s.jobs j.name = some cur) (hrv : cur.rv = j.rv) :
    ⟨"start", j.name, "ok"⟩ ∈ (workIndependent s).1.calls ↔
      (j.isQueued = true ∧ due j s.clock) := by
  rcases workIndependent_cases_of_get hg with ⟨h, hw⟩ | ⟨j', hj', _, hp, hl, hw⟩ |
      ⟨j', hj', hq, hd, ⟨res, _, hwhy, _⟩ | ⟨cur', _, _, _, hw⟩⟩
  · rw [hw]
    rcases h with h | ⟨j', hj', hq'⟩
    · rw [hj] at h; cases h
    · rw [hj] at hj'; cases hj'
      simp [indPost, indPre, hq']
  · rw [hj] at hj'; cases hj'
    rw [hw]
    simp only [indPost, indLater, indPre, List.not_mem_nil, false_iff, not_and]
    exact fun _ hd => hd ⟨hp, hl⟩
  · rw [hj] at hj'; cases hj'
    exact absurd hwhy (not_writeRefused hf hcur hrv)
  · rw [hj] at hj'; cases hj'
    rw [hw]
    simp [indPost, applyWrite, indPre, hq, hd]

theorem eventually_starts (s : Sys) (k : String) (q1 : WQ) (j cur : JobV)
    (hf : s.faults = []) (hg : (s.indQ.advance s.clock).get = some (k, q1))
    (hj : findJob s.jobCache (keyName k) = some j)
    (hcur : findJob s.jobs j.name = some cur) (hrv : cur.rv = j.rv)
    (hq : j.isQueued = true) (hd : due j s.clock) :
    (workIndependent s).2 = "ok" ∧
    (∃ a, findJob (workIndependent s).1.jobs j.name = some a ∧
      a.startTime = some (s.clock / 1000000000)) ∧
    (workIndependent s).1.indQ.delayed = (s.indQ.advance s.clock).delayed := by
  rcases workIndependent_cases_of_get hg with ⟨h, hw⟩ | ⟨j', hj', _, hp, hl, hw⟩ |
      ⟨j', hj', _, _, ⟨res, _, hwhy, _⟩ | ⟨cur', hcur', _, _, hw⟩⟩
  · rcases h with h | ⟨j', hj', hq'⟩
    · rw [hj] at h; cases h
    · rw [hj] at hj'; cases hj'; rw [hq] at hq'; cases hq'
  · rw [hj] at hj'; cases hj'
    exact absurd ⟨hp, hl⟩ hd
  · rw [hj] at hj'; cases hj'
    exact absurd hwhy (not_writeRefused hf hcur hrv)
  · rw [hj] at hj'; cases hj'
    rw [hw]
    have hnf : nextFault s ≠ "applied-err" := by rw [nextFault_of_nil hf]; decide
    have hn : (startedJob s j cur').name = j.name := (findJob_some_name hcur' : cur'.name = j.name)
    refine ⟨by simp [hnf], ⟨startedJob s j cur', ?_, rfl⟩, ?_⟩
    · simp [indPost, applyWrite, indPre, findJob_setJob, hn]
    · simp only [hnf, ne_eq, not_false_eq_true, decide_true, indPost_delayed_ok]
      exact get_delayed hg

/-- non-vacuous: the independent Job `i` is started by one worker step -/
example :
    let j : JobV := { mkInd "i" false none with rv := 1 }
    sInd.faults = [] ∧ (sInd.indQ.advance sInd.clock).get.map (·.1) = some "ns/i" ∧
    findJob sInd.jobCache (keyName "ns/i") = some j ∧ findJob sInd.jobs "i" = some j ∧
    j.isQueued = true ∧ due j sInd.clock ∧
    (workIndependent sInd).2 = "ok" ∧
    ⟨"start", "i", "ok"⟩ ∈ (workIndependent sInd).1.calls ∧
    (findJob (workIndependent sInd).1.jobs "i").map (·.startTime) = some (some 0) := by decide +kernel


/-- an independent Job `i` with `startAfter = 5 s` and a JobConfig Job `a` with `startAfter = 5 s`,
both delivered; `sDue` is the same history after both workers have run (arming their timers) and
the clock has advanced to 5 s -/
def jcC : JCV := { name := "c", uid := "u", maxConc := 1, rv := 0 }
def flush : List Act := [.deliverJob, .notifyStore, .notifyCtrl]
def histWait : List Act :=
  [.addJC jcC, .deliverJC, .addJob (mk "a" true 1 (some 5))] ++ flush ++
  [.addJob (mkInd "i" true (some 5))] ++ flush
def sWait : Sys := runActs {} histWait
def sDue : Sys := runActs {} (histWait ++ [.workConfig, .workIndependent, .tick 5000000000])
theorem sWait_reachable : Reachable sWait := reachable_runB _ (by decide +kernel)
theorem sDue_reachable : Reachable sDue := reachable_runB _ (by decide +kernel)

/-- `never_before_startAfter` on reachable states, against the AUTHORITATIVE Job (no
well-formedness hypothesis: it is an invariant): every start logged "ok" by the per-config worker
is of a Job that is authoritatively unstarted and not terminal and whose `startAfter`, if any, has
been reached; the write sets `startTime` to the clock and leaves the spec unchanged -/
theorem never_before_startAfter_reachable {s : Sys} (h : Reachable s) (n : String)
    (hc : ⟨"start", n, "ok"⟩ ∈ (workConfig s).1.calls) :
    ∃ j, findJob s.jobs n = some j ∧ j.isQueued = true ∧ due j s.clock ∧
      (∀ t, j.startAfter = some t → t * 1000000000 ≤ s.clock) ∧
      ∃ a, findJob (workConfig s).1.jobs n = some a ∧ sameSpec j a ∧
        a.startTime = some (s.clock / 1000000000) ∧ a.terminal = false := by
  obtain ⟨j, hf, hjc, hjq, a, ha, hspec, hterm, hce⟩ := h.inv.workConfig_ok_calls _ hc rfl
  rcases hce with ⟨_, hd, hst, _⟩ | ⟨hv, _⟩
  · exact ⟨j, hf, hjq, hd, h.inv.due_startAfter hjc hd, a, ha, hspec, hst, hterm⟩
  · exact absurd (show "start" = "reject" from hv) (by decide)

/-- the same for the independent worker; moreover the Job carries no JobConfig label -/
theorem never_before_startAfter_independent_reachable {s : Sys} (h : Reachable s) (n r : String)
    (hc : ⟨r, n, "ok"⟩ ∈ (workIndependent s).1.calls) :
    r = "start" ∧
    ∃ j, findJob s.jobs n = some j ∧ j.isQueued = true ∧ j.label = none ∧ due j s.clock ∧
      (∀ t, j.startAfter = some t → t * 1000000000 ≤ s.clock) ∧
      ∃ a, findJob (workIndependent s).1.jobs n = some a ∧ sameSpec j a ∧
        a.startTime = some (s.clock / 1000000000) ∧ a.terminal = false := by
  rcases h.inv.workIndependent_step.2 with ⟨_, hno⟩ | ⟨j, hjc, hq, hd, hlab, hf, hjobs, hcalls⟩
  · exact absurd rfl (hno _ hc)
  · rw [hcalls, List.mem_singleton] at hc
    injection hc with hr hn
    subst hr hn
    exact ⟨rfl, j, hf, hq, hlab, hd, h.inv.due_startAfter hjc hd, startedJob s j j,
      by rw [hjobs, findJob_setJob]; exact if_pos rfl, by simp [sameSpec, startedJob, startF], rfl,
      ((isQueued_iff j).mp hq).2⟩

/-- before 5 s nothing is started and both timers are armed for 5 s; at 5 s the timers fire and
both Jobs are started, without any user action in between -/
example : Reachable sWait ∧ (workConfig sWait).1.calls = [] ∧ (workIndependent sWait).1.calls = [] ∧
    (workConfig sWait).1.cfgQ.delayed = [("ns/c", 5000000000)] ∧
    (workIndependent sWait).1.indQ.delayed = [("ns/i", 5000000000)] :=
  ⟨sWait_reachable, by decide +kernel⟩

example : Reachable sDue ∧ (workConfig sDue).1.calls = [⟨"start", "a", "ok"⟩] ∧
    (workIndependent sDue).1.calls = [⟨"start", "i", "ok"⟩] ∧
    (findJob (workConfig sDue).1.jobs "a").map (·.startTime) = some (some 5) :=
  ⟨sDue_reachable, by decide +kernel⟩

/-- `eventually_starts` on reachable states: when all events are delivered and no fault is
injected, a worker step on the key of an authoritatively queued, due independent Job starts it -/
theorem eventually_starts_reachable {s : Sys} (h : Reachable s) (hev : s.jobEvs = [])
    (hf : s.faults = []) {k : String} {q1 : WQ} {j : JobV}
    (hg : (s.indQ.advance s.clock).get = some (k, q1))
    (hj : findJob s.jobs (keyName k) = some j) (hq : j.isQueued = true) (hd : due j s.clock) :
    (workIndependent s).2 = "ok" ∧
    ∃ a, findJob (workIndependent s).1.jobs j.name = some a ∧
      a.startTime = some (s.clock / 1000000000) := by
  have hcache := h.inv.cache_eq_jobs hev
  have hjn : j.name = keyName k := findJob_some_name hj
  obtain ⟨h1, h2, _⟩ := eventually_starts s k q1 j j hf hg (by rw [hcache]; exact hj)
    (by rw [hjn]; exact hj) rfl hq hd
  exact ⟨h1, h2⟩

example : Reachable sDue ∧ sDue.jobEvs = [] ∧ sDue.faults = [] ∧
    (sDue.indQ.advance sDue.clock).get.map (·.1) = some "ns/i" ∧
    (findJob sDue.jobs (keyName "ns/i")).map (fun j => (j.isQueued, decide (due j sDue.clock)))
      = some (true, true) := ⟨sDue_reachable, by decide +kernel⟩

/-! `startAfter` postponed by the user while the controller's cache is stale.

`Act.editStartAfter` (Proofs/QueueEnv.lean): the user may set, clear, postpone or advance
`spec.startPolicy.startAfter` of a Job as long as it is not started.  The reconcilers decide on the
CACHED copy; what keeps a start write from landing before the NEW `startAfter` is the
resourceVersion the write carries (`apiWriteJob`: `cur.rv ≠ cached.rv` ⇒ conflict); a `StartJob`
that re-read the Job from the server and wrote on that copy would start it early. -/

/-- whatever the cache holds: a Job whose AUTHORITATIVE `startAfter` is still in the future is not
started by either worker in a reachable state (no start call for it is logged "ok") -/
theorem postponed_never_started_reachable {s : Sys} (h : Reachable s) {n : String} {cur : JobV}
    {t : Int} (hcur : findJob s.jobs n = some cur) (ht : cur.startAfter = some t)
    (hl : s.clock < t * 1000000000) :
    ⟨"start", n, "ok"⟩ ∉ (workConfig s).1.calls ∧
    ⟨"start", n, "ok"⟩ ∉ (workIndependent s).1.calls := by
  constructor
  · intro hc
    obtain ⟨j, hf, _, _, hsa, _⟩ := never_before_startAfter_reachable h n hc
    rw [hcur] at hf; cases hf
    have := hsa t ht; omega
  · intro hc
    obtain ⟨_, j, hf, _, _, _, hsa, _⟩ := never_before_startAfter_independent_reachable h n "start" hc
    rw [hcur] at hf; cases hf
    have := hsa t ht; omega

/-- in a reachable state a cached version whose `startAfter` differs from the authoritative one
carries a stale resourceVersion ((name, rv) identifies the version) -/
theorem stale_startAfter_stale_rv {s : Sys} (h : Reachable s) {j cur : JobV} (hj : j ∈ s.jobCache)
    (hcur : findJob s.jobs j.name = some cur) (hne : cur.startAfter ≠ j.startAfter) :
    cur.rv ≠ j.rv :=
  fun hrv => hne (by rw [h.inv.cached_eq_cur hj hcur hrv])

/-- a start write computed from a cached copy with a stale resourceVersion is refused with a
conflict (no fault injected): nothing is written -/
theorem stale_start_conflict (s : Sys) (hf : s.faults = []) {j cur : JobV}
    (hcur : findJob s.jobs j.name = some cur) (hrv : cur.rv ≠ j.rv) :
    startJobWrite s j = (failWrite s "start" j.name "conflict", false) := by
  unfold startJobWrite apiWriteJob popFault
  simp [hf, hcur, hrv, failWrite]

/-- independent worker, reachable state, no fault injected: the cached copy of the Job is queued
and DUE, but the user has moved `startAfter` on the server and the update has not reached the
cache.  The step logs exactly one start call, refused with a conflict, returns an error (so the key
is re-queued: `err_requeued_independent`) and leaves every authoritative Job as it is. -/
theorem postponed_stale_cache_conflict_independent {s : Sys} (h : Reachable s) (hf : s.faults = [])
    {k : String} {q1 : WQ} {j cur : JobV}
    (hg : (s.indQ.advance s.clock).get = some (k, q1))
    (hj : findJob s.jobCache (keyName k) = some j) (hq : j.isQueued = true) (hd : due j s.clock)
    (hcur : findJob s.jobs j.name = some cur) (hne : cur.startAfter ≠ j.startAfter) :
    (workIndependent s).2 = "err" ∧
    (workIndependent s).1.calls = [⟨"start", j.name, "conflict"⟩] ∧
    (workIndependent s).1.jobs = s.jobs := by
  have hrv := stale_startAfter_stale_rv h (findJob_some_mem hj) hcur hne
  have hsync : syncIndependent (indPre s q1) (keyName k) =
      (failWrite (indPre s q1) "start" j.name "conflict", false) := by
    rw [syncIndependent_due (s := indPre s q1) hj hq hd]
    exact stale_start_conflict (indPre s q1) hf hcur hrv
  rw [workIndependent_get hg, hsync]
  exact ⟨rfl, rfl, rfl⟩

/-- the postponed history: `histWait` (owned Job `a` and independent Job `i`, both with
`startAfter = 5 s`, delivered), both workers run and arm their timers for 5 s, then the user
postpones both Jobs to 3600 s; the two update events are NOT delivered; the clock reaches 5 s -/
def histPostponed : List Act :=
  histWait ++ [.workConfig, .workIndependent, .editStartAfter "a" (some 3600),
    .editStartAfter "i" (some 3600), .tick 5000000000]
def sPostponed : Sys := runActs {} histPostponed
theorem sPostponed_reachable : Reachable sPostponed := reachable_runB _ (by decide +kernel)

/-- non-vacuous: in the reachable state `sPostponed` the cache holds the old `startAfter = 5 s`
(due at clock 5 s) and the server the later one; both timers fire; each worker logs a refused
start (conflict), returns an error, and no Job is started -/
example : Reachable sPostponed ∧ sPostponed.clock = 5000000000 ∧ sPostponed.faults = [] ∧
    (findJob sPostponed.jobCache "a").map (·.startAfter) = some (some 5) ∧
    (findJob sPostponed.jobs "a").map (·.startAfter) = some (some 3600) ∧
    (findJob sPostponed.jobCache "i").map (·.startAfter) = some (some 5) ∧
    (findJob sPostponed.jobs "i").map (·.startAfter) = some (some 3600) ∧
    (workConfig sPostponed).2 = "err" ∧
    (workConfig sPostponed).1.calls = [⟨"start", "a", "conflict"⟩] ∧
    (workIndependent sPostponed).2 = "err" ∧
    (workIndependent sPostponed).1.calls = [⟨"start", "i", "conflict"⟩] ∧
    (findJob (workConfig sPostponed).1.jobs "a").map (·.startTime) = some none ∧
    (findJob (workIndependent sPostponed).1.jobs "i").map (·.startTime) = some none :=
  ⟨sPostponed_reachable, by decide +kernel⟩

/-- … and the hypotheses of `postponed_stale_cache_conflict_independent` are met there -/
example : (sPostponed.indQ.advance sPostponed.clock).get.map (·.1) = some "ns/i" ∧
    (findJob sPostponed.jobCache (keyName "ns/i")).map
      (fun j => (j.isQueued, decide (due j sPostponed.clock))) = some (true, true) := by decide +kernel

/-- the updates delivered and both keys worked once more (the event's pass and, one second later,
the rate-limited retry) -/
def sPostponedSeen : Sys :=
  runActs sPostponed ([.workConfig, .workIndependent] ++ flush ++ flush ++
    [.workConfig, .workIndependent, .tick 1000000000])

/-- once the updates are delivered the Jobs wait for the new time: nothing is started and the
timers are armed for 3600 s -/
example : (workConfig sPostponedSeen).1.calls = [] ∧ (workIndependent sPostponedSeen).1.calls = [] ∧
    (workConfig sPostponedSeen).1.cfgQ.delayed = [("ns/c", 3600000000000)] ∧
    (workIndependent sPostponedSeen).1.indQ.delayed = [("ns/i", 3600000000000)] :=
  by decide +kernel

end Furiko.Props.C07
