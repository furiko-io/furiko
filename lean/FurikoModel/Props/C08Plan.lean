/-
C08 — plan level: "Per parallel index: one live task, ordered bounded retries, then stop".
Theorems about the pod CREATE calls one reconcile pass of the job controller issues, for ALL
model states, cached Jobs and fault lists, over `Model/JobCtl.lean` (validated against
`jobcontroller.Reconciler` by the `jobctl` engine), connected to the pure theorems of
`Props/C08.lean` about `computeMissingIndexesForCreation`.

Vocabulary (Proofs/JobCtlPlan*.lean): `newCalls s s'` = the calls `s'` logged beyond `s`;
`refreshedSummary s rj tasks` = the completion summary on the refs refreshed from the task list;
`reqDueNow clk r` = the request's earliest time is Go's zero time (unset) or not after `clk`;
`TimerBy q k t` = a deferred add of key `k` is pending at a deadline `≤ t`; `dueAt s t` = the
deadline `AddAfter` uses for `t` (at least 1 s after the clock).  Times are nanoseconds.
-/
import FurikoModel.Generated.Facts
import FurikoModel.Props.C08
import FurikoModel.Props.C11
import FurikoModel.Proofs.JobCtlPlanPass

namespace Furiko.Props.C08Plan
open Furiko Furiko.JobCtl Furiko.JobCtlPlan Furiko.WQ Furiko.ParallelLemmas Furiko.Props.C08

private def sec (n : Int) : Int := n * 1000000000
private def brief (c : Call) : String × String × String × String := (c.verb, c.res, c.name, c.out)

/-- two indexes `a`, `b`, up to 3 attempts, 60 s retry delay; `a` failed once at 100 s (retry 0),
`b` is running -/
private def retryJob : Job :=
  { template := some { parallelism := some { indexes := [{ hash := "a" }, { hash := "b" }] },
                       maxAttempts := some 3, retryDelaySeconds := some 60 },
    status := { startTime := some (sec 1),
                tasks := [{ name := "job-a-0", parallelIndex := some { hash := "a" }, creationTimestamp := some (sec 1),
                            finishTimestamp := some (sec 100), status := { state := .terminated, result := .failed },
                            deletedStatus := some { state := .terminated, result := .failed } },
                          { name := "job-b-0", parallelIndex := some { hash := "b" }, creationTimestamp := some (sec 1),
                            runningTimestamp := some (sec 2) }] } }

private def podB : PodObj :=
  { pod := { name := "job-b-0", creationTimestamp := some (sec 1), phase := .running, retryIndex := some 0,
             parallelIndex := some { hash := "b" }, startTime := some (sec 1),
             containers := [{ running := some (some (sec 2)) }] },
    ownerUid := some "u", ownerName := some "job", jobLabel := some "u" }

private def retrySys (clk : Int) : Sys :=
  { clock := clk, rv := 5, d := { hash := "d" }, job := some ⟨"job", "u", retryJob, true, 1⟩,
    jobCache := some ⟨"job", "u", retryJob, true, 1⟩, pods := [podB], podCache := [podB] }

/-- `create_only_missing`: every call appended by `syncCreateTasks` is a pod create; it is issued
only when `canCreateTask` holds and the refreshed summary is not complete; and it is for an
`(index, retry)` REQUEST of `computeMissingIndexesForCreation` evaluated on the CACHED refs
`rj.status.tasks` (Appendix A item 3) whose earliest time has come.  The created pod's name is
`taskName jo.name hash retry`. -/
theorem create_only_missing (s : Sys) (jo : JobObj) (rj : Job) (tasks : List Task) :
    ∀ c ∈ newCalls s (syncCreateTasks s jo rj tasks).1,
      c.verb = "create" ∧ c.res = "pods" ∧ canCreateTask rj = true ∧
      (refreshedSummary s rj tasks).complete = false ∧
      ∃ reqs, computeMissingIndexesForCreation s.d rj (rj.indexes s.d) = some reqs ∧
        ∃ r ∈ reqs, c.name = taskName jo.name r.index.hash r.retryIndex ∧ reqDueNow s.clock r := by
  obtain ⟨l, e, _, _, hall, _⟩ := syncCreateTasks_ext s jo rj tasks
  intro c hc
  rw [e.newCalls] at hc
  obtain ⟨hv, hr, _, hcan, hcomp, hreq⟩ := hall c hc
  exact ⟨hv, hr, hcan, hcomp, hreq⟩

/-- … hence, by the pure theorems of `Props/C08.lean`: the create is for an index of the spec
that (under `NoCollision`) has NO unfinished and NO succeeded recorded ref, its retry number is
the next one of that index, `0 ≤ retry < maxAttempts`, and it is not issued before
`finish + retryDelay` of any finished ref of that index: the request's earliest time is at least
that and is itself not after the clock (or is Go's zero time). -/
theorem create_respects_retries (s : Sys) (jo : JobObj) (rj : Job) (tasks : List Task)
    (hnc : NoCollision (rj.indexes s.d)) :
    ∀ c ∈ newCalls s (syncCreateTasks s jo rj tasks).1,
      ∃ r : CreationRequest, c.name = taskName jo.name r.index.hash r.retryIndex ∧
        r.index ∈ rj.indexes s.d ∧
        (∀ t ∈ rj.status.tasks, t.hash s.d = r.index.hash → ¬ Blocking t) ∧
        r.retryIndex = nextRetryIndex s.d rj.status.tasks r.index.hash ∧
        0 ≤ r.retryIndex ∧ r.retryIndex < rj.maxAttempts ∧
        (∀ t ∈ rj.status.tasks, t.hash s.d = r.index.hash → ∀ f, t.finishTimestamp = some f →
          f + rj.retryDelay ≤ r.earliest) ∧
        (r.earliest = zeroTime ∨ ¬ r.earliest > s.clock) := by
  intro c hc
  obtain ⟨_, _, _, _, reqs, hreqs, r, hr, hn, hdue⟩ := create_only_missing s jo rj tasks c hc
  obtain ⟨h1, h2, h3, h4, _⟩ := computeMissing_sound s.d rj (rj.indexes s.d) reqs hnc hreqs r hr
  obtain ⟨h5, _⟩ := no_missing_beyond_maxAttempts s.d rj (rj.indexes s.d) reqs hreqs r hr
  obtain ⟨h6, _⟩ := earliest_respects_delay s.d rj (rj.indexes s.d) reqs hreqs r hr
  exact ⟨r, hn, h1, h2, h3, h5, h4, h6, hdue⟩

/-- No create for an index that has a succeeded recorded ref (under `NoCollision`): the request a
create call is issued for never carries the hash of such a ref. -/
theorem no_create_for_succeeded_index (s : Sys) (jo : JobObj) (rj : Job) (tasks : List Task)
    (hnc : NoCollision (rj.indexes s.d)) (t : TaskRef) (ht : t ∈ rj.status.tasks)
    (hs : t.status.result = .succeeded) :
    ∀ c ∈ newCalls s (syncCreateTasks s jo rj tasks).1,
      ∃ r : CreationRequest, c.name = taskName jo.name r.index.hash r.retryIndex ∧ r.index.hash ≠ t.hash s.d := by
  intro c hc
  obtain ⟨r, hn, _, hfree, _⟩ := create_respects_retries s jo rj tasks hnc c hc
  exact ⟨r, hn, fun he => hfree t ht he.symm (Or.inr hs)⟩

/-- `retry_delay_respected`, timer part, and completeness of the loop: when `syncCreateTasks`
returns without error after attempting creation, every request whose earliest time has come got
its create call, and every request with an earliest time (deferred ones in particular) left a
timer for the Job's key at a deadline not later than that time (`dueAt`: at least 1 s ahead). -/
theorem create_all_due_and_timer (s : Sys) (jo : JobObj) (rj rj' : Job) (tasks tasks' : List Task)
    (reqs : List CreationRequest)
    (hok : (syncCreateTasks s jo rj tasks).2 = some (rj', tasks'))
    (hcan : canCreateTask rj = true) (hcomp : (refreshedSummary s rj tasks).complete = false)
    (hreqs : computeMissingIndexesForCreation s.d rj (rj.indexes s.d) = some reqs) :
    (∀ r ∈ reqs, reqDueNow s.clock r →
      ∃ c ∈ newCalls s (syncCreateTasks s jo rj tasks).1, c.verb = "create" ∧
        c.name = taskName jo.name r.index.hash r.retryIndex) ∧
    (∀ r ∈ reqs, r.earliest ≠ zeroTime →
      TimerBy (syncCreateTasks s jo rj tasks).1.q (jobKey jo) (dueAt s r.earliest)) := by
  obtain ⟨l, e, _, _, hall, hres⟩ := syncCreateTasks_ext s jo rj tasks
  obtain ⟨_, _, hon⟩ := hres rj' tasks' hok
  obtain ⟨hcov, htim, _⟩ := hon hcan hcomp reqs hreqs
  rw [e.newCalls]
  refine ⟨?_, htim⟩
  intro r hr hdue
  obtain ⟨c, hc, hn⟩ := hcov r hr hdue
  exact ⟨c, hc, (hall c hc).1, hn⟩

/-- `create_only_missing` / `create_respects_retries` / `create_all_due_and_timer`: at 160 s
(= finish 100 s + delay 60 s) the pass creates exactly `job-a-1` (retry 1 of index `a`; nothing
for the running index `b`); at 160 s − 1 ns it creates nothing and arms a timer for 160 s (1 s
floor ⇒ 161 s − 1 ns). -/
example :
    NoCollision (retryJob.indexes { hash := "d" }) ∧
    (newCalls (retrySys (sec 160)) (syncCreateTasks (retrySys (sec 160)) ⟨"job", "u", retryJob, true, 1⟩ retryJob
      (tasks0 (retrySys (sec 160)) ⟨"job", "u", retryJob, true, 1⟩ retryJob)).1).map brief = [("create", "pods", "job-a-1", "ok")] ∧
    newCalls (retrySys (sec 160 - 1)) (syncCreateTasks (retrySys (sec 160 - 1)) ⟨"job", "u", retryJob, true, 1⟩ retryJob
      (tasks0 (retrySys (sec 160 - 1)) ⟨"job", "u", retryJob, true, 1⟩ retryJob)).1 = [] ∧
    (syncCreateTasks (retrySys (sec 160 - 1)) ⟨"job", "u", retryJob, true, 1⟩ retryJob
      (tasks0 (retrySys (sec 160 - 1)) ⟨"job", "u", retryJob, true, 1⟩ retryJob)).1.q.delayed = [("ns/job", sec 161 - 1)] := by
  decide +kernel

/-- `no_create_when_stopped` (creation step): when `canCreateTask` is false (kill timestamp
present — even future — or admission-error annotation) or the refreshed summary is complete,
`syncCreateTasks` returns the system state untouched: no call at all.  The Job is returned as it
is, and the task list is extended only by the UNRECORDED tasks of the pod cache
(`adoptUnrecordedTasks`: fix 5671da6 for the first case, repair of F23 for the complete summary —
so that a task created without being recorded is stopped with the others once the Job is
complete through other tasks). -/
theorem no_create_when_stopped (s : Sys) (jo : JobObj) (rj : Job) (tasks : List Task)
    (h : canCreateTask rj = false ∨ (refreshedSummary s rj tasks).complete = true) :
    (syncCreateTasks s jo rj tasks).1 = s ∧ newCalls s (syncCreateTasks s jo rj tasks).1 = [] ∧
    syncCreateTasks s jo rj tasks = (s, some (rj, adoptUnrecordedTasks s jo tasks)) := by
  obtain ⟨_, _, hoff, hdone, _⟩ := syncCreateTasks_ext s jo rj tasks
  have he : syncCreateTasks s jo rj tasks = (s, some (rj, adoptUnrecordedTasks s jo tasks)) := by
    by_cases hcan : canCreateTask rj = true
    · rcases h with h | h
      · rw [hcan] at h; cases h
      · exact hdone hcan h
    · exact hoff (by simpa using hcan)
  have hs : (syncCreateTasks s jo rj tasks).1 = s := by rw [he]
  exact ⟨hs, by rw [hs]; exact (Ext.refl s).newCalls, he⟩

/-- `no_create_when_stopped`: with index `a` at its third failure (`maxAttempts = 3` reached: the
summary is complete, Failed) nothing is created; and nothing for a Job that is not started. -/
example :
    let failed3 : Job := { retryJob with status := { retryJob.status with tasks :=
      [{ name := "job-a-0", parallelIndex := some { hash := "a" }, finishTimestamp := some (sec 10) },
       { name := "job-a-1", parallelIndex := some { hash := "a" }, retryIndex := 1, finishTimestamp := some (sec 20) },
       { name := "job-a-2", parallelIndex := some { hash := "a" }, retryIndex := 2, finishTimestamp := some (sec 30) }] } }
    let notStarted : Job := { retryJob with status := {} }
    let s : Sys := { clock := sec 1000, d := { hash := "d" } }
    (refreshedSummary s failed3 []).complete = true ∧
    newCalls s (syncCreateTasks s ⟨"job", "u", failed3, true, 1⟩ failed3 []).1 = [] ∧
    newCalls s (sync s ⟨"job", "u", notStarted, true, 1⟩).1 = [] := by
  decide +kernel

/-- `canCreateTask`, exactly -/
theorem canCreateTask_iff (rj : Job) :
    canCreateTask rj = true ↔ rj.killTimestamp = none ∧ rj.admissionError = false := by
  unfold canCreateTask
  cases rj.killTimestamp <;> cases rj.admissionError <;> simp

example : canCreateTask retryJob = true ∧ canCreateTask { retryJob with killTimestamp := some (sec 9999) } = false ∧
    canCreateTask { retryJob with admissionError := true } = false := by decide

/-- `no_create_when_stopped` (whole pass) and `create_only_missing` at the level of `sync`: a
create call of a pass exists only for a cached Job that is started, not being deleted, without
kill timestamp and without admission error, whose refreshed summary is not complete — and then it
is for a due request computed from the cached refs. -/
theorem sync_create_only_missing (s : Sys) (jo : JobObj) :
    ∀ c ∈ newCalls s (sync s jo).1, c.verb = "create" →
      isStarted jo.job = true ∧ isDeleted jo.job = false ∧
      jo.job.killTimestamp = none ∧ jo.job.admissionError = false ∧
      (refreshedSummary s jo.job (tasks0 s jo jo.job)).complete = false ∧ c.res = "pods" ∧
      ∃ reqs, computeMissingIndexesForCreation s.d jo.job (jo.job.indexes s.d) = some reqs ∧
        ∃ r ∈ reqs, c.name = taskName jo.name r.index.hash r.retryIndex ∧ reqDueNow s.clock r := by
  intro c hc hv
  obtain ⟨hst, hdel, hto⟩ := syncOrigin_create s jo c ((sync_origin s jo).2 c hc) hv
  obtain ⟨hr, hcan, hcomp, hreq⟩ := taskOrigin_create s jo jo.job c hto hv
  obtain ⟨hk, ha⟩ := (canCreateTask_iff jo.job).mp hcan
  exact ⟨hst, hdel, hk, ha, hcomp, hr, hreq⟩

/-- … and for `SyncOne`: the only other calls are the two final Job writes. -/
theorem syncOne_create_only_missing (s : Sys) :
    ∀ c ∈ newCalls s (syncOne s).1, c.verb = "create" →
      ∃ jo, s.jobCache = some jo ∧ isStarted jo.job = true ∧ isDeleted jo.job = false ∧
        canCreateTask jo.job = true ∧ c.res = "pods" ∧
        ∃ reqs, computeMissingIndexesForCreation s.d jo.job (jo.job.indexes s.d) = some reqs ∧
          ∃ r ∈ reqs, c.name = taskName jo.name r.index.hash r.retryIndex ∧ reqDueNow s.clock r := by
  intro c hc hv
  obtain ⟨jo, hj, ho | ⟨hu, _⟩⟩ := (syncOne_origin s).2 c hc
  · obtain ⟨hst, hdel, hto⟩ := syncOrigin_create s jo c ho hv
    obtain ⟨hr, hcan, _, hreq⟩ := taskOrigin_create s jo jo.job c hto hv
    exact ⟨jo, hj, hst, hdel, hcan, hr, hreq⟩
  · rw [hu] at hv; simp at hv

/-- `SyncOne` at 160 s on the retry scenario: the create for `job-a-1`, then the status write -/
example :
    (newCalls (retrySys (sec 160)) (syncOne (retrySys (sec 160))).1).map brief =
      [("create", "pods", "job-a-1", "ok"), ("update", "jobs", "job", "ok")] := by
  decide +kernel

/-- A pass creates pods only through its create calls: every pod on the server after `sync` was
there before (by name), or carries the name of a create call of this pass that was answered
`ok` — which by `sync_create_only_missing` is `taskName jo.name hash retry` of a due request. -/
theorem sync_new_pods_are_requested (s : Sys) (jo : JobObj) :
    ∀ p ∈ (sync s jo).1.pods, (∃ p0 ∈ s.pods, p0.pod.name = p.pod.name) ∨
      ∃ c ∈ newCalls s (sync s jo).1, c.verb = "create" ∧ c.out = "ok" ∧ c.name = p.pod.name := by
  obtain ⟨⟨l, e⟩, _⟩ := sync_origin s jo
  intro p hp
  rcases e.pods p hp with h | ⟨c, hc, hv, _, ho, hn⟩
  · exact Or.inl h
  · exact Or.inr ⟨c, by rw [e.newCalls]; exact hc, hv, ho, hn⟩

/-- `create_names`: a create call answered `ok` adds exactly one pod: named
`taskName jo.name idx.hash retry`, absent from the server before, controlled by the Job (owner
reference uid and name) and labelled with its uid, carrying the retry number and the parallel
index, created now; any other answer leaves the pods untouched. -/
theorem create_names (s : Sys) (jo : JobObj) (idx : PIndex) (retry : Int) :
    ∃ c, newCalls s (apiCreatePod s jo idx retry).1 = [c] ∧ c.verb = "create" ∧ c.res = "pods" ∧
      c.name = taskName jo.name idx.hash retry ∧
      (c.out = "ok" →
        findPod s.pods (taskName jo.name idx.hash retry) = none ∧
        ∃ p : PodObj, (apiCreatePod s jo idx retry).1.pods = s.pods ++ [p] ∧
          p.pod.name = taskName jo.name idx.hash retry ∧ p.ownerUid = some jo.uid ∧
          p.ownerName = some jo.name ∧ p.jobLabel = some jo.uid ∧
          p.pod.retryIndex = some retry ∧ p.pod.parallelIndex = some idx ∧
          p.pod.creationTimestamp = some (nowT s) ∧ p.pod.deletionTimestamp = none) ∧
      (c.out ≠ "ok" → (apiCreatePod s jo idx retry).1.pods = s.pods) := by
  obtain ⟨c, e, hv, hr, hn, _, _, _, hok, hnok, _⟩ := apiCreatePod_ext s jo idx retry
  refine ⟨c, e.newCalls, hv, hr, hn, ?_, hnok⟩
  intro ho
  obtain ⟨h0, p, h1, h2, h3, h4, h5, h6, h7, h8, h9, _⟩ := hok ho
  exact ⟨h0, p, h1, h2, h3, h4, h5, h6, h7, h8, h9⟩

/-- `sync_create_only_missing` / `sync_new_pods_are_requested` / `create_names`: the whole pass at
160 s creates the pod `job-a-1`, owned by and labelled with the Job's uid, retry 1, index `a`. -/
example :
    ((sync (retrySys (sec 160)) ⟨"job", "u", retryJob, true, 1⟩).1.pods.map
      (fun p => (p.pod.name, p.ownerUid, p.jobLabel, p.pod.retryIndex, p.pod.parallelIndex.map (·.hash)))) =
      [("job-b-0", some "u", some "u", some 0, some "b"), ("job-a-1", some "u", some "u", some 1, some "a")] ∧
    (newCalls (retrySys (sec 160)) (sync (retrySys (sec 160)) ⟨"job", "u", retryJob, true, 1⟩).1).map brief =
      [("create", "pods", "job-a-1", "ok")] := by
  decide +kernel

/-- A task appended to the list by `syncCreateTask` is the pod just created (call answered `ok`)
or — the call having created nothing — the pod CACHE entry of that name controlled by this Job
(adoption reads the cache and never creates). -/
theorem created_or_adopted (s : Sys) (jo : JobObj) (rj rj' : Job) (tasks tasks' : List Task)
    (idx : PIndex) (retry : Int)
    (h : (syncCreateTask s jo rj tasks idx retry).2 = some (rj', tasks')) :
    tasks' = tasks ∨ ∃ t, tasks' = tasks ++ [t] ∧ ∃ p : PodObj, podTask s.clock p = some t ∧
      p.pod.name = taskName jo.name idx.hash retry ∧ p.ownerUid = some jo.uid ∧
      ((syncCreateTask s jo rj tasks idx retry).1.pods = s.pods ++ [p] ∨
       ((syncCreateTask s jo rj tasks idx retry).1.pods = s.pods ∧
         findPod s.podCache (taskName jo.name idx.hash retry) = some p)) := by
  obtain ⟨c, _, _, _, hn, _, _, _, hres⟩ := syncCreateTask_ext s jo rj tasks idx retry
  rcases (hres rj' tasks' h).2 with ⟨h, _⟩ | ⟨t, ht, p, hp, hpn, hou, hor⟩
  · exact Or.inl h
  · refine Or.inr ⟨t, ht, p, hp, by rw [hpn, hn], hou, ?_⟩
    rcases hor with ⟨_, h1, _⟩ | ⟨_, h1, h2⟩
    · exact Or.inl h1
    · exact Or.inr ⟨h1, by rw [← hn]; exact h2⟩

/-- `created_or_adopted`: the pod `job-a-1` already exists on the server (created by an earlier
pass that failed before recording it) and is in the cache: the create is answered `exists`, the
pod set is unchanged, and the cached pod is adopted into the task list. -/
example :
    let podA1 : PodObj := { pod := { name := "job-a-1", creationTimestamp := some (sec 150), retryIndex := some 1,
                                      parallelIndex := some { hash := "a" } },
                            ownerUid := some "u", ownerName := some "job", jobLabel := some "u" }
    let s : Sys := { retrySys (sec 160) with pods := [podB, podA1], podCache := [podB, podA1] }
    let r := syncCreateTask s ⟨"job", "u", retryJob, true, 1⟩ retryJob [] { hash := "a" } 1
    (newCalls s r.1).map brief = [("create", "pods", "job-a-1", "exists")] ∧
    r.1.pods.map (·.pod.name) = ["job-b-0", "job-a-1"] ∧
    r.2.map (fun x => x.2.map (·.name)) = some ["job-a-1"] := by
  decide +kernel

/-! ### the finish time a pass records for an attempt (F30 repaired)

`earliest_respects_delay` (Props/C08) and `create_only_missing` count the retry delay from the finish time
RECORDED in the ref.  What is recorded: the time the pod reports (`GetFinishTimestamp`: a container
termination time, or the DeadlineExceeded computation) when it tells one — `Pod.hasFinishTimestamp` —,
and otherwise (repair of F30) the CLOCK OF THE PASS that reads the pod, not the fallback of
`GetFinishTimestamp` (the pod's start / creation time).  `GetTaskRef` of `jobutil` keeps the
finish time of a ref that is already finished with a final state (fix 6ab84c2), so the value that stays
recorded is the clock of the FIRST pass that saw the pod finished — not before the instant the pod
finished, whatever the kubelet reports (history form: `C08Hist.recorded_finish_not_before`). -/

/-- the tie for the repair of F30 (fact regenerated from the source on every run, section
`jobctl-finish-time` of `harness/cmd/extract/jobctl_finish.go`): `PodTask.GetTaskRef` ends with
`if t := p.GetFinishTimestamp(); !t.IsZero() { if !p.hasFinishTimestamp() { t = *ktime.Now() }; task.FinishTimestamp = &t }`
and `hasFinishTimestamp` is "a container termination time, or the condition of the DeadlineExceeded branch
of `GetFinishTimestamp`" (`Model/Task.lean`: `Pod.hasFinishTimestamp`, `Pod.recordedFinish`).  Reverting
the repair makes this theorem false. -/
theorem source_records_observation_time : Facts.taskRefRecordsObservationTime = true := by decide

/-- the model's `Pod.recordedFinish` is that shape -/
theorem recordedFinish_shape (now : Time) (p : Pod) (fin : Option Time) :
    p.recordedFinish now fin = (if fin.isSome && !p.hasFinishTimestamp then some now else fin) ∧
    p.hasFinishTimestamp = ((containerTerminateTime p).isSome ||
      (p.statusReason == reasonDeadlineExceeded && p.activeDeadlineSeconds.isSome)) := ⟨rfl, rfl⟩

/-- a pod that tells when it finished is read the same at every clock -/
theorem podTask_eq_of_reported {p : PodObj} (h : p.pod.hasFinishTimestamp = true) (now now' : Time) :
    podTask now p = podTask now' p := by
  unfold podTask Pod.task Pod.taskRef
  cases hf : p.pod.finishTimestamp with
  | none => rfl
  | some fin => simp [Pod.recordedFinish, h]

/-- … and so is a pod that is not finished -/
theorem podTask_eq_of_unfinished {p : PodObj} (h : p.pod.isFinished = false) (now now' : Time) :
    podTask now p = podTask now' p := by
  unfold podTask Pod.task Pod.taskRef Pod.finishTimestamp
  simp [h, Pod.recordedFinish]

/-- `finish_recorded_is_observation`: a finished pod that does not tell when it finished (no container
termination time, not the DeadlineExceeded case) and carries a start time or a creation timestamp is read
with finish time = the clock of the reading pass -/
theorem finish_recorded_is_observation {now : Time} {p : PodObj} {t : Task} (h : podTask now p = some t)
    (hfin : p.pod.isFinished = true) (hnr : p.pod.hasFinishTimestamp = false)
    (hst : p.pod.startTime.isSome = true ∨ p.pod.creationTimestamp.isSome = true) :
    t.ref.finishTimestamp = some now := by
  have hnr' := hnr
  unfold Pod.hasFinishTimestamp at hnr'
  simp only [Bool.or_eq_false_iff] at hnr'
  obtain ⟨hct, hdl⟩ := hnr'
  have hctn : containerTerminateTime p.pod = none := by
    cases hc : containerTerminateTime p.pod with
    | none => rfl
    | some x => rw [hc] at hct; cases hct
  have hfinTs : ∃ fin, p.pod.finishTimestamp = some fin ∧ fin.isSome = true := by
    unfold Pod.finishTimestamp
    simp only [hfin, Bool.not_true, Bool.false_eq_true, ↓reduceIte, hctn, hdl]
    cases hs : p.pod.startTime with
    | some st => exact ⟨_, rfl, rfl⟩
    | none =>
      rcases hst with h1 | h1
      · rw [hs] at h1; cases h1
      · exact ⟨_, rfl, h1⟩
  obtain ⟨fin, hf1, hf2⟩ := hfinTs
  unfold podTask Pod.task Pod.taskRef at h
  simp only [hf1, Option.some.injEq] at h
  subst h
  simp [Pod.recordedFinish, hf2, hnr]

/-- `first_observation_kept`: what `GetTaskRef` (jobutil) records for a task read with finish time `now`:
a ref that is already finished with a final state keeps ITS finish time, any other ref (and a task
recorded for the first time) gets `now` -/
theorem first_observation_kept (ex : TaskRef) (t : Task) (now : Time) (hf : t.ref.finishTimestamp = some now) :
    (getTaskRef (some ex) t).finishTimestamp =
      (if ex.finishTimestamp.isSome && isFinalTaskState ex.status.state then ex.finishTimestamp else some now) ∧
    (getTaskRef none t).finishTimestamp = some now := by
  refine ⟨?_, ?_⟩
  · have := (Furiko.Props.C11.getTaskRef_retains ex t).2.1
    rw [this, hf]; rfl
  · unfold getTaskRef
    simp [hf]

/-- the finish times `GenerateTaskRefs` records at clock `now`: for every generated ref a finish time
that was recorded before under that name, the one its task is read with, or `now` (a lost ref) -/
theorem generated_finish_sources (now : Time) (existing : List TaskRef) (tasks : List Task) :
    ∀ r ∈ generateTaskRefs now existing tasks, ∀ f, r.finishTimestamp = some f →
      (∃ ex ∈ existing, ex.finishTimestamp = some f) ∨ (∃ t ∈ tasks, t.ref.finishTimestamp = some f) ∨ f = now := by
  intro r hr f hf
  unfold generateTaskRefs at hr
  simp only at hr
  rw [Furiko.StatusLemmas.mem_sortTaskRefs] at hr
  rcases List.mem_append.mp hr with h | h
  · obtain ⟨t, ht, rfl⟩ := List.mem_map.mp h
    cases hl : lookupRef existing t.name with
    | none =>
      rw [hl] at hf
      have : (getTaskRef none t).finishTimestamp = t.ref.finishTimestamp := by
        unfold getTaskRef; simp only; split <;> rfl
      exact Or.inr (Or.inl ⟨t, ht, by rw [← this]; exact hf⟩)
    | some ex =>
      rw [hl] at hf
      have hex : ex ∈ existing := by
        unfold lookupRef at hl
        exact List.mem_reverse.mp (List.mem_of_find?_eq_some hl)
      rw [(Furiko.Props.C11.getTaskRef_retains ex t).2.1] at hf
      split at hf
      · split at hf
        · exact Or.inl ⟨ex, hex, hf⟩
        · exact Or.inr (Or.inl ⟨t, ht, hf⟩)
      · exact Or.inl ⟨ex, hex, hf⟩
  · obtain ⟨ex, hex, rfl⟩ := List.mem_map.mp h
    have hex' := (List.mem_filter.mp hex).1
    rw [(Furiko.Props.C11.lostRef_retains now ex).2.2.1] at hf
    split at hf
    · exact Or.inl ⟨ex, hex', hf⟩
    · exact Or.inr (Or.inr (Option.some.inj hf).symm)

end Furiko.Props.C08Plan
