/-
C18 — Option evaluation and variable substitution are total, ordered and deterministic.

Property theorems, with the few reading lemmas stated in their vocabulary (`resolve_*`, `pod_*`); helper lemmas:
Proofs/OptionsLemmas.lean, Proofs/SubstTokens.lean.
Model: Model/Options.lean (evaluators, defaults, validation) and Model/Subst.lean
(`strings.ReplaceAll` fold, reserved-prefix cleanup, merges, pod-time order of sources).

Determinism is stated for both variants of `substituteVariables`, clearly separated:
VARIANT A (`false`: keys visited in map iteration order, the source before its repair f934e7e,
finding F4; only a restricted statement holds, with witnesses against the full one) and
VARIANT B (`true`: keys visited in sorted order, the source as it is, `Facts.substSortsKeys`).
-/
import FurikoModel.Proofs.OptionsLemmas
import FurikoModel.Proofs.SubstTokens

namespace Furiko.Props.C18
open Furiko Furiko.Options Furiko.Subst Furiko.SubstTokens Furiko.OptionsLemmas

/-- Evaluation is total: every (value, option) pair is either rejected with one of the three
error kinds or yields a value (the model is a total function; that the Go code never panics is
the correspondence check's `panic` output, which the model never predicts). -/
theorem evaluate_total (D : DateOracle) (v : Value) (o : Opt) :
    (∃ s, evaluateOption D v o = .ok s) ∨ (∃ e, evaluateOption D v o = .error e) := by
  cases h : evaluateOption D v o with
  | ok s => exact Or.inl ⟨s, rfl⟩
  | error e => exact Or.inr ⟨e, rfl⟩

/-- what it means for an evaluated value to respect the option's constraints -/
def Respects (D : DateOracle) (o : Opt) (s : Str) : Prop :=
  match o.type with
  | .bool => ∃ b, formatValue (o.bool.getD {}) b = some s
  | .string =>
    (o.required = true → s ≠ []) ∧ ((o.string.getD {}).trimSpaces = true → trimSpace s = s)
  | .select =>
    (o.required = true → s ≠ []) ∧
    (s = [] ∨ (o.select.getD {}).allowCustom = true ∨ s ∈ (o.select.getD {}).values)
  | .multi =>
    ∃ vs, s = join (o.multi.getD {}).delimiter vs ∧ (o.required = true → vs ≠ [] ∧ s ≠ []) ∧
      ∀ x ∈ vs, x ≠ [] ∧ ((o.multi.getD {}).allowCustom = true ∨ x ∈ (o.multi.getD {}).values)
  | .date =>
    (s = [] ∧ o.required = false) ∨
    ∃ t, t.zero = false ∧ D.format t (o.date.getD {}).format = some s
  | .unknown _ => False

/-- Whatever evaluation yields respects the option's constraints: allowed values unless custom
values are allowed, required ⇒ non-empty, trimming, bool / multi / date formatting. -/
theorem evaluate_respects_constraints (D : DateOracle) (v : Value) (o : Opt) (s : Str)
    (h : evaluateOption D v o = .ok s) : Respects D o s := by
  -- by the option's type: `h` is walked down the evaluator's branches; every branch but one returns an error,
  -- and the guards passed on the way to that one are the constraints
  unfold evaluateOption at h
  unfold Respects
  split at h
  · -- bool
    next ht =>
    simp only [ht]
    simp only [evaluateBool] at h
    split at h
    · next b _ =>
      split at h
      · next r hr => cases h; exact ⟨b, hr⟩
      · cases h
    · cases h
  · -- string
    next ht =>
    simp only [ht]
    simp only [evaluateString] at h
    split at h
    · next x _ =>
      by_cases htrim : (o.string.getD {}).trimSpaces = true
      · simp only [htrim, if_true] at h
        split at h
        · cases h
        · next hreq =>
          cases h
          exact ⟨fun hr he => hreq (by simp [hr, he]), fun _ => trimSpace_idem x⟩
      · simp only [htrim, Bool.false_eq_true, if_false] at h
        split at h
        · cases h
        · next hreq =>
          cases h
          exact ⟨fun hr he => hreq (by simp [hr, he]), fun ht => absurd ht htrim⟩
    · cases h
  · -- select
    next ht =>
    simp only [ht]
    simp only [evaluateSelect] at h
    split at h
    · next x _ =>
      split at h
      · cases h
      · next h1 =>
        split at h
        · cases h
        · next h2 =>
          cases h
          -- `h1`, `h2` are the two guards of `EvaluateOptionSelect`, negated
          rw [← containsString_iff]
          cases s <;> cases hr : o.required <;> cases hc : (o.select.getD {}).allowCustom <;> simp_all
    · cases h
  · -- multi
    next ht =>
    simp only [ht]
    simp only [evaluateMulti] at h
    split at h
    · split at h
      · cases h
      · exact multi_finish_respects o _ _ s h
    · exact multi_finish_respects o _ _ s h
    · cases h
  · -- date
    next ht =>
    simp only [ht]
    simp only [evaluateDate] at h
    split at h
    · cases h
    · next t _ =>
      split at h
      · next hz =>
        split at h
        · cases h
        · next hr => cases h; exact Or.inl ⟨rfl, by simpa using hr⟩
      · next hz =>
        split at h
        · next r hr => cases h; exact Or.inr ⟨t, by simpa using hz, hr⟩
        · cases h
  · cases h

/-- If `EvaluateOptions` reports no error (the Job is not rejected), the result holds exactly one
value per option of an accepted spec (names pairwise distinct): the keys are the options'
variable names, once each and nothing else, and each value is that option's evaluation of the
submitted value (`nil` when the key is missing). -/
theorem one_value_per_option (D : DateOracle) (vals : List (Str × Value)) (opts : List Opt)
    (m : List (Str × Str)) (hnd : (opts.map (·.name)).Nodup)
    (h : evaluateOptions D vals (some opts) = (m, [])) :
    m.map Prod.fst = opts.map optionVariableName ∧ (m.map Prod.fst).Nodup ∧
    ∀ o ∈ opts, ∃ s, evaluateOption D ((lookupS o.name vals).getD Value.null) o = .ok s ∧
      lookupS (optionVariableName o) m = some s := by
  rw [evaluateOptions_eq] at h
  obtain ⟨_, hkeys, _, hall⟩ := fold_ok D vals opts [] [] m hnd (fun _ _ => by simp) h
  simp only [List.map_nil, List.nil_append] at hkeys
  refine ⟨hkeys, ?_, hall⟩
  rw [hkeys]
  exact nodup_variableNames opts hnd

/-- and conversely a rejected Job has no evaluated map to speak of: any evaluation error of any
option is reported (the error list is non-empty) -/
theorem rejects_if_some_option_fails (D : DateOracle) (vals : List (Str × Value)) (opts : List Opt)
    (m : List (Str × Str)) (hnd : (opts.map (·.name)).Nodup)
    (h : evaluateOptions D vals (some opts) = (m, [])) (o : Opt) (ho : o ∈ opts) (e : EvalErr) :
    evaluateOption D ((lookupS o.name vals).getD Value.null) o ≠ .error e := by
  obtain ⟨_, _, hall⟩ := one_value_per_option D vals opts m hnd h
  obtain ⟨s, hs, _⟩ := hall o ho
  rw [hs]; intro hc; cases hc

/-- The default is used when no value is given (a Multi option also takes it for a given empty
list, `evaluateMulti.finish`), and it is what the JobConfig's defaults
produce: for an option accepted by `ValidateOption`, `EvaluateOptionDefault` succeeds with some
`d`, and evaluating an absent value gives `d` — unless the option is required and `d` is empty,
in which case the Job is rejected. -/
theorem absent_equals_default (D : DateOracle) (o : Opt) (ha : accepted o = true) :
    ∃ d, evaluateOptionDefault o = some d ∧
      evaluateOption D Value.null o = (if o.required && d.isEmpty then .error .required else .ok d) :=
  evaluate_absent D o (by simpa [accepted] using ha)

/-! Substitution: priority of sources, reserved prefixes, untouched text.

Templates are *tame*: `render T` for a token list `T` with `wfToks T` (`Tok.lit c` with `c ≠ '$'`,
`Tok.var n` with `n` free of `$ { }`), i.e. every `$` of the template starts a well-formed `${name}`
reference; braces, and unknown `${NAME}` references, are ordinary content.  Maps have keys free of
`$ { }`, values free of `$`, and pairwise distinct keys (`mapsOk`); prefixes are literal
(`plainPrefix`, true of the four prefixes the code uses).  Outside these hypotheses the statement
is false: a value that contains `${b}` is substituted again (`subst_order_dependent_witness`). -/

/-- **Priority, reserved prefixes, untouched text.** `SubstituteVariableMaps` (either variant of
`SubstituteVariables`) rewrites a tame template token by token (`resolveTok`): `${n}` becomes the
value of the FIRST map that binds `n`; otherwise it becomes empty if `n` is `<prefix>.<non-empty>`
for a reserved prefix; otherwise it is left as it is; literal text is never changed. -/
theorem priority_first_wins (sorted : Bool) (maps : List (List (Str × Str))) (prefixes : List Str)
    (hm : mapsOk maps) (hps : ∀ p ∈ prefixes, plainPrefix (trimSuffixDot p) = true)
    (T : List Tok) (hT : wfToks T = true) :
    substituteVariableMaps sorted (render T) maps prefixes =
      render (T.flatMap (resolveTok maps prefixes)) := by
  obtain ⟨h1, h2⟩ := foldMaps_render sorted maps hm T hT
  simp only [substituteVariableMaps]
  rw [h1, removePrefixes_render prefixes hps _ h2, filter_resolveVars]

/-- reading `resolveTok`: a bound variable takes the value of the first map binding it -/
theorem resolve_bound (m : List (Str × Str)) (ms : List (List (Str × Str))) (ps : List Str) (n v : Str)
    (h : lookupS n m = some v) : resolveTok (m :: ms) ps (.var n) = lits v := by
  simp [resolveTok, firstBinding, h]

/-- … a map that does not bind it is skipped -/
theorem resolve_skip (m : List (Str × Str)) (ms : List (List (Str × Str))) (ps : List Str) (n : Str)
    (h : lookupS n m = none) : resolveTok (m :: ms) ps (.var n) = resolveTok ms ps (.var n) := by
  simp [resolveTok, firstBinding, h]

/-- … an unbound variable of a reserved prefix becomes empty, any other unbound variable and all
literal text stay -/
theorem resolve_unbound (ps : List Str) (n : Str) :
    resolveTok [] ps (.var n) =
      if ps.any (fun p => reservedBy (trimSuffixDot p) n) then [] else [.var n] := rfl
theorem resolve_lit (maps : List (List (Str × Str))) (ps : List Str) (c : Char) :
    resolveTok maps ps (.lit c) = [.lit c] := rfl

/-- the prefixes `SubstitutePodSpec` cleans up (`GetAllPrefixes()` + `"option."`, regenerated from
the source) are literal, and the order of its sources is substitutions, job, task -/
theorem pod_prefixes_plain : ∀ p ∈ podRemovePrefixes, plainPrefix (trimSuffixDot p) = true := by decide +kernel
theorem pod_sources_order (subs jobVars taskVars : List (Str × Str)) (hne : subs ≠ []) :
    podSubMaps subs jobVars taskVars = [subs, jobVars, taskVars] := by
  have : 0 < subs.length := by cases subs <;> simp_all
  simp only [podSubMaps, Facts.podSubstSources, List.flatMap_cons, List.flatMap_nil]
  simp [this]

/-- **Pod time.** In the pod that is created, each `${n}` of a tame field takes the value from
the Job's stored substitutions, else the job context, else the task context; leftovers of the
prefixes `jobconfig. job. task. option.` become empty; everything else is untouched. -/
theorem pod_priority (sorted : Bool) (subs jobVars taskVars : List (Str × Str)) (hne : subs ≠ [])
    (hm : mapsOk [subs, jobVars, taskVars]) (T : List Tok) (hT : wfToks T = true) :
    podSub sorted subs jobVars taskVars (render T) =
      render (T.flatMap (resolveTok [subs, jobVars, taskVars] podRemovePrefixes)) := by
  simp only [podSub, pod_sources_order subs jobVars taskVars hne]
  exact priority_first_wins sorted _ _ hm pod_prefixes_plain T hT

/-- **Admission time.** The substitutions stored on an admitted Job bind `n` to the explicit
substitution, else the evaluated option value (= the JobConfig default when no value was given,
`absent_equals_default`), else the JobConfig context variable. -/
theorem admission_priority (jc ev ex : List (Str × Str)) (hjc : (keys jc).Nodup) (hev : (keys ev).Nodup)
    (hex : (keys ex).Nodup) (n : Str) :
    lookupS n (admissionSubstitutions jc ev ex) =
      (lookupS n ex).orElse fun _ => (lookupS n ev).orElse fun _ => lookupS n jc := by
  unfold admissionSubstitutions
  rw [lookupS_merge_two jc _ hjc (keys_merge_nodup _), lookupS_merge_two ev ex hev hex]
  cases lookupS n ex <;> simp

/-- the merge orders in mutation.go are the ones `admissionSubstitutions` models (regenerated) -/
theorem facts_admission_merges :
    Facts.admissionMerges = [["jobconfig".toList, "explicit".toList], ["evaluated".toList, "explicit".toList]] := by
  decide +kernel

/-! Determinism, variant A — `substituteVariables false`: Go map iteration order (the source
before its repair f934e7e).

FULL STATEMENT (what C18 asks for; FALSE for this variant, see the witnesses below):
  `∀ t es es', es.Perm es' → (keys es).Nodup →
     substituteVariables false t es = substituteVariables false t es'`.
Proved: the restriction to tame templates, keys free of `$ { }` and values free of `$`.
Missing: templates with a stray `$`, values containing `$`, keys containing `$ { }`. -/

theorem subst_order_independent_partial (T : List Tok) (hT : wfToks T = true)
    (es es' : List (Str × Str)) (hk : keysClean es = true) (hv : valuesDollarFree es = true)
    (hnd : (keys es).Nodup) (hp : es.Perm es') :
    substituteVariables false (render T) es = substituteVariables false (render T) es' := by
  have hnd' : (keys es').Nodup := (hp.map Prod.fst).nodup_iff.mp hnd
  rw [substituteVariables_render false es hk hv hnd T hT,
    substituteVariables_render false es' (by rw [← keysClean_perm hp]; exact hk)
      (by rw [← valuesDollarFree_perm hp]; exact hv) hnd' T hT,
    rho_perm hp hnd]

/-- the same maps, each enumerated in a possibly different order -/
inductive MapsPerm : List (List (Str × Str)) → List (List (Str × Str)) → Prop where
  | nil : MapsPerm [] []
  | cons {m m' : List (Str × Str)} {ms ms' : List (List (Str × Str))} :
      m.Perm m' → MapsPerm ms ms' → MapsPerm (m :: ms) (m' :: ms')

/-- the same for the whole pipeline: the result does not depend on the iteration order of any
of the maps (corollary of `priority_first_wins`, whose right-hand side mentions no order) -/
theorem substMaps_order_independent_partial (maps maps' : List (List (Str × Str))) (prefixes : List Str)
    (hm : mapsOk maps) (hperm : MapsPerm maps maps')
    (hps : ∀ p ∈ prefixes, plainPrefix (trimSuffixDot p) = true) (T : List Tok) (hT : wfToks T = true) :
    substituteVariableMaps false (render T) maps prefixes =
      substituteVariableMaps false (render T) maps' prefixes := by
  have hm' : mapsOk maps' := by
    intro m' hm'
    obtain ⟨m, hmem, hp⟩ : ∃ m, m ∈ maps ∧ m.Perm m' := by
      clear hm
      induction hperm with
      | nil => cases hm'
      | cons h _ ih =>
        cases List.mem_cons.mp hm' with
        | inl e => subst e; exact ⟨_, List.mem_cons_self, h⟩
        | inr e => obtain ⟨m, h1, h2⟩ := ih e; exact ⟨m, List.mem_cons_of_mem _ h1, h2⟩
    obtain ⟨h1, h2, h3⟩ := hm m hmem
    exact ⟨by rw [← keysClean_perm hp]; exact h1, by rw [← valuesDollarFree_perm hp]; exact h2,
      (hp.map Prod.fst).nodup_iff.mp h3⟩
  rw [priority_first_wins false maps prefixes hm hps T hT,
    priority_first_wins false maps' prefixes hm' hps T hT]
  congr 2
  funext t
  cases t with
  | lit c => rfl
  | var n =>
    have : firstBinding n maps = firstBinding n maps' := by
      clear hm'
      induction hperm with
      | nil => rfl
      | cons h _ ih =>
        simp only [firstBinding]
        rw [lookupS_perm h (hm _ List.mem_cons_self).2.2 n,
          ih (fun x hx => hm x (List.mem_cons_of_mem _ hx))]
    simp [resolveTok, this]

/-- **F4 witness**: a value that contains another variable of the same map.  Two iteration orders
of `{a ↦ "${b}", b ↦ "x"}` on `v=${a}` give `v=x` and `v=${b}` (replayed on the real code by the
corpus scenario `f4-subst-order`). -/
theorem subst_order_dependent_witness :
    ∃ (t : Str) (es es' : List (Str × Str)), es.Perm es' ∧ (keys es).Nodup ∧
      substituteVariables false t es ≠ substituteVariables false t es' :=
  ⟨"v=${a}".toList, [(['a'], "${b}".toList), (['b'], ['x'])], [(['b'], ['x']), (['a'], "${b}".toList)],
    List.Perm.swap _ _ _, by decide +kernel, by decide +kernel⟩

/-- the same defect with inert values: a nested reference in the template … -/
theorem subst_order_dependent_witness_nested :
    substituteVariables false "${a${b}}".toList [(['b'], ['1']), ("a1".toList, ['x'])] ≠
    substituteVariables false "${a${b}}".toList [("a1".toList, ['x']), (['b'], ['1'])] := by decide +kernel

/-- … and an empty value that glues `$` to `{b}` (scenario `f4-inert-values`) -/
theorem subst_order_dependent_witness_empty_value :
    substituteVariables false "$${a}{b}".toList [(['a'], []), (['b'], ['x'])] ≠
    substituteVariables false "$${a}{b}".toList [(['b'], ['x']), (['a'], [])] := by decide +kernel

/-- should the regenerated fact say that `SubstituteVariables` ranges over the map (today it says
that the keys are sorted), the model of the current code is order dependent -/
theorem subst_order_dependent_current (h : Facts.substSortsKeys = false) :
    ∃ (t : Str) (es es' : List (Str × Str)), es.Perm es' ∧ (keys es).Nodup ∧
      substituteVariables Facts.substSortsKeys t es ≠ substituteVariables Facts.substSortsKeys t es' := by
  rw [h]; exact subst_order_dependent_witness

/-! Determinism, variant B — `substituteVariables true`: keys visited in sorted order (the source
as it is).  The full determinism clause, for ALL templates, keys and values. -/

/-- **Determinism (sorted keys).** Whatever order the map is enumerated in, the result of
`SubstituteVariables` is the same. -/
theorem subst_deterministic (t : Str) (es es' : List (Str × Str)) (hp : es.Perm es')
    (hnd : (keys es).Nodup) :
    substituteVariables true t es = substituteVariables true t es' := by
  simp only [substituteVariables, if_true]
  rw [sortByKey_perm_eq hp hnd]

/-- … and so is the whole pipeline -/
theorem substMaps_deterministic (t : Str) (maps maps' : List (List (Str × Str))) (prefixes : List Str)
    (hnd : ∀ m ∈ maps, (keys m).Nodup) (hperm : MapsPerm maps maps') :
    substituteVariableMaps true t maps prefixes = substituteVariableMaps true t maps' prefixes := by
  simp only [substituteVariableMaps]
  congr 1
  induction hperm generalizing t with
  | nil => rfl
  | cons h _ ih =>
    simp only [List.foldl_cons]
    rw [subst_deterministic t _ _ h (hnd _ List.mem_cons_self)]
    exact ih _ (fun m hm => hnd m (List.mem_cons_of_mem _ hm))

/-- as soon as the regenerated fact says the source sorts the keys, the model of the current
code is deterministic -/
theorem subst_deterministic_current (h : Facts.substSortsKeys = true) (t : Str)
    (es es' : List (Str × Str)) (hp : es.Perm es') (hnd : (keys es).Nodup) :
    substituteVariables Facts.substSortsKeys t es = substituteVariables Facts.substSortsKeys t es' := by
  rw [h]; exact subst_deterministic t es es' hp hnd

/-! Non-vacuity: concrete, non-trivial instances of every hypothesis set. -/
section Examples

def D0 : DateOracle := { parse := fun _ => none, format := fun _ _ => none }
/-- a required Select without default and without custom values -/
def exSelect : Opt :=
  { type := .select, name := ['e', 'n', 'v'], required := true,
    select := some { default := [], values := [['d', 'e', 'v'], ['p', 'r', 'o', 'd']], allowCustom := false } }
/-- a trimmed String with a default -/
def exString : Opt :=
  { type := .string, name := ['u'], string := some { default := " bob ".toList, trimSpaces := true } }
/-- a Multi with default and delimiter -/
def exMulti : Opt :=
  { type := .multi, name := ['m'], required := true,
    multi := some { default := [['a'], ['b']], delimiter := [','], values := [['a'], ['b'], ['c']], allowCustom := false } }
def exBool : Opt :=
  { type := .bool, name := ['f'], bool := some { default := true, format := "YesNo".toList } }

-- evaluate_total: a value and each of the three error kinds occur
example : evaluateOption D0 (.str ['d', 'e', 'v']) exSelect = .ok ['d', 'e', 'v'] := by rfl
example : evaluateOption D0 (.str ['q', 'a']) exSelect = .error .notSupported := by rfl
example : evaluateOption D0 .null exSelect = .error .required := by rfl
example : evaluateOption D0 (.bool true) exSelect = .error .invalid := by rfl
-- evaluate_respects_constraints
example : Respects D0 exSelect ['d', 'e', 'v'] := evaluate_respects_constraints D0 (.str ['d', 'e', 'v']) _ _ (by rfl)
example : Respects D0 exString ['x'] := evaluate_respects_constraints D0 (.str " x\t".toList) _ _ (by rfl)
example : Respects D0 exMulti "c,a".toList :=
  evaluate_respects_constraints D0 (.list [some ['c'], some ['a']]) _ _ (by rfl)
-- one_value_per_option: three options, one value submitted, two defaults
example : evaluateOptions D0 [(['e', 'n', 'v'], .str ['d', 'e', 'v'])] (some [exSelect, exString, exMulti]) =
    ([("option.env".toList, "dev".toList), ("option.u".toList, "bob".toList), ("option.m".toList, "a,b".toList)], []) := by
  decide +kernel
example := one_value_per_option D0 [(['e', 'n', 'v'], .str ['d', 'e', 'v'])] [exSelect, exString, exMulti] _
  (by decide) (by rfl)
-- absent_equals_default: accepted options of four types (one of them required-and-empty)
example : accepted exSelect = true ∧ accepted exString = true ∧ accepted exMulti = true ∧ accepted exBool = true := by
  decide +kernel
example : evaluateOption D0 .null exMulti = .ok "a,b".toList ∧ evaluateOptionDefault exMulti = some "a,b".toList := by
  exact ⟨by rfl, by rfl⟩
example : evaluateOption D0 .null exBool = .ok "yes".toList := by rfl

/-- `echo ${option.a} ${job.name} ${task.none} ${HOME} {}` -/
def exT : List Tok :=
  lits "echo ".toList ++ [.var "option.a".toList, .lit ' ', .var "job.name".toList, .lit ' ',
    .var "task.none".toList, .lit ' ', .var "HOME".toList, .lit ' ', .lit '{', .lit '}']
def exMaps : List (List (Str × Str)) :=
  [[("option.a".toList, "explicit".toList)],
   [("job.name".toList, ['j']), ("option.a".toList, "low".toList)],
   [("job.name".toList, "lower".toList), ("task.name".toList, ['t'])]]

-- priority_first_wins / pod_priority: the hypotheses hold and the result is the expected string
example : wfToks exT = true := by decide +kernel
example : mapsOk exMaps := by unfold mapsOk; decide +kernel
example : substituteVariableMaps false (render exT) exMaps podRemovePrefixes =
    "echo explicit j  ${HOME} {}".toList := by decide +kernel
example : render (exT.flatMap (resolveTok exMaps podRemovePrefixes)) = "echo explicit j  ${HOME} {}".toList := by
  decide +kernel
-- admission_priority: explicit beats the evaluated option beats the JobConfig context
example : lookupS "option.a".toList (admissionSubstitutions
    [("jobconfig.name".toList, ['c'])] [("option.a".toList, ['e']), ("option.b".toList, ['d'])]
    [("option.a".toList, ['x'])]) = some ['x'] := by decide +kernel
-- subst_order_independent_partial: a non-trivial permutation of a two-entry map
example : substituteVariables false (render exT) [("job.name".toList, ['j']), ("option.a".toList, ['v'])] =
    substituteVariables false (render exT) [("option.a".toList, ['v']), ("job.name".toList, ['j'])] :=
  subst_order_independent_partial exT (by decide +kernel) _ _ (by decide +kernel) (by decide +kernel) (by decide +kernel) (List.Perm.swap _ _ _)
-- subst_deterministic: on the F4 witness both enumeration orders now agree
example : substituteVariables true "v=${a}".toList [(['a'], "${b}".toList), (['b'], ['x'])] =
    substituteVariables true "v=${a}".toList [(['b'], ['x']), (['a'], "${b}".toList)] :=
  subst_deterministic _ _ _ (List.Perm.swap _ _ _) (by decide +kernel)

end Examples

end Furiko.Props.C18
