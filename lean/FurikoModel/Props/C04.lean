/-
C04 — restart catch-up (`initialTime`, `newItem`, `schedNew`).

`downtimeNs cfg dflt = (if cfg > 0 then cfg else dflt) * 10^9`  (D),
`lowerNs jc cfg dflt now = max (match ls with some ls => max (ls*10^9) (now - D) | none => now)
                              (lu*10^9 if set)`                                (X),
`Eligible jc cfg dflt now m := jc.M' m ∧ X < m*10^9 ∧ (notBefore = some nbf → nbf ≤ m)`
(`jc.M'` contains the `notBefore` bound itself — `getNext` enforces it on every Bump via
`applyNotBefore` — so the last conjunct, and the `-1ns` step of `initialTime`, are redundant).
No sign assumptions are needed: all statements hold for arbitrary integer `now`, timestamps and
downtimes (sub-second `now` included), because `floorSec` is the floor for negative values too.
-/
import FurikoModel.Proofs.CronCatchUp
import FurikoModel.Proofs.CronExamples
import FurikoModel.Proofs.CronLoaded

namespace Furiko.Cron.C04
open Furiko Furiko.Cron

/-- `initialTime` equals `X`, or `nbf*10^9 - 1` when `X` lies before `notBefore`; and the first
entry produced by `newItem` is the least matching in-window second `m` with `m*10^9 > X` and
`m ≥ notBefore` (the `-1ns` makes `notBefore` inclusive), or there is no entry iff no such second
exists. -/
theorem initial_lower_bound {jc : JC} (hs : ∀ l ∈ jc.sched.exprs, SortedStrict l)
    (hen : jc.sched.enabled = true) (hpe : jc.sched.parseErr = false) (cfg dflt now : Int) :
    (initialTime jc cfg dflt now =
      match jc.sched.notBefore with
      | some nbf =>
        if lowerNs jc cfg dflt now < nbf * 1000000000 then nbf * 1000000000 - 1
        else lowerNs jc cfg dflt now
      | none => lowerNs jc cfg dflt now) ∧
    ∃ r : Option Int,
      newItem jc cfg dflt now = .ok (r.map (fun n => (jc.key, n))) ∧
      (∀ m, r = some m → Eligible jc cfg dflt now m ∧ ∀ u, Eligible jc cfg dflt now u → m ≤ u) ∧
      (r = none → ∀ u, ¬ Eligible jc cfg dflt now u) :=
  ⟨initialTime_eq jc cfg dflt now, newEntry jc cfg dflt now, newItem_active hen hpe cfg dflt now,
    newEntry_spec hs cfg dflt now⟩

/-- non-vacuity: `Ex.jcA` restarted at 25.5 s, never scheduled: first entry is 30 -/
example : (∀ l ∈ Ex.jcA.sched.exprs, SortedStrict l) ∧ Ex.jcA.sched.enabled = true ∧
    Ex.jcA.sched.parseErr = false ∧
    (match newItem Ex.jcA 0 300 25500000000 with | .ok r => r | .error _ => none)
      = some ("a", 30) :=
  ⟨Ex.jcA_sorted, rfl, rfl, by decide⟩

/-- a time already scheduled before the restart is never requested again: the entry built at
start-up is strictly after `lastScheduled`.  (No assumption `ls*10^9 ≤ now` is needed.)  With
C01 (`fired_on_schedule`: every request is ≥ the entry) this covers every later request. -/
theorem never_rerequest {jc : JC} (hs : ∀ l ∈ jc.sched.exprs, SortedStrict l)
    (cfg dflt now : Int) {ls : Int} (hls : jc.lastScheduled = some ls) {k : String} {n : Int}
    (hn : newItem jc cfg dflt now = .ok (some (k, n))) : ls < n := by
  have hr := (newItem_some hn).2.2.2
  have := ((newEntry_spec hs cfg dflt now).1 n hr).1.2.1
  have := lowerNs_ge_ls hls cfg dflt now
  omega

example : let jc : JC := { Ex.jcA with lastScheduled := some 20 }
    (∀ l ∈ jc.sched.exprs, SortedStrict l) ∧ jc.lastScheduled = some 20 ∧
    (match newItem jc 0 300 25500000000 with | .ok r => r | .error _ => none)
      = some ("a", 30) :=
  ⟨Ex.jcA_sorted, rfl, by decide⟩

/-- a JobConfig that was never scheduled is not back-filled: its first entry is the least
matching in-window second `m ≥ notBefore` whose instant is strictly after `max now (lu*10^9)`;
in particular strictly after `now` (even when `now` is not a whole second). -/
theorem never_scheduled_no_backfill {jc : JC} (hs : ∀ l ∈ jc.sched.exprs, SortedStrict l)
    (hen : jc.sched.enabled = true) (hpe : jc.sched.parseErr = false)
    (cfg dflt now : Int) (hls : jc.lastScheduled = none) :
    lowerNs jc cfg dflt now =
      (match jc.sched.lastUpdated with | some lu => max now (lu * 1000000000) | none => now) ∧
    ∃ r : Option Int,
      newItem jc cfg dflt now = .ok (r.map (fun n => (jc.key, n))) ∧
      (∀ m, r = some m → now < m * 1000000000 ∧ Eligible jc cfg dflt now m ∧
        ∀ u, Eligible jc cfg dflt now u → m ≤ u) ∧
      (r = none → ∀ u, ¬ Eligible jc cfg dflt now u) := by
  have hlow : lowerNs jc cfg dflt now =
      (match jc.sched.lastUpdated with | some lu => max now (lu * 1000000000) | none => now) := by
    unfold lowerNs; rw [hls]; cases jc.sched.lastUpdated <;> rfl
  refine ⟨hlow, newEntry jc cfg dflt now, newItem_active hen hpe cfg dflt now, fun m hm => ?_,
    (newEntry_spec hs cfg dflt now).2⟩
  have h := (newEntry_spec hs cfg dflt now).1 m hm
  refine ⟨?_, h⟩
  have := h.1.2.1
  rw [hlow] at this
  cases hlu : jc.sched.lastUpdated <;> rw [hlu] at this <;> simp only [] at this <;> omega

example : (∀ l ∈ Ex.jcA.sched.exprs, SortedStrict l) ∧ Ex.jcA.sched.enabled = true ∧
    Ex.jcA.sched.parseErr = false ∧ Ex.jcA.lastScheduled = none :=
  ⟨Ex.jcA_sorted, rfl, rfl, rfl⟩

/-- one enabled JobConfig that does not parse aborts the whole load, and nothing else does -/
theorem schedNew_all_or_nothing (jcs : List JC) (cfg dflt now : Int) :
    schedNew jcs cfg dflt now = none ↔
      ∃ jc ∈ jcs, jc.sched.enabled = true ∧ jc.sched.parseErr = true :=
  schedNew_none_iff jcs cfg dflt now

/-- Catch-up after a restart is exact, whenever the informer's add notifications for the loaded
JobConfigs are handled.  `bootCtl jcs pq` is the state `CronWorker.Init` leaves behind (heap from
`schedNew`, lister = the loaded JobConfigs with distinct keys, the record of what was loaded);
`acts` is ANY boot sequence: ticks interleaved with the initial adds of loaded JobConfigs, each at
most once (`BootOK`; before the first tick, between ticks, or never).  The FIRST tick (at `n₁`)
requests for every enabled, parsing JobConfig exactly the `min cap |D|` earliest elements of
`D = {m | jc.M' m ∧ lowerNs < m*10^9 ∧ notBefore ≤ m ∧ m ≤ floorSec n₁}` (as a strictly increasing
list).  `n₁ ≥ now` is not needed.  (Tick-only form: `catch_up_lemma`.) -/
theorem catch_up_exact {jcs : List JC} {cfg dflt now : Int} {pq : Heap.PQ}
    (hnd : (jcs.map (fun jc => jc.key)).Nodup)
    (hs : ∀ jc ∈ jcs, ∀ l ∈ jc.sched.exprs, SortedStrict l)
    (h : schedNew jcs cfg dflt now = some pq) {n1 cap : Int} {flushLimit fuel : Nat}
    {acts : List CtlAct} (hok : BootOK jcs acts) {ts : List Int} (hticks : ticksOf acts = n1 :: ts)
    (hdone : (ctlRun Shapes.fixed cap flushLimit fuel (bootCtl jcs pq) acts).2.2 = true)
    {jc : JC} (hjc : jc ∈ jcs) (hen : jc.sched.enabled = true) (hpe : jc.sched.parseErr = false) :
    ∃ D : List Int, SortedStrict D ∧
      (∀ m, m ∈ D ↔ Eligible jc cfg dflt now m ∧ m ≤ floorSec n1) ∧
      ∃ first later,
        (ctlRun Shapes.fixed cap flushLimit fuel (bootCtl jcs pq) acts).2.1 = first :: later ∧
        (first.filter (fun p => p.1 = jc.key)).map (fun p => p.2) = D.take cap.toNat := by
  have hrun := (ctlRun_bootCtl cap flushLimit fuel pq hnd hok).2
  rw [hticks] at hrun
  rw [hrun] at hdone
  simp only [runTicks, Bool.and_eq_true] at hdone
  obtain ⟨D, hD, hmem, htake⟩ := catch_up_lemma hnd hs h hdone.1 hjc ⟨hen, hpe⟩
  refine ⟨D, hD, hmem, (work ⟨pq, listerOf jcs, []⟩ n1 cap flushLimit fuel).2.1,
    (runTicks cap flushLimit fuel (work ⟨pq, listerOf jcs, []⟩ n1 cap flushLimit fuel).1 ts).2.1,
    ?_, htake⟩
  rw [hrun]; rfl

/-- non-vacuity: `Ex.jcA` last scheduled at 5 s, restart at 25.5 s, first tick at 26 s with cap 2:
`D = [10, 15, 20]`, requested `[10, 15]` -/
example : let jc : JC := { Ex.jcA with lastScheduled := some 5 }
    ([jc].map (fun jc => jc.key)).Nodup ∧
    schedNew [jc] 0 300 25500000000 = some (Heap.new [("a", 10)]) ∧
    (work ⟨Heap.new [("a", 10)], [jc].map (fun jc => (jc.key, jc)), []⟩ 26000000000 2 1000 10).2
      = ([("a", 10), ("a", 15)], true) ∧
    -- … and the same with the initial add of "a" handled between `Init` and that tick
    BootOK [jc] [.initialAdd jc, .tick 26000000000] ∧
    (ctlRun Shapes.fixed 2 1000 10 (bootCtl [jc] (Heap.new [("a", 10)]))
      [.initialAdd jc, .tick 26000000000]).2 = ([[("a", 10), ("a", 15)]], true) :=
  ⟨by decide, rfl, by decide,
   ⟨by decide, by simp [initialAddsOf], by simp [initialAddsOf]⟩, by decide⟩

/-- `never_rerequest` composed with C01 over a whole run: after a restart (state `bootCtl jcs pq`
left by `Init`) no tick ever requests a time at or before `lastScheduled`, for ANY interleaving of
the ticks with the informer's initial adds of the loaded JobConfigs (`BootOK`).  (Tick-only form:
`never_rerequest_run_lemma`.) -/
theorem never_rerequest_run {jcs : List JC} {cfg dflt now : Int} {pq : Heap.PQ}
    (hnd : (jcs.map (fun jc => jc.key)).Nodup)
    (hs : ∀ jc ∈ jcs, ∀ l ∈ jc.sched.exprs, SortedStrict l)
    (h : schedNew jcs cfg dflt now = some pq) {cap : Int} {flushLimit fuel : Nat}
    {acts : List CtlAct} (hok : BootOK jcs acts) (hts : List.Pairwise (· ≤ ·) (ticksOf acts))
    (hdone : (ctlRun Shapes.fixed cap flushLimit fuel (bootCtl jcs pq) acts).2.2 = true)
    {jc : JC} (hjc : jc ∈ jcs) {ls : Int} (hls : jc.lastScheduled = some ls) :
    ∀ t, (jc.key, t) ∈
        (ctlRun Shapes.fixed cap flushLimit fuel (bootCtl jcs pq) acts).2.1.flatten →
      ls < t := by
  have hrun := (ctlRun_bootCtl cap flushLimit fuel pq hnd hok).2
  rw [hrun] at hdone ⊢
  exact never_rerequest_run_lemma hnd hs h _ hts hdone hjc hls

example : let jc : JC := { Ex.jcA with lastScheduled := some 15 }
    schedNew [jc] 0 300 25500000000 = some (Heap.new [("a", 20)]) ∧
    BootOK [jc] [.tick 26000000000, .initialAdd jc, .tick 31000000000] ∧
    (ctlRun Shapes.fixed 5 1000 10 (bootCtl [jc] (Heap.new [("a", 20)]))
      [.tick 26000000000, .initialAdd jc, .tick 31000000000]).2 = ([[("a", 20)], [("a", 30)]], true) :=
  ⟨rfl, ⟨by decide, by simp [initialAddsOf], by simp [initialAddsOf]⟩, by decide⟩

/-- **Any interleaving.**  A boot sequence requests, tick by tick, exactly what its ticks alone
request from the state `Init` left, and ends in the same heap / lister / channel: the initial adds
of loaded JobConfigs are invisible.  Every theorem of C01 about `runTicks` (exactly once, in
order, never early, complete when the cap is not hit) therefore speaks about the run after a
restart, however late the informer's notifications are handled. -/
theorem boot_run_eq_ticks {jcs : List JC} (pq : Heap.PQ)
    (hnd : (jcs.map (fun jc => jc.key)).Nodup) (cap : Int) (flushLimit fuel : Nat)
    {acts : List CtlAct} (hok : BootOK jcs acts) :
    (ctlRun Shapes.fixed cap flushLimit fuel (bootCtl jcs pq) acts).1.worker
      = (runTicks cap flushLimit fuel ⟨pq, jcs.map (fun jc => (jc.key, jc)), []⟩ (ticksOf acts)).1 ∧
    (ctlRun Shapes.fixed cap flushLimit fuel (bootCtl jcs pq) acts).2
      = (runTicks cap flushLimit fuel ⟨pq, jcs.map (fun jc => (jc.key, jc)), []⟩ (ticksOf acts)).2 :=
  ctlRun_bootCtl cap flushLimit fuel pq hnd hok

end Furiko.Cron.C04
