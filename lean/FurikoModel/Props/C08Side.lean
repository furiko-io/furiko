/-
C08 — two concrete histories.  First F30 (REPAIRED in /repo): the retry delay of an attempt that
fails WITHOUT container termination info.  Then F19 through a stale POD cache (witness; see the
comment in front of `jobI`).

C08: "a retry is never created before retryDelaySeconds have elapsed since the previous attempt
finished".  The theorems (`C08Plan`: earliest = latest RECORDED finish + delay; `C08Hist`) speak of the
finish time that is recorded for the attempt.  For a pod that reaches phase Failed with no container
status carrying a termination time (kubelet eviction, node lost, DeadlineExceeded without
activeDeadlineSeconds) `PodTask.GetFinishTimestamp` falls back to `status.startTime` (else the creation
time).  Before the repair that fallback was RECORDED: the finish of the attempt was the instant it
STARTED, and the retry of an attempt that had run for an hour was created seconds after it ended.
Since the repair `PodTask.GetTaskRef` records `ktime.Now()` for such a pod (`Pod.recordedFinish`): the
clock of the pass that first observes the pod finished, which is not before the instant it finished;
`GetTaskRef` of `jobutil` keeps that first value on later observations (fix 6ab84c2).  The history below
is inside the kubelet contract (`KubeletOK`: the phase only moves forward) and needs no fault, no lag and
no user action; it is replayed on the real controller by the corpus scenario
`f30-evicted-task-retry-respects-delay`, whose monitor `retry-delay-true-finish` judges every create
against the instant at which the simulated kubelet really ended the attempt.
-/
import FurikoModel.Props.SideCommon
import FurikoModel.Props.HistCommon

namespace Furiko.Props.C08Side
open Furiko Furiko.JobCtl Furiko.Props.Side

set_option synthInstance.maxSize 1024

/-- one index, two attempts, retry delay 600 s -/
def jobE : JobObj :=
  { Ex.job with job := { Ex.job.job with template := some { maxAttempts := some 2, retryDelaySeconds := some 600 } } }
def e0 : Sys := initSys 0 {} Ex.d jobE
/-- `job-h-0` is created and recorded -/
def eA : Sys := runActs e0 Ex.runA
/-- the pod starts running at 5 s (`status.startTime` = 5 s), which is recorded; an hour passes -/
def evictRun1 : List Action :=
  [.deliverPod, .advance (sec 5),
   .kubelet (withStatus (podOf eA "job-h-0") .running (some (secs 5)) [{ running := some (some (secs 5)) }]),
   .deliverPod, .work, .deliverJob, .advance (sec 3600)]
def eK1 : Sys := runActs eA evictRun1
/-- at 3605 s the pod is EVICTED: phase Failed, no container status; the pass records the failure; two
seconds later the next pass runs -/
def evictRun2 : List Action :=
  [.kubelet (withStatus (podOf eK1 "job-h-0") .failed (some (secs 5)) []), .deliverPod, .work, .deliverJob,
   .advance (sec 2), .work]
def eK2 : Sys := runActs eK1 evictRun2
/-- one second before the delay has elapsed a pass runs … -/
def evictRun3 : List Action := [.advance (sec 597), .work]
def eK3 : Sys := runActs eK2 evictRun3
/-- … and one at the instant it has -/
def evictRun4 : List Action := [.advance (sec 1), .work]
def eK4 : Sys := runActs eK3 evictRun4

/-- regression (F30 repaired): a reachable history without faults, informer lag, user action, external deletion — only
passes, deliveries, kubelet status writes that respect the kubelet contract, and the clock.  The attempt
`job-h-0` runs from 5 s and is ended by the kubelet at clock 3605 s; the finish time RECORDED for it is
3605 s — the clock of the pass that observed it, not before the kubelet's instant — and stays 3605 s when
the pass at 3607 s observes the pod again; that pass (2 s after the end, `retryDelaySeconds` = 600) and the
pass at 4204 s issue NO call and leave the timer at 4205 s armed; the retry `job-h-1` is created by the
pass at clock 4205 s = 3605 s + 600 s. -/
theorem evicted_retry_respects_delay :
    Reach lagAndLoss jobE eK4 ∧
    eK1.clock = secs 3605 ∧ eK2.clock = secs 3607 ∧ eK3.clock = secs 4204 ∧ eK4.clock = secs 4205 ∧
    (jobE.job.template.bind (·.retryDelaySeconds)) = some 600 ∧
    refsView eK1 = [("job-h-0", .running, .none, some (secs 5), none)] ∧
    (callsOf eK2 = [] ∧ eK2.q.delayed = [("ns/job", secs 4205)] ∧
      refsView eK2 = [("job-h-0", .terminated, .failed, some (secs 5), some (secs 3605))]) ∧
    (callsOf eK3 = [] ∧ eK3.q.delayed = [("ns/job", secs 4205)] ∧ eK3.pods.map (·.pod.name) = ["job-h-0"]) ∧
    callsOf eK4 = [("create", "pods", "job-h-1", "ok", false), ("update", "jobs", "job", "ok", true)] ∧
    refsView eK4 = [("job-h-0", .terminated, .failed, some (secs 5), some (secs 3605)),
                    ("job-h-1", .starting, .none, none, none)] :=
  reach_of_guards (fun (g : AllowedAll lagAndLoss jobE e0 Ex.runA ∧ AllowedAll lagAndLoss jobE eA evictRun1 ∧
      AllowedAll lagAndLoss jobE eK1 evictRun2 ∧ AllowedAll lagAndLoss jobE eK2 evictRun3 ∧
      AllowedAll lagAndLoss jobE eK3 evictRun4) =>
    reach_run (reach_run (reach_run (reach_run (reach_run (.init 0 {} Ex.d (by decide +kernel)) Ex.runA g.1)
      evictRun1 g.2.1) evictRun2 g.2.2.1) evictRun3 g.2.2.2.1) evictRun4 g.2.2.2.2) (by decide +kernel)

/-! ### F19 through a stale POD cache: the pod cache serves the PREVIOUS incarnation of a task name

Corpus scenario `f19-stale-pod-cache-serves-previous-incarnation`.  Same root cause as F19 — a task NAME
identifies different pod incarnations, the refs carry no UID — reached through a stale pod cache instead
of a stale Job cache.  The pass that creates the second incarnation starts OUTSIDE `E-NoStaleCopyOnCreate`
(`noStaleCheck = false`: the requested name is absent from the server but still in the pod cache), which
is what `checkNoStaleCopy` of the harness evaluates. -/

/-- one index, three attempts, retry delay 60 s -/
def jobI : JobObj :=
  { Ex.job with job := { Ex.job.job with template := some { maxAttempts := some 3, retryDelaySeconds := some 60 } } }
def i0 : Sys := initSys 0 {} Ex.d jobI
/-- incarnation 1 of `job-h-0` is created; the status write conflicts: unrecorded -/
def incRun1 : List Action := [.deliverJob, .setFaults ["", "conflict"], .work]
def iK1 : Sys := runActs i0 incRun1
def inc1Failed : PodObj :=
  withStatus (podOf iK1 "job-h-0") .failed (some 0)
    [{ terminated := some { startedAt := some 0, finishedAt := some (secs 1), reason := "OOMKilled" } }]
/-- incarnation 1 ends Failed / OOMKilled at 1 s, the pod cache catches up with it, the object vanishes
(its delete event stays undelivered); at 100 s … -/
def incRun2 : List Action :=
  [.advance (sec 1), .kubelet inc1Failed, .deliverPod, .deliverPod, .externalDelete "job-h-0", .advance (sec 99)]
def iPre : Sys := runActs iK1 incRun2
/-- … a pass runs: `status.tasks` is empty and the name is free on the server: incarnation 2 is created
and recorded -/
def iK2 : Sys := runActs iPre [.work]
/-- incarnation 2 runs (event undelivered); the pass reads the pod cache: incarnation 1 -/
def incRun3 : List Action :=
  [.deliverJob, .kubelet (withStatus (podOf iK2 "job-h-0") .running (some (secs 100)) [{ running := some (some (secs 100)) }]), .work]
def iK3 : Sys := runActs iK2 incRun3
/-- everything is delivered, incarnation 2 SUCCEEDS, the pass runs -/
def incRun4 : List Action :=
  [.deliverJob, .deliverPod, .deliverPod, .deliverPod,
   .kubelet (withStatus (podOf iK3 "job-h-0") .succeeded (some (secs 100))
     [{ terminated := some { startedAt := some (secs 100), finishedAt := some (secs 100) } }]),
   .deliverPod, .work]
def iK4 : Sys := runActs iK3 incRun4

/-- witness (F19 through a stale pod cache).  Every action allowed (one conflict fault, informer lag, one
external deletion).  The pass `iPre → iK2` starts outside the envelope.  In `iK3` the ref `job-h-0` is
recorded Terminated / Failed with finish time 1 s — incarnation 1's — while the pod of that name on the
server (incarnation 2, created at 100 s) is Running; in `iK4` that pod has Succeeded, the recorded outcome
is kept, and the pass creates the retry `job-h-1`: a task is created for an index whose live task has
succeeded. -/
theorem stale_pod_cache_previous_incarnation_witness :
    Reach anyAction jobI iK4 ∧
    noStaleCheck iPre = false ∧
    (iPre.pods.map (·.pod.name) = [] ∧ iPre.podCache.map (fun p => (p.pod.name, p.pod.phase)) = [("job-h-0", .failed)]) ∧
    callsOf iK2 = [("create", "pods", "job-h-0", "ok", false), ("update", "jobs", "job", "ok", true)] ∧
    (refsView iK3 = [("job-h-0", .terminated, .failed, none, some (secs 1))] ∧
      iK3.pods.map (fun p => (p.pod.name, p.pod.phase, p.pod.creationTimestamp)) = [("job-h-0", .running, some (secs 100))]) ∧
    callsOf iK4 = [("create", "pods", "job-h-1", "ok", false), ("update", "jobs", "job", "ok", true)] ∧
    iK4.pods.map (fun p => (p.pod.name, p.pod.phase)) = [("job-h-0", .succeeded), ("job-h-1", .other)] :=
  reach_of_guards (fun (g : AllowedAll anyAction jobI i0 incRun1 ∧ AllowedAll anyAction jobI iK1 incRun2 ∧
      AllowedAll anyAction jobI iPre [.work] ∧ AllowedAll anyAction jobI iK2 incRun3 ∧
      AllowedAll anyAction jobI iK3 incRun4) =>
    reach_run (reach_run (reach_run (reach_run (reach_run (.init 0 {} Ex.d (by decide +kernel)) incRun1 g.1)
      incRun2 g.2.1) [.work] g.2.2.1) incRun3 g.2.2.2.1) incRun4 g.2.2.2.2) (by decide +kernel)

end Furiko.Props.C08Side
