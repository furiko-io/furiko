/-
C13 — plan level: "A Job disappears only after its tasks are gone": what the finalizer step of a
reconcile pass does (`finalizer_sweeps_then_waits`), and that a Job being deleted gets nothing
else.  Theorems over `Model/JobCtl.lean` for ALL states, Jobs and faults.  Vocabulary as in
`Props/C12Plan.lean`; `tasksForRefsConfirmed s jo refs` = the tasks of the status found by
`getTaskForRef` (the cached pod, or a live GET when the cache misses an unfinished ref or is staler
than the ref), every absence confirmed by a live GET.
-/
import FurikoModel.Proofs.JobCtlPlanPass

namespace Furiko.Props.C13Plan
open Furiko Furiko.JobCtl Furiko.JobCtlPlan Furiko.WQ

private def sec (n : Int) : Int := n * 1000000000
private def brief (c : Call) : String × String × String × String × Bool := (c.verb, c.res, c.name, c.out, c.force)

private def pod : PodObj :=
  { pod := { name := "job-d-0", creationTimestamp := some (sec 1), phase := .running, retryIndex := some 0,
             startTime := some (sec 1), containers := [{ running := some (some (sec 2)) }] },
    ownerUid := some "u", ownerName := some "job", jobLabel := some "u" }

/-- a running Job deleted by the user at 90 s -/
private def deletedJob : Job :=
  { template := some {}, deletionTimestamp := some (sec 90),
    status := { startTime := some (sec 1), tasks := [{ name := "job-d-0", creationTimestamp := some (sec 1),
                                                       runningTimestamp := some (sec 2) }] } }

/-- `finalizer_sweeps_then_waits`.  For a Job with deletion timestamp that carries the
delete-dependents finalizer, with `finalizerTasks s jo rj` = the tasks of the status that were
FOUND (`getTaskForRef`: cache or live GET, absence confirmed by a live GET) followed by the
UNRECORDED tasks of the Job in the pod cache (repair of F-C20-1; `finalizerTasks_mem`):
* every call the finalizer step appends is a graceful pod delete of one of these tasks;
* if there is any, each of them gets its delete call (unless its deletion timestamp is already
  set and earlier than the clock), and the finalizer is KEPT in every successful result; with no
  fault pending the step succeeds;
* only if there is none the step issues no call and DROPS the finalizer.
For a Job without deletion timestamp, or without the finalizer, the step does nothing. -/
theorem finalizer_sweeps_then_waits (s : Sys) (jo : JobObj) (rj : Job) (fz : Bool) :
    (∀ c ∈ newCalls s (handleFinalizer s jo rj fz).1,
      c.verb = "delete" ∧ c.res = "pods" ∧ c.force = false ∧ rj.deletionTimestamp.isSome = true ∧ fz = true ∧
      ∃ t ∈ finalizerTasks s jo rj, t.name = c.name) ∧
    ((rj.deletionTimestamp = none ∨ fz = false) → handleFinalizer s jo rj fz = (s, some (rj, fz))) ∧
    (rj.deletionTimestamp.isSome = true → fz = true →
      (finalizerTasks s jo rj ≠ [] →
        (∀ t ∈ finalizerTasks s jo rj, (∀ ts, t.deletionTimestamp = some ts → ¬ ts < s.clock) →
          ∃ c ∈ newCalls s (handleFinalizer s jo rj fz).1, c.verb = "delete" ∧ c.res = "pods" ∧ c.name = t.name) ∧
        (∀ rj' f', (handleFinalizer s jo rj fz).2 = some (rj', f') → f' = true) ∧
        (NoFault s → ∃ rj', (handleFinalizer s jo rj fz).2 = some (rj', true))) ∧
      (finalizerTasks s jo rj = [] →
        newCalls s (handleFinalizer s jo rj fz).1 = [] ∧ ∃ rj', (handleFinalizer s jo rj fz).2 = some (rj', false))) := by
  obtain ⟨l, e, hall, hoff, hon⟩ := handleFinalizer_ext s jo rj fz
  rw [e.newCalls]
  refine ⟨?_, hoff, ?_⟩
  · intro c hc
    obtain ⟨hv, hr, hf, hd, hz, t, ht, hn, _⟩ := hall c hc
    exact ⟨hv, hr, hf, hd, hz, t, ht, hn⟩
  · intro hd hz
    obtain ⟨hfound, hnone⟩ := hon hd hz
    refine ⟨fun hne => ?_, hnone⟩
    obtain ⟨hcov, hkeep, hnf⟩ := hfound hne
    refine ⟨?_, hkeep, hnf⟩
    intro t ht hw
    obtain ⟨c, hc, hn⟩ := hcov t ht (Or.inr hw)
    exact ⟨c, hc, (hall c hc).1, (hall c hc).2.1, hn⟩

/-- what `finalizerTasks` consists of: a task of the status that could still be found, or the task
of a cached pod labelled with and controlled by the Job that is neither found nor recorded -/
theorem finalizerTasks_mem (s : Sys) (jo : JobObj) (rj : Job) (t : Task) :
    t ∈ finalizerTasks s jo rj ↔
      t ∈ tasksForRefsConfirmed s jo rj.status.tasks ∨
      ∃ p ∈ s.podCache, podTask s.clock p = some t ∧ p.jobLabel = some jo.uid ∧ p.ownerUid = some jo.uid ∧
        (∀ t' ∈ tasksForRefsConfirmed s jo rj.status.tasks, t'.name ≠ p.pod.name) ∧
        (∀ r ∈ rj.status.tasks, r.name ≠ p.pod.name) :=
  mem_finalizerTasks s jo rj t

/-- `unrecorded_task_swept`: a pod of the pod cache that the Job created but never recorded
(labelled with and controlled by the Job, named by no task of the status) and that is not being
deleted yet gets a graceful delete call from the finalizer step of a deleted Job, whatever the
faults, and the finalizer is kept. -/
theorem unrecorded_task_swept (s : Sys) (jo : JobObj) (rj : Job) (p : PodObj) (t : Task)
    (hd : rj.deletionTimestamp.isSome = true) (hp : p ∈ s.podCache) (ht : podTask s.clock p = some t)
    (hl : p.jobLabel = some jo.uid) (ho : p.ownerUid = some jo.uid)
    (hu : ∀ r ∈ rj.status.tasks, r.name ≠ p.pod.name) (hnd : t.deletionTimestamp = none) :
    (∃ c ∈ newCalls s (handleFinalizer s jo rj true).1, c.verb = "delete" ∧ c.res = "pods" ∧ c.force = false ∧ c.name = t.name) ∧
    (∀ rj' f', (handleFinalizer s jo rj true).2 = some (rj', f') → f' = true) := by
  have hmem : t ∈ finalizerTasks s jo rj := by
    by_cases hf : t ∈ tasksForRefsConfirmed s jo rj.status.tasks
    · exact (mem_finalizerTasks s jo rj t).mpr (Or.inl hf)
    · by_cases hn : ∀ t' ∈ tasksForRefsConfirmed s jo rj.status.tasks, t'.name ≠ p.pod.name
      · exact (mem_finalizerTasks s jo rj t).mpr (Or.inr ⟨p, hp, ht, hl, ho, hn, hu⟩)
      · -- a found task carries the name of a ref of the status, which `p` is not named after
        exfalso
        obtain ⟨t', hn⟩ := Classical.not_forall.mp hn
        obtain ⟨ht', hn'⟩ := Classical.not_imp.mp hn
        have hn' : t'.name = p.pod.name := Classical.not_not.mp hn'
        obtain ⟨r, hr, hname⟩ := tasksForRefsConfirmed_name ht'
        exact hu r hr (hname ▸ hn')
  have hne : finalizerTasks s jo rj ≠ [] := by intro h; rw [h] at hmem; cases hmem
  obtain ⟨hall, _, hon⟩ := finalizer_sweeps_then_waits s jo rj true
  obtain ⟨hcov, hkeep, _⟩ := (hon hd rfl).1 hne
  refine ⟨?_, hkeep⟩
  obtain ⟨c, hc, hv, hr, hn⟩ := hcov t hmem (by intro ts h; rw [hnd] at h; cases h)
  exact ⟨c, hc, hv, hr, (hall c hc).2.2.1, hn⟩

/-- `finalizer_sweeps_then_waits`: while the pod exists it is deleted gracefully and the finalizer
is kept; once it is gone (neither cached nor on the server) the finalizer is dropped. -/
example :
    let s : Sys := { clock := sec 100, d := { hash := "d" }, pods := [pod], podCache := [pod] }
    let gone : Sys := { clock := sec 100, d := { hash := "d" } }
    let jo : JobObj := ⟨"job", "u", deletedJob, true, 1⟩
    (newCalls s (handleFinalizer s jo deletedJob true).1).map brief = [("delete", "pods", "job-d-0", "ok", false)] ∧
    (handleFinalizer s jo deletedJob true).2.map (·.2) = some true ∧
    newCalls gone (handleFinalizer gone jo deletedJob true).1 = [] ∧
    (handleFinalizer gone jo deletedJob true).2.map (·.2) = some false := by
  decide +kernel

/-- `unrecorded_task_swept`: the deleted Job's status lists nothing, the pod cache holds the pod it
created (the recording status update failed): the finalizer step deletes it and keeps the
finalizer; once the pod is gone the finalizer is dropped. -/
example :
    let rj : Job := { deletedJob with status := { startTime := some (sec 1) } }
    let p : PodObj := { pod with pod := { pod.pod with phase := .pending, startTime := none, containers := [] } }
    let s : Sys := { clock := sec 100, d := { hash := "d" }, pods := [p], podCache := [p] }
    let jo : JobObj := ⟨"job", "u", rj, true, 1⟩
    (podTask s.clock p).isSome = true ∧ rj.status.tasks = [] ∧
    (newCalls s (handleFinalizer s jo rj true).1).map brief = [("delete", "pods", "job-d-0", "ok", false)] ∧
    (handleFinalizer s jo rj true).2.map (·.2) = some true ∧
    (handleFinalizer { s with pods := [], podCache := [] } jo rj true).2.map (·.2) = some false := by
  decide +kernel

/-- A Job that is being deleted gets no task handling at all (Appendix A item 7): every call of a
`sync` pass on it is a graceful pod delete issued by the finalizer step — no create, no forced
delete, no Job delete. -/
theorem deleting_job_only_finalizer_deletes (s : Sys) (jo : JobObj) (hdel : isDeleted jo.job = true) :
    ∀ c ∈ newCalls s (sync s jo).1, c.verb = "delete" ∧ c.res = "pods" ∧ c.force = false ∧ jo.finalizer = true := by
  intro c hc
  cases (sync_origin s jo).2 c hc with
  | tasks _ h _ => rw [hdel] at h; cases h
  | ttl s' rj' l _ hle h =>
    obtain ⟨l', e, _, _, hall⟩ := handleTTL_ext s' jo rj'
    rw [e.newCalls] at h
    have hnd := (hall c h).2.2.2.1
    unfold isDeleted at hnd hdel
    rw [hle.deletionTimestamp, hdel] at hnd
    cases hnd
  | finalizer s' rj' l _ _ h =>
    obtain ⟨l', e, hall, _⟩ := handleFinalizer_ext s' jo rj' jo.finalizer
    rw [e.newCalls] at h
    obtain ⟨hv, hr, hf, _, hz, _⟩ := hall c h
    exact ⟨hv, hr, hf, hz⟩

/-- `deleting_job_only_finalizer_deletes`: the whole pass on the deleted Job issues only that. -/
example :
    let s : Sys := { clock := sec 100, d := { hash := "d" }, pods := [pod], podCache := [pod] }
    (newCalls s (sync s ⟨"job", "u", deletedJob, true, 1⟩).1).map brief = [("delete", "pods", "job-d-0", "ok", false)] := by
  decide +kernel

end Furiko.Props.C13Plan
