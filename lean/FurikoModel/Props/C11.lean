/-
C11 — coherence of every status the pure layer computes, and retention of recorded timestamps
(pure clauses, every input).  The monotonicity clauses over histories are in
`Props/C11Hist.lean`.

Finding F13 (fixed in /repo by commit 4c102ea): `UpdateJobStatusFromTaskRefs` used to assign
`State` from the computed condition and only then override the condition with `Finished(Killed)`
for a deleting, unfinished Job.  The model follows the source as it is now (State assigned after
the override), for which `state_matches_condition` holds in full.  The old order is kept as the
counterfactual `updateJobStatusFromTaskRefsPreFix` with the witness
`state_mismatch_when_deleting_prefix_witness`; the witness Job is replayed on the real code in
corpus scenario `f13-deleting-state` as a regression case (KNOWN_FINDINGS.jsonl: fixed).
-/
import FurikoModel.Model.JobStatus
import FurikoModel.Proofs.StatusLemmas
import FurikoModel.Proofs.ConditionLemmas
import FurikoModel.Proofs.TaskfnFacts

namespace Furiko.Props.C11
open Furiko Furiko.StatusLemmas Furiko.ConditionLemmas

/-- Exactly one of the queueing / waiting / running / finished conditions is set in what
`GetCondition` returns, and in what `UpdateJobStatusFromTaskRefs` writes (either order). -/
theorem exactly_one_condition (now : Time) (d : PIndex) (rj : Job) :
    (getCondition now d rj).count = 1 ∧
    (∀ preFix nj, updateJobStatusFromTaskRefsWith preFix now d rj = some nj → nj.status.condition.count = 1) := by
  refine ⟨getCondition_count now d rj, ?_⟩
  intro preFix nj h
  obtain ⟨t, _, hc, _⟩ := update_some preFix now d rj nj h
  rw [hc]
  exact sbp_condition_count preFix now d rj t

/-- The coarse state equals the condition that is set, for every Job value
(`StateMatches s c`: `s = Queued ↔ queueing set`, … `s = Finished ↔ finished set`). -/
theorem state_matches_condition (now : Time) (d : PIndex) (rj nj : Job)
    (h : updateJobStatusFromTaskRefs now d rj = some nj) :
    StateMatches nj.status.state nj.status.condition := by
  obtain ⟨t, _, hc, hs, _⟩ := update_some false now d rj nj h
  rw [hc, hs, sbp_state]
  simp only [Bool.false_eq_true, if_false]
  exact stateMatches_of_count_one _ (sbp_condition_count false now d rj t)

/-- the deletion-override branch of `UpdateJobStatusFromTaskRefs` (the F13 class) -/
def DeletionOverride (now : Time) (d : PIndex) (rj : Job) : Prop :=
  rj.deletionTimestamp.isSome = true ∧ (getCondition now d rj).finished.isNone = true

/-- COUNTERFACTUAL (order before commit 4c102ea): coherent outside the deletion-override branch … -/
theorem state_matches_condition_prefix_partial (now : Time) (d : PIndex) (rj nj : Job)
    (h : updateJobStatusFromTaskRefsPreFix now d rj = some nj)
    (hno : ¬ DeletionOverride now d rj) :
    StateMatches nj.status.state nj.status.condition := by
  obtain ⟨t, _, hc, hs, _⟩ := update_some true now d rj nj h
  rw [hc, hs, sbp_state, sbp_condition]
  have hov : deletionOverrides rj (getCondition now d rj) = false := by
    rw [Bool.eq_false_iff]
    intro hov
    unfold deletionOverrides at hov
    simp only [Bool.and_eq_true] at hov
    exact hno hov
  simp only [hov, Bool.false_eq_true, if_false, if_true]
  exact stateMatches_of_count_one _ (getCondition_count now d rj)

/-- the F13 witness: started, one running task, deletion timestamp set -/
def f13Job : Job :=
  { template := some {}, deletionTimestamp := some 99,
    status := { startTime := some 1, createdTasks := 1,
                tasks := [{ name := "j-gezdqo-0", creationTimestamp := some 40, runningTimestamp := some 50,
                            status := { state := .running } }] } }

/-- COUNTERFACTUAL … and incoherent inside it: with the pre-fix order the witness Job is written
with state `Running`, a `Finished(Killed)` condition and phase `Killed`. -/
theorem state_mismatch_when_deleting_prefix_witness :
    (updateJobStatusFromTaskRefsPreFix 100 { hash := "gezdqo" } f13Job).map
        (fun nj => (nj.status.state, nj.status.condition.finished.map (·.result), nj.status.condition.running.isSome, nj.status.phase)) =
      some (.running, some .killed, false, "Killed") := by
  decide +kernel

/-- the same Job under the source as it is: state `Finished`, phase `Killed` -/
theorem f13_regression :
    (updateJobStatusFromTaskRefs 100 { hash := "gezdqo" } f13Job).map
        (fun nj => (nj.status.state, nj.status.condition.finished.map (·.result), nj.status.phase)) =
      some (.finished, some .killed, "Killed") := by
  decide +kernel

/-- The phase is terminal exactly when the finished condition is set: for `GetPhase` on every
Job value, hence for everything `UpdateJobStatusFromTaskRefs` writes.  Rests on `decide` over the
regenerated tables (`ConditionLemmas.result_phases_terminal`, `nonfinished_phases_not_terminal`). -/
theorem phase_terminal_iff_finished (now : Time) (d : PIndex) (rj : Job) :
    phaseIsTerminal (getPhase now rj) = rj.status.condition.finished.isSome ∧
    (∀ preFix nj, updateJobStatusFromTaskRefsWith preFix now d rj = some nj →
      phaseIsTerminal nj.status.phase = nj.status.condition.finished.isSome) := by
  refine ⟨getPhase_terminal_iff now rj, ?_⟩
  intro preFix nj h
  obtain ⟨t, _, hc, _, hp, _⟩ := update_some preFix now d rj nj h
  rw [hp, hc]
  exact getPhase_terminal_iff now _

/-- The task counters equal what the task list shows: after `UpdateJobTaskRefs`,
`createdTasks = |tasks|` and `runningTasks = |{running ∧ ¬finished}|`; and every per-index
`createdTasks` of the parallel status is the number of refs of that index. -/
theorem counters_match_tasks (now : Time) (d : PIndex) (rj : Job) (tasks : List Task) :
    ((updateJobTaskRefs now rj tasks).status.createdTasks = (updateJobTaskRefs now rj tasks).status.tasks.length) ∧
    ((updateJobTaskRefs now rj tasks).status.runningTasks =
      ((updateJobTaskRefs now rj tasks).status.tasks.countP
        (fun r => r.runningTimestamp.isSome && r.finishTimestamp.isNone) : Nat)) ∧
    (∀ s ∈ (getParallelStatus d rj rj.status.tasks).indexes,
      s.createdTasks = ((rj.status.tasks.countP (fun t => t.hash d == s.hash) : Nat) : Int)) := by
  refine ⟨rfl, ?_, ?_⟩
  · unfold updateJobTaskRefs
    simp only
    rw [List.countP_eq_length_filter]
    rfl
  · intro s hs
    unfold getParallelStatus indexStatuses at hs
    simp only at hs
    obtain ⟨i, _, rfl⟩ := List.mem_map.mp hs
    unfold getIndexStatus tasksOfHash
    simp only
    rw [List.countP_eq_length_filter]

/-- `GetTaskRef` never clears a recorded running / finish timestamp: it keeps the task's own
value when the task reports one, the previously recorded value otherwise — except that a finish
time recorded together with a final state is never replaced (see `getTaskRef_final_kept`). -/
theorem getTaskRef_retains (ex : TaskRef) (task : Task) :
    ((getTaskRef (some ex) task).runningTimestamp =
      if task.ref.runningTimestamp.isSome then task.ref.runningTimestamp else ex.runningTimestamp) ∧
    ((getTaskRef (some ex) task).finishTimestamp =
      if task.ref.finishTimestamp.isSome then
        (if ex.finishTimestamp.isSome && isFinalTaskState ex.status.state then ex.finishTimestamp
         else task.ref.finishTimestamp)
      else ex.finishTimestamp) ∧
    (ex.runningTimestamp.isSome = true → (getTaskRef (some ex) task).runningTimestamp.isSome = true) ∧
    (ex.finishTimestamp.isSome = true → (getTaskRef (some ex) task).finishTimestamp.isSome = true) := by
  unfold getTaskRef
  cases hr : task.ref.runningTimestamp <;> cases hf : task.ref.finishTimestamp <;>
    cases hx : ex.finishTimestamp <;> cases hfs : isFinalTaskState ex.status.state <;>
    simp [hr, hf, hx, hfs]

/-- first terminal observation wins: once a ref is finished with a final state (Terminated /
DeletedFinalStateUnknown), a task that reports a (possibly different) terminal status no longer
changes its status, finish time or deleted status — whatever copy of the task the cache serves. -/
theorem getTaskRef_final_kept (ex : TaskRef) (task : Task)
    (hfin : ex.finishTimestamp.isSome = true) (hst : isFinalTaskState ex.status.state = true)
    (ht : task.ref.finishTimestamp.isSome = true) :
    (getTaskRef (some ex) task).status = ex.status ∧
    (getTaskRef (some ex) task).finishTimestamp = ex.finishTimestamp ∧
    (getTaskRef (some ex) task).deletedStatus = ex.deletedStatus := by
  unfold getTaskRef
  simp [hfin, hst, ht]

/-- a ref recorded lost at 9 … -/
def lostAt9 : TaskRef :=
  { name := "t", finishTimestamp := some 9, status := { state := .deletedFinalStateUnknown } }
/-- … and a stale cached copy of its pod that reports success at 12 -/
def staleSucceeded : Task :=
  { name := "t", ref := { name := "t", finishTimestamp := some 12, status := { state := .terminated, result := .succeeded } } }

example : (getTaskRef (some lostAt9) staleSucceeded).status.state = .deletedFinalStateUnknown ∧
    (getTaskRef (some lostAt9) staleSucceeded).finishTimestamp = some 9 := by decide

/-- … and neither does the tombstone of a vanished task: it keeps the recorded timestamps and
always carries a finish timestamp; its status is `DeletedStatus` if set, else
`DeletedFinalStateUnknown`. -/
theorem lostRef_retains (now : Time) (ex : TaskRef) :
    (lostRef now ex).name = ex.name ∧
    (lostRef now ex).runningTimestamp = ex.runningTimestamp ∧
    (lostRef now ex).finishTimestamp = (if ex.finishTimestamp.isSome then ex.finishTimestamp else some now) ∧
    (lostRef now ex).finishTimestamp.isSome = true ∧
    (match ex.deletedStatus with
     | some ds => (lostRef now ex).status = ds
     | none => (lostRef now ex).status.state = .deletedFinalStateUnknown) := by
  unfold lostRef
  cases hf : ex.finishTimestamp <;> cases hd : ex.deletedStatus <;> simp [hf]

/-- Every existing ref whose task vanished is still listed by `GenerateTaskRefs`, as its
tombstone; every listed task yields the ref `GetTaskRef` computes against the last existing ref
of that name. -/
theorem generateTaskRefs_members (now : Time) (existing : List TaskRef) (tasks : List Task) :
    (∀ ex ∈ existing, ex.name ∉ tasks.map (·.name) → lostRef now ex ∈ generateTaskRefs now existing tasks) ∧
    (∀ t ∈ tasks, getTaskRef (lookupRef existing t.name) t ∈ generateTaskRefs now existing tasks) ∧
    (generateTaskRefs now existing tasks).length =
      tasks.length + (existing.filter (fun ex => !(tasks.map (·.name)).contains ex.name)).length := by
  unfold generateTaskRefs
  simp only
  refine ⟨?_, ?_, ?_⟩
  · intro ex hex hn
    rw [mem_sortTaskRefs]
    apply List.mem_append_right
    apply List.mem_map_of_mem
    rw [List.mem_filter]
    refine ⟨hex, ?_⟩
    simp only [Bool.not_eq_true', ← Bool.not_eq_true]
    rw [List.contains_iff_mem]
    exact hn
  · intro t ht
    rw [mem_sortTaskRefs]
    apply List.mem_append_left
    exact List.mem_map.mpr ⟨t, ht, rfl⟩
  · rw [length_sortTaskRefs]
    simp

/-- No ref is forgotten and no recorded timestamp is cleared by `GenerateTaskRefs`: when the
recorded names are pairwise distinct and every task's `GetTaskRef().Name` is its `GetName()`
(true for `PodTask`), every existing ref reappears under its name with its running / finish
timestamps still set. -/
theorem generateTaskRefs_retains (now : Time) (existing : List TaskRef) (tasks : List Task)
    (hnames : (existing.map (·.name)).Nodup)
    (htask : ∀ t ∈ tasks, t.ref.name = t.name) :
    ∀ ex ∈ existing, ∃ r ∈ generateTaskRefs now existing tasks, r.name = ex.name ∧
      (ex.runningTimestamp.isSome = true → r.runningTimestamp.isSome = true) ∧
      (ex.finishTimestamp.isSome = true → r.finishTimestamp.isSome = true) := by
  intro ex hex
  have hm := generateTaskRefs_members now existing tasks
  by_cases hin : ex.name ∈ tasks.map (·.name)
  · obtain ⟨t, ht, htn⟩ := List.mem_map.mp hin
    refine ⟨getTaskRef (lookupRef existing t.name) t, hm.2.1 t ht, ?_, ?_⟩
    · rw [getTaskRef_name, htask t ht, htn]
    · rw [htn, lookupRef_of_nodup existing hnames ex hex]
      have := getTaskRef_retains ex t
      exact ⟨this.2.2.1, this.2.2.2⟩
  · refine ⟨lostRef now ex, hm.1 ex hex hin, ?_⟩
    have := lostRef_retains now ex
    refine ⟨this.1, ?_, fun _ => this.2.2.2.1⟩
    intro h; rw [this.2.1]; exact h

/-- Tie to the source: the model's `getJobStateFromCondition` is, for every condition value, the
case list regenerated from `jobcontroller/util.go` read as a first-match switch. -/
theorem state_case_order_matches_source (c : Condition) :
    getJobStateFromCondition c =
      TaskfnFacts.evalStateCases Facts.jobStateCases Facts.jobStateDefault c := by
  -- both sides read only which members are set: compare them on the 16 combinations
  unfold getJobStateFromCondition TaskfnFacts.evalStateCases TaskfnFacts.memberSet
  simp only [Facts.jobStateCases, List.find?]
  generalize c.queueing.isSome = q, c.waiting.isSome = w, c.running.isSome = r, c.finished.isSome = f
  revert q w r f
  decide +kernel

/-- Tie to the source: phase names used by the model exist, and terminal phases are exactly the
values of `GetPhase`'s head switch. -/
theorem phase_tables_match_source :
    (∀ p ∈ [phaseKilling, phaseTerminating, phaseRunning, phaseStarting, phaseRetryBackoff, phaseRetrying,
             phasePending, phaseQueued], p ∈ Facts.allPhases) ∧
    (∀ p ∈ Facts.terminalPhases, p ∈ Facts.resultToPhase.map (·.2) ++ [Facts.resultDefaultPhase]) ∧
    (∀ r : JobResult, r ≠ .other → r.str ∈ Facts.allResults) := by
  refine ⟨by decide +kernel, by decide +kernel, ?_⟩
  intro r hr
  cases r <;> first | decide +kernel | exact absurd rfl hr

example : ¬ DeletionOverride 100 { hash := "gezdqo" } { f13Job with deletionTimestamp := none } := by
  unfold DeletionOverride; decide
example : DeletionOverride 100 { hash := "gezdqo" } f13Job := by
  unfold DeletionOverride; decide
example : (updateJobStatusFromTaskRefs 100 { hash := "gezdqo" } { f13Job with deletionTimestamp := none }).map
    (fun nj => (nj.status.state, nj.status.phase)) = some (.running, "Running") := by decide
example : (getTaskRef (some { name := "t", runningTimestamp := some 5, finishTimestamp := some 9 })
    { name := "t", ref := { name := "t" } }).finishTimestamp = some 9 := by decide

end Furiko.Props.C11
