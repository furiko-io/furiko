/-
C08 — "Per parallel index: one live task, ordered bounded retries, then stop": HISTORY-level theorems
over every state reachable in the transition system of `Proofs/JobCtlSys.lean` (conventions as in
`Props/C11Hist.lean`).
-/
import FurikoModel.Proofs.JobCtlInvCreate
import FurikoModel.Proofs.JobCtlInvExamples
import FurikoModel.Proofs.JobCtlInvStabThm
import FurikoModel.Proofs.JobCtlInvOneLive
import FurikoModel.Proofs.JobCtlInvC12Calls
import FurikoModel.Props.C08Plan
import FurikoModel.Props.HistCommon

namespace Furiko.Props.C08Hist
open Furiko Furiko.JobCtl Furiko.ParallelLemmas

/-- `create_requires_no_live_recorded`: in every reachable state (ALL actions allowed, any fault
pattern), every pod name that a controller pass adds to the server is `taskName job.name idx.hash retry`
for a request computed from the CACHED Job `jo`, and (index hashes pairwise distinct) at that moment
* the cached Job is started, not being deleted, has no kill timestamp and no admission error;
* `idx` is one of the Job's indexes and every ref of that index in the CACHED status is finished and
  not succeeded (no recorded live or successful task of that index);
* `retry` is the next retry number of that index over the cached refs, `0 ≤ retry < maxAttempts`.
(What the cached status does not show — a stale Job cache — is not excluded: see
`C11Hist.stale_job_cache_recreate_witness`.) -/
theorem create_requires_no_live_recorded {ok : Sys → Action → Prop} {j0 : JobObj} {s : Sys} (hr : Reach ok j0 s)
    (hnc : NoCollision (j0.job.indexes s.d)) (n : String) (hn : n ∈ podNames (step s .work).pods)
    (hnew : n ∉ podNames s.pods) :
    ∃ jo idx retry, s.jobCache = some jo ∧ n = taskName j0.name idx.hash retry ∧
      isStarted jo.job = true ∧ isDeleted jo.job = false ∧ canCreateTask jo.job = true ∧
      idx ∈ j0.job.indexes s.d ∧
      (∀ t ∈ jo.job.status.tasks, t.hash s.d = idx.hash →
        t.finishTimestamp.isSome = true ∧ t.status.result ≠ .succeeded) ∧
      retry = nextRetryIndex s.d jo.job.status.tasks idx.hash ∧ 0 ≤ retry ∧ retry < j0.job.maxAttempts := by
  obtain ⟨jo, idx, retry, hc, hreq, he⟩ := work_new_pod_names s n hn hnew
  have hjo := ((base_of_reach hr).seenOK jo (mem_seenVers_cache hc)).1
  have hidx := indexes_of_template hjo.template s.d
  obtain ⟨h1, h2, h3, h4, h5, h6, h7, h8⟩ := createReq_sound hreq (by rw [hidx]; exact hnc)
  exact ⟨jo, idx, retry, hc, by rw [he, hjo.name], h1, h2, h3, hidx ▸ h4, h5, h6, h7,
    maxAttempts_of_template hjo.template ▸ h8⟩

/-- … and no other action than a controller pass and `createForeign` adds a pod name to the server. -/
theorem pods_created_only_by_pass_or_foreign (s : Sys) (a : Action) (hw : a ≠ .work)
    (hf : ∀ p, a ≠ .createForeign p) : ∀ n ∈ podNames (step s a).pods, n ∈ podNames s.pods :=
  step_pod_names s a hw hf

/-- … in particular a pass adds no pod when the CACHED Job carries a kill timestamp (even a future
one) or the admission error (`canCreateTask`), is being deleted, or is not started. -/
theorem no_create_when_killed_or_refused {ok : Sys → Action → Prop} {j0 : JobObj} {s : Sys} (hr : Reach ok j0 s)
    (jo : JobObj) (hc : s.jobCache = some jo)
    (hstop : jo.job.killTimestamp.isSome = true ∨ jo.job.admissionError = true ∨
      jo.job.deletionTimestamp.isSome = true ∨ jo.job.status.startTime = none) :
    ∀ n ∈ podNames (step s .work).pods, n ∈ podNames s.pods := by
  intro n hn
  by_cases hnew : n ∈ podNames s.pods
  · exact hnew
  · obtain ⟨jo', idx, retry, hc', hreq, _⟩ := work_new_pod_names s n hn hnew
    rw [hc] at hc'; cases hc'
    obtain ⟨h1, h2, h3, _⟩ := hreq
    exfalso
    rcases hstop with h | h | h | h
    · unfold canCreateTask at h3; simp [h] at h3
    · unfold canCreateTask at h3
      cases hk : jo.job.killTimestamp <;> simp [hk, h] at h3
    · unfold isDeleted at h2; rw [h] at h2; cases h2
    · unfold isStarted at h1; rw [h] at h1; cases h1

/-- `one_live_per_index_partial` (histories inside the envelope `stabEnv` of
`Proofs/JobCtlInvStabInv.lean`: no foreign pods, no user kill / delete,
`E-NoStaleCopyOnCreate`; everything else allowed — faults, informer lag, restart, clock, kubelet,
external pod deletion, TTL; Job `WF3`, index hashes `WF2`): in every reachable state in which the Job
object exists, two pods on the server that carry the same parallel index and are both not finished
(phase neither Succeeded nor Failed) are one and the same pod (same name; names are unique,
`C09Hist.at_most_one_pod_per_name`).  "Not finished" includes pods that are being deleted, so this is
stronger than "neither terminal nor being deleted".
Outside the envelope the statement is false on the model: `C11Hist.stale_job_cache_recreate_witness`
(a second incarnation of `job-h-0` is created while … the first one has vanished; with a lagging pod
cache the Job then reports Finished while that pod is alive). -/
theorem one_live_per_index_partial {ok : Sys → Action → Prop} (hok : ∀ s a, ok s a → stabEnv s a) {j0 : JobObj}
    {s : Sys} (hr : Reach ok j0 s) (hwf : WF2 j0 s.d) (hwf3 : WF3 j0) (hj : s.job.isSome = true)
    (p q : PodObj) (hp : p ∈ s.pods) (hq : q ∈ s.pods) (hpf : p.pod.isFinished = false)
    (hqf : q.pod.isFinished = false) (idx : PIndex) (hpi : p.pod.parallelIndex = some idx)
    (hqi : (q.pod.parallelIndex.map (·.hash)) = some idx.hash) : p.pod.name = q.pod.name := by
  refine oneLive_of_reach hok hr hwf hwf3 hj p hp q hq hpf hqf ?_ ?_
  · unfold podHash; rw [hpi, hqi]; rfl
  · unfold podHash; rw [hpi]; simp

/-- the creation guard behind it: when a controller pass adds a pod for index `idx` (same envelope, Job
object present), EVERY pod of that index on the server is finished at that moment — recorded in the
cached status or not. -/
theorem create_requires_index_idle_partial {ok : Sys → Action → Prop} (hok : ∀ s a, ok s a → stabEnv s a)
    {j0 : JobObj} {s : Sys} (hr : Reach ok j0 s) (hwf : WF2 j0 s.d) (hwf3 : WF3 j0) (hoka : ok s .work)
    (j : JobObj) (hj : s.job = some j) (n : String) (hn : n ∈ podNames (step s .work).pods)
    (hnew : n ∉ podNames s.pods) :
    ∃ idx retry, n = taskName j0.name idx.hash retry ∧ idx ∈ j0.job.indexes s.d ∧
      ∀ q ∈ s.pods, (q.pod.parallelIndex.map (·.hash)) = some idx.hash → q.pod.isFinished = true := by
  obtain ⟨jo, idx, retry, hc, hreq, he⟩ := work_new_pod_names s n hn hnew
  have hb := base_of_reach hr
  have hnf : ∀ s a, ok s a → noForeign s a := fun s a h => (hok s a h).1
  have hjo := (hb.seenOK jo (mem_seenVers_cache hc)).1
  have hidx := (createReq_facts hreq).1
  refine ⟨idx, retry, by rw [he, hjo.name], by rw [← indexes_of_template hjo.template]; exact hidx, ?_⟩
  have hns : NoStale s := by
    refine (hok s .work hoka).2.2 rfl (by rw [hj]; rfl) ?_
    cases hget : (s.q.advance s.clock).get with
    | some _ => rfl
    | none =>
      exfalso
      have : (step s .work).pods = s.pods := (work_idle s hget).pods
      rw [this] at hn; exact hnew hn
  exact create_guard hb (inv2_of_reach hr hwf) (owned_of_reach hnf hr) (inv3_of_reach hok hr hwf hwf3 (by rw [hj]; rfl))
    (inv4_of_reach hr hwf) hwf hc j hj hns idx retry hreq (he ▸ hnew)

/-- `retries_contiguous` (ALL actions allowed — any fault pattern, informer lag, restart, clock,
kubelet, external pod deletion, user kill / delete, and (repair of F22) FOREIGN PODS on any
name, recorded ones included; index hashes `WF2`): in every reachable state
* every ref of the authoritative status carries a retry number `0 ≤ r < maxAttempts`, and all lower retry
  numbers of ITS index are recorded too (so the refs of an index carry exactly `0 … k-1`,
  `k ≤ maxAttempts`; with `C09Hist.recorded_refs_wellformed` their names are
  `taskName job.name hash 0 … taskName job.name hash (k-1)`);
* for every pod on the server that is CONTROLLED BY THE JOB, `taskName job.name hash retry`, all lower
  retry numbers of its index are recorded in the authoritative status (a pod for retry `r` only ever
  exists after `0 … r-1` were recorded; pods of lower retry numbers may be gone by then). -/
theorem retries_contiguous {ok : Sys → Action → Prop} {j0 : JobObj}
    {s : Sys} (hr : Reach ok j0 s) (hwf : WF2 j0 s.d) (j : JobObj) (hj : s.job = some j) :
    (∀ r ∈ j.job.status.tasks, 0 ≤ r.retryIndex ∧ r.retryIndex < j0.job.maxAttempts ∧
      ∀ i, 0 ≤ i → i < r.retryIndex → ∃ r' ∈ j.job.status.tasks, r'.hash s.d = r.hash s.d ∧ r'.retryIndex = i) ∧
    (∀ p ∈ s.pods, p.ownerUid = some j0.uid → ∀ idx retry, p.pod.parallelIndex = some idx →
      p.pod.retryIndex = some retry →
      ∀ i, 0 ≤ i → i < retry → ∃ r' ∈ j.job.status.tasks, r'.hash s.d = idx.hash ∧ r'.retryIndex = i) := by
  have h4 := inv4_of_reach hr hwf
  exact ⟨h4.contig j (Or.inl hj), fun p hp ho => h4.down j hj p (Or.inl hp) ho⟩

example : Reach stabChecked Ex.job Ex.sA ∧ Ex.sA.job.isSome = true ∧ WF2 Ex.job Ex.sA.d ∧ WF3 Ex.job ∧
    Ex.sA.pods.map (fun p => (p.pod.name, p.pod.isFinished)) = [("job-h-0", false)] :=
  ⟨Ex.sA_reach_st, by decide +kernel⟩

example : Reach anyAction Ex.job2 Ex.u3 ∧
    Ex.u3.job.map (fun j => j.job.status.tasks.map (fun r => (r.name, r.retryIndex))) =
      some [("job-a-0", 0), ("job-b-0", 0), ("job-a-1", 1)] :=
  ⟨Ex.u3_reach.mono (fun _ _ _ => trivial), Ex.u_history.2.2.1⟩

/-- hypotheses are satisfiable: the first pass of the example history creates `job-h-0` for index
`h`, retry 0 -/
example : "job-h-0" ∈ podNames (step (step Ex.s0 .deliverJob) .work).pods ∧
    "job-h-0" ∉ podNames (step Ex.s0 .deliverJob).pods ∧ NoCollision (Ex.job.job.indexes Ex.s0.d) :=
  by decide +kernel

/-! ### the finish time recorded for an attempt whose pod does not tell one (F30 repaired)

The retry delay is counted from the RECORDED finish time (`C08.earliest_respects_delay`,
`C08Plan.create_only_missing`).  For a pod that tells when it finished that is the pod's own time; for
one that does not (evicted, node lost, …) it is (repair of F30) the clock of the pass that FIRST
read it finished: `recorded_finish_not_before` — that clock is not before the clock of ANY earlier state
of the history, in particular the state in which the kubelet ended the attempt — and
`recorded_finish_frozen_by_pass` — the passes that read the pod again, at later clocks, keep the value
(together with `C11Hist.timestamps_never_cleared`: it is never cleared either). -/

/-- `recorded_finish_not_before` (ALL actions allowed): whatever earlier state `s0` of the history, the
finish time a pass running in `s` reads for a finished pod that does not tell when it finished is the
clock of `s`, which is not before the clock of `s0`.  With `s0` the state in which the kubelet wrote the
terminal phase: the finish time recorded by the first observing pass is not before the true end of the
attempt, and `retryDelaySeconds` counted from it has really elapsed since that end. -/
theorem recorded_finish_not_before {ok : Sys → Action → Prop} {j0 : JobObj} {s0 s : Sys} (hs : Steps ok j0 s0 s)
    {p : PodObj} {t : Task} (h : podTask s.clock p = some t) (hfin : p.pod.isFinished = true)
    (hnr : p.pod.hasFinishTimestamp = false)
    (hst : p.pod.startTime.isSome = true ∨ p.pod.creationTimestamp.isSome = true) :
    t.ref.finishTimestamp = some s.clock ∧ s0.clock ≤ s.clock :=
  ⟨Furiko.Props.C08Plan.finish_recorded_is_observation h hfin hnr hst, steps_clock_le hs⟩

/-- `recorded_finish_frozen_by_pass`: under the invariants of a pass inside the stability envelope
(`sync_res`: the cached Job carries no kill timestamp and no admission error; `RS` on every recorded ref)
every ref of the cached status that is finished is still recorded by the Job value the pass computes,
under its name and WITH ITS FINISH TIME — whatever the clock of the pass, i.e. whatever finish time a pod
that does not tell one is read with this time. -/
theorem recorded_finish_frozen_by_pass {j0 : JobObj} (sp : Sys) (jo : JobObj) (ctx : PassCtx j0 sp) (hwf : WF2 j0 sp.d)
    (hjo : VerOK j0 jo) (hg : Good j0 sp.d jo.job) (hrs : ∀ r ∈ jo.job.status.tasks, RS r)
    (hfin : ∀ r ∈ jo.job.status.tasks, r.finishTimestamp.isSome = true → PodFinIn sp.pods r.name)
    (hcan : canCreateTask jo.job = true) (hcoh : Coh sp.d jo.job) (hadm : jo.job.admissionError = false)
    (htm : jo.job.template.isSome = true) :
    ∀ ex ∈ jo.job.status.tasks, ex.finishTimestamp.isSome = true →
      ∃ r ∈ (sync sp jo).2.1.status.tasks, r.name = ex.name ∧ r.finishTimestamp = ex.finishTimestamp := by
  intro ex hex hf
  obtain ⟨r, hr, h1, h2, _⟩ := (sync_res sp jo ctx hwf hjo hg hrs hfin hcoh hadm htm).1.froz ex hex hf
  exact ⟨r, hr, h1, h2⟩

/-- the regression history of `C08Side.evicted_retry_respects_delay`, pass level: the evicted pod of the
scenario (phase Failed, start time 5 s, no container status) read at 3605 s and again at 3607 s -/
example :
    let p : PodObj := { pod := { name := "job-h-0", creationTimestamp := some 0, phase := .failed,
                                 startTime := some (secs 5), retryIndex := some 0 } }
    ((podTask (secs 3605) p).map (·.ref.finishTimestamp) = some (some (secs 3605))) ∧
    (((podTask (secs 3605) p).bind (fun t1 => (podTask (secs 3607) p).map (fun t2 =>
        (getTaskRef (some (getTaskRef none t1)) t2).finishTimestamp))) = some (some (secs 3605))) := by
  decide +kernel

end Furiko.Props.C08Hist
