/-
C20 — "Transient API failures and conflicts delay work but never lose or corrupt it: for any
finite pattern of failed, conflicting or timed-out API calls, once calls succeed again the system
converges to the same observable outcome it would have reached without the failures …, and none of
the safety guarantees above is violated along the way."

What is proved here (all over executable models tied to the Go code by the `retry`, `system`,
`cronrec`, `queue`, `jobctl` engines):

* `retry_until_success`, `retry_success_forgets`, `retry_run_converges`, `retry_clock_bound`:
  the retry loop `reconciler.Controller.work/syncItem` (Model/Retry.lean) never drops a key whose
  sync failed (every `MaxRequeues()` in /repo is ≤ 0: `all_reconcilers_retry_forever`, a
  regenerated fact), and for every finite fault list followed by successes every key is synced
  successfully within an explicit number of steps and an explicit amount of virtual time.
* `convergence_schema`, `convergence_same_outcome`, `convergence_not_applied`: an abstract
  theorem for level-triggered reconcilers under that retry loop; instantiated completely for the
  cron reconciler (`cron_converges`: idempotent create of the Job of (JobConfig, schedule time))
  and partially for the job-queue per-config pass (`queue_convergence_partial`).
* `safety_under_faults_*`: the fault-quantified safety theorems of C02, C05, C06, C09 restated
  under C20's name.

What is NOT proved: convergence of the COMPOSED system (feedback through informer events and
status writes between the four controllers).  It is explored differentially by the `system`
engine (fault-free run versus faulty runs of the same workload).
-/
import FurikoModel.Proofs.RetryLemmas
import FurikoModel.Props.C02
import FurikoModel.Props.C05
import FurikoModel.Props.C06
import FurikoModel.Props.C09

set_option linter.unusedVariables false
set_option linter.unusedSimpArgs false

namespace Furiko.Props.C20
open Furiko Furiko.WQ Furiko.Retry

/-- regenerated fact: every reconciler of /repo returns a non-positive `MaxRequeues()`, i.e. asks
for unlimited rate-limited retries -/
theorem all_reconcilers_retry_forever : ∀ p ∈ Facts.maxRequeues, p.2 ≤ 0 := by decide

/-- … including every `MaxRequeues()` method found anywhere under pkg/ (so that a reconciler added
later is not missed), and `syncItem`/`work` still have the shape the model mirrors -/
theorem retry_shape_recognised :
    (∀ p ∈ Facts.allMaxRequeues, p.2 ≤ 0) ∧ Facts.allMaxRequeues.length = Facts.maxRequeues.length ∧
    Facts.retryRequeueGuard = "w.handler.MaxRequeues() <= 0 || w.queue.NumRequeues(key) < w.handler.MaxRequeues()" ∧
    Facts.retryWorkShape = ["get", "defer-done", "sync", "on-error-return", "forget"] :=
  ⟨by decide, rfl, rfl, rfl⟩

/-- **retry_until_success** (one step).  For every queue state whose ready list starts with a
splittable key `k`, every oracle result `r` that reports a failed sync (whatever the handler did
to the queue during the sync) and every retry budget `≤ 0` — in particular every budget in
`Facts.maxRequeues` — after `work` the key has a deadline (it is never dropped) and its requeue
counter has grown by one. -/
theorem retry_until_success (q : WQ) (k : String) (rest : List String) (hq : q.queue = k :: rest)
    (mr now : Int) (r : SyncResult) (hs : splitOk k = true) (hf : r.ok = false) (hmr : mr ≤ 0) :
    k ∈ delayedKeys (work q mr now r) ∧
    numRequeues (work q mr now r).requeues k = numRequeues q.requeues k + 1 :=
  work_fail_delayed hq mr now r hs hf hmr

/-- the same for every reconciler of /repo by name -/
theorem retry_until_success_repo (name : String) (mr : Int) (hm : (name, mr) ∈ Facts.maxRequeues)
    (q : WQ) (k : String) (rest : List String) (hq : q.queue = k :: rest) (now : Int) (r : SyncResult)
    (hs : splitOk k = true) (hf : r.ok = false) : k ∈ delayedKeys (work q mr now r) :=
  (work_fail_delayed hq mr now r hs hf (all_reconcilers_retry_forever _ hm)).1

/-- after a succeeding sync the requeue counter of the key is 0 (`Forget`) -/
theorem retry_success_forgets (q : WQ) (k : String) (rest : List String) (hq : q.queue = k :: rest)
    (mr now : Int) (r : SyncResult) (hs : splitOk k = true) (hok : r.ok = true) :
    numRequeues (work q mr now r).requeues k = 0 := by
  rw [work_cons hq]
  simp only [syncItem, hs, hok, Bool.not_true, Bool.false_eq_true, if_false, if_true]
  simp only [done_requeues, WQ.forget]
  exact numRequeues_filter_ne _ _

/-- a key that `cache.SplitMetaNamespaceKey` rejects is neither retried nor forgotten (the error is
returned before `AddRateLimited`): the documented hole of the loop; no controller of /repo produces
such keys (C02 `split_join_namespaced`) -/
theorem unsplittable_key_not_retried (q : WQ) (k : String) (rest : List String) (hq : q.queue = k :: rest)
    (mr now : Int) (r : SyncResult) (hs : splitOk k = false) :
    (work q mr now r).delayed = q.delayed ∧ (work q mr now r).requeues = q.requeues := by
  rw [work_cons hq]
  simp [syncItem, hs]

/-- with a positive budget (not used in /repo) the key is re-queued exactly while its counter is
below the budget — the complement that makes the `≤ 0` hypothesis above necessary -/
theorem bounded_budget_gives_up (q : WQ) (k : String) (rest : List String) (hq : q.queue = k :: rest)
    (mr now : Int) (hs : splitOk k = true) (hmr : 0 < mr) (hn : mr ≤ numRequeues q.requeues k) :
    (work q mr now { ok := false }).delayed = q.delayed := by
  rw [work_fail_bounded hq mr now _ hs rfl hmr rfl]
  have : ¬ (numRequeues q.requeues k : Int) < mr := by omega
  simp [this]

/-- non-vacuity of the three step theorems on one queue: a success forgets (counter 3 ↦ 0), a key
with two slashes is silently dropped, a budget of 3 gives up at counter 3 -/
example :
    let q : WQ := { queue := ["ns/a"], dirty := ["ns/a"], requeues := [("ns/a", 3)] }
    numRequeues (work q (-1) 0 { ok := true }).requeues "ns/a" = 0 ∧
    (work q 3 0 { ok := false }).delayed = [] ∧ (work q 4 0 { ok := false }).delayed ≠ [] ∧
    splitOk "x/y/z" = false ∧
    (work { queue := ["x/y/z"], dirty := ["x/y/z"] } (-1) 0 { ok := false }).delayed = [] := by decide +kernel

example : ∃ q k rest, q.queue = k :: rest ∧ splitOk k = true ∧
    delayedKeys (work q (-1) 1000 { ok := false }) = ["ns/a"] ∧
    (work q (-1) 1000 { ok := false }).queue = ["ns/b"] :=
  ⟨{ queue := ["ns/a", "ns/b"], dirty := ["ns/a", "ns/b"] }, "ns/a", ["ns/b"], rfl, by decide +kernel⟩

/-- **fuel_suffices / retry_run_converges**.  Runs: for every well-formed queue state (nothing in
flight) whose keys are splittable, every FINITE oracle list (`false` = the sync fails) followed by
successes, and a retry budget `≤ 0`: after `measure = 2·#faults + #ready + 2·#delayed` driver steps
(each step processes the head of the ready list, or — when nothing is ready — moves the clock to
the earliest deadline) the queue is empty and every key that was ready or delayed at the beginning
has been synced successfully. -/
theorem retry_run_converges (mr : Int) (hmr : mr ≤ 0) (s : Run) (h : RunOK s) (n : Nat)
    (hn : s.measure ≤ n) :
    (Run.drain mr n s).q.queue = [] ∧ (Run.drain mr n s).q.delayed = [] ∧
    ∀ k, (k ∈ s.q.queue ∨ k ∈ delayedKeys s.q) → k ∈ (Run.drain mr n s).synced := by
  obtain ⟨hq, hp⟩ := fuel_suffices' mr hmr n s h hn
  exact ⟨hq.1, hq.2, fun k hk => hp k (by rcases hk with hk | hk; exact Or.inl hk; exact Or.inr (Or.inl hk))⟩

theorem fuel_suffices (mr : Int) (hmr : mr ≤ 0) (s : Run) (h : RunOK s) :
    (Run.drain mr s.measure s).quiet := (fuel_suffices' mr hmr s.measure s h (Nat.le_refl _)).1

/-- **clock bound** = sum of (maximal) back-offs: if the clock and all deadlines are at most `U` at
the beginning, then at any point of the run the clock and all deadlines are at most
`U + 320 ms · #faults` (320 ms is the saturated back-off `5 ms · 2^6` of the rate limiter). -/
theorem retry_clock_bound (mr : Int) (s : Run) (h : WF s.q) (U : Int) (hnow : s.now ≤ U)
    (hdl : ∀ p ∈ s.q.delayed, p.2 ≤ U) (n : Nat) :
    (Run.drain mr n s).now ≤ U + 320000000 * (falses s.oracle : Int) :=
  (drain_bnd mr n s U h ⟨hnow, hdl⟩).1

/-- non-vacuity: one key, two faults; the run needs all of its fuel (the bound is tight), the clock
ends at 5 ms + 10 ms -/
def demoRun : Run := { q := { queue := ["ns/a"], dirty := ["ns/a"] }, now := 0, oracle := [false, false] }

example : RunOK demoRun ∧ demoRun.measure = 5 ∧
    (Run.drain (-1) 5 demoRun).synced = ["ns/a"] ∧ (Run.drain (-1) 5 demoRun).q.delayed = [] ∧
    (Run.drain (-1) 4 demoRun).q.queue ≠ [] ∧ (Run.drain (-1) 5 demoRun).now = 15000000 := by
  refine ⟨⟨⟨rfl, by decide, by decide⟩, by decide, by decide⟩, by decide +kernel⟩

/-- the clock bound on the demo run: 15 ms ≤ 0 + 2 · 320 ms -/
example : (Run.drain (-1) 5 demoRun).now ≤ 0 + 320000000 * (falses demoRun.oracle : Int) := by decide +kernel

/-- two keys, three faults interleaved with a success -/
example : (Run.drain (-1) 8 ⟨{ queue := ["ns/a", "ns/b"], dirty := ["ns/a", "ns/b"] }, 0,
    [false, false, true, false], []⟩).synced = ["ns/b", "ns/a"] := by decide +kernel

section Schema
variable {S : Type}

/-- the retry loop around one key: run `sync` with the next fault flag (`true` = an API call of this
pass fails; beyond the finite list no call fails) until it returns ok (then `Forget`, the key
leaves the queue; `retry_until_success` is what guarantees the next iteration otherwise) -/
def runLoop (sync : S → Bool → S × Bool) : Nat → List Bool → S → S × Bool
  | 0, _, s => (s, false)
  | n + 1, fs, s =>
    let r := sync s (fs.headD false)
    if r.2 then (r.1, true) else runLoop sync n fs.tail r.1

/-- hypotheses on a level-triggered reconciler -/
structure LevelTriggered (sync : S → Bool → S × Bool) (Inv Fix : S → Prop) : Prop where
  /-- (H1) a faulted pass may leave the state unchanged or move it forward, but inside `Inv` … -/
  fault_inv : ∀ s, Inv s → Inv (sync s true).1
  /-- … and if it nevertheless reports success, the state is already at the fixpoint -/
  fault_ok_fix : ∀ s, Inv s → (sync s true).2 = true → Fix (sync s true).1
  /-- (H2) a fault-free pass from any `Inv` state reports success and reaches the fixpoint … -/
  quiet_ok : ∀ s, Inv s → (sync s false).2 = true ∧ Fix (sync s false).1
  /-- … where a further fault-free pass is the identity -/
  fix_id : ∀ s, Fix s → sync s false = (s, true)

/-- **convergence_schema**: for every finite fault pattern followed by fault-free passes, the run
driven by the retry loop ends with a successful pass in a fixpoint state, after at most
`#faults + 1` passes. -/
theorem convergence_schema {sync : S → Bool → S × Bool} {Inv Fix : S → Prop}
    (H : LevelTriggered sync Inv Fix) (fs : List Bool) (s : S) (hs : Inv s) :
    (runLoop sync (fs.length + 1) fs s).2 = true ∧ Fix (runLoop sync (fs.length + 1) fs s).1 := by
  induction fs generalizing s with
  | nil =>
    obtain ⟨h1, h2⟩ := H.quiet_ok s hs
    simp only [runLoop, List.length_nil, List.headD_nil, h1, if_true]
    exact ⟨trivial, h2⟩
  | cons f fs ih =>
    simp only [runLoop, List.length_cons, List.headD_cons, List.tail_cons]
    cases f with
    | false =>
      obtain ⟨h1, h2⟩ := H.quiet_ok s hs
      simp only [h1, if_true]
      exact ⟨trivial, h2⟩
    | true =>
      by_cases hok : (sync s true).2 = true
      · simp only [hok, if_true]
        exact ⟨trivial, H.fault_ok_fix s hs hok⟩
      · simp only [hok, if_false]
        exact ih _ (H.fault_inv s hs)

/-- the level (the input the reconciler reacts to) is not changed by the reconciler itself -/
theorem level_preserved {L : Type} {sync : S → Bool → S × Bool} {Inv Fix : S → Prop}
    (H : LevelTriggered sync Inv Fix) (level : S → L)
    (hlevel : ∀ s f, Inv s → level (sync s f).1 = level s) (n : Nat) (fs : List Bool) (s : S) (hs : Inv s) :
    level (runLoop sync n fs s).1 = level s := by
  induction n generalizing fs s with
  | zero => rfl
  | succ n ih =>
    simp only [runLoop]
    split
    · exact hlevel s _ hs
    · rename_i hnok
      cases hf : fs.headD false with
      | false =>
        rw [hf] at hnok
        exact absurd (H.quiet_ok s hs).1 hnok
      | true =>
        rw [ih fs.tail _ (H.fault_inv s hs)]
        exact hlevel s _ hs

/-- **same outcome**: when the observable part of a fixpoint is determined by the level input, the
faulty run ends with the same observable outcome as the run without faults. -/
theorem convergence_same_outcome {L O : Type} {sync : S → Bool → S × Bool} {Inv Fix : S → Prop}
    (H : LevelTriggered sync Inv Fix) (level : S → L) (obs : S → O)
    (hlevel : ∀ s f, Inv s → level (sync s f).1 = level s)
    (hdet : ∀ s s', Fix s → Fix s' → level s = level s' → obs s = obs s')
    (fs : List Bool) (s : S) (hs : Inv s) :
    obs (runLoop sync (fs.length + 1) fs s).1 = obs (runLoop sync 1 [] s).1 := by
  apply hdet
  · exact (convergence_schema H fs s hs).2
  · exact (convergence_schema H [] s hs).2
  · rw [level_preserved H level hlevel _ fs s hs, level_preserved H level hlevel _ [] s hs]

/-- the `E-ErrNotApplied` special case: if a faulted pass leaves the state as it was, the faulty run
ends in exactly the state of the single fault-free pass.  (Instance of `convergence_same_outcome`
with "what a fault-free pass would produce" as the level.) -/
theorem convergence_not_applied {sync : S → Bool → S × Bool} {Inv Fix : S → Prop}
    (H : LevelTriggered sync Inv Fix) (hnoop : ∀ s, Inv s → (sync s true).1 = s)
    (fs : List Bool) (s : S) (hs : Inv s) :
    (runLoop sync (fs.length + 1) fs s).1 = (sync s false).1 := by
  have h := convergence_same_outcome H (fun s => (sync s false).1) id
    (by
      intro s f hs
      cases f with
      | true => simp only [hnoop s hs]
      | false => rw [H.fix_id _ (H.quiet_ok s hs).2])
    (by
      intro s s' h1 h2 he
      simp only [H.fix_id s h1, H.fix_id s' h2] at he
      exact he)
    fs s hs
  simp only [id] at h
  rw [h]
  simp only [runLoop, List.headD_nil, (H.quiet_ok s hs).1, if_true]

end Schema

/-- a satisfiable instance of the schema that is not a no-op under faults: a counter that must reach
a target; a faulted pass makes half a step (moves forward inside the invariant), a fault-free pass
jumps to the target -/
def toySync (target : Nat) (s : Nat) (fault : Bool) : Nat × Bool :=
  if s = target then (s, true)
  else if fault then (if s + 1 < target then s + 1 else s, false) else (target, true)

theorem toy_level_triggered (target : Nat) :
    LevelTriggered (toySync target) (fun s => s ≤ target) (fun s => s = target) := by
  -- every clause: at the target nothing moves; below it, compute the pass
  refine ⟨fun s hs => ?_, fun s hs hok => ?_, fun s hs => ?_, fun s hs => ?_⟩ <;>
    by_cases h : s = target <;> simp [toySync, h] at * <;> (try split) <;> omega

example : (runLoop (toySync 5) 4 [true, true, true] 0) = (5, true) := by decide

open Furiko.CronRec Furiko.Str in
/-- the environment of one work item of the cron reconciler: clock reading, JobConfig lister,
store count, `MaxEnqueuedJobs`, and the (namespace, name) the queue key was split into -/
structure CronEnv where
  now    : Int
  lookup : Str → Str → Option CronRec.JobConfig
  active : CronRec.JobConfig → Int
  mx     : Option Int
  ns     : Str
  name   : Str

open Furiko.CronRec in
/-- one pass of `croncontroller.Reconciler.SyncOne` against the server's Job collection, with a
Job lister that has caught up with the server; `fault = true`: the create call (if one is issued)
fails without effect (server error, conflict or timeout: E-ErrNotApplied) -/
def cronSync (e : CronEnv) (api : Api) (fault : Bool) : Api × Bool :=
  let o := syncOne e.now api e.lookup e.active e.mx (fun ns n => api.has ns n) (if fault then .err else .none) e.ns e.name
  (o.api, decide (o.result = .ok))

open Furiko.CronRec in
theorem cronSync_cases (e : CronEnv) (api : Api) (cfgName : Str.Str) (t : Int)
    (hk : splitKey e.name = .ok (cfgName, t))
    (hsub : ∀ c, e.lookup e.ns cfgName = some c → c.subst ≠ none) :
    (∀ f, cronSync e api f = (api, true)) ∨
    (∃ j, api.has j.ns j.name = false ∧ cronSync e api true = (api, false) ∧
      cronSync e api false = (api ++ [j], true) ∧ ∀ f, cronSync e (api ++ [j]) f = (api ++ [j], true)) := by
  unfold cronSync syncOne
  simp only [hk]
  cases hl : e.lookup e.ns cfgName with
  | none => left; intro f; simp [processCron]
  | some c =>
    have hs := hsub c hl
    cases hsv : c.subst with
    | none => exact absurd hsv hs
    | some vars =>
      simp only [processCron, newJobFromJobConfig, hsv]
      by_cases h1 : c.policy = policyForbid ∧ e.active c + 1 > c.maxConc.getD Facts.defaultMaxConcurrency
      · left; intro f; simp [h1]
      · simp only [h1, if_false]
        by_cases h2 : queueFull e.mx c.queued = true
        · left; intro f; simp [h2]
        · simp only [h2, Bool.false_eq_true, if_false]
          by_cases h3 : api.has c.ns (generateName e.now c.name t) = true
          · left; intro f; simp [h3]
          · right
            have h3' : api.has c.ns (generateName e.now c.name t) = false := by simpa using h3
            have h4 : (api ++ [scheduledJob e.now c t vars]).has c.ns (generateName e.now c.name t) = true := by
              simp [Api.has, scheduledJob]
            refine ⟨scheduledJob e.now c t vars, h3', ?_, ?_, ?_⟩
            · simp [h3', apiCreate, afterCreate]
            · simp [h3', apiCreate, afterCreate, scheduledJob]
            · intro f
              simp [h4]

open Furiko.CronRec in
/-- the cron reconciler is level-triggered in the sense of the schema (any API state; fixpoint =
"a fault-free pass changes nothing and succeeds"), provided the key is well-formed and the
JobConfig's option defaults evaluate (otherwise the error is permanent, not transient) -/
theorem cron_level_triggered (e : CronEnv) (cfgName : Str.Str) (t : Int)
    (hk : splitKey e.name = .ok (cfgName, t))
    (hsub : ∀ c, e.lookup e.ns cfgName = some c → c.subst ≠ none) :
    LevelTriggered (cronSync e) (fun _ => True) (fun api => cronSync e api false = (api, true)) := by
  refine ⟨fun _ _ => trivial, ?_, ?_, fun s h => h⟩
  · intro api _ hok
    rcases cronSync_cases e api cfgName t hk hsub with h | ⟨j, _, h1, _, _⟩
    · rw [h true]; exact h false
    · rw [h1] at hok; cases hok
  · intro api _
    rcases cronSync_cases e api cfgName t hk hsub with h | ⟨j, _, _, h2, h3⟩
    · rw [h false]; exact ⟨rfl, h false⟩
    · rw [h2]; exact ⟨rfl, h3 false⟩

open Furiko.CronRec in
/-- **cron_converges**: for every server state, every work item of the cron reconciler and every
finite pattern of failed create calls (E-ErrNotApplied), the retry loop ends with a successful pass
and the server's Job collection is EXACTLY the one a single fault-free pass produces: the Job of
(JobConfig, schedule time) exists once (or the schedule was skipped by policy in both runs).

The fault alphabet is what the property names — a call that FAILS (server error, conflict, timeout;
`cronSync`'s `fault = true` injects `.err`).  An admission refusal (422 Invalid) is not a failure in
this sense: `ExecutionControl.CreateJob` swallows it and the pass returns nil, so the retry loop
never sees it.  When the refusal is itself transient — the webhook process' JobConfig cache lags —
the schedule time is lost: `cron_invalid_answer_drops_schedule_witness` (known finding F34). -/
theorem cron_converges (e : CronEnv) (cfgName : Str.Str) (t : Int)
    (hk : splitKey e.name = .ok (cfgName, t))
    (hsub : ∀ c, e.lookup e.ns cfgName = some c → c.subst ≠ none) (fs : List Bool) (api : Api) :
    (runLoop (cronSync e) (fs.length + 1) fs api).2 = true ∧
    (runLoop (cronSync e) (fs.length + 1) fs api).1 = (cronSync e api false).1 := by
  have H := cron_level_triggered e cfgName t hk hsub
  refine ⟨(convergence_schema H fs api trivial).1, convergence_not_applied H ?_ fs api trivial⟩
  intro api _
  rcases cronSync_cases e api cfgName t hk hsub with h | ⟨j, _, h1, _, _⟩
  · rw [h true]
  · rw [h1]

open Furiko.CronRec Furiko.Props.C02 in
/-- non-vacuity: the demo JobConfig of C02, three failed creates, then success: one Job -/
example :
    let e : CronEnv := { now := 0, lookup := listerGet [cfgV1], active := fun _ => 0, mx := some 20, ns := "ns".toList, name := "a.5.100".toList }
    (runLoop (cronSync e) 4 [true, true, true] []).2 = true ∧
    ((runLoop (cronSync e) 4 [true, true, true] []).1.map (·.name)) = ["a.5-100".toList] ∧
    (cronSync e [] true) = ([], false) := by decide +kernel

open Furiko.CronRec Furiko.Props.C02 in
/-- KNOWN FINDING F34 (replayed on the real controllers + webhooks by the
`system` scenarios `f34-webhook-cache-lag-drops-schedule` / `f34-webhook-stale-uid-drops-schedule`,
monitor `converges-same-outcome`).  The admission webhooks are another process with their own
JobConfig informer; when the owner JobConfig of the new Job is not (yet) in THAT cache, or is there
with another UID, the create is answered 422 Invalid.  In the model: the create of the work item
`(a.5, 100)` is answered `.invalid` — the pass reports ok (`SyncOne` returns nil, one
`CreateJobFailed` event), the server has no Job, and since the sync succeeded `work` Forgets the key
(`retry_success_forgets`): nothing ever asks again, although the very next attempt — the webhook's
cache having caught up — creates the Job.  "Once calls succeed again … every due schedule time has
its Job" therefore fails for this transient refusal; `cron_converges` does not cover it because
`Invalid` is not in its fault alphabet. -/
theorem cron_invalid_answer_drops_schedule_witness :
    let e : CronEnv := { now := 0, lookup := listerGet [cfgV1], active := fun _ => 0, mx := some 20, ns := "ns".toList, name := "a.5.100".toList }
    let o := syncOne e.now [] e.lookup e.active e.mx (fun _ _ => false) .invalid e.ns e.name
    o.result = .ok ∧ o.api = [] ∧ o.events = [.createFailed] ∧ o.resp = some .invalid ∧
    ((cronSync e [] false).1.map (·.name)) = ["a.5-100".toList] ∧ (cronSync e [] false).2 = true := by
  decide +kernel

open Furiko.Queue in
/-- **queue_convergence_partial**.  For the per-config pass of the job-queue controller
(`Model/Queue.lean`, counter rollback on a failed start included) the hypotheses of the schema hold
in this form:
 (H1) from any reachable state, under ANY pending fault list, a pass leads to a reachable state
      again — so the counter invariant (`C05.reachable_inv`: counter + pending deltas = true active
      count; the rollback on a failed start is what makes this hold) survives every fault — and a
      pass that returned an error logged a call and leaves a key with a deadline (the statement
      does not say that the call failed nor that the key is the pass's own);
 (H2) from a reachable quiet state (events delivered, store caught up, no fault pending) the pass
      returns ok, the counter is exact, and every due Job is started / waiting at the limit /
      rejected as its policy demands (`C06.quiet_no_due_left`).
MISSING for the full schema: the fixpoint clause.  After an ok pass the next pass is the identity
only once the informer has delivered the pass's own writes (otherwise it conflicts and retries);
that delivery is an action of the composed system, whose convergence is explored by the `system`
engine, not proved. -/
theorem queue_convergence_partial :
    (∀ s : Sys, Reachable s → Reachable (workConfig s).1) ∧
    (∀ s : Sys, Reachable s → Inv (workConfig s).1) ∧
    (∀ s : Sys, (workConfig s).2 = "err" → (workConfig s).1.calls ≠ [] ∧
        ∃ k, k ∈ delayedKeys (workConfig s).1.cfgQ) ∧
    (∀ s : Sys, Reachable s → Quiet s → ∀ k q1 jc, (s.cfgQ.advance s.clock).get = some (k, q1) →
        findJC s.jcCache (keyName k) = some jc →
        (workConfig s).2 = "ok" ∧ ∀ uid, getCtr (workConfig s).1.counter uid = trueActive (workConfig s).1 uid) := by
  refine ⟨?_, ?_, ?_, ?_⟩
  · intro s h; exact Reachable.step s .workConfig h trivial
  · intro s h; exact (Reachable.step s .workConfig h trivial).inv
  · intro s herr
    refine ⟨C06.work_err_has_call s herr, ?_⟩
    rcases workConfig_cases s with ⟨_, hne, _⟩ | ⟨k, q1, jc, hg, hjc⟩
    · exact absurd herr hne
    · rw [workConfig_get hg] at herr ⊢
      cases hok : (syncConfig (cfgPre s q1) (keyName k)).2 with
      | true => rw [hok] at herr; simp at herr
      | false =>
        refine ⟨k, ?_⟩
        simp only [cfgPost, Bool.false_eq_true, if_false, delayedKeys, done_delayed, WQ.addRateLimited]
        exact mem_keys_setDelayed_self _ _ _
  · intro s h hq k q1 jc hg hjc
    obtain ⟨_, hok, hex, _⟩ := C06.quiet_no_due_left h hq hg hjc
    exact ⟨hok, hex⟩

open Furiko.Queue Furiko.Props.C05 in
example : Reachable sQueued ∧ (workConfig sQueued).2 = "ok" := ⟨sQueued_reachable, by decide +kernel⟩

open Furiko.CronRec in
/-- C02 under faults: at most one Job per (JobConfig, schedule time) in every history — create
faults of every kind (even applied-but-reported-failed), duplicates, retries, crashes -/
theorem safety_under_faults_C02 (world : CronRec.JobConfig → Prop) (hw : C02.UidFunctional world) (s : CronRec.Sys)
    (hr : CronRec.Reachable world s) (u : Str.Str) (t : Int) (ht : t ≠ zeroUnix) :
    (s.api.filter (fun j => j.ownerUid = some u ∧ j.schedAnnot = some (Str.showInt t))).length ≤ 1 :=
  (C02.at_most_one world hw s hr u t ht).1

open Furiko.Queue in
/-- C05 under faults: in every reachable state (histories contain arbitrary `fault` actions inside
E-ErrNotApplied) every start write of a Forbid/Enqueue Job happens below `maxConcurrency`, and the
counter never undercounts -/
theorem safety_under_faults_C05 {s : Queue.Sys} (h : Queue.Reachable s) :
    (∀ o ∈ (workConfigObs s).2, o.job.hasPolicy = true → (o.job.policy = 1 ∨ o.job.policy = 2) →
      (o.activeBefore : Int) + 1 ≤ o.maxConc) ∧
    ∀ uid, (trueActive s uid : Int) ≤ getCtr s.counter uid :=
  ⟨C05.never_over_limit h, C05.counter_upper h⟩

open Furiko.Queue in
/-- C06 under faults: a pass that hits an error stops at the failed call (the start order is kept
for the retry) -/
theorem safety_under_faults_C06 (s : Queue.Sys) (herr : (workConfig s).2 = "err") :
    (workConfig s).1.calls ≠ [] := C06.work_err_has_call s herr

open Furiko.JobCtl in
/-- C09 under faults: a create answered AlreadyExists (the retry of a create whose result was
lost) creates nothing; the existing task is adopted instead of being duplicated -/
theorem safety_under_faults_C09 (s s1 : JobCtl.Sys) (jo : JobObj) (rj : Furiko.Job) (tasks : List Furiko.Task)
    (idx : PIndex) (retry : Int) (p : PodObj) (t : Furiko.Task)
    (hc : apiCreatePod s jo idx retry = (s1, .exists))
    (hp : findPod s1.podCache (taskName jo.name idx.hash retry) = some p)
    (hown : p.ownerUid = some jo.uid) (ht : podTask s.clock p = some t) :
    syncCreateTask s jo rj tasks idx retry = (s1, some (rj, tasks ++ [t])) ∧ s1.pods = s.pods :=
  C09.adopt_not_duplicate s s1 jo rj tasks idx retry p t hc hp hown ht

/-- non-vacuity of the re-exports: the witnesses of the original theorems -/
example : CronRec.Reachable C02.demoWorld C02.demoS3 ∧ Queue.Reachable C05.sStarted ∧
    (Queue.workConfig Queue.Scen.s4err).2 = "err" :=
  ⟨C02.demo_reachable, C05.sStarted_reachable, by decide +kernel⟩

end Furiko.Props.C20
