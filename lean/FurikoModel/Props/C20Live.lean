/-
C20 / C10 / C08, the LIVENESS half for the job controller ("for any finite pattern of failed, conflicting
or timed-out API calls, once calls succeed again … every Job reaches the result its tasks imply"; C10:
"once the strategy is decided the Job ends with the implied result"; C08: "a failed index is retried
until it succeeds or uses maxAttempts") — for a SIMPLE Job: started, not parallel (one index, the default
one), no kill timestamp, no admission error, not being deleted.

The environment is a deterministic FAIR ROUND over the transition system of `Proofs/JobCtlSys.lean`
(`Live.round orc`, `Proofs/JobCtlLiveEnv.lean`), composed of existing `Action`s only:

    deliverAll ; sweep orc ; deliverAll ; jump ; work ; deliverAll

* `deliverAll` — both informers deliver every pending watch event (`deliverJob` / `deliverPod`);
* `sweep orc`  — the kubelet finishes every pod that is not finished: `kubelet` status writes to phase
                 Succeeded / Failed as the oracle `orc : pod name → Outcome` says;
* `jump`       — while the Job is unfinished the clock advances (`advance`) until every armed timer of the
                 work queue (`AddAfter`: retry delay, pending timeout, back-off) has fired;
* `work`       — one step of `reconciler.Controller.work` (pop the key, `Reconciler.SyncOne`, forget / done).
`roundF orc fs` is the same round with `setFaults fs` before and `setFaults []` after the `work` step: the
API calls of that pass consume the fault list `fs` (`err` / `timeout` / `conflict`: not applied, reported
failed; `applied-err`: applied, reported failed; anything else: applied).  Every round is a `Steps` path
(`round_is_path`), so every `Reach` invariant of the safety theorems (C08–C13) holds along the runs.

Theorems (helper files `Proofs/JobCtlLive*.lean`):
* `single_task_job_converges`  (L1 without faults): from the creation of the Job, at most
  `3·maxAttempts + 2` rounds reach a state whose authoritative Job is `Finished` with result `Success` if
  the oracle lets some attempt `≤ maxAttempts` succeed — the first such attempt is the last one created,
  its number plus one is the number of task refs — and `Failed` with exactly `maxAttempts` refs otherwise;
  every ref and pod is finished; further rounds change neither Job nor pods nor resourceVersion nor clock.
* `single_task_job_converges_under_faults` (L1 with faults): the same verdict after ANY finite sequence
  of rounds whose passes run under arbitrary fault lists, followed by at most `3·maxAttempts + 3`
  fault-free rounds — the faulty run ends with the outcome of the run without faults.
* `single_task_job_converges_from_invariant_partial`: from any REACHABLE state that satisfies the round
  invariant `Live.Canon` with an unfinished Job; `_partial` because the invariant is not derived from
  reachability alone (see its docstring).
-/
import FurikoModel.Proofs.JobCtlLiveFinal

set_option linter.unusedVariables false
set_option linter.unusedSimpArgs false

namespace Furiko.Props.C20Live
open Furiko Furiko.JobCtl Furiko.JobCtl.Live

/-- a fair round, with or without a fault list for its pass, is a path of the transition system of the job
controller whose actions are controller passes, informer deliveries, kubelet status writes, clock
advances and replacements of the fault list: no user kill / delete, no foreign pod, no pod vanishing -/
theorem round_is_path (j0 : JobObj) (orc : String → Outcome) (fs : List String) (s : Sys) :
    Steps faultEnv j0 s (round orc s) ∧ Steps faultEnv j0 s (roundF orc fs s) :=
  ⟨round_steps fair_in_faultEnv orc s s (.refl s), roundF_steps fair_in_faultEnv (fun _ _ => trivial) orc fs s s (.refl s)⟩

/-- **single_task_job_converges** (L1, no fault).  Go: `jobcontroller.Reconciler.SyncOne` driven by
`reconciler.Controller.work` for a Job whose `Spec.Template.Parallelism` is nil, `Status.StartTime` set,
no `Spec.KillTimestamp`, no admission-error annotation, no deletion timestamp, `GetMaxAttempts() = n ≥ 1`,
any retry delay and pending timeout; informers, kubelet and clock as in the fair round; `orc` fixes how
each pod (by name) ends.  From the state right after the Job's creation event was delivered, at most
`3·n + 2` rounds (per attempt: arm the retry timer, create the task, record its outcome) reach a state
in which the authoritative Job carries `Condition.Finished` with `Result = Success` and `k+1` task refs,
`k` the first attempt the oracle lets succeed, or `Result = Failed` and exactly `n` refs when the oracle
fails them all; every ref has a finish timestamp, every pod is finished, nothing is in flight; and every
further round leaves Job, pods, resourceVersion counter and clock as they are (the pass of a final state
issues no API call: `Live.round_done`).  Hypothesis `hT`: the TTL after finish, counted from a lower
bound `F0` on all finish times (`F0 ≤` creation second), has not elapsed when a round's pass runs —
otherwise `handleTTLAfterFinished` deletes the Job in the very pass that finishes it. -/
theorem single_task_job_converges (orc : String → Outcome) (clock : Int) (cfg : ExecConfig) (d : PIndex) (j0 : JobObj)
    (hwf : WF j0) (hspec : SimpleSpec j0.job) (hn : 1 ≤ j0.job.maxAttempts)
    (hunf : j0.job.status.condition.finished = none) (hdash : '-' ∉ d.hash.toList) (F0 : Int)
    (hF0 : F0 ≤ secs (clock / 1000000000))
    (hT : ∀ k, k < 3 * j0.job.maxAttempts.toNat + 2 →
      (roundN orc (k + 1) (startState clock cfg d j0)).clock < F0 + getTTLAfterFinished j0.job cfg) :
    ∃ k, 1 ≤ k ∧ k ≤ 3 * j0.job.maxAttempts.toNat + 2 ∧
      Steps faultEnv j0 (startState clock cfg d j0) (roundN orc k (startState clock cfg d j0)) ∧
      Final orc j0 (roundN orc k (startState clock cfg d j0)) ∧
      ∀ n, (roundN orc n (roundN orc k (startState clock cfg d j0))).job = (roundN orc k (startState clock cfg d j0)).job ∧
        (roundN orc n (roundN orc k (startState clock cfg d j0))).pods = (roundN orc k (startState clock cfg d j0)).pods ∧
        (roundN orc n (roundN orc k (startState clock cfg d j0))).rv = (roundN orc k (startState clock cfg d j0)).rv ∧
        (roundN orc n (roundN orc k (startState clock cfg d j0))).clock = (roundN orc k (startState clock cfg d j0)).clock := by
  obtain ⟨k, hk1, hk, jo', hn', hcan', hdone, htruth, hclk⟩ :=
    fresh_job_run fair_in_faultEnv orc clock cfg d j0 hwf hspec hn hunf hdash F0 hF0 hT
  exact ⟨k, hk1, hk, roundN_steps fair_in_faultEnv orc k _ _ (.refl _), final_of orc hcan' hdone htruth hn',
    fun n => (done_forever fair_in_faultEnv orc jo' n _ hcan' hdone hclk).2.2⟩

/-- **single_task_job_converges_under_faults** (L1 with faults; the job-controller instance of C20's
convergence claim).  The Job and the oracle as in `single_task_job_converges`.  Let `fss` be ANY finite
list of fault lists; the `i`-th round's pass runs under the `i`-th list (`roundF`: failed or
applied-but-reported-failed pod creates, failed / conflicting / timed-out status updates, in any
combination — every string is allowed), then the passes run without faults.  After at most
`3·n + 3` fault-free rounds the state is final with the oracle's verdict — Success with the first
successful attempt as the last ref, or Failed with `n` refs — i.e. the outcome of the run without any
fault: a failed create is retried, a pod created by a pass that failed before recording it is adopted
(create ↦ AlreadyExists ↦ `getTaskForAdoption`) with the outcome it has, a failed status update is
recomputed.  `hTF` / `hT`: the TTL has not elapsed when a pass runs (as above). -/
theorem single_task_job_converges_under_faults (orc : String → Outcome) (clock : Int) (cfg : ExecConfig) (d : PIndex)
    (j0 : JobObj) (hwf : WF j0) (hspec : SimpleSpec j0.job) (hn : 1 ≤ j0.job.maxAttempts)
    (hunf : j0.job.status.condition.finished = none) (hdash : '-' ∉ d.hash.toList) (F0 : Int)
    (hF0 : F0 ≤ secs (clock / 1000000000)) (fss : List (List String))
    (hTF : ∀ pre suf, fss = pre ++ suf → pre ≠ [] →
      (roundsF orc pre (startState clock cfg d j0)).clock < F0 + getTTLAfterFinished j0.job cfg)
    (hT : ∀ k, k < 3 * j0.job.maxAttempts.toNat + 3 →
      (roundN orc (k + 1) (roundsF orc fss (startState clock cfg d j0))).clock < F0 + getTTLAfterFinished j0.job cfg) :
    ∃ k, k ≤ 3 * j0.job.maxAttempts.toNat + 3 ∧
      Steps faultEnv j0 (startState clock cfg d j0) (roundN orc k (roundsF orc fss (startState clock cfg d j0))) ∧
      Final orc j0 (roundN orc k (roundsF orc fss (startState clock cfg d j0))) := by
  obtain ⟨k, hk, hsteps, jo', hn', hcan', hdone, htruth⟩ := faulty_then_fair fair_in_faultEnv (fun _ _ => trivial) orc
    (getTTLAfterFinished j0.job cfg) j0.name fss _
    (sound_start fair_in_faultEnv orc clock cfg d j0 hwf hspec hn hunf hdash F0 hF0) hTF hT
  exact ⟨k, hk, hsteps, final_of orc hcan' hdone htruth hn'⟩

/-- **single_task_job_converges_from_invariant_partial**.  From ANY state `s` reachable by actions of a
filter `ok` that admits the actions of the fair round (`hok`; `ok` may admit more: faults, restarts, pods
vanishing, arbitrary kubelet writes, …) which satisfies the round invariant `Canon` with an unfinished Job
(`Busy`), at most `mu ≤ 3·n + 3` fair rounds reach a final state (`Done`: Finished with `Success` iff a ref
succeeded, `Failed` otherwise; every ref and pod finished; every pod recorded; the recorded status a
fixpoint of the recomputation), which further rounds leave as it is.
MISSING (hence `_partial`) for "any reachable quiesced state after an arbitrary prefix": `Canon` asks, beyond
reachability and quiescence (caches = server, no event pending, no fault queued), that (a) the recorded
refs carry the retry numbers `0 … m-1` and each is dead (finished, no success) or live (unfinished, no
deletion marker); (b) every pod of the server is controlled by the Job, carries no deletion timestamp, cannot
make `PodTask.GetTaskRef` panic, and is recorded or is THE pod of attempt `m` created while all refs were
dead; (c) the work queue is idle and well-formed with the key ready or a timer armed.  These do not follow
from reachability: they fail after a stale-cache re-create (known finding F19: two live pods of one
index), while a pending-timeout delete is in progress (a pod with a deletion timestamp), and for the panic
shape of `GetTaskRef` (DeadlineExceeded without start time).  They ARE kept by fair rounds under arbitrary
fault lists (`Live.roundF_keeps`); prefixes with informer lag, process restarts or vanishing pods are not
covered by a theorem. -/
theorem single_task_job_converges_from_invariant_partial {ok : Sys → Action → Prop} (hok : ∀ s a, fairEnv s a → ok s a)
    (orc : String → Outcome) (j0 jo : JobObj) (F0 : Int) (s : Sys) (h : Canon ok j0 jo F0 s) (hb : Busy jo s)
    (hT : ∀ k, k < mu jo s → (roundN orc (k + 1) s).clock < F0 + getTTLAfterFinished jo.job s.cfg) :
    ∃ k, 1 ≤ k ∧ k ≤ mu jo s ∧ mu jo s ≤ 3 * jo.job.maxAttempts.toNat + 3 ∧
      Steps ok j0 s (roundN orc k s) ∧
      ∃ jo', jo'.name = jo.name ∧ Canon ok j0 jo' F0 (roundN orc k s) ∧ Done jo' (roundN orc k s) ∧
        ∀ n, (roundN orc n (roundN orc k s)).job = (roundN orc k s).job ∧
          (roundN orc n (roundN orc k s)).pods = (roundN orc k s).pods ∧
          (roundN orc n (roundN orc k s)).rv = (roundN orc k s).rv ∧
          (roundN orc n (roundN orc k s)).clock = (roundN orc k s).clock := by
  obtain ⟨k, hk, hk1, jo', hn, hcan, hdone, _, hclk⟩ := rounds_converge_with hok orc (fun _ _ => True)
    (fun _ _ _ _ _ _ _ _ _ _ _ _ => trivial) (mu jo s) jo s h hb trivial (Nat.le_refl _) hT
  exact ⟨k, hk1, hk, mu_le jo s, roundN_steps hok orc k s s (.refl s), jo', hn, hcan, hdone,
    fun n => (done_forever hok orc jo' n _ hcan hdone hclk).2.2⟩

/-! ### non-vacuity: the Job of `JobCtlInvExamples` (two attempts, TTL 1000 s) -/

/-- every attempt fails -/
def orcFail : String → Outcome := fun _ => .fail
/-- the second attempt succeeds -/
def orcSecond : String → Outcome := fun n => if n = "job-h-1" then .succeed else .fail

def start : Sys := startState 0 {} Ex.d Ex.job

theorem sound_start0 (orc : String → Outcome) :
    Sound faultEnv Ex.job 0 orc (getTTLAfterFinished Ex.job.job {}) Ex.job.name start :=
  sound_start fair_in_faultEnv orc 0 {} Ex.d Ex.job Ex.wf_job ex_spec (by decide) rfl (by decide) 0 (by decide)

/-- the hypotheses of `single_task_job_converges` hold for `Ex.job` and both oracles; the run with two
failures needs 4 of the at most 8 rounds (create, record, create, record: the retry delay is 0) and ends
Failed with 2 refs; the third round has not finished it; with the second attempt succeeding it ends
Success with 2 refs; the fifth round is a fixpoint whose pass issues no call -/
example :
    WF Ex.job ∧ SimpleSpec Ex.job.job ∧ 1 ≤ Ex.job.job.maxAttempts ∧ '-' ∉ Ex.d.hash.toList ∧
    (∀ k, k < 3 * Ex.job.job.maxAttempts.toNat + 2 →
      (roundN orcFail (k + 1) start).clock < 0 + getTTLAfterFinished Ex.job.job {}) ∧
    (∀ k, k < 3 * Ex.job.job.maxAttempts.toNat + 2 →
      (roundN orcSecond (k + 1) start).clock < 0 + getTTLAfterFinished Ex.job.job {}) ∧
    (roundN orcFail 4 start).job.map (fun j => (j.job.status.condition.finished.map (·.result), j.job.status.tasks.length)) =
      some (some .failed, 2) ∧
    (roundN orcFail 3 start).job.map (fun j => j.job.status.condition.finished.isSome) = some false ∧
    (roundN orcSecond 4 start).job.map (fun j => (j.job.status.condition.finished.map (·.result), j.job.status.tasks.length)) =
      some (some .success, 2) ∧
    (roundN orcFail 5 start).job = (roundN orcFail 4 start).job ∧
    (JobCtl.work (roundN orcFail 4 start)).1.calls = [] := by
  -- both runs are evaluated for four rounds; the Job is finished then, and `run_final` speaks for the rest
  have eF : (∀ k, k ≤ 4 → (roundN orcFail k start).clock < 0 + getTTLAfterFinished Ex.job.job {}) ∧
      ((roundN orcFail 4 start).job.bind (·.job.status.condition.finished)).isSome = true ∧
      (roundN orcFail 4 start).job.map (fun j => (j.job.status.condition.finished.map (·.result), j.job.status.tasks.length)) =
        some (some .failed, 2) ∧
      (roundN orcFail 3 start).job.map (fun j => j.job.status.condition.finished.isSome) = some false := by decide +kernel
  have eS : (∀ k, k ≤ 4 → (roundN orcSecond k start).clock < 0 + getTTLAfterFinished Ex.job.job {}) ∧
      ((roundN orcSecond 4 start).job.bind (·.job.status.condition.finished)).isSome = true ∧
      (roundN orcSecond 4 start).job.map (fun j => (j.job.status.condition.finished.map (·.result), j.job.status.tasks.length)) =
        some (some .success, 2) := by decide +kernel
  obtain ⟨hF1, hF2, hF3⟩ := run_final fair_in_faultEnv orcFail _ _ start (sound_start0 orcFail) 4 eF.1 eF.2.1
  obtain ⟨hS1, _, _⟩ := run_final fair_in_faultEnv orcSecond _ _ start (sound_start0 orcSecond) 4 eS.1 eS.2.1
  exact ⟨Ex.wf_job, ex_spec, by decide, by decide, fun k _ => hF1 _, fun k _ => hS1 _, eF.2.2.1, eF.2.2.2, eS.2.2, hF2 1, hF3⟩

/-- three faulted rounds — the create fails; the create succeeds but the status update conflicts (the pod
exists unrecorded); the create is answered AlreadyExists, the adoption is recorded by a status update that is
applied but reported failed — and the fault-free rounds still end Failed with 2 refs (both attempts fail),
resp. Success with 2 refs when the second attempt succeeds: the outcome of the run without faults -/
def faults3 : List (List String) := [["err"], ["", "conflict"], ["", "applied-err"]]

example :
    (∀ pre suf, faults3 = pre ++ suf → pre ≠ [] → (roundsF orcFail pre start).clock < 0 + getTTLAfterFinished Ex.job.job {}) ∧
    (∀ k, k < 3 * Ex.job.job.maxAttempts.toNat + 3 →
      (roundN orcFail (k + 1) (roundsF orcFail faults3 start)).clock < 0 + getTTLAfterFinished Ex.job.job {}) ∧
    (roundsF orcFail [["err"]] start).pods.map (·.pod.name) = [] ∧
    ((roundsF orcFail [["err"], ["", "conflict"]] start).pods.map (·.pod.name),
      (roundsF orcFail [["err"], ["", "conflict"]] start).job.map (fun j => j.job.status.tasks.length)) = (["job-h-0"], some 0) ∧
    (roundsF orcFail faults3 start).job.map (fun j => j.job.status.tasks.map (fun r => (r.name, r.status.result))) =
      some [("job-h-0", .failed)] ∧
    (roundN orcFail 2 (roundsF orcFail faults3 start)).job.map
        (fun j => (j.job.status.condition.finished.map (·.result), j.job.status.tasks.length)) = some (some .failed, 2) ∧
    (roundN orcSecond 2 (roundsF orcSecond faults3 start)).job.map
        (fun j => (j.job.status.condition.finished.map (·.result), j.job.status.tasks.length)) = some (some .success, 2) := by
  -- the run under `orcFail` is evaluated once: three faulted rounds, then two fair ones, which finish the Job;
  -- `run_final` speaks for the rounds after that
  have eF : (roundsF orcFail [["err"]] start).clock < 0 + getTTLAfterFinished Ex.job.job {} ∧
      (roundsF orcFail [["err"], ["", "conflict"]] start).clock < 0 + getTTLAfterFinished Ex.job.job {} ∧
      (roundsF orcFail faults3 start).clock < 0 + getTTLAfterFinished Ex.job.job {} ∧
      (∀ k, k ≤ 2 → (roundN orcFail k (roundsF orcFail faults3 start)).clock < 0 + getTTLAfterFinished Ex.job.job {}) ∧
      ((roundN orcFail 2 (roundsF orcFail faults3 start)).job.bind (·.job.status.condition.finished)).isSome = true ∧
      (roundsF orcFail [["err"]] start).pods.map (·.pod.name) = [] ∧
      ((roundsF orcFail [["err"], ["", "conflict"]] start).pods.map (·.pod.name),
        (roundsF orcFail [["err"], ["", "conflict"]] start).job.map (fun j => j.job.status.tasks.length)) = (["job-h-0"], some 0) ∧
      (roundsF orcFail faults3 start).job.map (fun j => j.job.status.tasks.map (fun r => (r.name, r.status.result))) =
        some [("job-h-0", .failed)] ∧
      (roundN orcFail 2 (roundsF orcFail faults3 start)).job.map
        (fun j => (j.job.status.condition.finished.map (·.result), j.job.status.tasks.length)) = some (some .failed, 2) := by
    decide +kernel
  obtain ⟨e1, e2, e3, e4, e5, e6, e7, e8, e9⟩ := eF
  have hTF : ∀ pre suf, faults3 = pre ++ suf → pre ≠ [] →
      (roundsF orcFail pre start).clock < 0 + getTTLAfterFinished Ex.job.job {} := by
    intro pre suf e hne
    -- the three non-empty prefixes of `faults3`
    have : pre = [["err"]] ∨ pre = [["err"], ["", "conflict"]] ∨ pre = faults3 := by
      unfold faults3 at e
      match pre, suf, e, hne with
      | [a], suf, e, _ => simp at e; exact Or.inl (by rw [← e.1])
      | [a, b], suf, e, _ => simp at e; exact Or.inr (Or.inl (by rw [← e.1, ← e.2.1]))
      | [a, b, c], suf, e, _ => simp at e; exact Or.inr (Or.inr (by rw [← e.1, ← e.2.1, ← e.2.2.1]; rfl))
      | a :: b :: c :: x :: r, suf, e, _ => simp at e
    rcases this with rfl | rfl | rfl
    · exact e1
    · exact e2
    · exact e3
  have hF := run_final fair_in_faultEnv orcFail _ _ _
    (roundsF_keep fair_in_faultEnv (fun _ _ => trivial) orcFail _ _ faults3 start (sound_start0 orcFail) hTF) 2 e4 e5
  exact ⟨hTF, fun k _ => hF.1 _, e6, e7, e8, e9, by decide +kernel⟩

end Furiko.Props.C20Live
