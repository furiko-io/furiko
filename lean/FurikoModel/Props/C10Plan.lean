/-
C10 — plan level: "A Job's final result is exactly what its tasks' outcomes and strategy imply":
the clause `decided_then_reached`, first half — once the outcome of a parallel Job is decided
against continuing (or the Job ended with an AdmissionError, fix 4da8936), the pass deletes the
tasks that are still alive.  Theorems over `Model/JobCtl.lean` for ALL states, Jobs and faults.
Vocabulary as in `Props/C12Plan.lean`.
-/
import FurikoModel.Proofs.JobCtlPlanPass

namespace Furiko.Props.C10Plan
open Furiko Furiko.JobCtl Furiko.JobCtlPlan Furiko.WQ

private def sec (n : Int) : Int := n * 1000000000
private def brief (c : Call) : String × String × String × String × Bool := (c.verb, c.res, c.name, c.out, c.force)

private def mkPod (name hash : String) (ph : PodPhase) (fin : Option Time) : PodObj :=
  { pod := { name := name, creationTimestamp := some (sec 1), phase := ph, retryIndex := some 0,
             parallelIndex := some { hash := hash }, startTime := some (sec 1),
             containers := [match fin with
               | some f => { terminated := some { startedAt := some (sec 2), finishedAt := some f } }
               | none => { running := some (some (sec 2)) }] },
    ownerUid := some "u", ownerName := some "job", jobLabel := some "u" }

/-- AnySuccessful over indexes `a`, `b`; both tasks recorded running -/
private def anyJob : Job :=
  { template := some { parallelism := some { strategy := .anySuccessful, indexes := [{ hash := "a" }, { hash := "b" }] } },
    status := { startTime := some (sec 1),
                tasks := [{ name := "job-a-0", parallelIndex := some { hash := "a" }, creationTimestamp := some (sec 1),
                            runningTimestamp := some (sec 2) },
                          { name := "job-b-0", parallelIndex := some { hash := "b" }, creationTimestamp := some (sec 1),
                            runningTimestamp := some (sec 2) }] } }

/-- When the kill step runs on a Job whose recorded parallel summary is complete and decided
against continuing (`shouldKillJobForParallel`: AllSuccessful already failed / AnySuccessful
already succeeded), or that carries the admission-error annotation, every task of the list that
is unfinished and has no deletion timestamp gets a graceful pod delete — whatever the faults —
and on success its refs are marked `deletedStatus = Killed`; with no fault pending the step
succeeds. -/
theorem decided_then_kill (s : Sys) (jo : JobObj) (rj : Job) (tasks : List Task)
    (h : shouldKillJobForParallel rj = true ∨ rj.admissionError = true) :
    (∀ t ∈ tasks, isTaskFinished t = false → t.deletionTimestamp = none →
      ∃ c ∈ newCalls s (handleKillJob s jo rj tasks).1,
        c.verb = "delete" ∧ c.res = "pods" ∧ c.force = false ∧ c.name = t.name) ∧
    (∀ rj', (handleKillJob s jo rj tasks).2 = some rj' →
      ∀ t ∈ tasks, isTaskFinished t = false → t.deletionTimestamp = none →
        ∀ r ∈ rj'.status.tasks, r.name = t.name → r.deletedStatus = some killedStatus) ∧
    (NoFault s → ∃ rj', (handleKillJob s jo rj tasks).2 = some rj') := by
  obtain ⟨l, e, _, hall, hon⟩ := handleKillJob_ext s jo rj tasks
  obtain ⟨hcov, hmark, hnf⟩ := hon ((shouldKillJob_iff s.clock rj).mpr (Or.inr h))
  rw [e.newCalls]
  refine ⟨?_, ?_, fun hno => ⟨_, (hnf hno).1⟩⟩
  · intro t ht hf hd
    obtain ⟨c, hc, hn⟩ := hcov t ht hf hd
    obtain ⟨hv, hr, hfo, _⟩ := hall c hc
    exact ⟨c, hc, hv, hr, hfo, hn⟩
  · intro rj' h' t ht hf hd r hr hn
    rw [hmark rj' h'] at hr
    exact killMark_killed rj tasks t ht hf hd r hr hn

/-- `decided_then_kill` with the admission-error annotation: the live task is deleted. -/
example :
    let pb := mkPod "job-b-0" "b" .running none
    let j : Job := { anyJob with admissionError := true }
    let s : Sys := { clock := sec 60, d := { hash := "d" }, pods := [pb], podCache := [pb] }
    (newCalls s (handleKillJob s ⟨"job", "u", j, true, 1⟩ j ((podTask s.clock pb).toList)).1).map brief = [("delete", "pods", "job-b-0", "ok", false)] := by
  decide +kernel

/-- what "decided against continuing" means, exactly -/
theorem decided_iff (rj : Job) :
    shouldKillJobForParallel rj = true ↔
      ∃ t spec st b, rj.template = some t ∧ t.parallelism = some spec ∧ rj.status.parallelStatus = some st ∧
        st.summary.complete = true ∧ st.summary.successful = some b ∧
        ((spec.strategy.get = .allSuccessful ∧ b = false) ∨ (spec.strategy.get = .anySuccessful ∧ b = true)) := by
  unfold shouldKillJobForParallel
  constructor
  · intro h
    split at h; · cases h
    split at h; · cases h
    split at h; · cases h
    split at h; · cases h
    split at h; · cases h
    next _ t hT _ spec hP _ st hS _ b hB hC =>
    refine ⟨t, spec, st, b, hT, hP, hS, by simpa using hC, hB, ?_⟩
    split at h
    · next hG => exact Or.inl ⟨hG, by simpa using h⟩
    · next hG => exact Or.inr ⟨hG, h⟩
    · cases h
  · rintro ⟨t, spec, st, b, hT, hP, hS, hC, hB, h⟩
    simp only [hT, hP, hS, hB, hC]
    rcases h with ⟨hG, rfl⟩ | ⟨hG, rfl⟩ <;> simp [hG]

/-- decided: AnySuccessful with a successful summary; not decided: the same summary under
AllSuccessful (everything succeeded — nothing is left to stop) -/
example :
    let st : ParallelStatus := { summary := { complete := true, successful := some true } }
    shouldKillJobForParallel { anyJob with status := { anyJob.status with parallelStatus := some st } } = true ∧
    shouldKillJobForParallel { template := some { parallelism := some { strategy := .allSuccessful } },
                               status := { parallelStatus := some st } } = false := by
  decide +kernel

/-- Pass level: in a `syncJobTasks` pass that returns without error, let `tasks1` be the task list
after the creation step and `rj2` the Job refreshed from it (whose parallel status is computed
from the refreshed refs: `refreshed_status`).  If `rj2` is decided against continuing, or
the admission error is present after the creation step, then every task of `tasks1` that is
unfinished and has no deletion timestamp gets a graceful delete call in this very pass. -/
theorem decided_then_kill_pass (s : Sys) (jo : JobObj) (rj rjOut : Job)
    (hok : (syncJobTasks s jo rj).2 = some rjOut) :
    ∃ s1 rj1 tasks1, syncCreateTasks s jo rj (tasks0 s jo rj) = (s1, some (rj1, tasks1)) ∧
      (shouldKillJobForParallel (updateTaskRefStatus s1 (jobKey jo) rj1 tasks1).2 = true ∨ rj1.admissionError = true →
        ∀ t ∈ tasks1, isTaskFinished t = false → t.deletionTimestamp = none →
          ∃ c ∈ newCalls s (syncJobTasks s jo rj).1,
            c.verb = "delete" ∧ c.res = "pods" ∧ c.force = false ∧ c.name = t.name) := by
  obtain ⟨s1, rj1, tasks1, s2, rj2, s3, rj3, s4, rj4, s5, rj5, hc, hu, _, hkj, _, _, hcalls, _, _, _, _, hs2,
    hs3, _, hps⟩ := syncJobTasks_success s jo rj rjOut hok
  refine ⟨s1, rj1, tasks1, hc, ?_⟩
  intro hdec t ht hf hd
  rw [hu] at hdec
  have h3 : shouldKillJobForParallel rj3 = true ∨ rj3.admissionError = true := by
    rcases hdec with h | h
    · left
      rw [shouldKillJobForParallel_congr (hs3.template.trans hs2.template.symm) hps]
      exact h
    · right; rw [hs3.admissionError]; exact h
  obtain ⟨c, hcm, hrest⟩ := (decided_then_kill s3 jo rj3 tasks1 h3).1 t ht hf hd
  rw [hkj] at hcm
  refine ⟨c, ?_, hrest⟩
  rw [hcalls]
  simp only [List.mem_append]
  exact Or.inr (Or.inr (Or.inl hcm))

/-- `decided_then_kill_pass`: index `a` has just succeeded (pod phase Succeeded at 50 s), index `b`
is still running: the refreshed summary is complete/successful under AnySuccessful, and the same
pass deletes the running task of `b` (and only it). -/
example :
    let pa := mkPod "job-a-0" "a" .succeeded (some (sec 50))
    let pb := mkPod "job-b-0" "b" .running none
    let s : Sys := { clock := sec 60, d := { hash := "d" }, pods := [pa, pb], podCache := [pa, pb] }
    (syncJobTasks s ⟨"job", "u", anyJob, true, 1⟩ anyJob).2.isSome = true ∧
    (newCalls s (syncJobTasks s ⟨"job", "u", anyJob, true, 1⟩ anyJob).1).map brief =
      [("delete", "pods", "job-b-0", "ok", false)] ∧
    shouldKillJobForParallel (updateTaskRefStatus s "ns/job" anyJob (tasks0 s ⟨"job", "u", anyJob, true, 1⟩ anyJob)).2 = true := by
  decide +kernel

/-- Repair of F23.  Pass level, on the cached Job: when
the creation step does not create — the refreshed summary of the recorded tasks is already
complete, or `canCreateTask` is false — the task list the handlers work on is
`adoptUnrecordedTasks` of the found tasks, so it contains every UNRECORDED task of the Job that
the pod cache holds (a pod labelled with and controlled by the Job that the status does not name:
created while the status write that records it failed).  Hence, in a pass that returns without
error and in which the Job refreshed from that list is decided against continuing (or carries the
admission error), every such pod whose task is unfinished and has no deletion timestamp gets a
graceful delete call in that very pass.  Before the repair a complete summary returned the list as
it was: the unrecorded task was never stopped and the Job was reported finished while it ran. -/
theorem decided_then_kill_covers_unrecorded (s : Sys) (jo : JobObj) (rjOut : Job)
    (hok : (syncJobTasks s jo jo.job).2 = some rjOut)
    (hstop : canCreateTask jo.job = false ∨ (refreshedSummary s jo.job (tasks0 s jo jo.job)).complete = true) :
    syncCreateTasks s jo jo.job (tasks0 s jo jo.job) =
      (s, some (jo.job, adoptUnrecordedTasks s jo (tasks0 s jo jo.job))) ∧
    (shouldKillJobForParallel
        (updateTaskRefStatus s (jobKey jo) jo.job (adoptUnrecordedTasks s jo (tasks0 s jo jo.job))).2 = true ∨
      jo.job.admissionError = true →
      ∀ p ∈ s.podCache, p.jobLabel = some jo.uid → p.ownerUid = some jo.uid →
        (∀ r ∈ jo.job.status.tasks, r.name ≠ p.pod.name) →
        ∀ t, podTask s.clock p = some t → isTaskFinished t = false → t.deletionTimestamp = none →
          ∃ c ∈ newCalls s (syncJobTasks s jo jo.job).1,
            c.verb = "delete" ∧ c.res = "pods" ∧ c.force = false ∧ c.name = p.pod.name) := by
  have hcr : syncCreateTasks s jo jo.job (tasks0 s jo jo.job) =
      (s, some (jo.job, adoptUnrecordedTasks s jo (tasks0 s jo jo.job))) := by
    obtain ⟨_, _, hoff, hdone, _⟩ := syncCreateTasks_ext s jo jo.job (tasks0 s jo jo.job)
    by_cases hcan : canCreateTask jo.job = true
    · rcases hstop with h | h
      · rw [hcan] at h; cases h
      · exact hdone hcan h
    · exact hoff (by simpa using hcan)
  refine ⟨hcr, ?_⟩
  intro hdec p hp hl ho hu t hpt hf hd
  obtain ⟨s1, rj1, tasks1, hc, hkill⟩ := decided_then_kill_pass s jo jo.job rjOut hok
  rw [hcr] at hc
  simp only [Prod.mk.injEq, Option.some.injEq] at hc
  obtain ⟨rfl, rfl, rfl⟩ := hc
  have hmem : t ∈ adoptUnrecordedTasks s jo (tasks0 s jo jo.job) := by
    refine (mem_adoptUnrecordedTasks s jo _ t).mpr (Or.inr ⟨p, hp, hpt, hl, ho, ?_, hu⟩)
    intro t0 ht0 hn
    obtain ⟨r, hr, hrn⟩ := tasksForRefs_name ht0
    exact hu r hr (hrn ▸ hn)
  obtain ⟨c, hc, hv, hr, hfo, hn⟩ := hkill hdec t hmem hf hd
  exact ⟨c, hc, hv, hr, hfo, hn.trans (podTask_name hpt)⟩

/-- `decided_then_kill_covers_unrecorded` (the F23 history): AnySuccessful over `a`, `b`; `job-b-0`
is recorded and has SUCCEEDED (the summary of the recorded tasks is complete); the status does not
list `job-a-0` although the pod exists and runs (its recording failed): the pass deletes it. -/
example :
    let pa := mkPod "job-a-0" "a" .running none
    let pb := mkPod "job-b-0" "b" .succeeded (some (sec 50))
    let j : Job := { anyJob with status := { anyJob.status with tasks := anyJob.status.tasks.filter (·.name = "job-b-0") } }
    let jo : JobObj := ⟨"job", "u", j, true, 1⟩
    let s : Sys := { clock := sec 60, d := { hash := "d" }, pods := [pa, pb], podCache := [pa, pb] }
    (refreshedSummary s j (tasks0 s jo j)).complete = true ∧ canCreateTask j = true ∧
    (syncJobTasks s jo j).2.isSome = true ∧
    (newCalls s (syncJobTasks s jo j).1).map brief = [("delete", "pods", "job-a-0", "ok", false)] := by
  decide +kernel

/-- for a parallel Job the refreshed Job's parallel status is the one computed from the refreshed
refs -/
theorem refreshed_status (s : Sys) (key : String) (rj : Job) (tasks : List Task) (t : Template) (spec : ParSpec)
    (ht : rj.template = some t) (hp : t.parallelism = some spec) :
    (updateTaskRefStatus s key rj tasks).2.status.parallelStatus =
      some (getParallelStatus s.d (updateJobTaskRefs s.clock rj tasks) (generateTaskRefs s.clock rj.status.tasks tasks)) := by
  unfold updateTaskRefStatus
  rw [syncJobStatus_snd]
  unfold updateJobStatusFromTaskRefs updateJobStatusFromTaskRefsWith
  have : (updateJobTaskRefs s.clock rj tasks).template = some t := ht
  rw [this]
  simp only [Option.getD_some, statusBeforePhase, hp]
  rfl

/-- both tasks of `anyJob` still running: the refreshed parallel status is recorded, not complete -/
example :
    let pa := mkPod "job-a-0" "a" .running none
    let pb := mkPod "job-b-0" "b" .running none
    let s : Sys := { clock := sec 60, d := { hash := "d" }, pods := [pa, pb], podCache := [pa, pb] }
    ((updateTaskRefStatus s "ns/job" anyJob (tasks0 s ⟨"job", "u", anyJob, true, 1⟩ anyJob)).2.status.parallelStatus.map (·.summary.complete)) =
      some false := by
  decide +kernel

end Furiko.Props.C10Plan
