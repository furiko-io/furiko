/-
C12 — "Kill and pending-timeout deadlines stop tasks, never early, and end the Job": HISTORY-level
theorems over every state reachable in the transition system of `Proofs/JobCtlSys.lean` (conventions as
in `Props/C11Hist.lean`: `Reach ok j0 s`, action filter `ok`; a theorem stated for an arbitrary `ok` allows
EVERY action — any fault pattern, informer lag, resync, restart, clock, kubelet, external pod deletion,
user kill / delete, foreign pods).

`Props/C12Plan.lean` justifies the calls of ONE pass started in ANY state.  Here the claims are made
explicit for histories: which steps issue calls at all, that the clock they are judged against never goes
backwards, and that what the controller has once seen of a kill request is never unseen.
A theorem about `(step s .work).calls` for every reachable `s` is a theorem about every step of every
history: `Reach` is closed under steps, and `Steps ok j0 s s'` makes `s'` reachable (`Reach.steps`).
-/
import FurikoModel.Proofs.JobCtlInvC12Calls
import FurikoModel.Proofs.JobCtlInvC12Chain
import FurikoModel.Proofs.JobCtlInvC12Marker
import FurikoModel.Proofs.JobCtlInvCreate
import FurikoModel.Proofs.JobCtlInvExamples
import FurikoModel.Props.C12Plan
import FurikoModel.Props.HistCommon

namespace Furiko.Props.C12Hist
open Furiko Furiko.JobCtl Furiko.JobCtlPlan

/-- `calls_only_from_passes`: the only action of the transition system that issues API calls on behalf of
the job controller is a controller pass; informer deliveries, resync, restart, the clock, the kubelet,
the user and foreign writers leave the controller's call log as it is — and a pass starts by clearing it,
so `(step s .work).calls` is exactly what that pass issued. -/
theorem calls_only_from_passes (s : Sys) (a : Action) (h : a ≠ .work) : (step s a).calls = s.calls :=
  calls_only_in_work s a h

/-- `clock_never_goes_back`: along every history the clock is non-decreasing (`E-MonotoneClock`: the
only action that changes it is `advance d` with `d ≥ 0`), so a deadline that has passed at some state of a
history has passed at every later state. -/
theorem clock_never_goes_back {ok : Sys → Action → Prop} {j0 : JobObj} {s s' : Sys} (hs : Steps ok j0 s s') :
    s.clock ≤ s'.clock :=
  steps_clock_le hs

/-- … in particular a kill timestamp that has passed stays passed -/
theorem kill_passed_stays_passed {ok : Sys → Action → Prop} {j0 : JobObj} {s s' : Sys} (hs : Steps ok j0 s s')
    (k : Int) (hk : k ≤ s.clock) : k ≤ s'.clock :=
  Int.le_trans hk (steps_clock_le hs)

example : Steps anyAction Ex.job Ex.u1 Ex.u2 ∧ Ex.u1.clock = 0 ∧ Ex.u2.clock = 10000000000 :=
  ⟨steps_run _ _ Ex.u_history.2.1.1, Ex.u_history.2.1.2⟩

/-- `pod_delete_justified`: every pod delete issued in ANY step of ANY history (all actions allowed, any
fault pattern) — the step is then a controller pass — is issued for a task `t`
(`t.name = c.name`) that the pass read from a pod CONTROLLED BY THE JOB, and has one of the five
reasons of `PodDeleteWhy`, each judged against the clock and configuration of the state `s` the step
starts in and the Job `jo` in the controller's cache at that moment:
* `pendingTimeout T t' p'`: graceful; `T = GetPendingTimeout(jo) > 0`; `t` has no deletion timestamp; `t'`,
  the task the pass read under that name from the pod `p'` controlled by the Job, reports no running and no
  finish timestamp (`LastTerminationState` included) and `creation(t') + T ≤ s.clock`; the ref the cached
  Job records under that name, if any, shows neither timestamp (repair of F32);
* `killPassed k`: graceful; `jo.spec.killTimestamp = k ≤ s.clock`; `t` unfinished, not being deleted;
* `decided rj'`: graceful; a Job value of the pass with `jo`'s kill timestamp and template whose parallel
  summary is decided against continuing, or that carries the admission error; `t` as before;
* `forceDelete dts`: FORCED; force-delete timeout `F > 0`, not forbidden by `jo`'s template,
  `t.deletionTimestamp = dts`, `dts + F ≤ s.clock`;
* `finalizer`: graceful; `jo` is being deleted and carries the delete-dependents finalizer.
In the first four cases `jo` is started and not being deleted. -/
theorem pod_delete_justified {ok : Sys → Action → Prop} {j0 : JobObj} {s : Sys} (hr : Reach ok j0 s)
    (c : Call) (hc : c ∈ (step s .work).calls) (hv : c.verb = "delete") (hres : c.res = "pods") :
    ∃ jo t p, s.jobCache = some jo ∧ t.name = c.name ∧ podTask s.clock p = some t ∧ p.ownerUid = some j0.uid ∧
      PodDeleteWhy s jo c t := by
  obtain ⟨jo, t, p, hjo, hn, hpt, ho, hwhy⟩ := pod_delete_why s c hc hv hres
  have hu := ((base_of_reach hr).seenOK jo (mem_seenVers_cache hjo)).1.uid
  exact ⟨jo, t, p, hjo, hn, hpt, hu ▸ ho, hwhy⟩

/-- the hypotheses are met: the finalizer pass that leads to `Ex.sE` issues a pod delete -/
example :
    let s := runActs Ex.sB [.userDelete, .deliverJob, .deliverJob]
    Reach anyAction Ex.job s ∧
    (step s .work).calls.map (fun c => (c.verb, c.res, c.name, c.force)) = [("delete", "pods", "job-h-0", false)] :=
  reach_run_and Ex.sB_reach (by decide +kernel)

/-- `kill_not_early` (history level): in every step of every history, a graceful pod delete issued while
the cached Job is not being deleted and has the pending timeout disabled (`GetPendingTimeout` ≤ 0 or
undefined) is issued because the cached Job's kill timestamp is set and NOT LATER than the clock of that
step — or because the completion strategy is decided / the Job was refused (the two other triggers of the
kill sweep).  Before a Job's kill timestamp no task is deleted because of it. -/
theorem kill_not_early {ok : Sys → Action → Prop} {j0 : JobObj} {s : Sys} (hr : Reach ok j0 s)
    (c : Call) (hc : c ∈ (step s .work).calls) (hv : c.verb = "delete") (hres : c.res = "pods") (hf : c.force = false) :
    ∃ jo, s.jobCache = some jo ∧
      (jo.job.deletionTimestamp = none →
        (getPendingTimeout jo.job s.cfg = none ∨ ∃ T, getPendingTimeout jo.job s.cfg = some T ∧ T ≤ 0) →
        (∃ k : Int, jo.job.killTimestamp = some k ∧ k ≤ s.clock) ∨
        ∃ rj' : Job, rj'.killTimestamp = jo.job.killTimestamp ∧ rj'.template = jo.job.template ∧
          (shouldKillJobForParallel rj' = true ∨ rj'.admissionError = true)) := by
  obtain ⟨jo, t, p, hjo, _, _, _, hwhy⟩ := pod_delete_justified hr c hc hv hres
  refine ⟨jo, hjo, ?_⟩
  intro hnd hpt
  cases hwhy with
  | pendingTimeout T _ _ _ _ _ hT hpos _ _ _ _ _ _ _ _ =>
    exfalso
    rcases hpt with h | ⟨T', h, hle⟩
    · rw [h] at hT; cases hT
    · rw [h] at hT; cases hT; omega
  | killPassed k _ _ _ _ _ hk hle => exact Or.inl ⟨k, hk, hle⟩
  | decided rj' _ _ _ _ _ h1 h2 h3 => exact Or.inr ⟨rj', h1, h2, h3⟩
  | forceDelete dts hft _ _ _ _ _ _ => rw [hf] at hft; cases hft
  | finalizer _ hd _ => rw [hnd] at hd; cases hd

/-- `pending_not_early` (history level): in every step of every history, a graceful pod delete issued
while the cached Job is not being deleted and its kill timestamp has NOT passed (unset, or later than the
clock of the step) is the pending-timeout reaper's — timeout `T > 0`, the task neither running nor
finished nor being deleted, and `creation + T ≤ clock` of that step — or the completion / admission-error
sweep.  A task is never reaped before its pending deadline.  (`t'`: the task the pass read under the
call's name; the creation time and the two timestamps are the ones its pod reports in that pass.) -/
theorem pending_not_early {ok : Sys → Action → Prop} {j0 : JobObj} {s : Sys} (hr : Reach ok j0 s)
    (c : Call) (hc : c ∈ (step s .work).calls) (hv : c.verb = "delete") (hres : c.res = "pods") (hf : c.force = false) :
    ∃ (jo : JobObj) (t : Task), s.jobCache = some jo ∧ t.name = c.name ∧
      (jo.job.deletionTimestamp = none → (¬ ∃ k : Int, jo.job.killTimestamp = some k ∧ k ≤ s.clock) →
        (∃ (T : Int) (t' : Task), getPendingTimeout jo.job s.cfg = some T ∧ 0 < T ∧ t'.name = c.name ∧
          t'.ref.runningTimestamp = none ∧
          t'.ref.finishTimestamp = none ∧ t.deletionTimestamp = none ∧
          (t'.ref.creationTimestamp.getD zeroTime : Int) + T ≤ s.clock) ∨
        ∃ rj' : Job, rj'.killTimestamp = jo.job.killTimestamp ∧ rj'.template = jo.job.template ∧
          (shouldKillJobForParallel rj' = true ∨ rj'.admissionError = true)) := by
  obtain ⟨jo, t, p, hjo, hn, _, _, hwhy⟩ := pod_delete_justified hr c hc hv hres
  refine ⟨jo, t, hjo, hn, ?_⟩
  intro hnd hnk
  cases hwhy with
  | pendingTimeout T t' p' _ _ _ hT hpos hdt hn' _ _ h1 h2 hd _ => exact Or.inl ⟨T, t', hT, hpos, hn', h1, h2, hdt, hd⟩
  | killPassed k _ _ _ _ _ hk hle => exact absurd ⟨k, hk, hle⟩ hnk
  | decided rj' _ _ _ _ _ h1 h2 h3 => exact Or.inr ⟨rj', h1, h2, h3⟩
  | forceDelete dts hft _ _ _ _ _ _ => rw [hf] at hft; cases hft
  | finalizer _ hd _ => rw [hnd] at hd; cases hd

/-- **`pending_only_never_ran`** (history level; the property's sentence "a task that has not begun running
within the pending timeout … is deleted", at the strength the repair of F32 makes available; monitor
`C12:pending-only-never-ran`).  In every step of every history (all actions allowed, any fault pattern), a
graceful pod delete issued while the cached Job is not being deleted, its kill timestamp has not passed and
neither the completion sweep nor the admission-error sweep applies, is issued for a task of which NEITHER
the record NOR the pod shows that it has begun running:
* the ref the controller's cached Job RECORDS under the task's name, if any, carries neither a running nor a
  finish timestamp — a task recorded as running is never reaped as `PendingTimeout`, even when its container
  has since failed and waits to be restarted (CrashLoopBackOff: no running container);
* the pod of that name controlled by the Job, as the pass read it (`podTask s.clock p' = some t'`), reports no
  container start — `GetContainerStartTime` now also reads `LastTerminationState.Terminated.StartedAt`, so a
  container that started and failed between two passes counts as started — and no finish time. -/
theorem pending_only_never_ran {ok : Sys → Action → Prop} {j0 : JobObj} {s : Sys} (hr : Reach ok j0 s)
    (c : Call) (hc : c ∈ (step s .work).calls) (hv : c.verb = "delete") (hres : c.res = "pods") (hf : c.force = false) :
    ∃ jo : JobObj, s.jobCache = some jo ∧
      (jo.job.deletionTimestamp = none → (¬ ∃ k : Int, jo.job.killTimestamp = some k ∧ k ≤ s.clock) →
        (∃ (t' : Task) (p' : PodObj), t'.name = c.name ∧ podTask s.clock p' = some t' ∧ p'.ownerUid = some j0.uid ∧
          t'.ref.runningTimestamp = none ∧ t'.ref.finishTimestamp = none ∧
          (∀ e, lookupRef jo.job.status.tasks c.name = some e → e.runningTimestamp = none ∧ e.finishTimestamp = none)) ∨
        ∃ rj' : Job, rj'.killTimestamp = jo.job.killTimestamp ∧ rj'.template = jo.job.template ∧
          (shouldKillJobForParallel rj' = true ∨ rj'.admissionError = true)) := by
  obtain ⟨jo, t, p, hjo, hn, _, _, hwhy⟩ := pod_delete_why s c hc hv hres
  have hu := ((base_of_reach hr).seenOK jo (mem_seenVers_cache hjo)).1.uid
  refine ⟨jo, hjo, ?_⟩
  intro hnd hnk
  cases hwhy with
  | pendingTimeout T t' p' _ _ _ _ _ _ hn' hpt' hpo' h1 h2 _ hrec =>
    exact Or.inl ⟨t', p', hn', hpt', hu ▸ hpo', h1, h2, hrec⟩
  | killPassed k _ _ _ _ _ hk hle => exact absurd ⟨k, hk, hle⟩ hnk
  | decided rj' _ _ _ _ _ h1 h2 h3 => exact Or.inr ⟨rj', h1, h2, h3⟩
  | forceDelete dts hft _ _ _ _ _ _ => rw [hf] at hft; cases hft
  | finalizer _ hd _ => rw [hnd] at hd; cases hd

/-- the pod → task mapping of `pending_only_never_ran`: a pod whose only trace of a container start is under
`LastTerminationState` (the container failed and waits to be restarted) reports that start as its running
timestamp — before the repair of F32 it reported none -/
theorem crashloop_pod_reports_start (p : Pod) (st fi : Time) (hst : isUnixZero (some st) = false)
    (hc : p.containers = [{ lastTerminated := some { startedAt := some st, finishedAt := some fi, reason := "Error" } }]) :
    containerStartTime p = some st := by
  unfold containerStartTime
  rw [hc]
  simp [hst, timeMax]

/-- `force_delete_gated` (history level): in every step of every history, every FORCED pod delete is
issued with the force-delete timeout `F > 0` configured, force deletion not forbidden by the cached Job's
template, for a task that carries a deletion timestamp `dts` with `dts + F ≤ clock` of that step.  Tasks
that ignore deletion are force-deleted only after the timeout, and never when the Job forbids it. -/
theorem force_delete_gated {ok : Sys → Action → Prop} {j0 : JobObj} {s : Sys} (hr : Reach ok j0 s)
    (c : Call) (hc : c ∈ (step s .work).calls) (hv : c.verb = "delete") (hres : c.res = "pods") (hf : c.force = true) :
    ∃ (jo : JobObj) (t : Task), s.jobCache = some jo ∧ t.name = c.name ∧ 0 < getForceDeleteTimeout s.cfg ∧
      (jo.job.template.map (·.forbidTaskForceDeletion)).getD false = false ∧
      ∃ dts : Int, t.deletionTimestamp = some dts ∧ dts + getForceDeleteTimeout s.cfg ≤ s.clock := by
  obtain ⟨jo, t, p, hjo, hn, _, _, hwhy⟩ := pod_delete_justified hr c hc hv hres
  refine ⟨jo, t, hjo, hn, ?_⟩
  cases hwhy with
  | pendingTimeout T _ _ hf' _ _ _ _ _ _ _ _ _ _ _ _ => rw [hf] at hf'; cases hf'
  | killPassed k hf' _ _ _ _ _ _ => rw [hf] at hf'; cases hf'
  | decided rj' hf' _ _ _ _ _ _ _ => rw [hf] at hf'; cases hf'
  | forceDelete dts _ _ _ hpos hfb hdt hd => exact ⟨hpos, hfb, dts, hdt, hd⟩
  | finalizer hf' _ _ => rw [hf] at hf'; cases hf'

/-- `ttl_not_early` (history level): in every step of every history, every Job delete call is the TTL
deletion: the cached Job is not being deleted, and the Job value the pass has just refreshed from it (same
spec) is `Finished` with `finishTimestamp + TTL ≤ clock` of that step, `TTL` the EFFECTIVE value
(`GetTTLAfterFinished`: job-level `ttlSecondsAfterFinished`, else the controller default, else 0). -/
theorem ttl_not_early {ok : Sys → Action → Prop} {j0 : JobObj} {s : Sys} (_hr : Reach ok j0 s)
    (c : Call) (hc : c ∈ (step s .work).calls) (hv : c.verb = "delete") (hres : c.res = "jobs") :
    ∃ jo rj' fin, s.jobCache = some jo ∧ c.name = jo.name ∧ jo.job.deletionTimestamp = none ∧
      SpecLe jo.job rj' ∧ rj'.status.condition.finished = some fin ∧
      fin.finishTimestamp.getD zeroTime + getTTLAfterFinished jo.job s.cfg ≤ s.clock :=
  job_delete_why s c hc hv hres

/-- the hypotheses of `ttl_not_early` are met: `Ex.sC` (Job Finished at 0 s, TTL 1000 s, everything
delivered); 1000 s later the timer fires and the pass deletes the Job -/
example :
    let s := runActs Ex.sC [.deliverJob, .advance (Ex.sec 1000)]
    Reach anyAction Ex.job s ∧
    ((step s .work).calls.map (fun c => (c.verb, c.res, c.name))).head? = some ("delete", "jobs", "job") :=
  reach_run_and Ex.sC_reach (by decide +kernel)

/-- `create_justified` (history level): in every step of every history, every create call is a pod create
for a due request of `ComputeMissingIndexesForCreation` on the CACHED refs, and the cached Job is
started, not being deleted, and carries NO kill timestamp and no admission error. -/
theorem create_justified {ok : Sys → Action → Prop} {j0 : JobObj} {s : Sys} (_hr : Reach ok j0 s)
    (c : Call) (hc : c ∈ (step s .work).calls) (hv : c.verb = "create") :
    ∃ jo, s.jobCache = some jo ∧ c.res = "pods" ∧ isStarted jo.job = true ∧ jo.job.deletionTimestamp = none ∧
      jo.job.killTimestamp = none ∧ jo.job.admissionError = false ∧
      ∃ reqs, computeMissingIndexesForCreation s.d jo.job (jo.job.indexes s.d) = some reqs ∧
        ∃ r ∈ reqs, c.name = taskName jo.name r.index.hash r.retryIndex ∧ reqDueNow s.clock r :=
  create_why s c hc hv

example : (step (step Ex.s0 .deliverJob) .work).calls.map (fun c => (c.verb, c.res, c.name)) =
    [("create", "pods", "job-h-0"), ("update", "jobs", "job")] := by decide +kernel

/-- `kill_never_removed` (every reachable state, ALL actions allowed): no action removes a kill timestamp
from the authoritative Job — the only user action on it, `kill t`, SETS one (it may replace the value:
the model does not enforce the webhook's "immutable once passed", C17), `userDelete` and the controller's
writes keep it.  So once the authoritative Job carries a kill timestamp it carries one for as long as the
object exists. -/
theorem kill_never_removed {ok : Sys → Action → Prop} {j0 : JobObj} {s s' : Sys} (hr : Reach ok j0 s)
    (hs : Steps ok j0 s s') (j j' : JobObj) (hj : s.job = some j) (hj' : s'.job = some j')
    (hk : j.job.killTimestamp.isSome = true) : j'.job.killTimestamp.isSome = true :=
  job_steps_rel killSeen_mono hr hs j j' hj hj' hk

/-- `kill_seen_is_final` (every reachable state, ALL actions allowed): once the controller's CACHED
copy of the Job carries a kill timestamp, whatever its cache holds at ANY later state of the history
carries one too — a later watch event, the relisted object after a restart — and so does the
authoritative object.  (Cache versions only move forward along the versions of the one Job object,
`C11Hist.rv_identifies_cached`; no write removes a kill timestamp, `kill_never_removed`; the Job object,
once removed, never reappears, `C09Hist.job_gone_stays_gone`, so "the same incarnation" is automatic.) -/
theorem kill_seen_is_final {ok : Sys → Action → Prop} {j0 : JobObj} {s s' : Sys} (hr : Reach ok j0 s)
    (hs : Steps ok j0 s s') (c : JobObj) (hc : s.jobCache = some c) (hk : c.job.killTimestamp.isSome = true) :
    (∀ c', s'.jobCache = some c' → c'.job.killTimestamp.isSome = true) ∧
    (∀ j', s'.job = some j' → j'.job.killTimestamp.isSome = true) :=
  have h := kill_seen_all hr hs hc hk
  ⟨fun c' hc' => h c' (by unfold versList seenVers; rw [hc']; simp),
   fun j' hj' => h j' (by unfold versList; rw [hj']; simp)⟩

/-- `no_create_after_kill_seen` (every reachable state, ALL actions allowed, any fault pattern): once
the controller's cached copy of the Job carries a kill timestamp — even one that is still in the future
— NO later step of the history issues a create call, and no later controller pass adds a pod to the
server: every pod name on the server after the pass was there before it.  (Other actions add pods only
as `createForeign`, `C08Hist.pods_created_only_by_pass_or_foreign`.) -/
theorem no_create_after_kill_seen {ok : Sys → Action → Prop} {j0 : JobObj} {s s' : Sys} (hr : Reach ok j0 s)
    (hs : Steps ok j0 s s') (c : JobObj) (hc : s.jobCache = some c) (hk : c.job.killTimestamp.isSome = true) :
    (∀ call ∈ (step s' .work).calls, call.verb ≠ "create") ∧
    (∀ n ∈ podNames (step s' .work).pods, n ∈ podNames s'.pods) := by
  have hfinal := (kill_seen_is_final hr hs c hc hk).1
  refine ⟨?_, ?_⟩
  · intro call hcall hv
    obtain ⟨jo, hjo, _, _, _, hnk, _⟩ := create_why s' call hcall hv
    have := hfinal jo hjo
    rw [hnk] at this; cases this
  · intro n hn
    by_cases hnew : n ∈ podNames s'.pods
    · exact hnew
    · exfalso
      obtain ⟨jo, idx, retry, hjo, hreq, _⟩ := work_new_pod_names s' n hn hnew
      obtain ⟨_, _, hcan, _⟩ := hreq
      have := hfinal jo hjo
      unfold canCreateTask at hcan
      simp [this] at hcan

/-- the hypotheses are met on a concrete history: from `Ex.sA` (task `job-h-0` recorded, its pod alive)
the user sets a kill timestamp in the FUTURE (500 s) and the event is delivered: the cached copy carries
it; then the pod is lost, its events are delivered, a pass records the loss and the status update is
delivered — the index has no live task and an attempt left — yet the next pass creates nothing (whereas
without the kill timestamp the same pass creates the retry `job-h-1`). -/
example :
    let s := runActs Ex.sA [.kill 500000000000, .deliverJob]
    let tail : List Action := [.externalDelete "job-h-0", .deliverPod, .deliverPod, .work, .deliverJob]
    let s' := runActs s tail
    let t' := runActs (runActs Ex.sA [.deliverJob]) tail
    Reach anyAction Ex.job s ∧ Steps anyAction Ex.job s s' ∧
    (s.jobCache.map (fun c => c.job.killTimestamp)) = some (some 500000000000) ∧ s'.clock = 0 ∧
    (step s' .work).calls = [] ∧ (step s' .work).pods = [] ∧
    ((step t' .work).calls.map (fun c => (c.verb, c.res, c.name))).head? = some ("create", "pods", "job-h-1") :=
  ⟨reach_run Ex.sA_reach _ (by decide +kernel), steps_run _ _ (by decide +kernel), by decide +kernel⟩

/-- `marker_is_killed_unless_finished` (every reachable state, ALL actions allowed): in the authoritative
status, the `deletedStatus` of a ref that carries NO finish timestamp is a `Terminated / Killed` marker —
written by the pending-timeout reaper (`PendingTimeout`), the kill sweep, the force-delete step
(`ForceDeleted`) or the finalizer (`JobDeleted`).  (On a finished ref `GetTaskRef` stores the task's own
terminal status there.) -/
theorem marker_is_killed_unless_finished {ok : Sys → Action → Prop} {j0 : JobObj} {s : Sys} (hr : Reach ok j0 s)
    (j : JobObj) (hj : s.job = some j) (r : TaskRef) (hrm : r ∈ j.job.status.tasks) (ds : TaskStatus)
    (hds : r.deletedStatus = some ds) (hnf : r.finishTimestamp = none) :
    ds.state = .terminated ∧ ds.result = .killed := by
  rcases markerOK_of_reach hr j hj r hrm ds hds with h | h
  · exact h
  · rw [hnf] at h; cases h

/-- `deletion_marker_kept` (`kill_sweep_monotone` / `killed_stays_killed`): once a task's ref carries a
deletion marker, later passes never un-mark it while it is unfinished.  Every reachable state, ALL
actions allowed: faults, informer lag, restart, later passes on stale copies, user kill / delete, foreign
pods; index hashes `WF2`.  Once a ref of the authoritative status carries a deletion marker `ds` (a pass
marked the task `Killed` when it deleted it), then in EVERY later state of the history in which the Job
object exists the ref of that name
* still carries a finish timestamp if it carried one, and
* still carries a `deletedStatus` with the same state and result (only the reason may change, to
  `ForceDeleted`) — unless that ref is finished by then: when the task's pod is observed terminal,
  `GetTaskRef` replaces the marker by the pod's own terminal status.
No later pass un-marks a task that is still unfinished: whatever copy of the Job or of the pod it works
from, `GetTaskRef` carries `existing.DeletedStatus` over and the handlers only re-mark. -/
theorem deletion_marker_kept {ok : Sys → Action → Prop} {j0 : JobObj} {s s' : Sys} (hr : Reach ok j0 s)
    (hwf : WF2 j0 s.d) (hs : Steps ok j0 s s') (j j' : JobObj) (hj : s.job = some j) (hj' : s'.job = some j')
    (ex : TaskRef) (hex : ex ∈ j.job.status.tasks) (ds : TaskStatus) (hds : ex.deletedStatus = some ds) :
    ∃ r ∈ j'.job.status.tasks, r.name = ex.name ∧
      (ex.finishTimestamp.isSome = true → r.finishTimestamp.isSome = true) ∧
      ∃ ds', r.deletedStatus = some ds' ∧
        ((ds'.state = ds.state ∧ ds'.result = ds.result) ∨ r.finishTimestamp.isSome = true) := by
  have hm := marked_steps hr hs j j' hj hj'
  obtain ⟨r, hrm, hrn⟩ := hm.names ex hex
  obtain ⟨ex', hex', hn', hk⟩ := hm.keep r hrm ⟨ex, hex, hrn.symm⟩
  have hnd := ((inv2_of_reach hr hwf).job j hj).nodup
  have : ex' = ex := inj_on_of_nodup_map (f := fun r : TaskRef => r.name) hnd hex' hex (hn'.trans hrn)
  subst this
  exact ⟨r, hrm, hk.1, hk.2.1, hk.2.2 ds hds⟩

/-- … hence a task that was marked and then VANISHES (its pod is removed before it is ever observed
terminal) is recorded as a finished, KILLED attempt — `GenerateTaskRefs` gives a vanished task its
`deletedStatus` as status — and never as `DeletedFinalStateUnknown` (pure step, for every unfinished ref
that satisfies `marker_is_killed_unless_finished`). -/
theorem marked_task_lost_is_killed (now : Time) (ex : TaskRef) (ds : TaskStatus) (hds : ex.deletedStatus = some ds)
    (hk : ds.state = .terminated ∧ ds.result = .killed) :
    (lostRef now ex).status.state = .terminated ∧ (lostRef now ex).status.result = .killed ∧
    (lostRef now ex).finishTimestamp.isSome = true := by
  have h := Furiko.Props.C11.lostRef_retains now ex
  have hst : (lostRef now ex).status = ds := by
    have := h.2.2.2.2
    rw [hds] at this
    exact this
  rw [hst]
  exact ⟨hk.1, hk.2, h.2.2.2.1⟩

/-- the hypotheses are met on a kill history: from `Ex.sA` the user sets a kill timestamp that has passed
(0 s), the event is delivered and the pass sweeps: `job-h-0` gets its graceful delete and the marker
(`k1`: phase Killing); then the kubelet removes the pod, the events are delivered, a pass runs (`k2`): the
ref keeps the marker, is recorded Terminated / Killed with a finish time, and the Job is `Killed`. -/
example :
    let k1 := runActs Ex.sA [.kill 0, .deliverJob, .work]
    let k2 := runActs k1 [.deliverJob, .podGone "job-h-0", .deliverPod, .deliverPod, .deliverPod, .work]
    Reach anyAction Ex.job k1 ∧ Steps anyAction Ex.job k1 k2 ∧ WF2 Ex.job k1.d ∧
    k1.calls.map (fun c => (c.verb, c.res, c.name, c.force)) =
      [("delete", "pods", "job-h-0", false), ("update", "jobs", "job", false)] ∧
    (k1.job.map (fun j => (j.job.status.phase, j.job.status.tasks.map (fun r =>
      (r.name, r.finishTimestamp.isSome, r.deletedStatus.map (·.result))))) =
      some ("Killing", [("job-h-0", false, some TaskResult.killed)])) ∧
    (k2.job.map (fun j => (j.job.status.phase, j.job.status.tasks.map (fun r =>
      (r.name, r.finishTimestamp.isSome, r.deletedStatus.map (·.result))))) =
      some ("Killed", [("job-h-0", true, some TaskResult.killed)])) ∧
    (k2.job.map (fun j => j.job.status.tasks.map (fun r => (r.status.state, r.status.result))) =
      some [(TaskState.terminated, TaskResult.killed)]) ∧
    k2.pods = [] :=
  ⟨reach_run Ex.sA_reach _ (by decide +kernel), steps_run _ _ (by decide +kernel), by decide +kernel, by decide +kernel,
    by decide +kernel, by decide +kernel⟩

/-! ### `Finished / Killed` is NOT stable over all histories

The candidate "a Job that reached Finished / Killed stays Finished" cannot be obtained by instantiating
`C11Hist.finished_stays_finished_partial`: its envelope (`stabEnvF`) excludes the user's `kill` action and
its Job (`WF3`) is created without kill timestamp, so no history it covers ever shows the result `Killed`
on a Job that is not being deleted (the only other source of `Killed` is the deletion override, and the
stability clause exempts deleting Jobs).  And over ALL histories the statement is false on the model: -/

def reopenRun4 : List Action :=
  [.deliverPod, .kubelet (Ex.withPhase Ex.podA .failed), .deliverPod, .work, .kill 0, .deliverJob, .work]
def reopenRun5 : List Action := [.deliverJob, .work]
def reopenRun6 : List Action := [.deliverPod, .deliverJob, .work]
def reopenK4 : Sys := runActs Ex.sA reopenRun4
def reopenK5 : Sys := runActs reopenK4 reopenRun5
def reopenK6 : Sys := runActs reopenK5 reopenRun6

/-- witness: the user's kill races a pass that still works from a PRE-KILL copy of the Job.
From `Ex.sA` (two attempts; `job-h-0` recorded, alive): the pod's creation event is delivered; `job-h-0`
FAILS and is recorded (version v5; the Job cache lags at v3); the user sets a kill timestamp that has
passed (`kill 0`: v6); the Job cache catches up to v5 only — no kill timestamp in it — and the pass creates
the retry `job-h-1`, its status write conflicts with v6 (`reopenK4`); the cache reaches v6 and the pass, which
may no longer create, finds every recorded ref finished: the Job is written Finished / `Killed` (`reopenK5`) while
`job-h-1` — created, unrecorded, its event undelivered — is alive; once that event and the status update
are delivered the next pass adopts `job-h-1`, sweeps it, and the Job is UNFINISHED again, phase `Killing`
(`reopenK6`).  (`E-OrphanVisible` of the harness excludes this run; `deletion_marker_kept`, `kill_seen_is_final`
and `no_create_after_kill_seen` hold on it.) -/
theorem killed_reopened_witness :
    Reach anyAction Ex.job reopenK5 ∧ Steps anyAction Ex.job reopenK5 reopenK6 ∧
    reopenK4.calls.map (fun c => (c.verb, c.res, c.name, c.out)) =
      [("create", "pods", "job-h-1", "ok"), ("update", "jobs", "job", "conflict")] ∧
    (reopenK5.job.map (fun j => (j.job.deletionTimestamp, j.job.killTimestamp, j.job.status.phase,
      j.job.status.condition.finished.map (·.result)))) = some (none, some 0, "Killed", some .killed) ∧
    reopenK5.pods.map (fun p => (p.pod.name, p.pod.isFinished, p.pod.deletionTimestamp)) =
      [("job-h-0", true, none), ("job-h-1", false, none)] ∧
    (reopenK6.job.map (fun j => (j.job.deletionTimestamp, j.job.status.phase, j.job.status.condition.finished.isSome))) =
      some (none, "Killing", false) :=
  ⟨reach_run (reach_run Ex.sA_reach reopenRun4 (by decide +kernel)) reopenRun5 (by decide +kernel),
    steps_run reopenK5 reopenRun6 (by decide +kernel), by decide +kernel⟩

end Furiko.Props.C12Hist
