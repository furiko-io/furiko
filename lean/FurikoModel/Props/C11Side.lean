/-
C11 — known finding F29: FLAPPING POD STATUS changes the result and the finish time of a FINISHED Job.

C11 says that, unless the user edits or deletes it, the recorded result and finish time of a finished Job
never change, over histories that include "flapping pod status".  The stability theorems of
`Props/C11Hist.lean` are proved under the kubelet contract `KubeletOK` (`E-PodTerminalImmutable`: a pod
never leaves a terminal phase), which excludes exactly such histories.  Without it the clause is FALSE on
the model, and — the model agreeing with the code line by line on the replay — on the real controller
(corpus scenarios `f29-flap-after-finish-changes-result`, `f29b-flap-after-success-fails-job`).

Mechanism (`GetTaskRef`): a finished ref that is seen unfinished again keeps its finish time but takes
`Status` from the pod (pinned by the upstream test "existing task transitioned from finished back to
running"); the guard of fix 6ab84c2 ("keep the final status that was recorded") looks at
`existing.Status.State`, which the flap has just overwritten, so the next terminal observation is taken
as the task's outcome; and the aggregation (`getIndexStatus`) counts finished attempts by
`FinishTimestamp` while it reads success from `Status.Result`.
-/
import FurikoModel.Props.SideCommon
import FurikoModel.Props.HistCommon

namespace Furiko.Props.C11Side
open Furiko Furiko.JobCtl Furiko.Props.Side

-- the equalities below compare nested tuples; their `DecidableEq` instances exceed the default search size
set_option synthInstance.maxSize 1024

/-! ### Failed (t1) → Running → Succeeded (t2): Finished/Failed(t1) becomes Finished/Success(t2) -/

/-- from `Ex.tA` (one attempt; `job-h-0` created and recorded): the creation event is delivered; at 10 s
the pod is reported Failed (container terminated at 10 s); the pass records it: Finished / Failed (10 s) -/
def flapRun1 : List Action :=
  [.deliverPod, .advance (sec 10),
   .kubelet (withStatus (podOf Ex.tA "job-h-0") .failed (some 0)
     [{ terminated := some { startedAt := some 0, finishedAt := some (secs 10) } }]),
   .deliverPod, .work, .deliverJob]
def flapK1 : Sys := runActs Ex.tA flapRun1

/-- the pod status FLAPS: Running again (outside `KubeletOK`) -/
def flapPod : PodObj := withStatus (podOf flapK1 "job-h-0") .running (some 0) [{ running := some (some (secs 15)) }]
def flapRun2 : List Action := [.advance (sec 5), .kubelet flapPod, .deliverPod, .work, .deliverJob]
def flapK2 : Sys := runActs flapK1 flapRun2

/-- … and at 20 s the pod is reported Succeeded -/
def flapRun3 : List Action :=
  [.advance (sec 5),
   .kubelet (withStatus (podOf flapK2 "job-h-0") .succeeded (some 0)
     [{ terminated := some { startedAt := some (secs 15), finishedAt := some (secs 20) } }]),
   .deliverPod, .work]
def flapK3 : Sys := runActs flapK2 flapRun3

/-- witness (F29, first history).  `flapK1` is reachable with every action allowed and the Job is
Finished / Failed with finish time 10 s, the ref Terminated / Failed (10 s).  The flap is the ONLY step
outside the kubelet contract (`¬ Allowed`).  After it the Job is still Finished / Failed (10 s) but the ref
reads Running with finish time 10 s (its recorded outcome survives only in `deletedStatus`); after the
pod is reported Succeeded at 20 s the ref is Terminated / Succeeded (20 s) and the finished Job has been
REWRITTEN: Finished / Success, finish time 20 s.  No user action, no fault, no informer lag. -/
theorem flap_changes_result_witness :
    Reach anyAction Ex.job1 flapK1 ∧
    ¬ Allowed Ex.job1 (step flapK1 (.advance (sec 5))) (.kubelet flapPod) ∧
    (jobView flapK1 = some ("Failed", false, 1, some (.failed, some (secs 10))) ∧
      refsView flapK1 = [("job-h-0", .terminated, .failed, none, some (secs 10))] ∧
      marksView flapK1 = [some (.terminated, .failed, "")]) ∧
    (jobView flapK2 = some ("Failed", false, 1, some (.failed, some (secs 10))) ∧
      refsView flapK2 = [("job-h-0", .running, .none, some (secs 15), some (secs 10))] ∧
      marksView flapK2 = [some (.terminated, .failed, "")]) ∧
    (jobView flapK3 = some ("Succeeded", false, 1, some (.success, some (secs 20))) ∧
      refsView flapK3 = [("job-h-0", .terminated, .succeeded, some (secs 15), some (secs 20))] ∧
      marksView flapK3 = [some (.terminated, .succeeded, "")]) :=
  reach_run_and (Ex.tA_reach.mono (fun _ _ _ => trivial)) (by decide +kernel)

/-! ### Succeeded (t1) → Running: Finished/Success becomes Finished/Failed at the flap itself -/

def flapBRun1 : List Action :=
  [.deliverPod, .advance (sec 10),
   .kubelet (withStatus (podOf Ex.tA "job-h-0") .succeeded (some 0)
     [{ terminated := some { startedAt := some 0, finishedAt := some (secs 10) } }]),
   .deliverPod, .work, .deliverJob]
def flapBK1 : Sys := runActs Ex.tA flapBRun1
def flapBPod : PodObj := withStatus (podOf flapBK1 "job-h-0") .running (some 0) [{ running := some (some (secs 15)) }]
def flapBRun2 : List Action := [.advance (sec 5), .kubelet flapBPod, .deliverPod, .work]
def flapBK2 : Sys := runActs flapBK1 flapBRun2

/-- witness (F29, second history; this one is NOT removed by a guard in `GetTaskRef` keyed on the
recorded status, because the step that changes the result is the one the upstream test pins): the Job is
Finished / Success (10 s); the pod status flaps to Running; the ref keeps the finish time and reads
Running without result; one attempt finished, none succeeded, `maxAttempts` 1: the finished Job is
rewritten Finished / FAILED. -/
theorem flap_after_success_fails_job_witness :
    Reach anyAction Ex.job1 flapBK1 ∧
    ¬ Allowed Ex.job1 (step flapBK1 (.advance (sec 5))) (.kubelet flapBPod) ∧
    (jobView flapBK1 = some ("Succeeded", false, 1, some (.success, some (secs 10))) ∧
      refsView flapBK1 = [("job-h-0", .terminated, .succeeded, none, some (secs 10))] ∧
      marksView flapBK1 = [some (.terminated, .succeeded, "")]) ∧
    (jobView flapBK2 = some ("Failed", false, 1, some (.failed, some (secs 10))) ∧
      refsView flapBK2 = [("job-h-0", .running, .none, some (secs 15), some (secs 10))] ∧
      marksView flapBK2 = [some (.terminated, .succeeded, "")]) :=
  reach_run_and (Ex.tA_reach.mono (fun _ _ _ => trivial)) (by decide +kernel)

end Furiko.Props.C11Side
