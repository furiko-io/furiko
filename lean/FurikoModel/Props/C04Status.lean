/-
C04 × C15 — "a schedule time at or before the last recorded schedule time is never requested
again" end to end: the value the restart reads (`status.lastScheduled`) is written by the
JobConfig controller, so the clause needs BOTH halves:

* (C15) the recorded value never moves backwards on the API, under any interleaving of syncs
  with stale reads, arbitrary Job caches (Jobs deleted, TTL-cleaned) and foreign writes
  (`maxima_survive_deletion_occ`), and
* (C04) after a restart every request is strictly later than the value the restart read
  (`never_rerequest_run`).

Composed here: a time `t` that was at or before the recorded value at ANY earlier moment is
never requested by ANY tick after ANY later restart.  (Seeded change C04-2 — dropping the
`TimeMax` with the previous status — breaks the first half; the jcstatus engine's
correspondence and its `lastScheduled-monotone` monitor are therefore part of C04's check.)
-/
import FurikoModel.Props.C04
import FurikoModel.Props.C15

namespace Furiko.Props.C04Status
open Furiko Furiko.Cron Furiko.JcStatus Furiko.Props.C15

/-- `t` was covered by the recorded last schedule time in state `s`; `acts` is everything the
JobConfig controller and others do afterwards; the restart then loads a JobConfig `jc` whose
`lastScheduled` is the API value at that moment.  No tick ever requests `t` (or anything
earlier) for `jc` again — in any boot sequence `boot` (ticks interleaved with the informer's
initial adds of the loaded JobConfigs, `BootOK`). -/
theorem recorded_time_never_requested_again
    (s : C15.Sys) (acts : List C15.Act) (hwf : s.WF) (t : Int)
    (hrec : optLe (some t) s.api.status.lastScheduled)
    {jcs : List JC} {cfg dflt now : Int} {pq : Heap.PQ}
    (hnd : (jcs.map (fun jc => jc.key)).Nodup)
    (hs : ∀ jc ∈ jcs, ∀ l ∈ jc.sched.exprs, SortedStrict l)
    (h : schedNew jcs cfg dflt now = some pq) {cap : Int} {flushLimit fuel : Nat}
    {boot : List CtlAct} (hok : BootOK jcs boot) (hts : List.Pairwise (· ≤ ·) (ticksOf boot))
    (hdone : (ctlRun Shapes.fixed cap flushLimit fuel (bootCtl jcs pq) boot).2.2 = true)
    {jc : JC} (hjc : jc ∈ jcs)
    (hbridge : jc.lastScheduled = (runSys true s acts).api.status.lastScheduled) :
    ∀ u, (jc.key, u) ∈
        (ctlRun Shapes.fixed cap flushLimit fuel (bootCtl jcs pq) boot).2.1.flatten →
      t < u := by
  intro u hu
  have hmono := (maxima_survive_deletion_occ s acts hwf).1
  -- the value read at restart is some `ls ≥ t`
  obtain ⟨ls, hfin, hle⟩ := optLe_some_iff.1 (optLe_trans hrec hmono)
  have := C04.never_rerequest_run hnd hs h hok hts hdone hjc (hbridge.trans hfin) u hu
  omega

/-- non-vacuity of the C15 hypotheses (`hwf`, `hrec`): the C15 witness history (Job scheduled at
1000 recorded, Job deleted, stale re-sync) keeps 1000 recorded. -/
example :
    let s1 := runSys true witnessSys (witnessActs.take 1)
    s1.WF ∧ optLe (some 1000) s1.api.status.lastScheduled ∧
    (runSys true s1 (witnessActs.drop 1)).api.status.lastScheduled = some 1000 := by
  refine ⟨?_, by decide +kernel, by decide +kernel⟩
  have h0 : witnessSys.WF := stale_read_regression_witness.1
  exact (stepSys_wf_mono witnessSys (.sync 0 [witnessJob]) h0).1

end Furiko.Props.C04Status
