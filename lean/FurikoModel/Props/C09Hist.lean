/-
C09 — "Tasks are never forgotten, duplicated or wrongly adopted across crashes/faults":
HISTORY-level theorems, i.e. invariants over every state reachable in the transition system of
`Proofs/JobCtlSys.lean` (see `Props/C11Hist.lean` for the conventions: `Reach ok j0 s`, action filter
`ok`, envelopes `E-API` / `E-ErrNotApplied` / `E-SingleLeader` as built into the model).
-/
import FurikoModel.Proofs.JobCtlInvExamples
import FurikoModel.Proofs.JobCtlInvNames
import FurikoModel.Proofs.JobCtlPlanPass
import FurikoModel.Proofs.JobCtlInvC12Calls
import FurikoModel.Proofs.JobCtlPlanListed
import FurikoModel.Generated.Facts
import FurikoModel.Props.C09
import FurikoModel.Props.C11
import FurikoModel.Props.HistCommon

namespace Furiko.Props.C09Hist
open Furiko Furiko.JobCtl

/-- `refs_monotone`, one step: whatever the action (controller pass under any fault pattern, informer
lag, restart, kubelet, external deletion, user kill / delete, foreign pods), every task name listed in
`status.tasks` of the authoritative Job before the step is still listed after it — unless the Job
object itself disappeared (`(step s a).job = none`: deletion completed). -/
theorem refs_monotone_step {ok : Sys → Action → Prop} {j0 : JobObj} {s : Sys} (hr : Reach ok j0 s) (a : Action)
    (hal : Allowed j0 s a) (j j' : JobObj) (hj : s.job = some j) (hj' : (step s a).job = some j') :
    ∀ n ∈ refNames j.job, n ∈ refNames j'.job :=
  jobMoves_rel_work (fun x y => ∀ n ∈ refNames x, n ∈ refNames y) (fun _ _ h => h)
    (fun _ _ _ h1 h2 n hn => h2 n (h1 n hn)) (fun jo sp _ _ _ => (sync_spec sp jo sp (CreatePhase.refl _)).2.names)
    (fun _ _ _ h1 h2 n hn => by unfold refNames; rw [h2]; exact h1 n hn) (job_moves (base_of_reach hr) a hal)
    j j' hj hj'

/-- `refs_monotone`: along every continuation of a history the set of task names in the authoritative
`status.tasks` never shrinks while the Job object exists.  All actions allowed. -/
theorem refs_monotone {ok : Sys → Action → Prop} {j0 : JobObj} {s s' : Sys} (hr : Reach ok j0 s)
    (hs : Steps ok j0 s s') (j j' : JobObj) (hj : s.job = some j) (hj' : s'.job = some j') :
    ∀ n ∈ refNames j.job, n ∈ refNames j'.job :=
  steps_rel (fun x y => ∀ n ∈ refNames x, n ∈ refNames y) (fun _ _ h => h)
    (fun _ _ _ h1 h2 n hn => h2 n (h1 n hn))
    (fun s a _ hr _ hal j j' => refs_monotone_step hr a hal j j') hr hs j j' hj hj'

/-- … and the Job object, once removed, never reappears (so "unless the Job disappears" is final). -/
theorem job_gone_stays_gone {ok : Sys → Action → Prop} {j0 : JobObj} {s : Sys} (hr : Reach ok j0 s) (a : Action)
    (hal : Allowed j0 s a) (h : s.job = none) : (step s a).job = none :=
  step_job_none hr a hal h

example : ∃ j, Ex.sA.job = some j ∧ refNames j.job = ["job-h-0"] :=
  ⟨Ex.jobOf Ex.sA, by decide +kernel⟩
example : ∃ j j', Ex.sA.job = some j ∧ Ex.sC.job = some j' ∧ Steps anyAction Ex.job Ex.sA Ex.sC ∧ j.rv ≠ j'.rv :=
  ⟨Ex.jobOf Ex.sA, Ex.jobOf Ex.sC, and_insert_third Ex.sA_sC (by decide +kernel)⟩

/-- `at_most_one_pod_per_name`: pod names on the server are pairwise distinct in every reachable
state (API name uniqueness; all actions allowed). -/
theorem at_most_one_pod_per_name {ok : Sys → Action → Prop} {j0 : JobObj} {s : Sys} (hr : Reach ok j0 s) :
    (s.pods.map (·.pod.name)).Nodup :=
  (base_of_reach hr).podsNodup

/-- `recorded_or_adoptable`: in every reachable state every pod controlled by the Job (owner uid =
the Job's uid) — recorded in the status or not — is named `taskName job.name hash retry` after the
parallel index and retry number it carries; that index is one of the Job's and `0 ≤ retry <
maxAttempts`.  (Pods of the Job are only ever created by `PodTaskClient.CreateIndex`; the kubelet
keeps name, owner and indexes.)  All actions allowed. -/
theorem recorded_or_adoptable {ok : Sys → Action → Prop} {j0 : JobObj} {s : Sys} (hr : Reach ok j0 s)
    (p : PodObj) (hp : p ∈ s.pods) (hown : p.ownerUid = some j0.uid) : PodNameOK j0 s.d p :=
  (base_of_reach hr).podsOK p hp hown

/-- … so an unrecorded pod of the Job is always re-discovered: whenever the controller (holding any
version `jo` of the Job) needs the `(index, retry)` such a pod stands for, its create call cannot
succeed a second time — it is answered `AlreadyExists` (or fails on a fault) and the set of pods is
unchanged; `C09.adopt_not_duplicate` then shows the existing pod is adopted once it is in the cache. -/
theorem unrecorded_pod_never_duplicated {j0 : JobObj} {s : Sys}
    (p : PodObj) (hp : p ∈ s.pods) (idx : PIndex) (retry : Int)
    (hname : p.pod.name = taskName j0.name idx.hash retry) (jo : JobObj) (hjo : jo.name = j0.name) :
    (apiCreatePod s jo idx retry).1.pods = s.pods ∧ ∀ q, (apiCreatePod s jo idx retry).2 ≠ .ok q := by
  rcases apiCreatePod_spec s jo idx retry with h | h
  · exact ⟨h.1.pods, h.2⟩
  · exfalso
    have := findPod_none h.1.fresh p hp
    apply this
    show p.pod.name = taskName jo.name idx.hash retry
    rw [hjo]; exact hname

example : ∃ p ∈ Ex.sA.pods, p.ownerUid = some Ex.job.uid ∧ p.pod.name = taskName Ex.job.name "h" 0 :=
  ⟨Ex.podA, by decide +kernel⟩
/-- the pod of `sA` exists while the CACHED status does not list it after a restart-free lag:
here the cache of `s0 + deliverJob + work` still holds the version without refs -/
example : ∃ c, (runActs Ex.s0 [.deliverJob, .work]).jobCache = some c ∧ c.job.status.tasks = [] ∧
    (runActs Ex.s0 [.deliverJob, .work]).pods ≠ [] :=
  ⟨Ex.cachedOf (runActs Ex.s0 [.deliverJob, .work]), by decide +kernel⟩

/-! ### `foreign_never_read`, `foreign_never_recorded` (repair of F22)

Refs are keyed by NAME.  F22: `getTaskForRef` (cache `Lister().Get`, live `Client().Get`) did not look at
the owner, so a foreign object that took the name of an already recorded task — after that task's pod
vanished — was read as that task (a Succeeded foreign pod made the Job Finished / Success).  With the
repair every lookup tests the controller owner reference (`isControlledByJob`), and the theorems hold with
ALL actions allowed, `createForeign` on ANY name included.  (The NAME of a recorded task stays listed —
it was recorded for the Job's own pod — so the statements are about what is READ and what is ADDED, not
about names in general.) -/

/-- a recorded ref whose name is not among the tasks that were read was not found -/
theorem getTaskForRef_none_of_unread {s : Sys} {jo : JobObj} {refs : List TaskRef} {ex : TaskRef} (hex : ex ∈ refs)
    (hnot : ex.name ∉ (tasksForRefs s jo refs).map (·.name)) : getTaskForRef s jo ex = none := by
  cases hg : getTaskForRef s jo ex with
  | none => rfl
  | some t => exact absurd (List.mem_map.mpr ⟨t, List.mem_filterMap.mpr ⟨ex, hex, hg⟩, (getTaskForRef_ok hg).2⟩) hnot

/-- the refreshed ref of a task that was read for the recorded ref `ex` carries `ex`'s name -/
theorem getTaskRef_name_of_read {s : Sys} {jo : JobObj} {ex : TaskRef} {t : Task} (hg : getTaskForRef s jo ex = some t)
    (e : Option TaskRef) : (getTaskRef e t).name = ex.name := by
  rw [(getTaskRef_fields e t).1, (getTaskForRef_ok hg).1, (getTaskForRef_ok hg).2]

/-- `foreign_never_read` (every reachable state, all actions allowed; the Job value `rj` and the state
`sp` the lookups run in are arbitrary): every task a pass of the controller (cached Job `jo`) reads for a
recorded ref — `tasksForRefs` of `syncJobTasks`, and `finalizerTasks` of `handleFinishFinalizer`, i.e. the
tasks that are refreshed, killed, force-deleted, deleted by the finalizer, and waited for — is the task of
a pod (pod cache or server) that is CONTROLLED BY THE JOB.  A foreign pod is never read, whatever name
it carries: its fields are never copied into a ref and no delete is issued on its behalf. -/
theorem foreign_never_read {ok : Sys → Action → Prop} {j0 : JobObj} {s : Sys} (hr : Reach ok j0 s)
    (jo : JobObj) (hc : s.jobCache = some jo) (sp : Sys) (rj : Job) :
    (∀ t ∈ tasksForRefs sp jo rj.status.tasks, ∃ p, (p ∈ sp.podCache ∨ p ∈ sp.pods) ∧ p.ownerUid = some j0.uid ∧
      podTask sp.clock p = some t ∧ p.pod.name = t.name) ∧
    (∀ t ∈ finalizerTasks sp jo rj, ∃ p, (p ∈ sp.podCache ∨ p ∈ sp.pods) ∧ p.ownerUid = some j0.uid ∧
      podTask sp.clock p = some t ∧ p.pod.name = t.name) := by
  have hu : jo.uid = j0.uid := ((base_of_reach hr).seenOK jo (mem_seenVers_cache hc)).1.uid
  rw [← hu]
  exact ⟨fun t ht => tasksForRefs_owned ht, fun t ht => finalizerTasks_owned ht⟩

example : ∃ jo, Ex.sA.jobCache = some jo ∧ (tasksForRefs Ex.sA jo jo.job.status.tasks).map (·.name) = ["job-h-0"] :=
  ⟨Ex.cachedOf Ex.sA, by decide +kernel⟩

/-- the names a pass may add to the status: the name of a pod of the pod cache that is controlled by
the Job (an unrecorded task is adopted), or the name of a creation request computed from the cached Job
that is FREE on the server when the pass starts (the pass's own create call makes that pod — `NewPod`:
controlled by the Job — or fails; a requested name that is occupied is adopted only from a cached pod
controlled by the Job, `C09.adopt_not_duplicate`, and otherwise ends in the admission error,
`C09.foreign_not_adopted`) -/
def AddableName (j0 : JobObj) (s : Sys) (n : String) : Prop :=
  ∃ jo, s.jobCache = some jo ∧
    ((∃ p ∈ s.podCache, p.pod.name = n ∧ p.ownerUid = some j0.uid) ∨
     (n ∉ podNames s.pods ∧ ∃ reqs, computeMissingIndexesForCreation s.d jo.job (jo.job.indexes s.d) = some reqs ∧
        ∃ r ∈ reqs, n = taskName j0.name r.index.hash r.retryIndex))

/-- `foreign_never_recorded` (every reachable state; ALL actions allowed: any fault pattern, informer
lag, restart, clock, kubelet, external pod deletion, user kill / delete, and `createForeign` on ANY
name, recorded ones included; index hashes `WF2`): a step adds a task name to the authoritative
`status.tasks` only if, when the step starts, that name is
* the name of a pod in the pod cache that is CONTROLLED BY THE JOB (the task was created by this Job's
  controller earlier and is adopted), or
* a task name the cached Job's creation requests ask for that is FREE on the server (the pass's own
  `apiCreatePod` makes the pod, controlled by the Job).
Together with `refs_monotone` (names are never removed): every name in the authoritative status was, at
the moment it was recorded, the name of a pod created by this Job's controller — never the name of an
object that merely exists.  A foreign pod is never adopted, whatever name it takes. -/
theorem foreign_never_recorded {ok : Sys → Action → Prop} {j0 : JobObj} {s : Sys} (hr : Reach ok j0 s)
    (hwf : WF2 j0 s.d) (a : Action) (hal : Allowed j0 s a) (j j' : JobObj) (hj : s.job = some j)
    (hj' : (step s a).job = some j') (n : String) (hn : n ∈ refNames j'.job) (hnew : n ∉ refNames j.job) :
    AddableName j0 s n := by
  have hb := base_of_reach hr
  have h2 := inv2_of_reach hr hwf
  have key := jobMoves_rel (s0 := s) (a := a) (fun x y => ∀ n ∈ refNames y, n ∈ refNames x ∨ AddableName j0 s n)
    (fun _ _ h => Or.inl h)
    (fun _ _ _ h1 h2 n hn => by
      rcases h2 n hn with h | h
      · exact h1 n h
      · exact Or.inr h)
    (fun jo sp hc hf n hn => by
      have hi := h2.frame hf
      have hcsp : sp.jobCache = some jo := hf.jobCache.trans hc
      have hjo := (hb.seenOK jo (mem_seenVers_cache hc)).1
      have hg := hi.seen jo (mem_seenVers_cache hcsp)
      have hnok := sync_allowedNames sp jo n hn
      unfold allowedNames at hnok
      rcases List.mem_append.mp hnok with hnok | hnok
      · rcases List.mem_append.mp hnok with hold | hreq
        · exact Or.inl hold
        · right
          unfold freshReqNames at hreq
          obtain ⟨hreq, hfree⟩ := List.mem_filter.mp hreq
          refine ⟨jo, hc, Or.inr ⟨by rw [← hf.pods]; simpa using hfree, ?_⟩⟩
          unfold reqNamesOf at hreq
          rw [hf.d] at hreq
          cases hreqs : computeMissingIndexesForCreation s.d jo.job (jo.job.indexes s.d) with
          | none => rw [hreqs] at hreq; cases hreq
          | some reqs =>
            rw [hreqs] at hreq
            obtain ⟨r, hr', hrn⟩ := List.mem_map.mp hreq
            exact ⟨reqs, rfl, r, hr', by rw [← hrn, ← hjo.name]; rfl⟩
      · right
        obtain ⟨p, hp, ho, hpn⟩ := ownedNames_mem hnok
        exact ⟨jo, hc, Or.inl ⟨p, hf.podCache ▸ hp, hpn, hjo.uid ▸ ho⟩⟩)
    (fun _ _ _ h1 h2 n hn => by unfold refNames at hn; rw [h2] at hn; exact h1 n hn)
    (job_moves hb a hal) j j' hj hj'
  rcases key n hn with h | h
  · exact absurd h hnew
  · exact h

/-- the hypotheses are met: the first pass of the example history adds `job-h-0`, a requested name that
is free on the server -/
example : ∃ j j', (step Ex.s0 .deliverJob).job = some j ∧ (step (step Ex.s0 .deliverJob) .work).job = some j' ∧
    "job-h-0" ∈ refNames j'.job ∧ "job-h-0" ∉ refNames j.job :=
  ⟨Ex.jobOf (step Ex.s0 .deliverJob), Ex.jobOf (step (step Ex.s0 .deliverJob) .work), by decide +kernel⟩

/-- `foreign_never_recorded_refs` (one refresh of the recorded refs — the step `updateTaskRefStatus` of a
pass applies to the tasks `getTaskForRef` found —, every state `s`, cached Job `jo` and Job value `rj`):
every ref after the refresh is
* `GetTaskRef` of a task that was read from a pod (pod cache or server) CONTROLLED BY THE JOB `jo`, or
* the lost / final-state form (`lostRef`, computed from the existing ref alone) of a ref whose task was
  not found.
No field of a pod that is not controlled by the Job enters a ref. -/
theorem foreign_never_recorded_refs (s : Sys) (jo : JobObj) (rj : Job) (r : TaskRef)
    (hr : r ∈ (updateJobTaskRefs s.clock rj (tasksForRefs s jo rj.status.tasks)).status.tasks) :
    (∃ t p, (p ∈ s.podCache ∨ p ∈ s.pods) ∧ p.ownerUid = some jo.uid ∧ podTask s.clock p = some t ∧
      r = getTaskRef (lookupRef rj.status.tasks t.name) t) ∨
    (∃ ex ∈ rj.status.tasks, getTaskForRef s jo ex = none ∧ r = lostRef s.clock ex) := by
  rcases mem_generateTaskRefs hr with ⟨t, ht, rfl⟩ | ⟨ex, hex, hnot, rfl⟩
  · obtain ⟨p, hp, ho, hpt, _⟩ := tasksForRefs_owned ht
    exact Or.inl ⟨t, p, hp, ho, hpt, rfl⟩
  · exact Or.inr ⟨ex, hex, getTaskForRef_none_of_unread hex hnot, rfl⟩

/-- … in particular the F22 situation: when, under the name of a recorded task, the pod cache holds a
pod that is NOT controlled by the Job and the server holds no pod controlled by the Job either (the
task's own pod vanished; a foreign pod took its name, or nothing did), the refreshed ref of that name is
the lost / final-state form of the recorded ref — what a vanished task gets —, whatever the foreign
pod reports.  (With the Job's own pod on the server the cached foreign object is a cache miss and the
task is found: `stale_foreign_cache_regression`.) -/
theorem foreign_on_recorded_name_means_lost (s : Sys) (jo : JobObj) (rj : Job) (q : PodObj) (r : TaskRef)
    (hq : findPod s.podCache r.name = some q) (hown : q.ownerUid ≠ some jo.uid)
    (hsrv : ∀ p, findPod s.pods r.name = some p → p.ownerUid ≠ some jo.uid)
    (hr : r ∈ (updateJobTaskRefs s.clock rj (tasksForRefs s jo rj.status.tasks)).status.tasks) :
    ∃ ex ∈ rj.status.tasks, ex.name = r.name ∧ r = lostRef s.clock ex := by
  rcases mem_generateTaskRefs hr with ⟨t, ht, rfl⟩ | ⟨ex, hex, _, rfl⟩
  · exfalso
    -- `t` was found for a recorded ref of that name: impossible, every object of that name is foreign
    obtain ⟨ex, _, hg⟩ := List.mem_filterMap.mp ht
    have hname := (getTaskRef_name_of_read hg (lookupRef rj.status.tasks t.name)).symm
    rw [Furiko.Props.C09.foreign_means_absent s jo ex q (hname ▸ hq) hown (hname ▸ hsrv)] at hg
    cases hg
  · exact ⟨ex, hex, (lostRef_fields _ ex).1.symm, rfl⟩

/-- `foreign_not_touched` (every state `s`, cached Job `jo`, Job value `rj`; any fault pattern): every
pod DELETE call a pass issues — pending timeout, kill sweep, force delete (`syncJobTasks`), finalizer
sweep (`handleFinishFinalizer`) — is issued for a task `t` (`c.name = t.name`) that the pass took from a
pod CONTROLLED BY THE JOB: read for a recorded ref (pod cache or live GET), adopted from the pod
cache, or created by the pass itself.  No delete is ever issued on behalf of a foreign pod.
(The call addresses the pod by NAME, without a uid precondition: when the task was read from a STALE
copy in the pod cache and a foreign pod has taken the name on the server meanwhile, the call hits
that pod — `stale_cache_delete_hits_foreign_witness`; what is read live or created in the pass is hit
itself.) -/
theorem foreign_not_touched (s : Sys) (jo : JobObj) (rj : Job) (fz : Bool) :
    (∀ c ∈ Furiko.JobCtlPlan.newCalls s (syncJobTasks s jo rj).1, c.verb = "delete" →
      c.res = "pods" ∧ ∃ t p, t.name = c.name ∧ podTask s.clock p = some t ∧ p.ownerUid = some jo.uid) ∧
    (∀ c ∈ Furiko.JobCtlPlan.newCalls s (handleFinalizer s jo rj fz).1,
      c.verb = "delete" ∧ c.res = "pods" ∧ ∃ t p, t.name = c.name ∧ podTask s.clock p = some t ∧ p.ownerUid = some jo.uid) := by
  open Furiko.JobCtlPlan in
  refine ⟨?_, ?_⟩
  · intro c hc hv
    obtain ⟨hr, s1, rj1, tasks1, hcr, _, t, ht, hn, _⟩ :=
      taskOrigin_delete s jo rj c ((syncJobTasks_origin s jo rj).2 c hc) hv
    obtain ⟨p, hpt, ho⟩ := syncCreateTasks_owned hcr t ht
    exact ⟨hr, t, p, hn, hpt, ho⟩
  · intro c hc
    obtain ⟨l, e, hall, _⟩ := handleFinalizer_ext s jo rj fz
    rw [e.newCalls] at hc
    obtain ⟨hv, hr, _, _, _, t, ht, hn, _⟩ := hall c hc
    obtain ⟨p, _, ho, hpt, _⟩ := finalizerTasks_owned ht
    exact ⟨hv, hr, t, p, hn, hpt, ho⟩

/-- the hypotheses are met: the finalizer pass of `Ex.sE` deletes the Job's own pod `job-h-0` -/
example : Ex.sE.calls.map (fun c => (c.verb, c.res, c.name, c.out)) = [("delete", "pods", "job-h-0", "ok")] := by
  decide +kernel

/-- the hypotheses of `foreign_on_recorded_name_means_lost` are met in the state before the last pass of
the F22 run (`Ex.sX` without its final `work`): the pod cache holds the foreign pod under the recorded
name `job-h-0`, and the refreshed ref of that name is finished (lost) -/
example :
    let s := runActs Ex.sA (Ex.runX.take 5)
    let jo := Ex.cachedOf s
    (∃ q, findPod s.podCache "job-h-0" = some q ∧ q.ownerUid ≠ some jo.uid) ∧
    s.pods.map (fun p => (p.pod.name, p.ownerUid)) = [("job-h-0", some "other-uid")] ∧
    (updateJobTaskRefs s.clock jo.job (tasksForRefs s jo jo.job.status.tasks)).status.tasks.map
      (fun r => (r.name, r.status.state, r.finishTimestamp.isSome)) = [("job-h-0", .deletedFinalStateUnknown, true)] :=
  ⟨⟨Ex.foreignPod, by decide +kernel⟩, by decide +kernel⟩

/-- F22 regression: `job-h-0` is recorded for
the Job's own pod; the pod vanishes; a foreign pod (controlled by `other-uid`, phase Succeeded) is
created under that name; its events are delivered; a pass runs.  Before the repair that pass took the
foreign pod for the task and reported the Job Finished / Success.  Now the ref is LOST
(`DeletedFinalStateUnknown`, finished at the pass's clock), the Job is NOT finished (the index goes to
retry back-off: attempt 0 of 2 is spent), the foreign pod is still on the server, untouched, and the
pass issued no pod call. -/
theorem f22_regression :
    Reach anyAction Ex.job Ex.sX ∧
    Ex.sX.pods.map (fun p => (p.pod.name, p.ownerUid, p.pod.deletionTimestamp)) =
      [("job-h-0", some "other-uid", none)] ∧
    Ex.sX.job.map (fun j => (j.job.status.tasks.map (fun r => (r.name, r.status.state, r.status.result,
        r.finishTimestamp.isSome)), j.job.status.condition.finished.isSome, j.job.status.phase)) =
      some ([("job-h-0", .deletedFinalStateUnknown, .none, true)], false, phaseRetryBackoff) ∧
    Ex.sX.calls.map (fun c => (c.verb, c.res, c.name, c.out)) = [("update", "jobs", "job", "ok")] :=
  ⟨Ex.sX_reach, by decide +kernel, by decide +kernel, by decide +kernel⟩

/-- … and with ONE attempt (`Ex.job1`) the same run ends the Job Finished / FAILED (its only task is
lost) — not Success. -/
theorem f22_regression_one_attempt :
    Reach anyAction Ex.job1 Ex.tX ∧
    Ex.tX.pods.map (fun p => (p.pod.name, p.ownerUid)) = [("job-h-0", some "other-uid")] ∧
    Ex.tX.job.map (fun j => (refNames j.job, j.job.status.condition.finished.map (·.result))) =
      some (["job-h-0"], some .failed) :=
  ⟨Ex.tX_reach, by decide +kernel⟩

/-! ### a STALE foreign object in the pod cache is a cache miss

Answering "task absent" as soon as the CACHED object of the ref's name is not controlled by the Job,
without the live GET that confirms every other absence of an unfinished task (repair of F8), would be
wrong: a foreign pod that has already been removed from the server, but whose deletion has not reached the
pod cache yet, would hide the Job's own, live task of that name (recorded lost while its pod exists).
The code treats such a cached object as a cache MISS: the live GET finds the Job's own pod
(`C09.existing_task_never_lost` needs no hypothesis on foreign cached objects). -/

/-- regression (one index `h`, one attempt): a foreign pod `job-h-0` exists before the Job's first pass
and reaches the pod cache; it is removed from the server (its deletion event is still undelivered);
the first pass creates the Job's own `job-h-0` (the name is free) and records it; the next pass finds
the stale FOREIGN object in the pod cache, treats it as a cache miss, and finds the Job's own pod by the
live GET: the task stays `Starting`, the Job is not finished, nothing is written. -/
theorem stale_foreign_cache_regression :
    Reach anyAction Ex.job1 Ex.tY ∧
    Ex.tY.pods.map (fun p => (p.pod.name, p.ownerUid, p.pod.isFinished, p.pod.deletionTimestamp)) =
      [("job-h-0", some "u", false, none)] ∧
    Ex.tY.podCache.map (fun p => (p.pod.name, p.ownerUid)) = [("job-h-0", none)] ∧
    Ex.tY.job.map (fun j => (j.job.status.tasks.map (fun r => (r.name, r.status.state, r.finishTimestamp)),
        j.job.status.condition.finished.map (·.result))) =
      some ([("job-h-0", .starting, none)], none) ∧
    Ex.tY.calls = [] :=
  ⟨Ex.tY_reach, by decide +kernel⟩

/-- witness (outside the repair of F22: pod deletes are issued by NAME, without a uid precondition):
the Job's own `job-h-0` is in the pod cache; it vanishes from the server and a foreign pod (controlled
by `other-uid`) takes its name, both events undelivered; the user deletes the Job; the finalizer pass
reads the task from the STALE cached copy — a pod controlled by the Job, `foreign_not_touched` — and its
delete call hits the foreign pod, which now carries a deletion timestamp.  (The harness counts such
deletes as `jc.observed.foreign-deleted-through-stale-pod-cache`: observed under pod-cache lag, not
claimed.) -/
theorem stale_cache_delete_hits_foreign_witness :
    Reach anyAction Ex.job Ex.sZ ∧
    Ex.sZ.podCache.map (fun p => (p.pod.name, p.ownerUid)) = [("job-h-0", some "u")] ∧
    Ex.sZ.calls.map (fun c => (c.verb, c.res, c.name, c.out)) =
      [("delete", "pods", "job-h-0", "ok"), ("update", "jobs", "job", "ok")] ∧
    Ex.sZ.pods.map (fun p => (p.pod.name, p.ownerUid, p.pod.deletionTimestamp.isSome)) =
      [("job-h-0", some "other-uid", true)] :=
  ⟨Ex.sZ_reach, by decide +kernel⟩

/-- `recorded_refs_wellformed` (ALL actions allowed, foreign pods on any name included;
index hashes pairwise distinct and free of `-`): in every reachable state every pod on the server
and in the pod cache that is CONTROLLED BY THE JOB is named after its index and retry number
(`PodOK2`: `ownerUid = some job.uid → PodNameOK ∧ creationTimestamp set`; a pod that is not controlled by
the Job is unconstrained), and the authoritative status lists pairwise distinct names, each ref carrying
one of the Job's indexes and the name `taskName job.name hash retryIndex` of ITS index and retry number
(so `(hash, retry)` identifies the ref: never two refs for one attempt), and `createdTasks = |tasks|`. -/
theorem recorded_refs_wellformed {ok : Sys → Action → Prop}
    {j0 : JobObj} {s : Sys} (hr : Reach ok j0 s) (hwf : WF2 j0 s.d) :
    (∀ p ∈ s.pods, PodOK2 j0 s.d p) ∧ (∀ p ∈ s.podCache, PodOK2 j0 s.d p) ∧
    ∀ j, s.job = some j → (refNames j.job).Nodup ∧ (∀ r ∈ j.job.status.tasks, RefOK j0 s.d r) ∧
      j.job.status.createdTasks = j.job.status.tasks.length := by
  have hi := inv2_of_reach hr hwf
  exact ⟨hi.pods.pods, hi.pods.cache, fun j hj => ⟨(hi.job j hj).nodup, (hi.job j hj).refs, (hi.job j hj).created⟩⟩

/-- … in a state with a foreign pod on a recorded name -/
example : WF2 Ex.job Ex.sX.d ∧ Reach anyAction Ex.job Ex.sX ∧ (Ex.sX.job.map (fun j => refNames j.job)) = some ["job-h-0"] :=
  ⟨by decide +kernel, Ex.sX_reach, by decide +kernel⟩

/-- `finished_ref_justified_partial` (one refresh of the recorded refs, every state `s` and Job value
`rj` — the step `updateTaskRefStatus` of a pass applies to the tasks `getTaskForRef` found): a ref that
carries a finish timestamp after the refresh
* carried one before, or
* its task was found (pod cache, or live GET; a pod controlled by the Job, `foreign_never_read`) and
  that pod reports a finish time (terminal phase), or
* its task was NOT found: `getTaskForRef` returned nothing, which for an unfinished ref means that no
  pod of that name controlled by the Job is in the pod cache or on the server
  (`C09.existing_task_never_lost`).
Restriction: this is the one-step form; it does not follow the ref through the other rewrites of a
pass (deletion markers keep timestamps, `C11Hist.timestamps_never_cleared`). -/
theorem finished_ref_justified_partial (s : Sys) (jo : JobObj) (rj : Job) (r : TaskRef)
    (hr : r ∈ (updateJobTaskRefs s.clock rj (tasksForRefs s jo rj.status.tasks)).status.tasks)
    (hfin : r.finishTimestamp.isSome = true) :
    (∃ ex ∈ rj.status.tasks, ex.name = r.name ∧ ex.finishTimestamp.isSome = true) ∨
    (∃ ex ∈ rj.status.tasks, ∃ t, ex.name = r.name ∧ getTaskForRef s jo ex = some t ∧
      t.ref.finishTimestamp.isSome = true) ∨
    (∃ ex ∈ rj.status.tasks, ex.name = r.name ∧ getTaskForRef s jo ex = none) := by
  rcases mem_generateTaskRefs hr with ⟨t, ht, rfl⟩ | ⟨ex, hex, hnot, rfl⟩
  · obtain ⟨ex, hex, hget⟩ := List.mem_filterMap.mp ht
    have hname := fun e => (getTaskRef_name_of_read hget e).symm
    by_cases htf : t.ref.finishTimestamp.isSome = true
    · exact Or.inr (Or.inl ⟨ex, hex, t, hname _, hget, htf⟩)
    · left
      -- the task reports no finish time: the timestamp was retained from the existing ref of that name
      cases hl : lookupRef rj.status.tasks t.name with
      | none =>
        rw [hl] at hfin
        rw [(getTaskRef_none_fields t).2.1] at hfin
        exact absurd hfin htf
      | some ex' =>
        have hmem := Furiko.lookupRef_some hl
        refine ⟨ex', hmem.1, (hmem.2.trans (getTaskForRef_ok hget).2).trans (hname _), ?_⟩
        rw [hl] at hfin
        have hret := (Furiko.Props.C11.getTaskRef_retains ex' t).2.1
        rw [hret] at hfin
        simp only [htf, Bool.false_eq_true, ↓reduceIte] at hfin
        exact hfin
  · by_cases hexf : ex.finishTimestamp.isSome = true
    · exact Or.inl ⟨ex, hex, (lostRef_fields _ ex).1.symm, hexf⟩
    · exact Or.inr (Or.inr ⟨ex, hex, (lostRef_fields _ ex).1.symm, getTaskForRef_none_of_unread hex hnot⟩)

example : ∃ r ∈ (updateJobTaskRefs Ex.sA.clock (Ex.cachedOf Ex.sA).job
    (tasksForRefs Ex.sA (Ex.cachedOf Ex.sA) (Ex.cachedOf Ex.sA).job.status.tasks)).status.tasks, r.finishTimestamp = none :=
  by decide +kernel

/-! ### `created_stays_listed` (repair of F31)

C09: "every task the Job ever created stays listed in its status with its last known state even after the
task object is gone".  `refs_monotone` is about names that WERE recorded; this section is about getting
recorded.  Before the repair `Reconciler.SyncOne` called `UpdateJob` and then `UpdateJobStatus` with the
object it had read from the cache: whenever one pass changed both the metadata and the status, its status
write carried the resourceVersion its own `Update` had just made stale and was refused as a Conflict, with
no fault injected — a pass that created a task, marked the admission error (annotation) and swept the task
again lost the one status that listed it (F31).  Now `ExecutionControl.UpdateJobAndStatus` submits the
status on top of the object `Update` returned (`Model/JobCtl.lean`: `statusBase`, `updatedRv`). -/

/-- tie to the source (regenerated from the source on every run, section `jobctl-status-write` of
`harness/cmd/extract/jobctl_writes.go`): `Reconciler.SyncOne` issues its writes through one call
`w.client.UpdateJobAndStatus(ctx, rj, newRj)`, and that function passes the resourceVersion of the object
`updateJob` returned — the one `c.client.Jobs(…).Update` returned — to `UpdateJobStatus`
(`Model/JobCtl.syncOne`, `statusBase`).  Reverting the repair makes this theorem false. -/
theorem source_writes_status_on_updated_object : Facts.syncOneWritesStatusOnUpdatedObject = true := by decide

/-- the state `SyncOne` runs in when `work` has popped a key: key popped, call log reset -/
def passState (s : Sys) (q1 : Furiko.WQ.WQ) : Sys := { s with q := q1, calls := [], delRun := none }

theorem work_objects (s : Sys) (k : String) (q1 : Furiko.WQ.WQ) (hg : (s.q.advance s.clock).get = some (k, q1)) :
    (work s).1.job = (syncOne (passState s q1)).1.job ∧ (work s).1.pods = (syncOne (passState s q1)).1.pods := by
  unfold JobCtl.work
  simp only [hg]
  exact ⟨rfl, rfl⟩

/-- **`created_stays_listed`** (every reachable state, ALL actions allowed; pass level).  A controller pass
(`work` popping a key, cached Job `jo`) such that
* `Reconciler.sync` returns without error (`hok`),
* no fault is injected into the two writes that follow (`hnf`: the fault oracle is empty when `sync` is
  done — whatever faults hit the calls of `sync` itself), and
* the cached Job is up to date when the pass comes to write (`hcur`: the stored object carries the
  resourceVersion of the cached one — no concurrent writer, no TTL deletion in this pass)
leaves — unless it completed the deletion of the Job (finalizer dropped: the object is gone) — an
authoritative Job that carries EXACTLY THE STATUS AND THE ADMISSION-ERROR ANNOTATION `sync` computed,
also when both changed in this pass, and in which every pod of the server is accounted for: **every pod
name on the server after the pass either was there before the pass or is listed in `status.tasks`**, i.e.
every pod the pass created is recorded by the pass itself — in particular the pod that the same pass
swept again because another index ran into an admission error (F31; graceful deletion keeps the object,
its removal is a step of its own).  Before the repair the conclusion failed for every pass that changed
both metadata and status (`C09Side.created_task_listed_regression` is the former counterexample).
Not claimed: a pass whose `sync` fails midway (a later create answered `AlreadyExists` for a pod the pod
cache does not hold yet, a faulted call) records nothing; the pod it created is then re-discovered by name
(`unrecorded_pod_never_duplicated`, `C09.adopt_not_duplicate`). -/
theorem created_stays_listed {ok : Sys → Action → Prop} {j0 : JobObj} {s : Sys} (hr : Reach ok j0 s)
    (k : String) (q1 : Furiko.WQ.WQ) (hg : (s.q.advance s.clock).get = some (k, q1)) (jo : JobObj) (hc : s.jobCache = some jo)
    (hok : (sync (passState s q1) jo).2.2.2.1 = true)
    (hnf : (sync (passState s q1) jo).1.faults = [])
    (hcur : ∃ cur, (sync (passState s q1) jo).1.job = some cur ∧ cur.rv = jo.rv) :
    ((work s).1.job = none ∧ jo.job.deletionTimestamp.isSome = true) ∨
    ∃ j', (work s).1.job = some j' ∧
      j'.job.status = (sync (passState s q1) jo).2.1.status ∧
      j'.job.admissionError = (sync (passState s q1) jo).2.1.admissionError ∧
      ∀ n ∈ podNames (work s).1.pods, n ∈ podNames s.pods ∨ n ∈ refNames j'.job := by
  have hb : Base j0 (passState s q1) :=
    (base_of_reach hr).frame ⟨⟨rfl, rfl, rfl, rfl, rfl⟩, rfl, rfl, rfl, rfl, rfl⟩
  have hcp : (passState s q1).jobCache = some jo := hc
  obtain ⟨cur, hcj, hrv⟩ := hcur
  have hcur' : (sync (passState s q1) jo).1.job = some jo := by
    rw [hcj, cachedIsCur_sync hb hcp cur hcj hrv]
  obtain ⟨hwj, hwp⟩ := work_objects s k q1 hg
  have hlist := sync_lists_created (passState s q1) jo hok
  rcases syncOne_writes (passState s q1) jo hcp hnf hcur' with ⟨hgone, hdel, _⟩ | ⟨_, j', hj', hst, hadm, _⟩
  · exact Or.inl ⟨hwj.trans hgone, hdel⟩
  · refine Or.inr ⟨j', hwj.trans hj', hst, hadm, ?_⟩
    intro n hn
    rw [hwp, syncOne_pods_eq _ jo hcp] at hn
    rcases hlist n hn with h | h
    · exact Or.inl h
    · right
      unfold refNames at h ⊢
      rw [hst]; exact h

/-- **… and stays listed** (history level): after such a pass, along every continuation of the history —
any actions, any faults, restarts, the pod object vanishing — every pod name that was on the server
right after the pass and had not been there before it is listed in `status.tasks` of the authoritative
Job for as long as the Job object exists (`created_stays_listed` + `refs_monotone`). -/
theorem created_stays_listed_later {ok : Sys → Action → Prop} {j0 : JobObj} {s s' : Sys} (hr : Reach ok j0 s)
    (hokw : ok s .work)
    (k : String) (q1 : Furiko.WQ.WQ) (hg : (s.q.advance s.clock).get = some (k, q1)) (jo : JobObj) (hc : s.jobCache = some jo)
    (hok : (sync (passState s q1) jo).2.2.2.1 = true)
    (hnf : (sync (passState s q1) jo).1.faults = [])
    (hcur : ∃ cur, (sync (passState s q1) jo).1.job = some cur ∧ cur.rv = jo.rv)
    (hs : Steps ok j0 (step s .work) s') (j'' : JobObj) (hj'' : s'.job = some j'') :
    ∀ n ∈ podNames (step s .work).pods, n ∈ podNames s.pods ∨ n ∈ refNames j''.job := by
  have hr1 : Reach ok j0 (step s .work) := .step .work hr hokw trivial
  rcases created_stays_listed hr k q1 hg jo hc hok hnf hcur with ⟨hgone, _⟩ | ⟨j', hj', _, _, hl⟩
  · -- the Job object is gone, and never reappears
    exfalso
    have hnone : ∀ {t : Sys}, Steps ok j0 (step s .work) t → t.job = none := by
      intro t ht
      induction ht with
      | refl => exact hgone
      | step a hs' _ hal ih => exact step_job_none (hr1.steps hs') a hal ih
    rw [hnone hs] at hj''; cases hj''
  · intro n hn
    rcases hl n hn with h | h
    · exact Or.inl h
    · exact Or.inr (refs_monotone hr1 hs j' j'' hj' hj'' n h)

/-- non-vacuity: the first pass of the example history creates `job-h-0` — the premises hold, the name is
new, and it is listed after the pass -/
example :
    (match ((step Ex.s0 .deliverJob).q.advance (step Ex.s0 .deliverJob).clock).get with
      | some (_, q1) =>
        decide ((sync (passState (step Ex.s0 .deliverJob) q1) (Ex.cachedOf (step Ex.s0 .deliverJob))).2.2.2.1 = true) &&
        decide ((sync (passState (step Ex.s0 .deliverJob) q1) (Ex.cachedOf (step Ex.s0 .deliverJob))).1.faults = []) &&
        decide (((sync (passState (step Ex.s0 .deliverJob) q1) (Ex.cachedOf (step Ex.s0 .deliverJob))).1.job.map (·.rv)) =
          some (Ex.cachedOf (step Ex.s0 .deliverJob)).rv)
      | none => false) = true ∧
    (step Ex.s0 .deliverJob).jobCache = some (Ex.cachedOf (step Ex.s0 .deliverJob)) ∧
    podNames (step Ex.s0 .deliverJob).pods = [] ∧
    podNames (step (step Ex.s0 .deliverJob) .work).pods = ["job-h-0"] ∧
    (step (step Ex.s0 .deliverJob) .work).job.map (fun j => refNames j.job) = some ["job-h-0"] :=
  by decide +kernel

end Furiko.Props.C09Hist
