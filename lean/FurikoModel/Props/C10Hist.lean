/-
C10 — "A Job's final result is exactly what its tasks' outcomes and strategy imply": HISTORY-level
theorems, i.e. statements about every state reachable in the transition system of
`Proofs/JobCtlSys.lean` (one Job; controller passes under any fault pattern, informer lag per resource,
resync, restart, clock, kubelet under the kubelet contract, external pod deletion, user kill / delete,
foreign pods).  Conventions as in `Props/C11Hist.lean`: `Reach ok j0 s` = `s` is reachable from the creation
of the well-formed Job `j0` by allowed actions passing the filter `ok`; a theorem stated for an arbitrary
`ok` allows EVERY action; envelopes `E-API`, `E-ErrNotApplied` (+ the `applied-err` fault),
`E-SingleLeader` as built into the model.

The pure theorems (`Props/C10.lean`, `Props/C11.lean`) speak about every Job VALUE the functions are
applied to; the theorems here say which Job values are ever STORED: the lift from "for every value
`UpdateJobStatusFromTaskRefs` produces" to "for every status the controller ever writes and the API server
ever holds".
-/
import FurikoModel.Proofs.JobCtlInvC10Result
import FurikoModel.Proofs.JobCtlInvExamples
import FurikoModel.Props.C10
import FurikoModel.Props.HistCommon

namespace Furiko.Props.C10Hist
open Furiko Furiko.JobCtl Furiko.StatusLemmas Furiko.ConditionLemmas

/-- `status_always_coherent`: in every reachable state the status of the AUTHORITATIVE Job — what the API
server stores, hence every status the controller ever wrote — is the one the Job was created with or is
`Coherent` (one condition, state and phase match it, result sound for the recorded refs).
ALL actions allowed: any fault pattern, informer lag, restart, clock, kubelet, external pod deletion, user
kill / delete, foreign pods; Job created with a template (without one `UpdateJobStatusFromTaskRefs`
dereferences nil).  In detail, the status is
* still the status the Job was created with (no status write of the controller has been applied yet), or
* `Coherent`, because it was computed by `UpdateJobStatusFromTaskRefs` from a Job value carrying this
  Job's template and start time and exactly the recorded refs (`StatusSrc`, `statusOK_of_reach` in
  `Proofs/JobCtlInvC10Status.lean`; the statement keeps the consequences, not the origin), so that
  - exactly one of the queueing / waiting / running / finished conditions is set (`one`),
  - `status.state` names the condition that is set (`state`; no exception: since commit 4c102ea the
    state is assigned after the deletion override, F13),
  - `status.phase` is terminal iff the finished condition is set (`phase`),
  - result `Success` ⇒ the completion strategy is satisfied by the RECORDED refs whose result is Succeeded
    (`success`; AllSuccessful: every index has one, AnySuccessful: some index has one),
  - result `Failed` ⇒ the strategy can no longer be satisfied: AllSuccessful: some index has `maxAttempts`
    finished refs and none succeeded; AnySuccessful: every index does (`failed`),
  - the result is never `FinalStateUnknown` (`known`),
  - result `Killed` ⇒ the Job carries a kill timestamp or is being deleted (`killed`: the deletion
    override of `UpdateJobStatusFromTaskRefs` reports a deleting, unfinished Job as Killed),
  - Finished with a result other than `AdmissionError`, the Job not being deleted ⇒ the Job is started and
    every ref of every index of the spec carries a finish timestamp (`terminated`; the deleting Job is the
    documented exception: the override finishes it while tasks are still being removed).
User actions keep this: `kill` and `userDelete` change spec / metadata only, never the status, and the
two clauses that read the spec (`killed`, `terminated`) are stated so that setting a kill or deletion
timestamp later cannot falsify them.  The controller's `Update` (spec) leaves the status alone; its
`UpdateStatus` that passes the resourceVersion check was computed from the very object it overwrites
(`C11Hist.rv_identifies_version`). -/
theorem status_always_coherent {ok : Sys → Action → Prop} {j0 : JobObj} {s : Sys} (hr : Reach ok j0 s)
    (htm : j0.job.template.isSome = true) (j : JobObj) (hj : s.job = some j) :
    j.job.status = j0.job.status ∨ Coherent s.d j.job := by
  rcases statusOK_of_reach hr htm j hj with h | h
  · exact Or.inl h
  · exact Or.inr h.coherent

/-- the hypotheses are met, and the second disjunct is the one that holds: in `Ex.sB` (the pod succeeded,
the pass recorded it) the authoritative status differs from the initial one and is Finished / Success -/
example : Reach anyAction Ex.job Ex.sB ∧ Ex.job.job.template.isSome = true ∧
    (Ex.sB.job.map (fun j => decide (j.job.status = Ex.job.job.status))) = some false ∧
    (Ex.sB.job.bind (fun j => j.job.status.condition.finished)).map (·.result) = some .success :=
  ⟨Ex.sB_reach, by decide +kernel⟩

/-- … and the first disjunct is needed: the created Job's status is arbitrary (here: empty, no condition
set, which is not coherent) and stays until the first status write -/
example : Reach anyAction Ex.job Ex.s0 ∧ (Ex.s0.job.map (fun j => j.job.status.condition.count)) = some 0 :=
  ⟨Ex.s0_reach _, by decide +kernel⟩

/-- `counters_always_match` (every reachable state, ALL actions allowed; Job created with
`runningTasks = 0` — `WF` already says it has no task ref and `createdTasks = 0`): in the authoritative
status `createdTasks` is the number of task refs and `runningTasks` the number of refs that carry a
running timestamp and no finish timestamp (`UpdateJobTaskRefs` is the only writer of the list, the
deletion markers of the handlers do not touch the timestamps). -/
theorem counters_always_match {ok : Sys → Action → Prop} {j0 : JobObj} {s : Sys} (hr : Reach ok j0 s)
    (hrun : j0.job.status.runningTasks = 0) (j : JobObj) (hj : s.job = some j) :
    j.job.status.createdTasks = j.job.status.tasks.length ∧
    j.job.status.runningTasks =
      ((j.job.status.tasks.countP (fun r => r.runningTimestamp.isSome && r.finishTimestamp.isNone) : Nat) : Int) := by
  obtain ⟨h1, h2⟩ := countersOK_of_reach hr hrun j hj
  refine ⟨h1, ?_⟩
  rw [h2, List.countP_eq_length_filter]
  rfl

example : Reach anyAction Ex.job Ex.sA ∧ Ex.job.job.status.runningTasks = 0 ∧
    (Ex.sA.job.map (fun j => (j.job.status.createdTasks, j.job.status.tasks.length))) = some (1, 1) :=
  ⟨Ex.sA_reach, by decide +kernel⟩

/-- a pod CONTROLLED BY THE JOB, named `n`, in the pod cache or on the server, reports success: phase
`Succeeded` and no OOM-killed container (`C10.pod_result_mapping`) -/
def SucceededPodSeen (j0 : JobObj) (s : Sys) (n : String) : Prop :=
  ∃ p, (p ∈ s.podCache ∨ p ∈ s.pods) ∧ p.ownerUid = some j0.uid ∧ p.pod.name = n ∧
    p.pod.phase = .succeeded ∧ p.pod.isOOMKilled = false

/-- `result_reflects_recorded_outcomes` (one step): a ref of the authoritative status that says `Succeeded`
after a step said so before it, or the step is a controller pass that STARTED while a pod controlled by
the Job with that name reported phase Succeeded without OOM kill.  Every reachable state, ALL actions
allowed, foreign pods on any name included.  `SuccMark r`: the ref says `Succeeded`, as its `status.result` or in its
`deletedStatus` (where `GetTaskRef` keeps the terminal status of a finished task, and from where
`GenerateTaskRefs` restores the status of a task that has vanished).  Every ref of the authoritative
status that carries such a mark after a step
* carried it before the step (a ref of the same name), or
* the step is a controller pass, and when that pass STARTED a pod controlled by the Job with the ref's
  name — in the pod cache or on the server — reported phase `Succeeded` without an OOM-killed container.
No other step, and no object that is not controlled by the Job, ever makes a task `Succeeded`; the pass
that records the success saw it on the Job's own pod.  (Result `Failed` / `Killed` marks have more
sources — pending timeout, kill sweep, finalizer markers, a vanished pod — see
`C09Hist.finished_ref_justified_partial` for the one-refresh form.) -/
theorem result_reflects_recorded_outcomes {ok : Sys → Action → Prop} {j0 : JobObj} {s : Sys} (hr : Reach ok j0 s)
    (a : Action) (hal : Allowed j0 s a) (j j' : JobObj) (hj : s.job = some j) (hj' : (step s a).job = some j')
    (r' : TaskRef) (hr' : r' ∈ j'.job.status.tasks) (hs : SuccMark r') :
    (∃ r ∈ j.job.status.tasks, r.name = r'.name ∧ SuccMark r) ∨ (a = .work ∧ SucceededPodSeen j0 s r'.name) := by
  have hb := base_of_reach hr
  have key := jobMoves_rel_work (s0 := s) (a := a)
    (fun x y => ∀ r' ∈ y.status.tasks, SuccMark r' →
      (∃ r ∈ x.status.tasks, r.name = r'.name ∧ SuccMark r) ∨ (a = .work ∧ SucceededPodSeen j0 s r'.name))
    (fun x r' h1 h2 => Or.inl ⟨r', h1, rfl, h2⟩)
    (fun x y z h1 h2 r'' hr'' hs'' => by
      rcases h2 r'' hr'' hs'' with ⟨r1, hr1, hn1, hs1⟩ | h
      · rcases h1 r1 hr1 hs1 with ⟨r0, hr0, hn0, hs0⟩ | h
        · exact Or.inl ⟨r0, hr0, hn0.trans hn1, hs0⟩
        · rw [hn1] at h; exact Or.inr h
      · exact Or.inr h)
    (fun jo sp ha hc hf => by
      have hjo := (hb.seenOK jo (mem_seenVers_cache hc)).1
      refine sync_passInv (succJust_passInv (fun n => (∃ r ∈ jo.job.status.tasks, r.name = n ∧ SuccMark r) ∨
        (a = .work ∧ SucceededPodSeen j0 s n))) sp jo ?_ (fun r h1 h2 => Or.inl ⟨r, h1, rfl, h2⟩)
      intro t ⟨p, hpt, ho, hsrc⟩
      obtain ⟨f1, f2, f3, f4, _, _⟩ := podTask_fields hpt
      refine ⟨f2.trans f1.symm, f4, ?_⟩
      intro hres
      rw [f3] at hres
      have hph := (Furiko.Props.C10.pod_result_mapping p.pod).1.mp hres
      right
      refine ⟨ha, p, ?_, by rw [ho, hjo.uid], f1.symm, hph.1, hph.2⟩
      rcases hsrc with h | h | ⟨idx, retry, h⟩
      · exact Or.inl (hf.podCache ▸ h)
      · exact Or.inr (hf.pods ▸ h)
      · rw [h, newPod_result] at hres; cases hres)
    (fun x y z h1 e r' hr' hs' => h1 r' (e ▸ hr') hs')
    (job_moves hb a hal) j j' hj hj'
  exact key r' hr' hs

/-- the hypotheses are met by the step that records the success in the example history: before the pass
the ref of `job-h-0` carries no result, the server holds the Job's pod with phase Succeeded, and after the
pass the ref says Succeeded -/
example :
    let s := runActs Ex.sA [.kubelet Ex.podSucceeded]
    Reach anyAction Ex.job s ∧
    (s.job.map (fun j => j.job.status.tasks.map (fun r => (r.name, decide (SuccMark r))))) = some [("job-h-0", false)] ∧
    ((step s .work).job.map (fun j => j.job.status.tasks.map (fun r => (r.name, decide (SuccMark r))))) =
      some [("job-h-0", true)] ∧
    s.pods.map (fun p => (p.pod.name, p.ownerUid, p.pod.phase, p.pod.isOOMKilled)) =
      [("job-h-0", some "u", .succeeded, false)] :=
  reach_run_and Ex.sA_reach (by decide +kernel)

/-- `succeeded_result_justified` (the same over whole histories, ALL actions allowed): for every ref of the authoritative
status of a reachable state that says `Succeeded` there is an EARLIER reachable state `s1` of this very
history at which a controller pass started (`step s1 .work` leads on to `s`) while a pod controlled by the
Job, carrying the ref's name, reported phase `Succeeded` without OOM kill (pod cache or server).  A Job is
never credited with a success that its own pod did not report. -/
theorem succeeded_result_justified {ok : Sys → Action → Prop} {j0 : JobObj} {s : Sys} (hr : Reach ok j0 s)
    (j : JobObj) (hj : s.job = some j) (r : TaskRef) (hrm : r ∈ j.job.status.tasks) (hs : SuccMark r) :
    ∃ s1, Reach ok j0 s1 ∧ ok s1 .work ∧ Steps ok j0 (step s1 .work) s ∧ SucceededPodSeen j0 s1 r.name := by
  induction hr generalizing j r with
  | init c cfg d hwf =>
    unfold initSys userCreateJob at hj
    simp only [Option.some.injEq] at hj
    subst hj
    simp only [hwf.noTasks] at hrm
    cases hrm
  | @step s0 a hr0 hok hal ih =>
    cases hj0 : s0.job with
    | none => rw [step_job_none hr0 a hal hj0] at hj; cases hj
    | some jprev =>
      rcases result_reflects_recorded_outcomes hr0 a hal jprev j hj0 hj r hrm hs with ⟨r0, hr0m, hn, hs0⟩ | ⟨ha, hseen⟩
      · obtain ⟨s1, h1, h2, h3, h4⟩ := ih jprev hj0 r0 hr0m hs0
        exact ⟨s1, h1, h2, Steps.step a h3 hok hal, hn ▸ h4⟩
      · subst ha
        exact ⟨s0, hr0, hok, Steps.refl _, hseen⟩

example : ∃ j r, Ex.sB.job = some j ∧ r ∈ j.job.status.tasks ∧ SuccMark r :=
  ⟨Ex.jobOf Ex.sB, (Ex.jobOf Ex.sB).job.status.tasks.headD default, by decide +kernel⟩

/-- `finished_no_live_task_partial` (history level): inside the envelope `stabEnv`, whenever the
authoritative Job is `Finished` and not being deleted, every ref is finished and every pod on the server
that carries the name of a RECORDED task is finished (phase Succeeded / Failed).
Histories inside the envelope `stabEnv`
(`Proofs/JobCtlInvStabInv.lean`; it is the envelope of `C08Hist.one_live_per_index_partial`, one clause
less than `stabEnvF` of `C11Hist.finished_stays_finished_partial` — `E-NoUnrecordedWhenFinished` is not
needed here):
* no foreign pod is created, the user neither sets a kill timestamp nor deletes the Job;
* `E-NoStaleCopyOnCreate`: when a pass that pops a key starts while the Job object exists, no creation
  request computed from the CACHED Job names a task that is absent from the server but still remembered
  (authoritative `status.tasks`, pod cache, undelivered pod event) — `checkNoStaleCopy` of
  `harness/eng/jobctl.go`;
everything else is allowed (any fault pattern, informer lag, resync, restart, clock, kubelet, pods
vanishing, TTL deletion).  Job: `WF`, `WF3` (created without kill timestamp / admission error, with a
template, not finished), `WF2` (index hashes pairwise distinct, free of `-`).
Statement: in every reachable state in which the authoritative Job is `Finished` and not being deleted
(its result is then `Success` or `Failed`: no kill timestamp, no admission error in these histories),
EVERY pod on the server that carries the name of a RECORDED task is finished (phase Succeeded or Failed)
— not merely "terminating": no recorded task of a Job reported finished is alive.
What the model does NOT guarantee, and the run-time monitor `finished-no-live-task` therefore checks only
inside `E-OrphanVisible`: a pod the controller created but failed to RECORD (status write fault) that is
not yet in the pod cache is invisible to the pass that finishes the Job (`C10Plan.decided_then_kill_covers_unrecorded`
covers the unrecorded pods the cache does show). -/
theorem finished_no_live_task_partial {ok : Sys → Action → Prop} (hok : ∀ s a, ok s a → stabEnv s a)
    {j0 : JobObj} {s : Sys} (hr : Reach ok j0 s) (hwf : WF2 j0 s.d) (hwf3 : WF3 j0)
    (j : JobObj) (hj : s.job = some j) (hnd : j.job.deletionTimestamp = none)
    (f : CondFinished) (hf : j.job.status.condition.finished = some f) :
    (∀ r ∈ j.job.status.tasks, r.finishTimestamp.isSome = true) ∧
    ∀ p ∈ s.pods, p.pod.name ∈ refNames j.job → p.pod.isFinished = true := by
  have hb := base_of_reach hr
  have h2 := inv2_of_reach hr hwf
  have h3 := inv3_of_reach hok hr hwf hwf3 (by rw [hj]; rfl)
  have hall : j ∈ allVers s := by
    unfold allVers; rw [hj]; simp
  have hv := h3.ver j hall
  obtain ⟨_, t, hkey⟩ := hv.coh hnd f hf
  have hfin := (finished_all_refs (h2.job j hj) (hb.jobOK j hj).1.template hv.noAdm hv.noKill hkey).1
  refine ⟨hfin, ?_⟩
  intro p hp hn
  obtain ⟨r, hrm, hrn⟩ := List.mem_map.mp hn
  exact h3.fin j hall r hrm (hfin r hrm) p hp hrn.symm

/-- the hypotheses are met: `Ex.sB` is reachable inside the envelope (`stabChecked` is a decidable filter
that implies `stabEnv`: `stabEnv_of_checked`), the Job is Finished / Success, not being deleted, and its
recorded pod is on the server (finished) -/
example : Reach stabChecked Ex.job Ex.sB ∧ WF2 Ex.job Ex.sB.d ∧ WF3 Ex.job ∧
    (Ex.sB.job.map (fun j => (j.job.deletionTimestamp, j.job.status.condition.finished.map (·.result), refNames j.job))) =
      some (none, some .success, ["job-h-0"]) ∧
    Ex.sB.pods.map (fun p => (p.pod.name, p.pod.isFinished)) = [("job-h-0", true)] :=
  ⟨Ex.sB_reach_st, by decide +kernel⟩

/-- witness: the envelope clause `E-NoStaleCopyOnCreate` of `finished_no_live_task_partial` is necessary
(known finding F19): the history
`Ex.v2` uses only controller passes, informer deliveries, kubelet progress and one pod vanishing from the
server (`lagAndLoss`: no fault, no restart, no user edit, no foreign pod); its third-last step is a pass
on a STALE cached Job that re-creates the recorded name `job-h-0` after the first pod vanished.  In `Ex.v2`
the authoritative Job is Finished / Success, not being deleted, and the pod on the server that carries the
recorded name `job-h-0` — controlled by the Job — is NOT finished.  Last conjunct: in the state in
which the pass that re-creates the pod starts, `noStaleCheck` — the decidable test by which `stabChecked`
establishes `E-NoStaleCopyOnCreate` (`noStale_of_check`; no converse is proved) — fails. -/
theorem finished_with_live_task_outside_envelope_witness :
    Reach lagAndLoss Ex.job1 Ex.v2 ∧ WF2 Ex.job1 Ex.v2.d ∧ WF3 Ex.job1 ∧
    (Ex.v2.job.map (fun j => (j.job.deletionTimestamp, j.job.status.condition.finished.map (·.result), refNames j.job))) =
      some (none, some .success, ["job-h-0"]) ∧
    Ex.v2.pods.map (fun p => (p.pod.name, p.ownerUid, p.pod.isFinished)) = [("job-h-0", some "u", false)] ∧
    noStaleCheck (runActs Ex.v1 ((Ex.runV2 Ex.v1).take 3)) = false :=
  ⟨Ex.v2_reach, by decide +kernel⟩

/-- AnySuccessful over the indexes `a`, `b`, two attempts, TTL 1000 s, with the finalizer -/
def jobAny : JobObj :=
  { name := "job", uid := "u", finalizer := true, rv := 0
    job := { template := some { maxAttempts := some 2,
                                parallelism := some { strategy := .anySuccessful, indexes := [{ hash := "a" }, { hash := "b" }] } },
             ttlSecondsAfterFinished := some 1000, status := { startTime := some 0 } } }

/-- `job-a-0`, `job-b-0` created, recorded, everything delivered -/
def anyRun1 : List Action := [.deliverJob, .work, .deliverJob, .deliverPod, .deliverPod]
/-- `job-b-0` fails and is recorded (retry back-off over); `job-a-0` succeeds (event undelivered); the pass
that creates the retry `job-b-1` has its status write refused (conflict fault): `job-b-1` exists,
unrecorded, its creation event undelivered; then the Succeeded event of `job-a-0` reaches the pod cache
and a pass runs: AnySuccessful is satisfied, nothing recorded is alive -/
def anyRun2 (s : Sys) : List Action :=
  [.kubelet (Ex.withPhase (Ex.podU s "job-b-0") .failed), .deliverPod, .work, .deliverJob,
   .kubelet (Ex.withPhase (Ex.podU s "job-a-0") .succeeded), .setFaults ["", "conflict"], .work, .deliverPod, .work]
def anyS1 : Sys := runActs (initSys 0 {} Ex.d jobAny) anyRun1
def anyS2 : Sys := runActs anyS1 (anyRun2 anyS1)

/-- witness: the restriction of `finished_no_live_task_partial` to RECORDED task names is necessary, even
inside the envelope.  The
history `anyS2` stays inside `stabEnv` (checked: `stabChecked`) — it uses one API fault (the status
write that would record `job-b-1` answers Conflict) and pod-informer lag.  In `anyS2` the authoritative
Job is Finished / Success, not being deleted; its status names `job-a-0`, `job-b-0`; and the server holds
`job-b-1`, controlled by the Job, NOT finished and NOT being deleted: a task the controller created but
could not record, still invisible to the pod cache when the pass that finished the Job ran.  (When the
pod reaches the cache the next pass adopts and stops it, `C10Plan.decided_then_kill_covers_unrecorded`;
the run-time monitor `finished-no-live-task` is evaluated inside `E-OrphanVisible` for this reason.) -/
theorem finished_with_unrecorded_live_task_witness :
    Reach stabChecked jobAny anyS2 ∧ WF2 jobAny anyS2.d ∧ WF3 jobAny ∧
    (anyS2.job.map (fun j => (j.job.deletionTimestamp, j.job.status.condition.finished.map (·.result), refNames j.job))) =
      some (none, some .success, ["job-a-0", "job-b-0"]) ∧
    anyS2.pods.map (fun p => (p.pod.name, p.ownerUid, p.pod.isFinished, p.pod.deletionTimestamp)) =
      [("job-a-0", some "u", true, none), ("job-b-0", some "u", true, none), ("job-b-1", some "u", false, none)] ∧
    anyS2.podCache.map (·.pod.name) = ["job-a-0", "job-b-0"] :=
  reach_run_and (reach_run (.init 0 {} Ex.d (by decide +kernel)) anyRun1 (by decide +kernel)) (by decide +kernel)

end Furiko.Props.C10Hist
