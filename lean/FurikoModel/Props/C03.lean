/-
C03 — "scheduling follows create/update/enable/disable/delete; after a change the controller
fires according to the new schedule only, nothing back-dated before the change".

A flush for key `k` is Delete(k) followed by Bump(cur, now) of the version `cur` the LISTER holds
for `k` at that moment (nothing is added back when the lister no longer has `k`); the object that
sits in the channel only names the key.
`flushEntryOf cur now = if cur enabled ∧ parses then getNext cur.nxt cur.notBefore cur.notAfter now
else none`; `flushEntry lister k now = match lookup lister k with none => none | some cur =>
flushEntryOf cur now` (Proofs/CronFlush.lean: `flushEntry_of_lookup`, `flushEntry_of_missing`).
`runTicks cap flushLimit fuel w ts` (Proofs/CronRunWork.lean) runs ticks at the reference times
`ts`.  The informer handler registrations come from `Generated/Facts.lean`.
-/
import FurikoModel.Generated.Facts
import FurikoModel.Proofs.CronRunWork
import FurikoModel.Proofs.CronExamples
import FurikoModel.Proofs.CronSource

namespace Furiko.Cron.C03
open Furiko Furiko.Cron
open Furiko.Cron.Ex (jcNew wUpd jcNew_sorted wUpd_lister jcDis wDis jcB jcB_sorted)

/-- all three informer handlers are registered in the source (breaks if one is removed) -/
theorem handlers_registered :
    Facts.cronHandlerAdd = true ∧ Facts.cronHandlerUpdate = true ∧ Facts.cronHandlerDelete = true :=
  ⟨rfl, rfl, rfl⟩

/-- After `refresh` (i.e. at the start of the pop loop) the key named by the last flushed object
`jc` is re-based to the LISTER's current version: entry `getNext cur… now` if the lister holds an
enabled, parsing `cur`; no entry if the key is gone from the lister, disabled or unparsable —
independent of which (possibly stale) object sits in the channel.  A new entry is strictly after
`now`. -/
theorem flush_rebases {w : Worker} {now : Int} {flushLimit : Nat} (hInv : Heap.Inv w.heap)
    (hL : ListerOK w.lister) {jc : JC} {pre post : List JC}
    (hchan : w.chan = pre ++ [jc] ++ post) (hpost : ∀ jc' ∈ post, jc'.key ≠ jc.key)
    (hlim : pre.length + 1 ≤ flushLimit) :
    Heap.Inv (refresh w.heap w.lister w.chan now flushLimit).1 ∧
    Heap.search (refresh w.heap w.lister w.chan now flushLimit).1 jc.key
      = flushEntry w.lister jc.key now ∧
    (∀ cur, lookup w.lister jc.key = some cur → flushEntry w.lister jc.key now =
      if cur.sched.enabled && !cur.sched.parseErr then
        getNext cur.nxt cur.sched.notBefore cur.sched.notAfter now else none) ∧
    (lookup w.lister jc.key = none → flushEntry w.lister jc.key now = none) ∧
    ∀ e, flushEntry w.lister jc.key now = some e → now < e * 1000000000 := by
  have hr := refresh_rebases hL now hpost pre w.heap flushLimit hInv hlim
  rw [← hchan] at hr
  exact ⟨hr.1, hr.2, fun cur h => flushEntry_of_lookup h now,
    fun h => flushEntry_of_missing h now, flushEntry_gt hL _ _⟩

/-- non-vacuity, with a STALE channel object: key "a" has the overdue entry 10, the lister already
holds `jcNew` (matches 50, 60) but the channel still carries the old object `Ex.jcA` -/
example : let w : Worker := { Ex.w0 with lister := wUpd.lister, chan := [Ex.jcA] }
    Heap.Inv w.heap ∧ ListerOK w.lister ∧ w.chan = [] ++ [Ex.jcA] ++ [] ∧
    ([] : List JC).length + 1 ≤ 1000 ∧
    Heap.search (refresh w.heap w.lister w.chan 25500000000 1000).1 "a" = some 50 :=
  ⟨Ex.w0_inv, wUpd_lister, rfl, by decide +kernel, by decide +kernel⟩

/-- In the tick that processes the flush nothing is requested for the key, whatever its old entry
was, and the key ends the tick with the re-based entry (any fuel). -/
theorem flush_drops_overdue {w : Worker} {now cap : Int} {flushLimit fuel : Nat}
    (hInv : Heap.Inv w.heap) (hL : ListerOK w.lister)
    {jc : JC} {pre post : List JC}
    (hchan : w.chan = pre ++ [jc] ++ post) (hpost : ∀ jc' ∈ post, jc'.key ≠ jc.key)
    (hlim : pre.length + 1 ≤ flushLimit)
    {eold : Int} (_hold : Heap.search w.heap jc.key = some eold)
    (_hover : eold * 1000000000 ≤ now) :
    ((work w now cap flushLimit fuel).2.1.filter (fun p => p.1 = jc.key)).map
      (fun p => p.2) = [] ∧
    Heap.search (work w now cap flushLimit fuel).1.heap jc.key
      = flushEntry w.lister jc.key now := by
  have := flush_tick (now := now) (cap := cap) flushLimit fuel hInv hL hchan hpost hlim
  exact ⟨this.2.1, this.2.2.1⟩

example : Heap.Inv wUpd.heap ∧ ListerOK wUpd.lister ∧ wUpd.chan = [] ++ [jcNew] ++ [] ∧
    Heap.search wUpd.heap "a" = some 10 ∧ (10 : Int) * 1000000000 ≤ 25500000000 ∧
    (work wUpd 25500000000 5 1000 10).2.1 = [] :=
  ⟨Ex.w0_inv, wUpd_lister, rfl, by decide +kernel, by decide +kernel, by decide +kernel⟩

/-- Nothing back-dated: after the flush for a key whose lister version `cur` is enabled and parses
(channel fully drained), every time requested for the key in any later sequence of non-decreasing
ticks matches the NEW schedule `cur`, lies inside its `[notBefore, notAfter]` window and is
strictly after `now`; the stream is strictly increasing. -/
theorem flush_no_backdating {w : Worker} {now cap : Int} {flushLimit fuel : Nat}
    (hInv : Heap.Inv w.heap) (hL : ListerOK w.lister)
    {jc cur : JC} (hlk : lookup w.lister jc.key = some cur)
    (hen : cur.sched.enabled = true) (hpe : cur.sched.parseErr = false)
    {pre post : List JC}
    (hchan : w.chan = pre ++ [jc] ++ post) (hpost : ∀ jc' ∈ post, jc'.key ≠ jc.key)
    (hlen : w.chan.length ≤ flushLimit)
    (ts : List Int) (hts : List.Pairwise (· ≤ ·) ts)
    (hdone : (runTicks cap flushLimit fuel (work w now cap flushLimit fuel).1 ts).2.2 = true) :
    let fired0 := (work w now cap flushLimit fuel).2.1
    let later := (runTicks cap flushLimit fuel (work w now cap flushLimit fuel).1 ts).2.1
    (fired0.filter (fun p => p.1 = jc.key)).map (fun p => p.2) = [] ∧
    SortedStrict ((later.flatten.filter (fun p => p.1 = jc.key)).map (fun p => p.2)) ∧
    ∀ t, (jc.key, t) ∈ later.flatten → cur.M' t ∧ now < t * 1000000000 := by
  intro fired0 later
  have hs := (lookup_ok hL hlk).2
  have hsp := JC.nextAfter_spec hs
  have hlim : pre.length + 1 ≤ flushLimit := by
    rw [hchan] at hlen; simp at hlen; omega
  have hft := flush_tick (now := now) (cap := cap) flushLimit fuel hInv hL hchan hpost hlim
  have hle : flushEntry w.lister jc.key now = bumpEnt cur (floorSec now) := by
    rw [flushEntry_of_lookup hlk, flushEntryOf_eq]
  rw [hle] at hft
  have hi := work_inv_general (now := now) (cap := cap) flushLimit fuel hInv hL
  have hc : (work w now cap flushLimit fuel).1.chan = [] := by
    rw [work_chan_eq _ _ _ _ _ hInv hL]; exact List.drop_eq_nil_iff.2 hlen
  have hk := runTicks_key cap flushLimit fuel (k := jc.key) ⟨hen, hpe⟩ ts _ hi hL hc hlk hdone
  have hstream : outk later.flatten jc.key
      = (keyRun cur.nextAfter cap.toNat (bumpEnt cur (floorSec now))
          (ts.map floorSec)).1.flatten := by
    rw [outk_flatten, hk.1, hft.2.2.1]
  refine ⟨hft.2.1, ?_⟩
  show SortedStrict (outk later.flatten jc.key) ∧ ∀ t, (jc.key, t) ∈ later.flatten → _
  simp only [← mem_outk]
  rw [hstream]
  cases hb : bumpEnt cur (floorSec now) with
  | none => rw [(keyRun_none _ _ _).1]; exact ⟨List.Pairwise.nil, nofun⟩
  | some e =>
    have hgt := bumpEnt_gt hs _ _ hb
    rw [bumpEnt_active ⟨hen, hpe⟩] at hb
    have hMe : cur.M' e := ((hsp (floorSec now)).1 e hb).2.1
    have hrun := (keyRun_inv_init hsp cap.toNat e hts).1
    refine ⟨hrun.sorted, fun t ht => ?_⟩
    have := hrun.sound t ht
    exact ⟨this.2.2.elim (fun h => h ▸ hMe) id, (floorSec_lt_iff _ _).1 (by omega)⟩

/-- non-vacuity: after the update of `wUpd` at 25.5 s, ticks at 30, 40, 55, 70 s request 50, 60 -/
example : Heap.Inv wUpd.heap ∧ ListerOK wUpd.lister ∧ lookup wUpd.lister jcNew.key = some jcNew ∧
    wUpd.chan = [] ++ [jcNew] ++ [] ∧ wUpd.chan.length ≤ 1000 ∧
    (runTicks 5 1000 10 (work wUpd 25500000000 5 1000 10).1
      [30000000000, 40000000000, 55000000000, 70000000000]).2
      = ([[], [], [("a", 50)], [("a", 60)]], true) :=
  ⟨Ex.w0_inv, wUpd_lister, rfl, rfl, by decide +kernel, by decide +kernel⟩

/-- Update: the update handler is registered (`Facts.cronHandlerUpdate`); an update that changes
the schedule spec is flushed, and after the next tick the key's entry is the NEW version's
`getNext … now` (none if it is disabled / unparsable / has no further match); nothing is requested
for the key in that tick. -/
theorem update_follows {w : Worker} {now cap : Int} {flushLimit fuel : Nat}
    (hInv : Heap.Inv w.heap) (hL : ListerOK w.lister)
    {old new : JC} (hs : ∀ l ∈ new.sched.exprs, SortedStrict l)
    (hspec : old.sched.specId ≠ new.sched.specId) (hlim : w.chan.length + 1 ≤ flushLimit) :
    let w' := onUpdate w old new Facts.cronHandlerUpdate
    Heap.search (work w' now cap flushLimit fuel).1.heap new.key = flushEntryOf new now ∧
    ((work w' now cap flushLimit fuel).2.1.filter (fun p => p.1 = new.key)).map (fun p => p.2)
      = [] := by
  intro w'
  have hreg : Facts.cronHandlerUpdate = true := rfl
  have hw' : w' = { w with lister := listerSet w.lister new.key new, chan := w.chan ++ [new] } := by
    show onUpdate w old new Facts.cronHandlerUpdate = _
    unfold onUpdate
    simp [hreg, hspec]
  rw [hw']
  exact flush_last (w := { w with lister := listerSet w.lister new.key new, chan := w.chan ++ [new] })
    flushLimit fuel hInv (listerOK_set hL hs) rfl (by simp [lookup_listerSet]) hlim

example : Heap.Inv Ex.w0.heap ∧ ListerOK Ex.w0.lister ∧ (∀ l ∈ jcNew.sched.exprs, SortedStrict l) ∧
    Ex.jcA.sched.specId ≠ jcNew.sched.specId ∧ Ex.w0.chan.length + 1 ≤ 1000 ∧
    flushEntryOf jcNew 25500000000 = some 50 :=
  ⟨Ex.w0_inv, Ex.w0_lister, jcNew_sorted, by decide, by decide, by decide⟩

/-- Disable (or a spec that stops parsing, or a key gone from the lister): the flush removes the
key; nothing is requested for it in that tick or in any later tick until another flush for the
key arrives (any fuel). -/
theorem disable_stops {w : Worker} {now cap : Int} {flushLimit fuel : Nat}
    (hInv : Heap.Inv w.heap) (hL : ListerOK w.lister) {jc : JC}
    (hoff : ∀ cur, lookup w.lister jc.key = some cur →
      cur.sched.enabled = false ∨ cur.sched.parseErr = true) {pre post : List JC}
    (hchan : w.chan = pre ++ [jc] ++ post) (hpost : ∀ jc' ∈ post, jc'.key ≠ jc.key)
    (hlim : pre.length + 1 ≤ flushLimit) (ts : List Int) :
    Heap.search (refresh w.heap w.lister w.chan now flushLimit).1 jc.key = none ∧
    (∀ l ∈ (runTicks cap flushLimit fuel w (now :: ts)).2.1,
      (l.filter (fun p => p.1 = jc.key)).map (fun p => p.2) = []) ∧
    Heap.search (runTicks cap flushLimit fuel w (now :: ts)).1.heap jc.key = none := by
  have hft := flush_tick (now := now) (cap := cap) flushLimit fuel hInv hL hchan hpost hlim
  have hnone : flushEntry w.lister jc.key now = none := by
    cases hlk : lookup w.lister jc.key with
    | none => exact flushEntry_of_missing hlk now
    | some cur => rw [flushEntry_of_lookup hlk]; exact flushEntryOf_off (hoff cur hlk) now
  have hi := work_inv_general (now := now) (cap := cap) flushLimit fuel hInv hL
  have hrest := runTicks_absent cap flushLimit fuel jc.key ts
    (work w now cap flushLimit fuel).1 hi hL hft.2.2.2 (hft.2.2.1.trans hnone)
  refine ⟨hft.1.trans hnone, fun l hl => ?_, ?_⟩
  · simp only [runTicks] at hl
    rcases List.mem_cons.1 hl with rfl | hl
    · exact hft.2.1
    · exact hrest.1 l hl
  · simp only [runTicks]; exact hrest.2

example : Heap.Inv wDis.heap ∧ ListerOK wDis.lister ∧
    (∀ cur, lookup wDis.lister jcDis.key = some cur →
      cur.sched.enabled = false ∨ cur.sched.parseErr = true) ∧
    wDis.chan = [] ++ [jcDis] ++ [] ∧ Heap.search wDis.heap "a" = some 10 ∧
    (runTicks 5 1000 10 wDis [25500000000, 40000000000]).2 = ([[], []], true) := by
  refine ⟨Ex.w0_inv, ?_, ?_, rfl, by decide +kernel, by decide +kernel⟩
  · have : wDis.lister = listerSet Ex.w0.lister jcDis.key jcDis := rfl
    rw [this]; exact listerOK_set Ex.w0_lister Ex.jcA_sorted
  · intro cur h
    have : lookup wDis.lister jcDis.key = some jcDis := rfl
    rw [this] at h; cases h; exact Or.inl rfl

/-- Delete, unconditionally: the delete handler is registered (`Facts.cronHandlerDelete`); once
the delete event has been delivered (lister entry gone, flush enqueued) the flush REMOVES the key
from the heap, and nothing is requested for the key in that tick or in any later tick, whatever
the heap held before and whatever object the channel carries (any fuel). -/
theorem delete_stops {w : Worker} {now cap : Int} {flushLimit fuel : Nat}
    (hInv : Heap.Inv w.heap) (hL : ListerOK w.lister) (jc : JC)
    (hlim : w.chan.length + 1 ≤ flushLimit) (ts : List Int) :
    let w' := onDelete w jc Facts.cronHandlerDelete
    lookup w'.lister jc.key = none ∧
    Heap.search (refresh w'.heap w'.lister w'.chan now flushLimit).1 jc.key = none ∧
    (∀ l ∈ (runTicks cap flushLimit fuel w' (now :: ts)).2.1,
      (l.filter (fun p => p.1 = jc.key)).map (fun p => p.2) = []) ∧
    Heap.search (runTicks cap flushLimit fuel w' (now :: ts)).1.heap jc.key = none := by
  intro w'
  have hw' : w' = { w with lister := listerDel w.lister jc.key, chan := w.chan ++ [jc] } := rfl
  have hL' : ListerOK w'.lister := by rw [hw']; exact listerOK_del hL _
  have hlk : lookup w'.lister jc.key = none := by rw [hw']; simp [lookup_listerDel]
  have hInv' : Heap.Inv w'.heap := by rw [hw']; exact hInv
  have hd := disable_stops (now := now) (cap := cap) (flushLimit := flushLimit) (fuel := fuel)
    hInv' hL' (jc := jc) (fun cur h => by rw [hlk] at h; cases h) (pre := w.chan) (post := [])
    (by rw [hw']; simp) (fun _ h => by cases h) hlim ts
  exact ⟨hlk, hd⟩

/-- non-vacuity: "a" (overdue entry 10) is deleted; the flush at 5 s removes it, later ticks
request nothing -/
example : let wDel := onDelete Ex.w0 Ex.jcA Facts.cronHandlerDelete
    Heap.Inv Ex.w0.heap ∧ ListerOK Ex.w0.lister ∧ Ex.w0.chan.length + 1 ≤ 1000 ∧
    Heap.search wDel.heap "a" = some 10 ∧
    Heap.search (refresh wDel.heap wDel.lister wDel.chan 5000000000 1000).1 "a" = none ∧
    (runTicks 5 1000 10 wDel [5000000000, 12000000000, 22000000000]).2 = ([[], [], []], true) :=
  ⟨Ex.w0_inv, Ex.w0_lister, by decide +kernel, by decide +kernel, by decide +kernel, by decide +kernel⟩

/-- non-vacuity: "a" (old schedule 10,15,20,…, overdue entry 10) is deleted and re-created with
`jcNew` (50, 60): ticks at 25.5, 40, 55 s request only 50 -/
example : let w' := onAdd (onDelete Ex.w0 Ex.jcA Facts.cronHandlerDelete) jcNew Facts.cronHandlerAdd
    Heap.Inv Ex.w0.heap ∧ ListerOK Ex.w0.lister ∧ jcNew.key = Ex.jcA.key ∧
    Ex.w0.chan.length + 2 ≤ 1000 ∧
    (runTicks 5 1000 10 w' [25500000000, 40000000000, 55000000000]).2
      = ([[], [], [("a", 50)]], true) :=
  ⟨Ex.w0_inv, Ex.w0_lister, rfl, by decide +kernel, by decide +kernel⟩

/-- an update is flushed iff the handler is registered and the schedule specs differ -/
theorem onUpdate_flushes_iff (w : Worker) (old new : JC) (updateRegistered : Bool) :
    (onUpdate w old new updateRegistered).chan =
      (if updateRegistered = true ∧ old.sched.specId ≠ new.sched.specId then w.chan ++ [new]
       else w.chan) ∧
    ((onUpdate w old new true).chan = w.chan ++ [new] ↔ old.sched.specId ≠ new.sched.specId) ∧
    (onUpdate w old new updateRegistered).heap = w.heap ∧
    (onUpdate w old new updateRegistered).lister = listerSet w.lister new.key new := by
  unfold onUpdate
  by_cases h : old.sched.specId = new.sched.specId
  · cases updateRegistered <;> simp [h]
  · cases updateRegistered <;> simp [h]

theorem onDelete_flushes_iff (w : Worker) (jc : JC) (deleteRegistered : Bool) :
    (onDelete w jc deleteRegistered).chan = (if deleteRegistered then w.chan ++ [jc] else w.chan) ∧
    ((onDelete w jc deleteRegistered).chan = w.chan ++ [jc] ↔ deleteRegistered = true) := by
  unfold onDelete
  cases deleteRegistered <;> simp

theorem onAdd_flushes_iff (w : Worker) (jc : JC) (addRegistered : Bool) :
    (onAdd w jc addRegistered).chan = (if addRegistered then w.chan ++ [jc] else w.chan) ∧
    ((onAdd w jc addRegistered).chan = w.chan ++ [jc] ↔ addRegistered = true) := by
  unfold onAdd
  cases addRegistered <;> simp

/-- Counterfactual (the repaired defect F1): WITHOUT an add handler a JobConfig created after
start-up would never be scheduled: it is never put into the heap and nothing is ever requested
for it, for any number of ticks. -/
theorem create_starts_needs_add_handler {w : Worker} {cap : Int} {flushLimit fuel : Nat}
    (hInv : Heap.Inv w.heap) (hL : ListerOK w.lister)
    {jc : JC} (hs : ∀ l ∈ jc.sched.exprs, SortedStrict l)
    (hfresh : Heap.search w.heap jc.key = none) (hnopend : ∀ jc' ∈ w.chan, jc'.key ≠ jc.key)
    (ts : List Int) :
    lookup (onAdd w jc false).lister jc.key = some jc ∧
    (∀ l ∈ (runTicks cap flushLimit fuel (onAdd w jc false) ts).2.1,
      (l.filter (fun p => p.1 = jc.key)).map (fun p => p.2) = []) ∧
    Heap.search (runTicks cap flushLimit fuel (onAdd w jc false) ts).1.heap jc.key = none := by
  have hL' : ListerOK (onAdd w jc false).lister := listerOK_set hL hs
  refine ⟨by simp [onAdd, lookup_listerSet], ?_⟩
  exact runTicks_absent cap flushLimit fuel jc.key ts (onAdd w jc false) hInv hL' hnopend hfresh

/-- non-vacuity: "b" (every 5 s) is created into `Ex.w0`; three ticks request nothing for it -/
example : Heap.Inv Ex.w0.heap ∧ ListerOK Ex.w0.lister ∧ Heap.search Ex.w0.heap jcB.key = none ∧
    (∀ jc' ∈ Ex.w0.chan, jc'.key ≠ jcB.key) ∧
    (runTicks 5 1000 10 (onAdd Ex.w0 jcB false) [7000000000, 12000000000, 31000000000]).2.1
      = [[], [("a", 10)], [("a", 15), ("a", 20), ("a", 30)]] :=
  ⟨Ex.w0_inv, Ex.w0_lister, by decide +kernel, fun _ h => (by cases h), by decide +kernel⟩

/-- (Worker level: the add is flushed; `create_starts` below shows when it is.)  Create: the add
handler is registered (`Facts.cronHandlerAdd`), so the new JobConfig is scheduled: after `onAdd`
and one tick at `now` its entry is `getNext … now` (and nothing is requested for it in that
tick). -/
theorem create_starts_of_flush {w : Worker} {now cap : Int} {flushLimit fuel : Nat}
    (hInv : Heap.Inv w.heap) (hL : ListerOK w.lister)
    {jc : JC} (hs : ∀ l ∈ jc.sched.exprs, SortedStrict l)
    (hen : jc.sched.enabled = true) (hpe : jc.sched.parseErr = false)
    (hlim : w.chan.length + 1 ≤ flushLimit) :
    let w' := onAdd w jc Facts.cronHandlerAdd
    Heap.search (work w' now cap flushLimit fuel).1.heap jc.key
      = getNext jc.nxt jc.sched.notBefore jc.sched.notAfter now ∧
    ((work w' now cap flushLimit fuel).2.1.filter (fun p => p.1 = jc.key)).map (fun p => p.2)
      = [] := by
  intro w'
  have hw' : w' = { w with lister := listerSet w.lister jc.key jc, chan := w.chan ++ [jc] } := rfl
  rw [hw', ← flushEntryOf_active hen hpe]
  exact flush_last (w := { w with lister := listerSet w.lister jc.key jc, chan := w.chan ++ [jc] })
    flushLimit fuel hInv (listerOK_set hL hs) rfl (by simp [lookup_listerSet]) hlim

example : Heap.Inv Ex.w0.heap ∧ ListerOK Ex.w0.lister ∧ jcB.sched.enabled = true ∧
    jcB.sched.parseErr = false ∧ Ex.w0.chan.length + 1 ≤ 1000 ∧
    (runTicks 5 1000 10 (onAdd Ex.w0 jcB Facts.cronHandlerAdd) [7000000000, 12000000000]).2.1
      = [[], [("a", 10), ("b", 10)]] :=
  ⟨Ex.w0_inv, Ex.w0_lister, rfl, rfl, by decide +kernel, by decide +kernel⟩

/-! `handleAdd` ignores the add of a JobConfig that `CronWorker.Init` loaded (recorded key with the
recorded UID): that is the informer's notification for an object that existed at boot (F24).  This
does not take back the repairs of F1 and F12: every OTHER add is flushed.  The statements use the
shapes the source has (`Facts.…`) and hold for either value of `takes` (before the repair of F24
every add is flushed). -/

/-- an add is flushed (the worker sees exactly `onAdd`) unless `handleAdd` consults the record and
the record holds the key with this UID -/
theorem ctlAdd_flushes {c : Ctl} {jc : JC} {takes : Bool}
    (h : takes = true → lookupUid c.loaded jc.key ≠ some jc.uid) :
    (ctlAdd c jc true takes).worker = onAdd c.worker jc true := by
  cases takes with
  | false => simp [ctlAdd, handleAdd, onAdd]
  | true =>
    have hn := h rfl
    unfold ctlAdd
    rw [handleAdd_not_loaded (c := { c with worker := { c.worker with
      lister := listerSet c.worker.lister jc.key jc } }) hn]
    simp [onAdd]

/-- … and conversely the add of a recorded JobConfig with the recorded UID is not: only the cache
changes -/
theorem ctlAdd_of_loaded {c : Ctl} {jc : JC} (h : lookupUid c.loaded jc.key = some jc.uid) :
    (ctlAdd c jc true true).worker = onAdd c.worker jc false ∧
    lookupUid (ctlAdd c jc true true).loaded jc.key = none := by
  unfold ctlAdd
  rw [handleAdd_loaded (c := { c with worker := { c.worker with
    lister := listerSet c.worker.lister jc.key jc } }) h]
  exact ⟨by simp [onAdd], lookupUid_forget_self _ _⟩

/-- a delete event reaches the worker as `onDelete`; if the handler is registered and forgets, the
record of the key is gone afterwards -/
theorem ctlDelete_worker (c : Ctl) (jc : JC) (reg forgets : Bool) :
    (ctlDelete c jc reg forgets).worker = onDelete c.worker jc reg ∧
    (reg = true → forgets = true → lookupUid (ctlDelete c jc reg forgets).loaded jc.key = none) := by
  refine ⟨rfl, fun h1 h2 => ?_⟩
  subst h1; subst h2
  exact lookupUid_forget_self _ _

/-- an update event reaches the worker as `onUpdate` and leaves the record alone -/
theorem ctlUpdate_worker (c : Ctl) (old new : JC) (reg : Bool) :
    (ctlUpdate c old new reg).worker = onUpdate c.worker old new reg ∧
    (ctlUpdate c old new reg).loaded = c.loaded := ⟨rfl, rfl⟩

/-- A JobConfig whose key `Init` did not load is never in the record, whatever happened since
(ticks, initial adds, creations, updates, deletions; any shapes): its creation is always flushed. -/
theorem never_loaded_never_recorded (sh : Shapes) (cap : Int) (flushLimit fuel : Nat)
    {jcs : List JC} (pq : Heap.PQ) (acts : List CtlAct) {k : String}
    (hk : ∀ jc ∈ jcs, jc.key ≠ k) :
    lookupUid (ctlRun sh cap flushLimit fuel (bootCtl jcs pq) acts).1.loaded k = none := by
  cases h : lookupUid (ctlRun sh cap flushLimit fuel (bootCtl jcs pq) acts).1.loaded k with
  | none => rfl
  | some u =>
    have := ctlRun_loaded_shrinks sh cap flushLimit fuel acts (bootCtl jcs pq) h
    rw [show (bootCtl jcs pq).loaded = recordLoaded jcs from rfl,
      lookupUid_recordLoaded_none hk] at this
    cases this

/-- **Create** (F1 stays repaired): the add handler is registered, and the add of a JobConfig that
is not recorded as loaded under its UID — any JobConfig created while the controller runs: a new
name is never recorded (`never_loaded_never_recorded`), a re-used name was forgotten by the delete
(`recreate_follows_new_schedule_only`) or carries another UID — is flushed: after one tick at `now`
its entry is `getNext … now`, and nothing is requested for it in that tick. -/
theorem create_starts {c : Ctl} {now cap : Int} {flushLimit fuel : Nat}
    (hInv : Heap.Inv c.worker.heap) (hL : ListerOK c.worker.lister)
    {jc : JC} (hs : ∀ l ∈ jc.sched.exprs, SortedStrict l)
    (hen : jc.sched.enabled = true) (hpe : jc.sched.parseErr = false)
    (hlim : c.worker.chan.length + 1 ≤ flushLimit)
    (hnl : lookupUid c.loaded jc.key ≠ some jc.uid) :
    let c' := ctlAdd c jc Facts.cronHandlerAdd Facts.cronHandleAddTakesLoaded
    Heap.search (ctlWork c' now cap flushLimit fuel).1.worker.heap jc.key
      = getNext jc.nxt jc.sched.notBefore jc.sched.notAfter now ∧
    ((ctlWork c' now cap flushLimit fuel).2.1.filter (fun p => p.1 = jc.key)).map (fun p => p.2)
      = [] := by
  intro c'
  have hw : c'.worker = onAdd c.worker jc Facts.cronHandlerAdd :=
    ctlAdd_flushes (takes := Facts.cronHandleAddTakesLoaded) (fun _ => hnl)
  have := create_starts_of_flush (now := now) (cap := cap) (fuel := fuel) hInv hL hs hen hpe hlim
  simp only [ctlWork]
  rw [hw]
  exact this

/-- non-vacuity: "b" is created into the state `Init` left after loading "a" (record: a ↦ "") -/
example : let c0 := bootCtl [Ex.jcA] (Heap.new [("a", 10)])
    lookupUid c0.loaded jcB.key ≠ some jcB.uid ∧
    (ctlRun Shapes.source 5 1000 10 c0 [.add jcB, .tick 7000000000, .tick 12000000000]).2.1
      = [[], [("a", 10), ("b", 10)]] :=
  ⟨by decide +kernel, by decide +kernel⟩

/-- **Delete then re-create** under the same key (F12 stays repaired) — also under the SAME UID,
and also when the record of the deleted JobConfig was never consumed by an add: the delete handler
forgets the record (`Facts.cronHandleDeleteForgetsLoaded`, needed only if `handleAdd` consults it),
so the re-creation is flushed and the key follows the NEW version only. -/
theorem recreate_follows_new_schedule_only {c : Ctl} {now cap : Int} {flushLimit fuel : Nat}
    (hInv : Heap.Inv c.worker.heap) (hL : ListerOK c.worker.lister) {jc jcN : JC}
    (hkey : jcN.key = jc.key)
    (hs : ∀ l ∈ jcN.sched.exprs, SortedStrict l) (hlim : c.worker.chan.length + 2 ≤ flushLimit) :
    let c' := ctlAdd (ctlDelete c jc Facts.cronHandlerDelete Facts.cronHandleDeleteForgetsLoaded) jcN
      Facts.cronHandlerAdd Facts.cronHandleAddTakesLoaded
    lookup c'.worker.lister jc.key = some jcN ∧
    Heap.search (ctlWork c' now cap flushLimit fuel).1.worker.heap jc.key = flushEntryOf jcN now ∧
    ((ctlWork c' now cap flushLimit fuel).2.1.filter (fun p => p.1 = jc.key)).map (fun p => p.2)
      = [] := by
  intro c'
  have hshape : Facts.cronHandleAddTakesLoaded = true → Facts.cronHandleDeleteForgetsLoaded = true := by
    decide
  have hw : c'.worker
      = onAdd (onDelete c.worker jc Facts.cronHandlerDelete) jcN Facts.cronHandlerAdd := by
    have := ctlAdd_flushes (c := ctlDelete c jc Facts.cronHandlerDelete
      Facts.cronHandleDeleteForgetsLoaded) (jc := jcN) (takes := Facts.cronHandleAddTakesLoaded)
      (fun ht => by
        have hnone := (ctlDelete_worker c jc Facts.cronHandlerDelete
          Facts.cronHandleDeleteForgetsLoaded).2 rfl (hshape ht)
        rw [hkey, hnone]
        exact fun h => by cases h)
    exact this
  simp only [ctlWork]
  rw [hw]
  -- worker level: the lister holds `jcN` under the key, and its add is the last flush in the channel
  rw [← hkey]
  have hlk : lookup (listerSet (listerDel c.worker.lister jc.key) jcN.key jcN) jcN.key = some jcN := by
    simp [lookup_listerSet]
  exact ⟨hlk, flush_last (now := now) (cap := cap) flushLimit fuel
    (w := { c.worker with lister := listerSet (listerDel c.worker.lister jc.key) jcN.key jcN,
                          chan := (c.worker.chan ++ [jc]) ++ [jcN] })
    hInv (listerOK_set (listerOK_del hL _) hs) (pre := c.worker.chan ++ [jc]) rfl hlk
    (by simp; omega)⟩

/-- non-vacuity: "a" is loaded by `Init` (record a ↦ ""), its initial add is never handled; it is
deleted and re-created under the same (empty) UID with `jcNew` (50, 60): only 50 is requested -/
example : let c0 := bootCtl [Ex.jcA] (Heap.new [("a", 10)])
    lookupUid c0.loaded "a" = some jcNew.uid ∧
    (ctlRun Shapes.source 5 1000 10 c0
      [.delete Ex.jcA, .add jcNew, .tick 25500000000, .tick 40000000000, .tick 55000000000]).2
      = ([[], [], [("a", 50)]], true) :=
  ⟨by decide +kernel, by decide +kernel⟩

end Furiko.Cron.C03
