/-
C12 — F32, REPAIRED (regression theorems); and an observed-not-claimed history: the kill marker is
lost when the status write fails after the delete.

F32.  C12: "a task that has not begun running within the pending timeout … is deleted".  Before the repair
`handlePendingTasks` took the running timestamp from the LIVE pod (`task.GetTaskRef()`), not from the ref
recorded in `status.tasks`, and `GetContainerStartTime` only read the container's CURRENT state
(`State.Running` / `State.Terminated`).  With restartPolicy OnFailure (admitted by validation: only Always is
refused) a container that failed and waits to be restarted (CrashLoopBackOff) is in `State.Waiting`; its
start time is only under `LastTerminationState`, the pod's phase stays Running (inside the kubelet contract
`KubeletOK`): a task that HAD begun running was reaped as `PendingTimeout`.  Repaired: the step judges a task
by the ref recorded in the Job's status (`jobutil.FindTaskRef`; `JobCtl.pendRef`), and
`GetContainerStartTime` also reads `LastTerminationState.Terminated.StartedAt` (`containerStartTime`).  The
same histories now reap nothing — theorems below; general statement `C12Hist.pending_only_never_ran`.
Replayed on the real controller by the corpus scenarios `f32-crashloop-task-reaped-as-pending` and
`f32b-crashloop-before-first-observation` (monitor `pending-only-never-ran`, ground truth: the simulated
kubelet started a container of the task), which fail on the tree before the repair.
-/
import FurikoModel.Props.SideCommon
import FurikoModel.Props.HistCommon

namespace Furiko.Props.C12Side
open Furiko Furiko.JobCtl Furiko.Props.Side

set_option synthInstance.maxSize 1024

/-- one index, one attempt, pending timeout 900 s -/
def jobC : JobObj :=
  { Ex.job with job := { Ex.job.job with template := some { maxAttempts := some 1, taskPendingTimeoutSeconds := some 900 } } }
def c0 : Sys := initSys 0 {} Ex.d jobC
def cA : Sys := runActs c0 Ex.runA

/-- the container of a Running pod has exited (started `st`, exited `fi`) and waits to be restarted -/
def waitingForRestart (p : PodObj) (st fi : Time) : PodObj :=
  withStatus p .running (some st) [{ lastTerminated := some { startedAt := some st, finishedAt := some fi, reason := "Error" } }]

/-- the task starts running at 5 s, which the next pass RECORDS; 1000 s later … -/
def crashRun1 : List Action :=
  [.deliverPod, .advance (sec 5),
   .kubelet (withStatus (podOf cA "job-h-0") .running (some (secs 5)) [{ running := some (some (secs 5)) }]),
   .deliverPod, .work, .deliverJob, .advance (sec 1000)]
def cK1 : Sys := runActs cA crashRun1
/-- … its container fails and waits for the restart; the next pass runs -/
def crashRun2 : List Action := [.kubelet (waitingForRestart (podOf cK1 "job-h-0") (secs 5) (secs 1005)), .deliverPod, .work]
def cK2 : Sys := runActs cK1 crashRun2

/-- regression (F32, first history; before the repair this pass deleted `job-h-0` and marked it Killed /
`PendingTimeout`): no fault, no lag, no user action.  `status.tasks` records that `job-h-0` began running at
5 s; at 1005 s (creation 0 s + 900 s has passed) the pass issues NO call: the task is not reaped, no marker
is written, the pod carries no deletion timestamp, the ref keeps its running timestamp. -/
theorem running_task_not_reaped_as_pending :
    Reach lagAndLoss jobC cK2 ∧
    refsView cK1 = [("job-h-0", .running, .none, some (secs 5), none)] ∧
    callsOf cK2 = [] ∧
    refsView cK2 = [("job-h-0", .running, .none, some (secs 5), none)] ∧
    marksView cK2 = [none] ∧
    cK2.pods.map (fun p => (p.pod.name, p.pod.phase, p.pod.deletionTimestamp)) = [("job-h-0", .running, none)] :=
  reach_run_and (reach_run (reach_run (.init 0 {} Ex.d (by decide +kernel)) Ex.runA (by decide +kernel)) crashRun1
    (by decide +kernel)) (by decide +kernel)

/-- the first hunk of the repair alone: the pod stops reporting ANY container status after the running
timestamp was recorded (phase Running, no container statuses — nothing for `GetContainerStartTime` to read,
with or without `LastTerminationState`); the recorded ref decides: nothing is reaped -/
def crashRun2' : List Action := [.kubelet (withStatus (podOf cK1 "job-h-0") .running (some (secs 5)) []), .deliverPod, .work]
def cK2' : Sys := runActs cK1 crashRun2'

theorem recorded_running_decides :
    (cK2'.podCache.map (fun p => containerStartTime p.pod)) = [none] ∧
    callsOf cK2' = [] ∧
    refsView cK2' = [("job-h-0", .running, .none, some (secs 5), none)] ∧
    marksView cK2' = [none] :=
  by decide +kernel

/-- second history: the container starts at 5 s and fails at 8 s, BETWEEN two passes: no pass ever sees
it Running; at 1008 s the pending-timeout pass runs -/
def crashBRun : List Action :=
  [.deliverPod, .advance (sec 5),
   .kubelet (withStatus (podOf cA "job-h-0") .running (some (secs 5)) [{ running := some (some (secs 5)) }]),
   .advance (sec 3), .kubelet (waitingForRestart (podOf cA "job-h-0") (secs 5) (secs 8)),
   .deliverPod, .deliverPod, .work, .deliverJob, .advance (sec 1000), .work]
def cK3 : Sys := runActs cA crashBRun

/-- regression (F32, second history; before the repair the pass at 1008 s reaped the task and no running
timestamp was ever recorded): the kubelet started the task's container at 5 s (the second action of
`crashBRun` after the delivery) and it failed at 8 s, between two passes.  The first pass after that reads the
start from `LastTerminationState` and RECORDS the running timestamp 5 s; the pass at 1008 s issues no call.
Using the recorded ref in `handlePendingTasks` alone would not have prevented this one. -/
theorem crashed_before_observed_not_reaped :
    Reach lagAndLoss jobC cK3 ∧
    callsOf cK3 = [] ∧
    refsView cK3 = [("job-h-0", .running, .none, some (secs 5), none)] ∧
    marksView cK3 = [none] ∧
    cK3.pods.map (fun p => (p.pod.name, p.pod.phase, p.pod.deletionTimestamp)) = [("job-h-0", .running, none)] :=
  reach_run_and (reach_run (.init 0 {} Ex.d (by decide +kernel)) Ex.runA (by decide +kernel))
    (by decide +kernel)

/-! ### observed, not claimed: the kill marker is lost when the status write fails after the delete

`handleKillJob` marks the tasks it deletes (`DeletedStatus` = Terminated / Killed) in the Job value it
returns; the pods are deleted at once, the marker reaches the server only with the status write at the end
of `SyncOne`.  When that write fails, the retry sees the pod with a deletion timestamp and skips it (no
marker); when the pod goes away the ref ends `DeletedFinalStateUnknown` without a Killed marker, the Job
Finished / Killed.  This contradicts NO theorem: `C12Hist.deletion_marker_kept` and
`marked_task_lost_is_killed` are about a marker that some authoritative version of the Job carried, and
here none ever does (`marksView` is `[none]` in every state of the run); no clause of C09 / C12 says that a
task stopped by the kill sweep is recorded Killed.  Corpus scenario `kill-marker-lost-on-conflict`
(counter `jc.observed.kill-marker-lost`). -/

def markRun1 : List Action :=
  [.deliverPod,
   .kubelet (withStatus (podOf Ex.tA "job-h-0") .running (some 0) [{ running := some (some (secs 1)) }]),
   .deliverPod, .work, .deliverJob, .kill 0, .deliverJob, .setFaults ["", "conflict"], .work]
def mK1 : Sys := runActs Ex.tA markRun1
def markRun2 : List Action := [.deliverPod, .work]
def mK2 : Sys := runActs mK1 markRun2
def markRun3 : List Action := [.podGone "job-h-0", .deliverPod, .deliverJob, .work]
def mK3 : Sys := runActs mK2 markRun3

/-- the kill pass deletes the pod and its status write conflicts (one injected fault); the retry skips the
terminating pod; the pod goes away: the ref is lost WITHOUT marker, the Job Finished / Killed -/
theorem kill_marker_lost_on_conflict_witness :
    Reach anyAction Ex.job1 mK3 ∧
    callsOf mK1 = [("delete", "pods", "job-h-0", "ok", false), ("update", "jobs", "job", "conflict", true)] ∧
    (marksView mK1 = [none] ∧ marksView mK2 = [none] ∧ marksView mK3 = [none]) ∧
    refsView mK2 = [("job-h-0", .killing, .none, some (secs 1), none)] ∧
    jobView mK3 = some ("Killed", false, 1, some (.killed, some 0)) ∧
    refsView mK3 = [("job-h-0", .deletedFinalStateUnknown, .none, some (secs 1), some 0)] :=
  reach_of_guards (fun (g : AllowedAll anyAction Ex.job1 Ex.tA markRun1 ∧ AllowedAll anyAction Ex.job1 mK1 markRun2 ∧
      AllowedAll anyAction Ex.job1 mK2 markRun3) =>
    reach_run (reach_run (reach_run (Ex.tA_reach.mono (fun _ _ _ => trivial)) markRun1 g.1) markRun2 g.2.1)
      markRun3 g.2.2) (by decide +kernel)

end Furiko.Props.C12Side
