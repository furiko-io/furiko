/-
C11 — "Job status only moves forward …": HISTORY-level theorems, i.e. invariants over every state
reachable in the transition system of `Proofs/JobCtlSys.lean` (one Job; controller passes with any
fault pattern, informer lag per resource, resync, restart, clock, kubelet under the kubelet
contract, external pod deletion, user kill / delete, foreign pods).

`Reach ok j0 s`: `s` is reachable from the creation of the well-formed Job `j0` (`WF`: no task
recorded yet, not being deleted) by allowed actions satisfying the filter `ok`.  Theorems stated for
an arbitrary `ok` allow EVERY action.  Envelopes: `E-API`, `E-ErrNotApplied` (+ the `applied-err`
fault), `E-SingleLeader` as built into the model; nothing else unless stated.
-/
import FurikoModel.Props.HistCommon

namespace Furiko.Props.C11Hist
open Furiko Furiko.JobCtl

/-- `rv_identifies_version`: in every reachable state, a Job version the controller holds in its
cache — or will receive by an undelivered watch event — whose resourceVersion equals the
authoritative object's IS that object.  (So a write that passes the optimistic-concurrency check was
computed from exactly the object it overwrites.)  All actions allowed. -/
theorem rv_identifies_version {ok : Sys → Action → Prop} {j0 : JobObj} {s : Sys} (hr : Reach ok j0 s)
    (j : JobObj) (hj : s.job = some j) (v : JobObj) (hv : v ∈ seenVers s) (hrv : v.rv = j.rv) : v = j :=
  (base_of_reach hr).rvId j hj v hv hrv

/-- … in particular for the cached version. -/
theorem rv_identifies_cached {ok : Sys → Action → Prop} {j0 : JobObj} {s : Sys} (hr : Reach ok j0 s)
    (j c : JobObj) (hj : s.job = some j) (hc : s.jobCache = some c) (hrv : c.rv = j.rv) : c = j :=
  rv_identifies_version hr j hj c (mem_seenVers_cache hc) hrv

example : ∃ j c, Ex.sA.job = some j ∧ Ex.sA.jobCache = some c ∧ c.rv = j.rv ∧ j.job.status.tasks ≠ [] :=
  ⟨Ex.jobOf Ex.sA, Ex.cachedOf Ex.sA, by decide +kernel⟩
/-- (a stale cached version exists in a reachable state: the hypothesis `c.rv = j.rv` matters) -/
example : ∃ j c, Ex.sB.job = some j ∧ Ex.sB.jobCache = some c ∧ c.rv ≠ j.rv :=
  ⟨Ex.jobOf Ex.sB, Ex.cachedOf Ex.sB, by decide +kernel⟩

/-- `startTime_stable`: once the authoritative Job has `status.startTime = some t` it keeps it for as
long as the object exists, along every continuation of the history: no action whatsoever changes it (the
controller's status writes copy it from the version they were computed from, which `rv_identifies_version`
shows is the one overwritten; user kill / delete and TTL deletion keep the status).  All actions allowed,
any fault pattern. -/
theorem startTime_stable {ok : Sys → Action → Prop} {j0 : JobObj} {s s' : Sys} (hr : Reach ok j0 s)
    (hs : Steps ok j0 s s') (j j' : JobObj) (hj : s.job = some j) (hj' : s'.job = some j') (t : Time)
    (ht : j.job.status.startTime = some t) : j'.job.status.startTime = some t := by
  have := steps_jobMoves_rel (fun x y => y.status.startTime = x.status.startTime) (fun _ => rfl)
    (fun _ _ _ h1 h2 => h2.trans h1) (fun _ _ _ h1 h2 => by rw [h2]; exact h1)
    (fun _ _ _ jo sp _ _ => (sync_spec sp jo sp (CreatePhase.refl _)).2.startTime) hr hs j j' hj hj'
  rw [this, ht]

example : ∃ j j', Ex.sA.job = some j ∧ Ex.sC.job = some j' ∧ Steps anyAction Ex.job Ex.sA Ex.sC ∧
    j.job.status.startTime = some 0 ∧ j.rv ≠ j'.rv :=
  ⟨Ex.jobOf Ex.sA, Ex.jobOf Ex.sC, and_insert_third Ex.sA_sC (by decide +kernel)⟩

/-! ### `timestamps_never_cleared`, `created_nondecreasing`

ALL actions are allowed: any fault pattern, informer lag, restart, clock, kubelet, external pod
deletion, user kill / delete — and foreign pods on any name: since the repair of F22 no lookup reads a
pod that is not controlled by the Job but took the name of a recorded task (`getTaskForRef` tests the
ownership, `C09Hist.foreign_never_read`).  Job: index hashes pairwise distinct and free of `-` (`WF2`,
cf. C14). -/

/-- `timestamps_never_cleared`: every ref of the authoritative status is still there in every later state
of the history, under the same name, and none of its creation / running / finish timestamps that was set
has been cleared (while the Job object exists). -/
theorem timestamps_never_cleared {ok : Sys → Action → Prop} {j0 : JobObj}
    {s s' : Sys} (hr : Reach ok j0 s) (hwf : WF2 j0 s.d) (hs : Steps ok j0 s s') (j j' : JobObj)
    (hj : s.job = some j) (hj' : s'.job = some j') :
    RefsKeep j.job.status.tasks j'.job.status.tasks :=
  steps_jobMoves_rel (fun x y => RefsKeep x.status.tasks y.status.tasks) (fun _ => RefsKeep.refl _)
    (fun _ _ _ h1 h2 => h1.trans h2) (fun _ _ _ h1 h2 => by rw [h2]; exact h1)
    (fun _ hs1 hr1 jo sp hc hf => (sync_good_of_reach hr1 (by rw [steps_d hs1]; exact hwf) jo sp hc hf).2.2)
    hr hs j j' hj hj'

example : ∃ j j', Ex.sA.job = some j ∧ Ex.sC.job = some j' ∧ Steps anyAction Ex.job Ex.sA Ex.sC ∧
    WF2 Ex.job Ex.sA.d ∧ (j.job.status.tasks.map (·.finishTimestamp) = [none]) ∧
    (j'.job.status.tasks.map (·.finishTimestamp) = [some 0]) :=
  ⟨Ex.jobOf Ex.sA, Ex.jobOf Ex.sC, and_insert_third Ex.sA_sC (by decide +kernel)⟩

/-- `created_nondecreasing`: `status.createdTasks` of the authoritative Job never decreases along a history
(while the object exists). -/
theorem created_nondecreasing {ok : Sys → Action → Prop} {j0 : JobObj}
    {s s' : Sys} (hr : Reach ok j0 s) (hwf : WF2 j0 s.d) (hs : Steps ok j0 s s') (j j' : JobObj)
    (hj : s.job = some j) (hj' : s'.job = some j') :
    j.job.status.createdTasks ≤ j'.job.status.createdTasks := by
  refine steps_jobMoves_rel (fun x y => x.status.createdTasks ≤ y.status.createdTasks) (fun _ => Int.le_refl _)
    (fun _ _ _ h1 h2 => Int.le_trans h1 h2) (fun _ _ _ h1 h2 => by rw [h2]; exact h1) ?_ hr hs j j' hj hj'
  intro s1 hs1 hr1 jo sp hc hf
  obtain ⟨hg, hgk⟩ := sync_good_of_reach hr1 (by rw [steps_d hs1]; exact hwf) jo sp hc hf
  have hsub := (sync_spec sp jo sp (CreatePhase.refl _)).2.names
  have hlen := hg.nodup.length_le_of_subset (fun n hn => hsub n hn)
  unfold refNames at hlen
  simp only [List.length_map] at hlen
  rw [hg.created, hgk.1.created]
  exact Int.ofNat_le.mpr hlen

example : ∃ j j', Ex.s0.job = some j ∧ Ex.sA.job = some j' ∧ j.job.status.createdTasks = 0 ∧
    j'.job.status.createdTasks = 1 :=
  ⟨Ex.jobOf Ex.s0, Ex.jobOf Ex.sA, by decide +kernel⟩

/-! ### `finished_stays_finished` / `result_and_finishTime_stable`

The clause: once the authoritative status condition is `finished` with result `r` and finish
time `f`, every later authoritative status of the (non-deleted, non-killed) Job is finished with the
same `r`, `f`.

What refutes it.
* F16 (tree before commit dd0515d): refuted with informer lag alone — a finished ref was refreshed
  from a STALE cached pod.  Repaired (`getTaskForRef` re-reads a finished ref's pod from the apiserver
  when the cached pod is not finished); replay: `f16_regression`.
* F17 (tree before commit 6ab84c2): refuted with a pod that vanishes while its events are undelivered
  — a ref recorded LOST was overwritten when the pod's old Succeeded event reached the cache.  Repaired
  (`GetTaskRef`: first terminal observation wins); replays: `f17_regression_result`,
  `f17_regression_finished`.
* CURRENT model: both clauses are still FALSE (witnesses below; filter `lagAndLoss`: controller passes,
  informer deliveries, kubelet progress, a pod object vanishing from the server, clock advance — no
  fault, no restart, no user kill / delete, no foreign pod).  Mechanism: the Job cache lags behind the
  authoritative Job, so a pass computes `ComputeMissingIndexesForCreation` from a status that does not
  yet list a task the server already records; if that task's pod has vanished meanwhile, the create
  succeeds a SECOND time under the same name.  Refs are keyed by name, so the pod cache's copy of the
  first incarnation (Succeeded) and the live second incarnation are taken for one task.
A restricted version (`*_partial`) is proved below for histories inside the envelope `stabEnvF`, whose
`E-NoStaleCopyOnCreate` excludes exactly the second create (pods may still vanish from the server). -/

/-- `finished_stays_finished_partial` / `result_and_finishTime_stable_partial`.
Histories inside the envelope `stabEnvF` (`Proofs/JobCtlInvStabInv.lean`):
* no foreign pod is created, the user neither sets a kill timestamp nor deletes the Job;
* `E-NoStaleCopyOnCreate`: whenever a controller pass starts that pops a key, while the Job object
  exists, no creation request computed from the CACHED Job (`ComputeMissingIndexesForCreation`; cached
  Job started, not being deleted, without kill timestamp / admission error) names a task that is absent
  from the server but still remembered — listed in the AUTHORITATIVE Job's `status.tasks`, present in the
  pod cache, or in an undelivered pod watch event.  This is what `checkNoStaleCopy` of
  `harness/eng/jobctl.go` evaluates at run time;
* `E-NoUnrecordedWhenFinished` (needed since the repair of F23, which makes a complete summary adopt
  the unrecorded tasks of the pod cache): whenever a controller pass starts on a cached Job that is
  recorded `Finished`, the pod cache holds no UNRECORDED task of the Job — no pod labelled with and
  controlled by the Job that the cached status does not name.  (A Job written `Finished` while a task
  whose recording status write failed was still invisible to the pod cache is un-finished when that
  pod reaches the cache; before the repair the task was never stopped instead.)  `checkEnvelope` of
  `harness/eng/jobctl.go` evaluates it at run time;
everything else is allowed: any fault pattern, informer lag, resync, restart, clock, kubelet (under the
kubelet contract), pods vanishing from the server, TTL deletion.
Job (`WF`, `WF3`, `WF2`): created without kill timestamp and admission error, with a template, not
finished; index hashes pairwise distinct and free of `-`.
Statement: if the authoritative status condition is `Finished` with result `r` and finish time `f`, then
in every later state of the history in which the Job object exists and is not being deleted, the
condition is `Finished` with the same `r` and `f`. -/
theorem finished_stays_finished_partial {ok : Sys → Action → Prop} (hok : ∀ s a, ok s a → stabEnvF s a)
    {j0 : JobObj} {s s' : Sys} (hr : Reach ok j0 s) (hwf : WF2 j0 s.d) (hwf3 : WF3 j0) (hs : Steps ok j0 s s')
    (j j' : JobObj) (hj : s.job = some j) (hj' : s'.job = some j') (hnd : j'.job.deletionTimestamp = none)
    (f : CondFinished) (hf : j.job.status.condition.finished = some f) :
    ∃ f', j'.job.status.condition.finished = some f' ∧ f'.result = f.result ∧
      f'.finishTimestamp = f.finishTimestamp := by
  obtain ⟨_, hk⟩ := stable_steps hok hr hwf hwf3 hs j j' hj hj' hnd
  have hkey : finKey j.job.status.condition = some (f.result, f.finishTimestamp) := by
    unfold finKey; rw [hf]; rfl
  obtain ⟨f', hf', he⟩ := finKey_some (hk _ hkey)
  simp only [Prod.mk.injEq] at he
  exact ⟨f', hf', he.1.symm, he.2.symm⟩

/-- the same, named after the second clause -/
theorem result_and_finishTime_stable_partial {ok : Sys → Action → Prop} (hok : ∀ s a, ok s a → stabEnvF s a)
    {j0 : JobObj} {s s' : Sys} (hr : Reach ok j0 s) (hwf : WF2 j0 s.d) (hwf3 : WF3 j0) (hs : Steps ok j0 s s')
    (j j' : JobObj) (hj : s.job = some j) (hj' : s'.job = some j') (hnd : j'.job.deletionTimestamp = none)
    (f f' : CondFinished) (hf : j.job.status.condition.finished = some f)
    (hf' : j'.job.status.condition.finished = some f') :
    f'.result = f.result ∧ f'.finishTimestamp = f.finishTimestamp := by
  obtain ⟨g, hg, h1, h2⟩ := finished_stays_finished_partial hok hr hwf hwf3 hs j j' hj hj' hnd f hf
  rw [hf'] at hg; cases hg
  exact ⟨h1, h2⟩

/-- the hypotheses are met by the F16 history (`stabCheckedF` is the decidable form of the envelope):
`Ex.sB` is reachable inside it with the Job Finished / Success, and `Ex.sC` is a later state -/
example : Reach stabCheckedF Ex.job Ex.sB ∧ Steps stabCheckedF Ex.job Ex.sB Ex.sC ∧ WF2 Ex.job Ex.sB.d ∧
    WF3 Ex.job ∧ (Ex.sB.job.bind (fun j => j.job.status.condition.finished)).map (·.result) = some .success :=
  ⟨Ex.sB_reach_stF, Ex.sB_sC_stF, by decide +kernel⟩

/-- … while the pass of the witness `stale_job_cache_recreate_witness` that creates `job-h-0` a second
time starts in a state that violates `E-NoStaleCopyOnCreate` (the name is still in the pod cache and in
the authoritative status) -/
example : noStaleCheck (runActs Ex.v1 ((Ex.runV2 Ex.v1).take 3)) = false := by decide +kernel

/-- F16 regression: the run that refuted `finished_stays_finished` before commit dd0515d now keeps the
Job Finished / Success (both for two attempts and for one). -/
theorem f16_regression :
    Reach lagOnly Ex.job Ex.sB ∧ Steps lagOnly Ex.job Ex.sB Ex.sC ∧
    (Ex.sB.job.bind (fun j => j.job.status.condition.finished)).map (·.result) = some .success ∧
    (Ex.sC.job.bind (fun j => j.job.status.condition.finished)).map (·.result) = some .success ∧
    Steps lagOnly Ex.job1 Ex.tB Ex.tC ∧
    (Ex.tB.job.bind (fun j => j.job.status.condition.finished)).map (·.result) = some .success ∧
    (Ex.tC.job.bind (fun j => j.job.status.condition.finished)).map (·.result) = some .success :=
  ⟨Ex.sB_reach_lag, Ex.sB_sC_lag, and_insert_third Ex.tB_tC_lag (by decide +kernel)⟩

/-- F17 regression (result): one index, one attempt; `job-h-0` succeeds and vanishes before any of its
events is delivered, is recorded lost (Job Finished / Failed); when its creation and Succeeded events
reach the cache the ref — and the Job's result and finish time — stay as recorded. -/
theorem f17_regression_result :
    Reach lagAndLoss Ex.job1 Ex.tL ∧ Steps lagAndLoss Ex.job1 Ex.tL Ex.tM ∧
    (Ex.tL.job.bind (fun j => j.job.status.condition.finished)).map (fun f => (f.result, f.finishTimestamp)) =
      some (.failed, some 0) ∧
    (Ex.tM.job.bind (fun j => j.job.status.condition.finished)).map (fun f => (f.result, f.finishTimestamp)) =
      some (.failed, some 0) :=
  ⟨Ex.tL_reach, Ex.tL_tM, by decide +kernel⟩

/-- F17 regression (finished): two indexes, two attempts, retry delay 10 s; the run that turned a
Finished / Failed Job unfinished before commit 6ab84c2 now leaves it Finished / Failed. -/
theorem f17_regression_finished :
    Reach lagAndLoss Ex.job2 Ex.u3 ∧ Steps lagAndLoss Ex.job2 Ex.u3 Ex.u4 ∧
    (Ex.u3.job.bind (fun j => j.job.status.condition.finished)).map (·.result) = some .failed ∧
    (Ex.u4.job.bind (fun j => j.job.status.condition.finished)).map (·.result) = some .failed :=
  ⟨Ex.u3_reach, Ex.u3_u4, Ex.u_history.2.2.2⟩

/-- witness (current model): the result of a finished, non-deleted, non-killed Job changes from
Success to Failed.  One index `h`, one attempt:
`deliverJob, work` (creates `job-h-0`, writes status v2; the Job cache keeps v1 = no refs)
`, deliverPod, kubelet job-h-0 ↦ Succeeded, deliverPod` (pod cache: Succeeded)
`, externalDelete job-h-0, work` (queued by the pod event; computed from the STALE cached v1: asks for
(h,0), the create succeeds again = second incarnation; the status write conflicts)
`, deliverJob` (v2: ref unfinished) `, work` (pod cache still holds the FIRST incarnation, Succeeded:
ref finished / Succeeded, Job Finished / Success — while the second incarnation is alive)
`, deliverPod, deliverPod` (delete of the first, creation of the second) `, deliverJob, work` (ref
finished, cached pod unfinished ⇒ live GET ⇒ unfinished task ⇒ `GetTaskRef` keeps the finish time but
takes Status Starting / `""` ⇒ index Failed ⇒ Job Finished / Failed). -/
theorem stale_job_cache_recreate_witness :
    ∃ (j0 : JobObj) (s s' : Sys), WF j0 ∧ WF2 j0 s.d ∧ Reach lagAndLoss j0 s ∧ Steps lagAndLoss j0 s s' ∧
      (s.job.bind (fun j => j.job.status.condition.finished)).map (·.result) = some .success ∧
      s'.job.map (fun j => (j.job.deletionTimestamp, j.job.killTimestamp,
        j.job.status.condition.finished.map (·.result))) = some (none, none, some .failed) :=
  ⟨Ex.job1, Ex.v2, Ex.v3, by decide +kernel, by decide +kernel, Ex.v2_reach, Ex.v2_v3, by decide +kernel⟩

/-- witness (current model): with two attempts the same run turns the Finished / Success Job
UNFINISHED (phase RetryBackoff). -/
theorem stale_job_cache_recreate_unfinished_witness :
    ∃ (j0 : JobObj) (s s' : Sys), WF j0 ∧ WF2 j0 s.d ∧ Reach lagAndLoss j0 s ∧ Steps lagAndLoss j0 s s' ∧
      (s.job.bind (fun j => j.job.status.condition.finished)).map (·.result) = some .success ∧
      s'.job.map (fun j => (j.job.deletionTimestamp, j.job.killTimestamp, j.job.status.condition.finished,
        j.job.status.phase)) = some (none, none, none, phaseRetryBackoff) :=
  ⟨Ex.job, Ex.w2, Ex.w3, by decide +kernel, by decide +kernel, Ex.w2_reach, Ex.w2_w3, by decide +kernel⟩

end Furiko.Props.C11Hist
