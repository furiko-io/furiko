/-
The API calls issued in a step of the transition system, and why (history level).

* only a controller pass (`work`) issues calls; every other action leaves the call log alone
  (`calls_only_in_work`); the pass resets the log, so `(step s .work).calls` is exactly what that pass
  issued (`work_calls`);
* the clock never goes backwards along `Steps` (`steps_clock_le`);
* `pod_delete_why` / `job_delete_why` / `create_why`: every pod delete, Job delete and pod create of a
  pass is justified against the state the pass STARTS in (its clock, configuration and cached Job) —
  the pass-level theorems of `Proofs/JobCtlPlanPass.lean` transported to `step`.
Core Lean only.
-/
import FurikoModel.Proofs.JobCtlInvBase
import FurikoModel.Proofs.JobCtlPlanPass

set_option linter.unusedSimpArgs false
set_option linter.unusedVariables false

namespace Furiko.JobCtl
open Furiko Furiko.WQ Furiko.JobCtlPlan

theorem podNotify_calls (s : Sys) (p : PodObj) : (podNotify s p).calls = s.calls := by
  unfold podNotify
  split
  · split <;> rfl
  · rfl

theorem foldl_podNotify_calls : ∀ (l : List PodObj) (a : Sys), (l.foldl podNotify a).calls = a.calls := by
  intro l
  induction l with
  | nil => intro a; rfl
  | cons p rest ih => intro a; exact (ih _).trans (podNotify_calls a p)

theorem calls_only_in_work (s : Sys) (a : Action) (h : a ≠ .work) : (step s a).calls = s.calls := by
  cases a with
  | work => exact absurd rfl h
  | setFaults fs => rfl
  | deliverJob =>
    show (deliverJob s).calls = s.calls
    unfold deliverJob
    split
    · rfl
    · rfl
    · split <;> rfl
  | deliverPod =>
    show (deliverPod s).calls = s.calls
    unfold deliverPod
    split
    · rfl
    · exact podNotify_calls _ _
    · split
      · rfl
      · exact podNotify_calls _ _
  | resync =>
    show (resync s).calls = s.calls
    unfold resync
    cases s.jobCache with
    | none => exact foldl_podNotify_calls _ _
    | some j => exact foldl_podNotify_calls _ _
  | restart =>
    show (restart s).calls = s.calls
    unfold restart
    cases s.job <;> rfl
  | advance d => rfl
  | kubelet p =>
    show (setPodState s p).calls = s.calls
    unfold setPodState
    split <;> rfl
  | podGone n =>
    show (removePod s n).calls = s.calls
    unfold removePod
    split <;> rfl
  | externalDelete n =>
    show (removePod s n).calls = s.calls
    unfold removePod
    split <;> rfl
  | kill t =>
    show (mutateJobObj s _).calls = s.calls
    unfold mutateJobObj
    split <;> rfl
  | userDelete =>
    show (userDeleteJob s).calls = s.calls
    unfold userDeleteJob
    split
    · rfl
    · split
      · split
        · rfl
        · unfold mutateJobObj
          split <;> rfl
      · rfl
  | createForeign p =>
    show (createForeignPod s p).calls = s.calls
    unfold createForeignPod
    split <;> rfl

/-- the state in which the `SyncOne` of a pass that popped a key runs: queue popped, call log empty -/
def passEntry (s : Sys) (q1 : WQ) : Sys := { s with q := q1, calls := [], delRun := none }

theorem work_calls (s : Sys) :
    ((s.q.advance s.clock).get = none ∧ (work s).1.calls = []) ∨
    ∃ k q1, (s.q.advance s.clock).get = some (k, q1) ∧
      (work s).1.calls = newCalls (passEntry s q1) (syncOne (passEntry s q1)).1 := by
  unfold work
  simp only
  cases hg : (s.q.advance s.clock).get with
  | none => exact Or.inl ⟨rfl, rfl⟩
  | some v =>
    obtain ⟨k, q1⟩ := v
    refine Or.inr ⟨k, q1, rfl, ?_⟩
    simp only
    show (syncOne (passEntry s q1)).1.calls = _
    unfold newCalls passEntry
    simp

/-- every call of a step comes from `sync` on the cached Job, run in a state that shows the pass the
clock, configuration, default index and caches of `s` (`Static`), or is one of the two final Job writes -/
theorem step_call_origin (s : Sys) (c : Call) (hc : c ∈ (step s .work).calls) :
    ∃ sp jo, Static s sp ∧ s.jobCache = some jo ∧
      (SyncCallOrigin sp jo c ∨ (c.verb = "update" ∧ c.res = "jobs" ∧ c.name = jo.name)) := by
  change c ∈ (work s).1.calls at hc
  rcases work_calls s with ⟨_, h⟩ | ⟨k, q1, _, h⟩
  · rw [h] at hc; cases hc
  · rw [h] at hc
    obtain ⟨jo, hjo, ho⟩ := (syncOne_origin (passEntry s q1)).2 c hc
    exact ⟨passEntry s q1, jo, ⟨rfl, rfl, rfl, rfl, rfl⟩, hjo, ho⟩

theorem step_clock (s : Sys) (a : Action) : s.clock ≤ (step s a).clock := by
  rcases step_kind s a with rfl | hq | hch
  · exact Int.le_of_eq (work_static s).clock.symm
  · exact hq.clock
  · exact Int.le_of_eq hch.static.clock.symm

theorem steps_clock_le {ok : Sys → Action → Prop} {j0 : JobObj} {s s' : Sys} (hs : Steps ok j0 s s') :
    s.clock ≤ s'.clock := by
  induction hs with
  | refl => exact Int.le_refl _
  | step a _ _ _ ih => exact Int.le_trans ih (step_clock _ a)

theorem deletionTimestamp_none_of_not_deleted {rj : Job} (h : isDeleted rj = false) : rj.deletionTimestamp = none := by
  unfold isDeleted at h
  cases hd : rj.deletionTimestamp with
  | none => rfl
  | some x => rw [hd] at h; cases h

/-- `t` is the task of a pod of the pod cache or the server that is controlled by `jo` -/
def ReadFrom (s : Sys) (jo : JobObj) (t : Task) : Prop :=
  ∃ p, (p ∈ s.podCache ∨ p ∈ s.pods) ∧ p.ownerUid = some jo.uid ∧ podTask s.clock p = some t ∧ p.pod.name = t.name

/-- what `getTaskForRef_owned` and `getTaskForRefConfirmed_owned` conclude, as membership -/
theorem ReadFrom.of_find {s : Sys} {jo : JobObj} {ref : TaskRef} {t : Task}
    (h : ∃ p, (findPod s.podCache ref.name = some p ∨ findPod s.pods ref.name = some p) ∧ podTask s.clock p = some t ∧
      p.ownerUid = some jo.uid) : ReadFrom s jo t :=
  let ⟨p, hp, hpt, ho⟩ := h
  ⟨p, hp.imp (fun h => (findPod_some h).1) (fun h => (findPod_some h).1), ho, hpt, (podTask_ok hpt).2.symm⟩

theorem tasksForRefs_owned {s : Sys} {jo : JobObj} {refs : List TaskRef} {t : Task} (ht : t ∈ tasksForRefs s jo refs) :
    ReadFrom s jo t :=
  let ⟨_, _, hg⟩ := List.mem_filterMap.mp ht
  .of_find (getTaskForRef_owned hg)

theorem tasksForRefsConfirmed_owned {s : Sys} {jo : JobObj} {refs : List TaskRef} {t : Task}
    (ht : t ∈ tasksForRefsConfirmed s jo refs) : ReadFrom s jo t :=
  let ⟨_, _, hg⟩ := List.mem_filterMap.mp ht
  .of_find (getTaskForRefConfirmed_owned hg)

theorem finalizerTasks_owned {s : Sys} {jo : JobObj} {rj : Job} {t : Task} (ht : t ∈ finalizerTasks s jo rj) :
    ReadFrom s jo t := by
  rcases (mem_finalizerTasks s jo rj t).mp ht with h | ⟨p, hp, hpt, _, ho, _⟩
  · exact tasksForRefsConfirmed_owned h
  · exact ⟨p, Or.inl hp, ho, hpt, (podTask_ok hpt).2.symm⟩

/-- every task of the list after the creation step (read for a recorded ref, adopted from the pod cache, or
created) is the task of a pod owned by the Job -/
theorem syncCreateTasks_owned {s s1 : Sys} {jo : JobObj} {rj rj1 : Job} {tasks1 : List Task}
    (h : syncCreateTasks s jo rj (tasks0 s jo rj) = (s1, some (rj1, tasks1))) :
    ∀ t ∈ tasks1, ∃ p, podTask s.clock p = some t ∧ p.ownerUid = some jo.uid := by
  intro t ht
  rcases syncCreateTasks_members s jo rj _ s1 rj1 tasks1 h t ht with h0 | h1
  · obtain ⟨p, _, ho, hpt, _⟩ := tasksForRefs_owned h0
    exact ⟨p, hpt, ho⟩
  · exact h1

/-- the reason of a pod delete of a pass, against the clock / configuration `s` and the cached Job `jo`
the pass started with; `t` is the task the delete was issued for -/
inductive PodDeleteWhy (s : Sys) (jo : JobObj) (c : Call) (t : Task) : Prop
  /-- pending timeout `T > 0` reached for a task `t` that is not being deleted and that NEITHER the recorded
  ref NOR the live pod shows to have begun running (F32: the step judges a task by the ref recorded
  in the Job's status): `t'` is the task the pass read from the pod `p'` (controlled by the Job) under that
  name — its own ref, which also reads `LastTerminationState`, reports no running and no
  finish timestamp, and its `creation + T ≤ clock` — and the ref the cached Job records under that name, if
  any, shows neither timestamp -/
  | pendingTimeout (T : Int) (t' : Task) (p' : PodObj) : c.force = false → isStarted jo.job = true →
      jo.job.deletionTimestamp = none → getPendingTimeout jo.job s.cfg = some T → 0 < T →
      t.deletionTimestamp = none →
      t'.name = c.name → podTask s.clock p' = some t' → p'.ownerUid = some jo.uid →
      t'.ref.runningTimestamp = none → t'.ref.finishTimestamp = none →
      (t'.ref.creationTimestamp.getD zeroTime : Int) + T ≤ s.clock →
      (∀ e, lookupRef jo.job.status.tasks c.name = some e → e.runningTimestamp = none ∧ e.finishTimestamp = none) →
      PodDeleteWhy s jo c t
  /-- kill sweep: the cached Job's kill timestamp has passed -/
  | killPassed (k : Int) : c.force = false → isStarted jo.job = true → jo.job.deletionTimestamp = none →
      isTaskFinished t = false → t.deletionTimestamp = none →
      jo.job.killTimestamp = some k → k ≤ s.clock → PodDeleteWhy s jo c t
  /-- kill sweep: the completion strategy is decided against continuing, or the Job was refused
  (admission error), on a Job value `rj'` of the pass that has the cached Job's kill timestamp and template -/
  | decided (rj' : Job) : c.force = false → isStarted jo.job = true → jo.job.deletionTimestamp = none →
      isTaskFinished t = false → t.deletionTimestamp = none →
      rj'.killTimestamp = jo.job.killTimestamp → rj'.template = jo.job.template →
      (shouldKillJobForParallel rj' = true ∨ rj'.admissionError = true) → PodDeleteWhy s jo c t
  /-- force deletion: timeout `F > 0`, not forbidden by the Job, deletion timestamp `+ F` reached -/
  | forceDelete (dts : Int) : c.force = true → isStarted jo.job = true → jo.job.deletionTimestamp = none →
      0 < getForceDeleteTimeout s.cfg → forbidsForce jo.job = false →
      t.deletionTimestamp = some dts → dts + getForceDeleteTimeout s.cfg ≤ s.clock → PodDeleteWhy s jo c t
  /-- finalizer sweep: the cached Job is being deleted and carries the finalizer -/
  | finalizer : c.force = false → jo.job.deletionTimestamp.isSome = true → jo.finalizer = true →
      PodDeleteWhy s jo c t

/-- every pod delete issued in a step is for a task read from a pod controlled by the cached Job, and has
one of the five reasons of `PodDeleteWhy`, evaluated against the state the step starts in -/
theorem pod_delete_why (s : Sys) (c : Call) (hc : c ∈ (step s .work).calls) (hv : c.verb = "delete")
    (hres : c.res = "pods") :
    ∃ jo t p, s.jobCache = some jo ∧ t.name = c.name ∧ podTask s.clock p = some t ∧ p.ownerUid = some jo.uid ∧
      PodDeleteWhy s jo c t := by
  obtain ⟨sp, jo, hview, hjo, ho⟩ := step_call_origin s c hc
  refine ⟨jo, ?_⟩
  rcases ho with ho | ⟨hu, _, _⟩
  · cases ho with
    | tasks hst hdel hto =>
      have hnd := deletionTimestamp_none_of_not_deleted hdel
      obtain ⟨_, s1, rj1, tasks1, hcr, hle, t, ht, hn, hreason⟩ := taskOrigin_delete sp jo jo.job c hto hv
      have hown1 := syncCreateTasks_owned hcr
      obtain ⟨p, hpt, hpo⟩ := hown1 t ht
      rw [hview.clock] at hpt
      refine ⟨t, p, hjo, hn, hpt, hpo, ?_⟩
      cases hreason with
      | pendingTimeout T rj2 hf hT hpos hts hp hd hdt =>
        have hok1 : ∀ x ∈ tasks1, x.ref.name = x.name := by
          intro x hx
          obtain ⟨p, hpt, _⟩ := hown1 x hx
          exact (podTask_ok hpt).1
        obtain ⟨t', ht', hn', hr', hf', hc', hrec⟩ := pending_judged sp.clock rj1.status.tasks tasks1 rj2 t hok1 hts ht hp
        obtain ⟨p', hpt', hpo'⟩ := hown1 t' ht'
        rw [hview.clock] at hpt'
        unfold pendDeadline at hd
        rw [hc'] at hd
        refine .pendingTimeout T t' p' hf hst hnd (by rw [← hview.cfg]; exact hT) hpos hdt (hn'.trans hn) hpt' hpo' hr' hf'
          (by rw [← hview.clock]; exact hd) ?_
        -- the ref the CACHED Job records under that name
        intro e he
        rw [← hn] at he
        rcases syncCreateTasks_tasks sp jo jo.job _ s1 rj1 tasks1 hcr with h1 | h1
        · exact hrec e (by rw [h1]; exact he)
        · -- the creation step refreshed the refs itself, and the refreshed ref of that name was judged
          exact generateTaskRefs_pending_before hok1 ht (fun b hb => hrec b (by rw [h1]; exact hb)) e he
      | kill rj' hf hfin hdt hss hk =>
        have hkt : rj'.killTimestamp = jo.job.killTimestamp := hss.killTimestamp.trans hle.killTimestamp
        have htm : rj'.template = jo.job.template := hss.template.trans hle.template
        rcases (shouldKillJob_iff sp.clock rj').mp hk with ⟨k, hkk, hkle⟩ | h | h
        · exact .killPassed k hf hst hnd hfin hdt (by rw [← hkt]; exact hkk) (by rw [← hview.clock]; exact hkle)
        · exact .decided rj' hf hst hnd hfin hdt hkt htm (Or.inl h)
        · exact .decided rj' hf hst hnd hfin hdt hkt htm (Or.inr h)
      | forceDelete dts hft hpos hfb hdt hd =>
        exact .forceDelete dts hft hst hnd (by rw [← hview.cfg]; exact hpos) hfb hdt
          (by rw [← hview.cfg, ← hview.clock]; exact hd)
    | ttl s' rj' l _ _ h =>
      exfalso
      obtain ⟨l', e, _, _, hall⟩ := handleTTL_ext s' jo rj'
      rw [e.newCalls] at h
      rw [(hall c h).2.1] at hres; simp at hres
    | finalizer s' rj' l e hle h =>
      obtain ⟨l', e', hall, _⟩ := handleFinalizer_ext s' jo rj' jo.finalizer
      rw [e'.newCalls] at h
      obtain ⟨_, _, hf, hdts, hfz, t, ht, hn, _⟩ := hall c h
      obtain ⟨p, _, hpo, hpt, _⟩ := finalizerTasks_owned ht
      rw [e.clock, hview.clock] at hpt
      exact ⟨t, p, hjo, hn, hpt, hpo, .finalizer hf (by rw [← hle.deletionTimestamp]; exact hdts) hfz⟩
  · rw [hu] at hv; simp at hv

/-- every Job delete issued in a step is the TTL deletion: the cached Job is not being deleted, and the
Job value `rj'` the pass has just refreshed (same spec) is finished with `finish + effective TTL ≤ clock` -/
theorem job_delete_why (s : Sys) (c : Call) (hc : c ∈ (step s .work).calls) (hv : c.verb = "delete")
    (hres : c.res = "jobs") :
    ∃ jo rj' fin, s.jobCache = some jo ∧ c.name = jo.name ∧ jo.job.deletionTimestamp = none ∧
      SpecLe jo.job rj' ∧ rj'.status.condition.finished = some fin ∧
      fin.finishTimestamp.getD zeroTime + getTTLAfterFinished jo.job s.cfg ≤ s.clock := by
  obtain ⟨sp, jo, hview, hjo, ho⟩ := step_call_origin s c hc
  rcases ho with ho | ⟨hu, _, _⟩
  · cases ho with
    | tasks hst hdel hto =>
      exfalso
      have := (taskOrigin_verb sp jo jo.job c hto).1
      rw [hres] at this; simp at this
    | ttl s' rj' l e hle h =>
      obtain ⟨l', e', _, _, hall⟩ := handleTTL_ext s' jo rj'
      rw [e'.newCalls] at h
      obtain ⟨_, _, hn, hnd, fin, hfin, hexp⟩ := hall c h
      have hnd' : jo.job.deletionTimestamp = none :=
        hle.deletionTimestamp ▸ deletionTimestamp_none_of_not_deleted hnd
      have httl : getTTLAfterFinished rj' s'.cfg = getTTLAfterFinished jo.job s.cfg := by
        unfold getTTLAfterFinished
        rw [hle.ttl, e.cfg, hview.cfg]
      refine ⟨jo, rj', fin, hjo, hn, hnd', hle, hfin, ?_⟩
      rw [httl, e.clock, hview.clock] at hexp
      exact Int.not_lt.mp hexp
    | finalizer s' rj' l e hle h =>
      exfalso
      obtain ⟨l', e', hall, _⟩ := handleFinalizer_ext s' jo rj' jo.finalizer
      rw [e'.newCalls] at h
      rw [(hall c h).2.1] at hres; simp at hres
  · rw [hu] at hv; simp at hv

/-- every pod create issued in a step: the cached Job is started, not being deleted, carries no kill
timestamp and no admission error, and the call is for a due request of
`ComputeMissingIndexesForCreation` on the cached refs -/
theorem create_why (s : Sys) (c : Call) (hc : c ∈ (step s .work).calls) (hv : c.verb = "create") :
    ∃ jo, s.jobCache = some jo ∧ c.res = "pods" ∧ isStarted jo.job = true ∧ jo.job.deletionTimestamp = none ∧
      jo.job.killTimestamp = none ∧ jo.job.admissionError = false ∧
      ∃ reqs, computeMissingIndexesForCreation s.d jo.job (jo.job.indexes s.d) = some reqs ∧
        ∃ r ∈ reqs, c.name = taskName jo.name r.index.hash r.retryIndex ∧ reqDueNow s.clock r := by
  obtain ⟨sp, jo, hview, hjo, ho⟩ := step_call_origin s c hc
  rcases ho with ho | ⟨hu, _, _⟩
  · obtain ⟨hst, hdel, hto⟩ := syncOrigin_create sp jo c ho hv
    obtain ⟨hr, hcan, _, reqs, hreqs, r, hrm, hn, hdue⟩ := taskOrigin_create sp jo jo.job c hto hv
    have hnd := deletionTimestamp_none_of_not_deleted hdel
    have hk : jo.job.killTimestamp = none ∧ jo.job.admissionError = false := by
      unfold canCreateTask at hcan
      cases hk : jo.job.killTimestamp with
      | some k => simp [hk] at hcan
      | none =>
        cases ha : jo.job.admissionError with
        | true => simp [hk, ha] at hcan
        | false => exact ⟨rfl, rfl⟩
    refine ⟨jo, hjo, hr, hst, hnd, hk.1, hk.2, reqs, ?_, r, hrm, hn, ?_⟩
    · rw [← hview.d]; exact hreqs
    · rw [← hview.clock]; exact hdue
  · rw [hu] at hv; simp at hv

end Furiko.JobCtl
