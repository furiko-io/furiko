/-
Retry numbers are contiguous (ALL actions, foreign pods included; index hashes `WF2`): in every Job
version the refs of an index carry the retry numbers `0 .. k-1`, `k ≤ maxAttempts`, and for every pod
CONTROLLED BY the Job (server, pod cache, undelivered upsert) all lower retry numbers of its index are
recorded in the authoritative status.  Core Lean only.
-/
import FurikoModel.Proofs.JobCtlInvNames
import FurikoModel.Proofs.JobCtlInvGone

set_option linter.unusedSimpArgs false
set_option linter.unusedVariables false

namespace Furiko.JobCtl
open Furiko Furiko.WQ Furiko.StatusLemmas Furiko.ParallelLemmas

variable {j0 : JobObj} {s s' : Sys}

/-- attempt `(h, i)` is recorded -/
def HasAttempt (d : PIndex) (refs : List TaskRef) (h : String) (i : Int) : Prop :=
  ∃ r ∈ refs, r.hash d = h ∧ r.retryIndex = i

/-- retry numbers are within `0 .. maxAttempts-1` and downward closed per index hash -/
def Contig (j0 : JobObj) (d : PIndex) (refs : List TaskRef) : Prop :=
  ∀ r ∈ refs, 0 ≤ r.retryIndex ∧ r.retryIndex < j0.job.maxAttempts ∧
    ∀ i, 0 ≤ i → i < r.retryIndex → HasAttempt d refs (r.hash d) i

/-- all lower retry numbers of the pod's index are recorded in `refs` -/
def PodDown (d : PIndex) (refs : List TaskRef) (p : PodObj) : Prop :=
  ∀ idx retry, p.pod.parallelIndex = some idx → p.pod.retryIndex = some retry →
    ∀ i, 0 ≤ i → i < retry → HasAttempt d refs idx.hash i

theorem hasAttempt_mono {d : PIndex} (hwf : WF2 j0 d) {a b : List TaskRef}
    (ha : ∀ r ∈ a, RefOK j0 d r) (hb : ∀ r ∈ b, RefOK j0 d r)
    (hsub : ∀ n ∈ a.map (·.name), n ∈ b.map (·.name)) {h : String} {i : Int} (hx : HasAttempt d a h i) :
    HasAttempt d b h i := by
  obtain ⟨r, hr, hh, hi⟩ := hx
  obtain ⟨r', hr', hn⟩ := List.mem_map.mp (hsub _ (List.mem_map_of_mem hr))
  have := RefOK.same_name hwf (hb r' hr') (ha r hr) hn
  exact ⟨r', hr', this.1.trans hh, this.2.trans hi⟩

theorem attempts_below_next {d : PIndex} {refs : List TaskRef} (hc : Contig j0 d refs) (h : String)
    (i : Int) (h0 : 0 ≤ i) (hi : i < nextRetryIndex d refs h) : HasAttempt d refs h i := by
  rw [nextRetryIndex_eq_maxSucc] at hi
  unfold maxSucc at hi
  rcases foldl_maxSucc_attained ((tasksOfHash d refs h).map (·.retryIndex)) 0 with he | ⟨x, hx, he⟩
  · rw [he] at hi; omega
  · rw [he] at hi
    obtain ⟨r, hr, rfl⟩ := List.mem_map.mp hx
    have hr' := (mem_tasksOfHash d refs h r).mp hr
    by_cases hxi : i = r.retryIndex
    · exact ⟨r, hr'.1, hr'.2, hxi.symm⟩
    · have := (hc r hr'.1).2.2 i h0 (by omega)
      rw [hr'.2] at this; exact this

theorem sync_contig (sp : Sys) (jo : JobObj) (hwf : WF2 j0 sp.d) (hp : PodsGood j0 sp)
    (hjo : VerOK j0 jo) (hg : Good j0 sp.d jo.job) (hc : Contig j0 sp.d jo.job.status.tasks)
    (hdown : ∀ c ∈ sp.podCache, c.ownerUid = some j0.uid → PodDown sp.d jo.job.status.tasks c) :
    Contig j0 sp.d (sync sp jo).2.1.status.tasks := by
  have hgood := (sync_good sp jo hwf hp hjo hg).1
  have hnok := sync_allowedNames sp jo
  have hle := (sync_spec sp jo sp (CreatePhase.refl _)).2
  have mono : ∀ {h : String} {i : Int}, HasAttempt sp.d jo.job.status.tasks h i →
      HasAttempt sp.d (sync sp jo).2.1.status.tasks h i :=
    fun hx => hasAttempt_mono hwf hg.refs hgood.refs hle.names hx
  intro r hr
  have hrok := hgood.refs r hr
  obtain ⟨⟨idx, hidx, hpi, hname⟩, _⟩ := hgood.refs r hr
  have hhash : r.hash sp.d = idx.hash := by unfold TaskRef.hash TaskRef.index; rw [hpi]; rfl
  have hmem := hnok r.name (List.mem_map_of_mem hr)
  unfold allowedNames at hmem
  rcases List.mem_append.mp hmem with hmem | hmem
  · rcases List.mem_append.mp hmem with hold | hreq
    · -- a name recorded before
      obtain ⟨ex, hex, hn⟩ := List.mem_map.mp hold
      have hs := RefOK.same_name hwf (hg.refs ex hex) hrok hn
      obtain ⟨h1, h2, h3⟩ := hc ex hex
      rw [hs.2] at h1 h2 h3
      refine ⟨h1, h2, ?_⟩
      intro i h0 hi
      have := mono (h3 i h0 hi)
      rw [hs.1] at this; exact this
    · -- the name of a creation request
      replace hreq := (List.mem_filter.mp hreq).1
      unfold reqNamesOf at hreq
      cases hreqs : computeMissingIndexesForCreation sp.d jo.job (jo.job.indexes sp.d) with
      | none => rw [hreqs] at hreq; cases hreq
      | some reqs =>
        rw [hreqs] at hreq
        obtain ⟨q, hq, hqn⟩ := List.mem_map.mp hreq
        unfold computeMissingIndexesForCreation at hreqs
        split at hreqs
        · cases hreqs
        · cases hreqs
          obtain ⟨k, hk, _, hmax, hqe⟩ := (mem_missingFrom sp.d jo.job _ _ 0 q).mp hq
          have hqidx : q.index ∈ j0.job.indexes sp.d := by
            rw [← indexes_of_template hjo.template, hqe]; exact List.getElem_mem hk
          have hqr : q.retryIndex = nextRetryIndex sp.d jo.job.status.tasks q.index.hash := by rw [hqe]; rfl
          unfold reqName at hqn
          rw [hjo.name, hname] at hqn
          have hinj := taskName_inj (hwf.noDash _ hqidx) (hwf.noDash _ hidx) hqn
          have hret : r.retryIndex = nextRetryIndex sp.d jo.job.status.tasks idx.hash := by
            rw [← hinj.2, hqr, hinj.1]
          refine ⟨by rw [hret]; exact nextRetryIndex_nonneg _ _ _, ?_, ?_⟩
          · rw [hret, ← hinj.1, ← maxAttempts_of_template hjo.template]
            have : q.index = (jo.job.indexes sp.d)[k] := by rw [hqe]; rfl
            rw [this]; exact hmax
          · intro i h0 hi
            rw [hhash]
            exact mono (attempts_below_next hc idx.hash i h0 (by rw [← hret]; exact hi))
  · -- the name of a cached pod that is controlled by the Job
    obtain ⟨c, hcm, hco, hcn⟩ := ownedNames_mem hmem
    have hco' : c.ownerUid = some j0.uid := hjo.uid ▸ hco
    obtain ⟨⟨idx', retry', hi', h0', hmax', hcname, hcpi, hcri⟩, _⟩ := hp.cache c hcm hco'
    rw [hcname, hname] at hcn
    have hinj := taskName_inj (hwf.noDash _ hi') (hwf.noDash _ hidx) hcn
    refine ⟨by rw [← hinj.2]; exact h0', by rw [← hinj.2]; exact hmax', ?_⟩
    intro i h0 hi
    rw [hhash, ← hinj.1]
    exact mono (hdown c hcm hco' idx' retry' hcpi hcri i h0 (by rw [hinj.2]; exact hi))

structure Inv4 (j0 : JobObj) (s : Sys) : Prop where
  contig : ∀ v, (s.job = some v ∨ v ∈ seenVers s) → Contig j0 s.d v.job.status.tasks
  down : ∀ j, s.job = some j → ∀ p, (p ∈ s.pods ∨ p ∈ s.podCache ∨ PEv.upsert p ∈ s.podEvs) →
    p.ownerUid = some j0.uid → PodDown s.d j.job.status.tasks p
  le : ∀ v ∈ seenVers s, ∀ j, s.job = some j → ∀ n ∈ refNames v.job, n ∈ refNames j.job

theorem Inv4.quiet (h : Inv4 j0 s) (hq : Quiet s s') : Inv4 j0 s' := by
  refine ⟨?_, ?_, ?_⟩
  · intro v hv
    rw [hq.d]
    rcases hv with hv | hv
    · exact h.contig v (Or.inl (hq.job ▸ hv))
    · exact h.contig v ((hq.seen v hv).symm)
  · intro j hj p hp
    rw [hq.job] at hj; rw [hq.d]
    exact h.down j hj p (hq.anywhere p hp)
  · intro v hv j hj
    rw [hq.job] at hj
    rcases hq.seen v hv with h1 | h1
    · exact h.le v h1 j hj
    · cases h1.symm.trans hj
      exact fun n hn => hn

theorem Inv4.frame (h : Inv4 j0 s) (hf : Frame s s') : Inv4 j0 s' := h.quiet hf.quiet

/-- a new authoritative version whose names extend the current ones -/
theorem Inv4.jobWrite {cur nj : JobObj} (h : Inv4 j0 s) (h2 : Inv2 j0 s) (hwf : WF2 j0 s.d)
    (hw : JobWrite s s' nj) (hcur : s.job = some cur) (hgood : Good j0 s.d nj.job)
    (hcontig : Contig j0 s.d nj.job.status.tasks) (hnames : ∀ n ∈ refNames cur.job, n ∈ refNames nj.job) :
    Inv4 j0 s' := by
  have hseen := hw.seenVers
  have hd := hw.static.d
  refine ⟨?_, ?_, ?_⟩
  · intro v hv
    rw [hd]
    rcases hv with hv | hv
    · rw [hw.job] at hv; cases hv; exact hcontig
    · rw [hseen] at hv
      rcases List.mem_append.mp hv with hv | hv
      · exact h.contig v (Or.inr hv)
      · simp only [List.mem_singleton] at hv; subst hv; exact hcontig
  · intro j hj p hp
    rw [hw.job] at hj; cases hj
    rw [hw.pods, hw.static.podCache, hw.podEvs] at hp
    rw [hd]
    intro ho idx retry hpi hri i h0 hi
    exact hasAttempt_mono hwf (h2.job cur hcur).refs hgood.refs hnames (h.down cur hcur p hp ho idx retry hpi hri i h0 hi)
  · intro v hv j hj
    rw [hw.job] at hj; cases hj
    rw [hseen] at hv
    rcases List.mem_append.mp hv with h1 | h1
    · intro n hn; exact hnames n (h.le v h1 cur hcur n hn)
    · simp only [List.mem_singleton] at h1; subst h1; exact fun n hn => hn

/-- a pod change after which every pod object (server, pod cache, undelivered upsert) is one that was
there before, or has `PodDown` w.r.t. the authoritative status -/
theorem Inv4.podChange (h : Inv4 j0 s) (hst : Static s s') (hjob : s'.job = s.job)
    (hjevs : s'.jobEvs = s.jobEvs)
    (hpods : ∀ p, (p ∈ s'.pods ∨ p ∈ s'.podCache ∨ PEv.upsert p ∈ s'.podEvs) →
      (p ∈ s.pods ∨ p ∈ s.podCache ∨ PEv.upsert p ∈ s.podEvs) ∨
      ∀ j, s.job = some j → p.ownerUid = some j0.uid → PodDown s.d j.job.status.tasks p) : Inv4 j0 s' := by
  have hseen := seenVers_congr hst.jobCache hjevs
  refine ⟨?_, ?_, ?_⟩
  · intro v hv
    rw [hst.d]
    rcases hv with hv | hv
    · exact h.contig v (Or.inl (hjob ▸ hv))
    · exact h.contig v (Or.inr (hseen ▸ hv))
  · intro j hj p hp
    rw [hjob] at hj; rw [hst.d]
    rcases hpods p hp with h' | h'
    · exact h.down j hj p h'
    · exact h' j hj
  · intro v hv j hj; rw [hseen] at hv; rw [hjob] at hj; exact h.le v hv j hj

theorem PodDown.transfer {d : PIndex} {refs : List TaskRef} {p q : PodObj} (h : PodDown d refs p)
    (hi : q.pod.parallelIndex = p.pod.parallelIndex) (hr : q.pod.retryIndex = p.pod.retryIndex) : PodDown d refs q := by
  intro idx retry hpi hri
  exact h idx retry (hi ▸ hpi) (hr ▸ hri)

end Furiko.JobCtl
