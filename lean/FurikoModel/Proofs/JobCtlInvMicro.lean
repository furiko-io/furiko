/-
One controller pass (`work`) decomposed into micro-steps: bookkeeping that does not touch the API
objects (`Frame`), and the API calls it issues, each labelled with what is known about its
arguments.  That a pass is such a sequence is proved once (`JobCtlInvWalk`); every history invariant is
then shown to be preserved by each kind of micro-step.  Core Lean only.
-/
import FurikoModel.Proofs.JobCtlInvPure

set_option linter.unusedSimpArgs false
set_option linter.unusedVariables false

namespace Furiko.JobCtl
open Furiko Furiko.WQ

/-- the parts of the state a pass never changes -/
structure Static (s s' : Sys) : Prop where
  clock : s'.clock = s.clock
  cfg : s'.cfg = s.cfg
  d : s'.d = s.d
  jobCache : s'.jobCache = s.jobCache
  podCache : s'.podCache = s.podCache

/-- only queue / call log / fault oracle bookkeeping differs -/
structure Frame (s s' : Sys) : Prop extends Static s s' where
  job : s'.job = s.job
  pods : s'.pods = s.pods
  rv : s'.rv = s.rv
  jobEvs : s'.jobEvs = s.jobEvs
  podEvs : s'.podEvs = s.podEvs

theorem Static.refl (s : Sys) : Static s s := ⟨rfl, rfl, rfl, rfl, rfl⟩
theorem Static.trans {a b c : Sys} (h1 : Static a b) (h2 : Static b c) : Static a c :=
  ⟨h2.clock.trans h1.clock, h2.cfg.trans h1.cfg, h2.d.trans h1.d, h2.jobCache.trans h1.jobCache,
   h2.podCache.trans h1.podCache⟩
theorem Frame.refl (s : Sys) : Frame s s := ⟨Static.refl s, rfl, rfl, rfl, rfl, rfl⟩
theorem Frame.trans {a b c : Sys} (h1 : Frame a b) (h2 : Frame b c) : Frame a c :=
  ⟨h1.toStatic.trans h2.toStatic, h2.job.trans h1.job, h2.pods.trans h1.pods, h2.rv.trans h1.rv,
   h2.jobEvs.trans h1.jobEvs, h2.podEvs.trans h1.podEvs⟩

/-- `s` is a state of the creation phase of the pass that started in `sp`: so far the pass has only
created pods (none deleted, the Job object untouched, every new pod event is about a pod that exists) -/
structure CreatePhase (sp s : Sys) : Prop where
  sup : ∀ n ∈ podNames sp.pods, n ∈ podNames s.pods
  job : s.job = sp.job
  evs : ∀ n ∈ podEvNames s.podEvs, n ∈ podEvNames sp.podEvs ∨ n ∈ podNames s.pods

theorem CreatePhase.refl (s : Sys) : CreatePhase s s := ⟨fun _ h => h, rfl, fun _ h => Or.inl h⟩

/-- A pod create for `(idx, retry)` is only issued for a request computed by
`ComputeMissingIndexesForCreation` from the CACHED Job, which is started, not being deleted, and
allowed to create tasks. -/
def CreateReq (d : PIndex) (jo : JobObj) (idx : PIndex) (retry : Int) : Prop :=
  isStarted jo.job = true ∧ isDeleted jo.job = false ∧ canCreateTask jo.job = true ∧
  ∃ reqs e, computeMissingIndexesForCreation d jo.job (jo.job.indexes d) = some reqs ∧
    ({ index := idx, retryIndex := retry, earliest := e } : CreationRequest) ∈ reqs

/-- one micro-step of a pass that works on the cached Job `jo` and started in state `sp`
(the Job value and finalizer flag it writes are the ones `sync sp jo` computed) -/
inductive Micro (jo : JobObj) (sp : Sys) : Sys → Sys → Prop
  | frame {s s' : Sys} : Frame s s' → Micro jo sp s s'
  | create (s : Sys) (idx : PIndex) (retry : Int) : CreateReq s.d jo idx retry →
      CreatePhase sp s →
      Micro jo sp s (apiCreatePod s jo idx retry).1
  | delPod (s : Sys) (name : String) (force : Bool) : Micro jo sp s (apiDeletePod s name force).1
  | delJob (s : Sys) : Micro jo sp s (apiDeleteJob s jo).1
  | updJob (s : Sys) (hs : s = (sync sp jo).1) :
      Micro jo sp s (apiUpdateJob s jo { jo with job := (sync sp jo).2.1, finalizer := (sync sp jo).2.2.1 }).1
  | updStatus (s : Sys) :
      Micro jo sp s (apiUpdateJobStatus s jo { jo with job := (sync sp jo).2.1 }).1
  /-- the status write of `UpdateJobAndStatus` after a metadata write that succeeded: it is submitted
  with the resourceVersion of the object `Update` returned -/
  | updStatusOn (s s1 : Sys) (hs1 : s1 = (sync sp jo).1)
      (hs : s = (apiUpdateJob s1 jo { jo with job := (sync sp jo).2.1, finalizer := (sync sp jo).2.2.1 }).1)
      (hok : (apiUpdateJob s1 jo { jo with job := (sync sp jo).2.1, finalizer := (sync sp jo).2.2.1 }).2 = true) :
      Micro jo sp s
        (apiUpdateJobStatus s { jo with rv := updatedRv s jo } { jo with job := (sync sp jo).2.1 }).1

inductive Micros (jo : JobObj) (sp : Sys) : Sys → Sys → Prop
  | refl (s : Sys) : Micros jo sp s s
  | tail {s s' s'' : Sys} : Micros jo sp s s' → Micro jo sp s' s'' → Micros jo sp s s''

theorem Micros.single {jo : JobObj} {sp s s' : Sys} (h : Micro jo sp s s') : Micros jo sp s s' := .tail (.refl s) h
theorem Micros.frame {jo : JobObj} {sp s s' : Sys} (h : Frame s s') : Micros jo sp s s' := .single (.frame h)
theorem Micros.trans {jo : JobObj} {sp a b c : Sys} (h1 : Micros jo sp a b) (h2 : Micros jo sp b c) :
    Micros jo sp a c := by
  induction h2 with
  | refl => exact h1
  | tail _ hm ih => exact .tail ih hm

theorem popFault_frame (s : Sys) : Frame s (popFault s).2 := by
  unfold popFault
  cases s.faults <;> exact ⟨⟨rfl, rfl, rfl, rfl, rfl⟩, rfl, rfl, rfl, rfl, rfl⟩

theorem delRun_frame (s : Sys) (x : Option String) : Frame s { s with delRun := x } :=
  ⟨⟨rfl, rfl, rfl, rfl, rfl⟩, rfl, rfl, rfl, rfl, rfl⟩

theorem nextFault_frame (s : Sys) : Frame s (nextFault s).2 :=
  (popFault_frame s).trans (delRun_frame _ _)

theorem log_frame (s : Sys) (c : Call) : Frame s (log s c) :=
  ⟨⟨rfl, rfl, rfl, rfl, rfl⟩, rfl, rfl, rfl, rfl, rfl⟩

theorem enqueueAfter_frame (s : Sys) (k : String) (t : Int) : Frame s (enqueueAfter s k t) :=
  ⟨⟨rfl, rfl, rfl, rfl, rfl⟩, rfl, rfl, rfl, rfl, rfl⟩

/-- the Job object is replaced by the new version `nj` (fresh resourceVersion, one watch event) -/
structure JobWrite (s s' : Sys) (nj : JobObj) : Prop where
  static : Static s s'
  pods : s'.pods = s.pods
  podEvs : s'.podEvs = s.podEvs
  rv : s'.rv = s.rv + 1
  nrv : nj.rv = s.rv + 1
  job : s'.job = some nj
  jobEvs : s'.jobEvs = s.jobEvs ++ [.upsert nj]

/-- the Job object is removed (one delete event) -/
structure JobGone (s s' : Sys) : Prop where
  static : Static s s'
  pods : s'.pods = s.pods
  podEvs : s'.podEvs = s.podEvs
  rv : s.rv ≤ s'.rv
  job : s'.job = none
  jobEvs : ∃ x, s'.jobEvs = s.jobEvs ++ [.delete x]

/-- a pod `p` with a fresh name is added -/
structure PodAdd (s s' : Sys) (p : PodObj) : Prop where
  static : Static s s'
  job : s'.job = s.job
  jobEvs : s'.jobEvs = s.jobEvs
  rv : s'.rv = s.rv + 1
  fresh : findPod s.pods p.pod.name = none
  pods : s'.pods = s.pods ++ [p]
  podEvs : s'.podEvs = s.podEvs ++ [.upsert p]

/-- the pod `old` is replaced by `p` (same name) -/
structure PodSet (s s' : Sys) (old p : PodObj) : Prop where
  static : Static s s'
  job : s'.job = s.job
  jobEvs : s'.jobEvs = s.jobEvs
  rv : s'.rv = s.rv + 1
  found : findPod s.pods p.pod.name = some old
  pods : s'.pods = setPod s.pods p
  podEvs : s'.podEvs = s.podEvs ++ [.upsert p]

structure PodDel (s s' : Sys) (p : PodObj) : Prop where
  static : Static s s'
  job : s'.job = s.job
  jobEvs : s'.jobEvs = s.jobEvs
  rv : s'.rv = s.rv
  found : findPod s.pods p.pod.name = some p
  pods : s'.pods = delPod s.pods p.pod.name
  podEvs : s'.podEvs = s.podEvs ++ [.delete p]

/-- a state whose static fields are (by computation) those of `s0` -/
theorem Static.of_eq {s s0 s' : Sys} (h : Static s s0) (h1 : s'.clock = s0.clock := by rfl)
    (h2 : s'.cfg = s0.cfg := by rfl) (h3 : s'.d = s0.d := by rfl) (h4 : s'.jobCache = s0.jobCache := by rfl)
    (h5 : s'.podCache = s0.podCache := by rfl) : Static s s' :=
  ⟨h1.trans h.clock, h2.trans h.cfg, h3.trans h.d, h4.trans h.jobCache, h5.trans h.podCache⟩

theorem nowT_frame {s s' : Sys} (h : Static s s') : nowT s' = nowT s := by
  unfold nowT nowSec; rw [h.clock]

theorem apiCreatePod_spec (s : Sys) (jo : JobObj) (idx : PIndex) (retry : Int) :
    (Frame s (apiCreatePod s jo idx retry).1 ∧ ∀ p, (apiCreatePod s jo idx retry).2 ≠ .ok p) ∨
    (PodAdd s (apiCreatePod s jo idx retry).1 (newPod jo idx retry (nowT s)) ∧
      ((apiCreatePod s jo idx retry).2 = .ok (newPod jo idx retry (nowT s)) ∨
       (apiCreatePod s jo idx retry).2 = .err)) := by
  obtain ⟨fs, out, res, ⟨_, hnok, _, he⟩ | ⟨rfl, hfree, hres, he⟩⟩ :=
    JobCtlPlan.apiCreatePod_cases s jo idx retry <;> rw [he]
  · exact Or.inl ⟨⟨⟨rfl, rfl, rfl, rfl, rfl⟩, rfl, rfl, rfl, rfl, rfl⟩, hnok⟩
  · exact Or.inr ⟨⟨⟨rfl, rfl, rfl, rfl, rfl⟩, rfl, rfl, rfl, hfree, rfl, rfl⟩, hres⟩

theorem apiDeletePod_eq (s : Sys) (name : String) (force : Bool) :
    apiDeletePod s name force =
      match s.delRun with
      | some f => JobCtlPlan.delBody f s name force
      | none => JobCtlPlan.delBody (popFault s).1 { (popFault s).2 with delRun := some (popFault s).1 } name force := by
  unfold apiDeletePod JobCtlPlan.delBody
  cases s.delRun <;> rfl

theorem JobCtlPlan.delBody_spec (s s0 : Sys) (hf : Frame s s0) (f : String) (name : String) (force : Bool) :
    Frame s (JobCtlPlan.delBody f s0 name force).1 ∨
    (∃ p, force = true ∧ PodDel s (JobCtlPlan.delBody f s0 name force).1 p ∧ p.pod.name = name) ∨
    (∃ p, force = false ∧ p.pod.deletionTimestamp = none ∧ p.pod.name = name ∧
      PodSet s (JobCtlPlan.delBody f s0 name force).1 p
        { p with pod := { p.pod with deletionTimestamp := some (nowT s) } }) := by
  unfold JobCtlPlan.delBody
  by_cases h1 : isFailFault f = true
  · rw [if_pos h1]; exact Or.inl (hf.trans (log_frame _ _))
  · rw [if_neg h1]
    cases hp : findPod s0.pods name with
    | none => simp only; exact Or.inl (hf.trans (log_frame _ _))
    | some p =>
      simp only
      have hps : findPod s.pods name = some p := by rw [← hf.pods]; exact hp
      have hn := (findPod_some hps).2
      by_cases hfo : force = true
      · rw [if_pos hfo]
        refine Or.inr (Or.inl ⟨p, hfo, ⟨hf.toStatic.of_eq, hf.job, hf.jobEvs, hf.rv, by rw [hn]; exact hps, ?_, ?_⟩, hn⟩)
        · show delPod s0.pods name = _; rw [hf.pods, hn]
        · show s0.podEvs ++ _ = _; rw [hf.podEvs]
      · rw [if_neg hfo]
        by_cases hd : p.pod.deletionTimestamp.isSome = true
        · rw [if_pos hd]; exact Or.inl (hf.trans (log_frame _ _))
        · rw [if_neg hd]
          refine Or.inr (Or.inr ⟨p, by simpa using hfo, by cases h : p.pod.deletionTimestamp <;> simp_all, hn,
            ⟨hf.toStatic.of_eq, hf.job, hf.jobEvs, ?_, by simpa [hn] using hps, ?_, ?_⟩⟩)
          · show s0.rv + 1 = _; rw [hf.rv]
          · show setPod s0.pods _ = _; rw [hf.pods]; simp only [log, nowT, nowSec, hf.clock]
          · show s0.podEvs ++ _ = _; rw [hf.podEvs]; simp only [log, nowT, nowSec, hf.clock]

theorem apiDeletePod_spec (s : Sys) (name : String) (force : Bool) :
    Frame s (apiDeletePod s name force).1 ∨
    (∃ p, force = true ∧ PodDel s (apiDeletePod s name force).1 p ∧ p.pod.name = name) ∨
    (∃ p, force = false ∧ p.pod.deletionTimestamp = none ∧ p.pod.name = name ∧
      PodSet s (apiDeletePod s name force).1 p
        { p with pod := { p.pod with deletionTimestamp := some (nowT s) } }) := by
  rw [apiDeletePod_eq]
  cases s.delRun with
  | some f => exact JobCtlPlan.delBody_spec s s (Frame.refl s) f name force
  | none =>
    simp only
    exact JobCtlPlan.delBody_spec s _ ((popFault_frame s).trans (delRun_frame _ _)) _ name force

theorem apiDeleteJob_spec (s : Sys) (jo : JobObj) :
    Frame s (apiDeleteJob s jo).1 ∨
    (∃ cur, s.job = some cur ∧ cur.finalizer = true ∧ cur.job.deletionTimestamp = none ∧
      JobWrite s (apiDeleteJob s jo).1
        { cur with job := { cur.job with deletionTimestamp := some (nowT s) }, rv := s.rv + 1 }) ∨
    (∃ cur, s.job = some cur ∧ cur.finalizer = false ∧ JobGone s (apiDeleteJob s jo).1) := by
  unfold apiDeleteJob
  have hf := nextFault_frame s
  generalize nextFault s = r at hf
  obtain ⟨f, s0⟩ := r
  simp only at hf ⊢
  by_cases h1 : isFailFault f = true
  · rw [if_pos h1]; exact Or.inl (hf.trans (log_frame _ _))
  · rw [if_neg h1]
    cases hj : s0.job with
    | none => simp only; exact Or.inl (hf.trans (log_frame _ _))
    | some cur =>
      simp only
      have hjs : s.job = some cur := by rw [← hf.job]; exact hj
      have hnow : nowT s0 = nowT s := nowT_frame hf.toStatic
      by_cases hfin : cur.finalizer = true
      · rw [if_pos hfin]
        by_cases hd : cur.job.deletionTimestamp.isSome = true
        · rw [if_pos hd]; exact Or.inl (hf.trans (log_frame _ _))
        · rw [if_neg hd]
          refine Or.inr (Or.inl ⟨cur, hjs, hfin, by cases h : cur.job.deletionTimestamp <;> simp_all,
            ⟨hf.toStatic.of_eq, hf.pods, hf.podEvs, ?_, rfl, ?_, ?_⟩⟩)
          · show s0.rv + 1 = _; rw [hf.rv]
          · show some _ = some _; simp only [log, nowT, nowSec, hf.clock, hf.rv]
          · show s0.jobEvs ++ _ = _; rw [hf.jobEvs]; simp only [log, nowT, nowSec, hf.clock, hf.rv]
      · rw [if_neg hfin]
        refine Or.inr (Or.inr ⟨cur, hjs, by simpa using hfin,
          ⟨hf.toStatic.of_eq, hf.pods, hf.podEvs, ?_, rfl, ?_⟩⟩)
        · show s.rv ≤ s0.rv; rw [hf.rv]; exact Nat.le_refl _
        · rw [← hf.jobEvs]; exact ⟨_, rfl⟩

/-- the version a Job `Update` writes over `cur` -/
def specWrite (cur : JobObj) (new : JobObj) (rv : Nat) : JobObj :=
  { cur with
    job := { new.job with status := cur.job.status, deletionTimestamp := cur.job.deletionTimestamp },
    finalizer := new.finalizer, rv := rv }

/-- the version a Job `UpdateStatus` writes over `cur` -/
def statusWrite (cur : JobObj) (new : JobObj) (rv : Nat) : JobObj :=
  { cur with job := { cur.job with status := new.job.status }, rv := rv }

/-- the object an `Update` of the pass produced is brought to the computed Job by the status write
that follows it: it carries the computed metadata and the status of the cached Job -/
theorem JobLe.of_specWrite {jo : JobObj} {newJob : Job} {fin : Bool} (h : JobLe jo.job newJob) (r : Nat) :
    JobLe (specWrite jo { jo with job := newJob, finalizer := fin } r).job newJob :=
  ⟨rfl, rfl, rfl, rfl, h.del, id, h.startTime, h.names⟩

theorem apiUpdateJob_spec (s : Sys) (cached new : JobObj) :
    Frame s (apiUpdateJob s cached new).1 ∨
    (∃ cur, s.job = some cur ∧ cur.rv = cached.rv ∧
      ((JobWrite s (apiUpdateJob s cached new).1 (specWrite cur new (s.rv + 1)) ∧
          ¬ ((specWrite cur new (s.rv + 1)).job.deletionTimestamp.isSome = true ∧
             (specWrite cur new (s.rv + 1)).finalizer = false)) ∨
       (JobGone s (apiUpdateJob s cached new).1 ∧ cur.job.deletionTimestamp.isSome = true ∧
          new.finalizer = false))) := by
  unfold apiUpdateJob
  have hf := nextFault_frame s
  generalize nextFault s = r at hf
  obtain ⟨f, s0⟩ := r
  simp only at hf ⊢
  by_cases h1 : isFailFault f = true
  · rw [if_pos h1]; exact Or.inl (hf.trans (log_frame _ _))
  · rw [if_neg h1]
    cases hj : s0.job with
    | none => simp only; exact Or.inl (hf.trans (log_frame _ _))
    | some cur =>
      simp only
      have hjs : s.job = some cur := by rw [← hf.job]; exact hj
      by_cases hrv : cur.rv ≠ cached.rv
      · rw [if_pos hrv]; exact Or.inl (hf.trans (log_frame _ _))
      · rw [if_neg hrv]
        have hrv' : cur.rv = cached.rv := by simpa using hrv
        split
        · exact Or.inl (hf.trans (log_frame _ _))
        · split
          · rename_i hgone
            simp only [Bool.and_eq_true, Bool.not_eq_true'] at hgone
            refine Or.inr ⟨cur, hjs, hrv', Or.inr ⟨⟨hf.toStatic.of_eq, hf.pods, hf.podEvs, ?_, rfl, ?_⟩, hgone.1, hgone.2⟩⟩
            · show s.rv ≤ s0.rv + 1; rw [hf.rv]; exact Nat.le_succ _
            · rw [← hf.jobEvs]; exact ⟨_, rfl⟩
          · rename_i hgone
            refine Or.inr ⟨cur, hjs, hrv', Or.inl ⟨⟨hf.toStatic.of_eq, hf.pods, hf.podEvs, ?_, rfl, ?_, ?_⟩, ?_⟩⟩
            · show s0.rv + 1 = _; rw [hf.rv]
            · show some _ = some _; simp only [log, hf.rv, specWrite]
            · show s0.jobEvs ++ _ = _; rw [hf.jobEvs]; simp only [log, hf.rv, specWrite]
            · simpa [specWrite, log] using hgone

theorem apiUpdateJobStatus_spec (s : Sys) (cached new : JobObj) :
    Frame s (apiUpdateJobStatus s cached new).1 ∨
    (∃ cur, s.job = some cur ∧ cur.rv = cached.rv ∧
      JobWrite s (apiUpdateJobStatus s cached new).1 (statusWrite cur new (s.rv + 1))) := by
  unfold apiUpdateJobStatus
  have hf := nextFault_frame s
  generalize nextFault s = r at hf
  obtain ⟨f, s0⟩ := r
  simp only at hf ⊢
  by_cases h1 : isFailFault f = true
  · rw [if_pos h1]; exact Or.inl (hf.trans (log_frame _ _))
  · rw [if_neg h1]
    cases hj : s0.job with
    | none => simp only; exact Or.inl (hf.trans (log_frame _ _))
    | some cur =>
      simp only
      have hjs : s.job = some cur := by rw [← hf.job]; exact hj
      by_cases hrv : cur.rv ≠ cached.rv
      · rw [if_pos hrv]; exact Or.inl (hf.trans (log_frame _ _))
      · rw [if_neg hrv]
        have hrv' : cur.rv = cached.rv := by simpa using hrv
        split
        · exact Or.inl (hf.trans (log_frame _ _))
        · refine Or.inr ⟨cur, hjs, hrv', ⟨hf.toStatic.of_eq, hf.pods, hf.podEvs, ?_, rfl, ?_, ?_⟩⟩
          · show s0.rv + 1 = _; rw [hf.rv]
          · show some _ = some _; simp only [log, hf.rv, statusWrite]
          · show s0.jobEvs ++ _ = _; rw [hf.jobEvs]; simp only [log, hf.rv, statusWrite]

/-- the cached Job IS the stored one whenever their resourceVersions agree (in the state `s1` the
metadata write of the pass is issued in; follows from `Base.rvId`) -/
def CachedIsCur (jo : JobObj) (s1 : Sys) : Prop := ∀ c, s1.job = some c → c.rv = jo.rv → c = jo

/-- After a Job `Update` that returned without error (and the cached Job being the stored one if their
resourceVersions agree): the stored object, if it is still there, is the cached Job with the written
metadata, and the resourceVersion `Update` returned (`updatedRv`) is its own. -/
theorem apiUpdateJob_ok_cur {s1 : Sys} {jo new : JobObj} (hid : CachedIsCur jo s1)
    (hok : (apiUpdateJob s1 jo new).2 = true) :
    ∀ c, (apiUpdateJob s1 jo new).1.job = some c →
      c = specWrite jo new c.rv ∧ updatedRv (apiUpdateJob s1 jo new).1 jo = c.rv ∧ s1.job = some jo := by
  intro c hc
  have hu : updatedRv (apiUpdateJob s1 jo new).1 jo = c.rv := by unfold updatedRv; rw [hc]
  suffices h : c = specWrite jo new c.rv ∧ s1.job = some jo from ⟨h.1, hu, h.2⟩
  clear hu
  revert hok hc
  unfold apiUpdateJob
  have hf := nextFault_frame s1
  generalize nextFault s1 = r at hf
  obtain ⟨f, s0⟩ := r
  simp only at hf ⊢
  by_cases h1 : isFailFault f = true
  · rw [if_pos h1]; intro hok; cases hok
  · rw [if_neg h1]
    cases hj : s0.job with
    | none => simp only; intro hok; cases hok
    | some cur =>
      simp only
      have hjs : s1.job = some cur := by rw [← hf.job]; exact hj
      by_cases hrv : cur.rv ≠ jo.rv
      · rw [if_pos hrv]; intro hok; cases hok
      · rw [if_neg hrv]
        have hrv' : cur.rv = jo.rv := by simpa using hrv
        have hcur : cur = jo := hid cur hjs hrv'
        subst hcur
        split
        · rename_i hnoop
          intro _ hc
          simp only [log] at hc
          rw [hj] at hc
          cases hc
          refine ⟨?_, hjs⟩
          simp only [specWrite]
          exact hnoop.symm
        · split
          · intro _ hc; simp only [log] at hc; cases hc
          · intro _ hc
            simp only [log, Option.some.injEq] at hc
            subst hc
            refine ⟨?_, hjs⟩
            simp only [specWrite]

theorem apiCreatePod_static (s : Sys) (jo : JobObj) (idx : PIndex) (retry : Int) :
    Static s (apiCreatePod s jo idx retry).1 := by
  rcases apiCreatePod_spec s jo idx retry with h | h
  · exact h.1.toStatic
  · exact h.1.static

theorem apiCreatePod_sup (s : Sys) (jo : JobObj) (idx : PIndex) (retry : Int) :
    ∀ n ∈ podNames s.pods, n ∈ podNames (apiCreatePod s jo idx retry).1.pods := by
  intro n hn
  rcases apiCreatePod_spec s jo idx retry with h | h
  · rw [h.1.pods]; exact hn
  · rw [h.1.pods]; unfold podNames; rw [List.map_append]; exact List.mem_append_left _ hn

theorem apiCreatePod_createPhase {sp s : Sys} (hcp : CreatePhase sp s) (jo : JobObj) (idx : PIndex) (retry : Int) :
    CreatePhase sp (apiCreatePod s jo idx retry).1 := by
  rcases apiCreatePod_spec s jo idx retry with h | h
  · exact ⟨by rw [h.1.pods]; exact hcp.sup, h.1.job.trans hcp.job, by rw [h.1.podEvs, h.1.pods]; exact hcp.evs⟩
  · refine ⟨?_, h.1.job.trans hcp.job, ?_⟩
    · intro n hn
      rw [h.1.pods]; unfold podNames; rw [List.map_append]
      exact List.mem_append_left _ (hcp.sup n hn)
    · intro n hn
      rw [h.1.podEvs] at hn
      unfold podEvNames at hn
      rw [List.map_append] at hn
      rw [h.1.pods]
      rcases List.mem_append.mp hn with hn | hn
      · rcases hcp.evs n hn with h' | h'
        · exact Or.inl h'
        · right; unfold podNames; rw [List.map_append]; exact List.mem_append_left _ h'
      · simp only [List.map_cons, List.map_nil, List.mem_singleton] at hn
        right; unfold podNames; rw [List.map_append, hn]
        exact List.mem_append_right _ (by simp)

theorem JobWrite.toStatic {s s' : Sys} {nj : JobObj} (h : JobWrite s s' nj) : Static s s' := h.static

theorem Micro.static {jo : JobObj} {sp s s' : Sys} (h : Micro jo sp s s') : Static s s' := by
  cases h with
  | frame hf => exact hf.toStatic
  | create idx retry _ _ =>
    rcases apiCreatePod_spec s jo idx retry with h | h
    · exact h.1.toStatic
    · exact h.1.static
  | delPod name force =>
    rcases apiDeletePod_spec s name force with h | ⟨p, _, h, _⟩ | ⟨p, _, _, _, h⟩
    · exact h.toStatic
    · exact h.static
    · exact h.static
  | delJob =>
    rcases apiDeleteJob_spec s jo with h | ⟨c, _, _, _, h⟩ | ⟨c, _, _, h⟩
    · exact h.toStatic
    · exact h.static
    · exact h.static
  | updJob _ =>
    rcases apiUpdateJob_spec s jo { jo with job := (sync sp jo).2.1, finalizer := (sync sp jo).2.2.1 } with
      h | ⟨c, _, _, h | h⟩
    · exact h.toStatic
    · exact h.1.static
    · exact h.1.static
  | updStatus =>
    rcases apiUpdateJobStatus_spec s jo { jo with job := (sync sp jo).2.1 } with h | ⟨c, _, _, h⟩
    · exact h.toStatic
    · exact h.static
  | updStatusOn s1 _ _ _ =>
    rcases apiUpdateJobStatus_spec s { jo with rv := updatedRv s jo } { jo with job := (sync sp jo).2.1 } with
      h | ⟨c, _, _, h⟩
    · exact h.toStatic
    · exact h.static

theorem Micros.static {jo : JobObj} {sp s s' : Sys} (h : Micros jo sp s s') : Static s s' := by
  induction h with
  | refl => exact Static.refl _
  | tail _ hm ih => exact ih.trans hm.static

end Furiko.JobCtl
