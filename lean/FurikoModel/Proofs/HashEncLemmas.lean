import FurikoModel.Model.HashEnc
/-! helper lemmas about `Model/HashEnc.lean` (core Lean only) -/
namespace Furiko.HashEnc

def Digit (b : Nat) : Prop := 48 ≤ b ∧ b ≤ 57

theorem decBytesAux_range (fuel n : Nat) (acc : List Nat) (h : ∀ b ∈ acc, Digit b) :
    ∀ b ∈ decBytesAux fuel n acc, Digit b := by
  induction fuel generalizing n acc with
  | zero => simpa [decBytesAux] using h
  | succ f ih =>
    unfold decBytesAux
    split
    · intro b hb
      rcases List.mem_cons.1 hb with rfl | hb
      · unfold Digit; omega
      · exact h b hb
    · apply ih
      intro b hb
      rcases List.mem_cons.1 hb with rfl | hb
      · unfold Digit; omega
      · exact h b hb

theorem decBytesAux_length_le (fuel n : Nat) (acc : List Nat) :
    acc.length ≤ (decBytesAux fuel n acc).length := by
  induction fuel generalizing n acc with
  | zero => simp [decBytesAux]
  | succ f ih =>
    unfold decBytesAux
    split
    · simp
    · exact Nat.le_trans (by simp) (ih _ _)

theorem decBytesAux_length_succ (fuel n : Nat) (acc : List Nat) :
    acc.length + 1 ≤ (decBytesAux (fuel + 1) n acc).length := by
  unfold decBytesAux
  split
  · simp
  · exact Nat.le_trans (by simp) (decBytesAux_length_le _ _ _)

theorem decBytes_range (u : Nat) : ∀ b ∈ decBytes u, Digit b :=
  decBytesAux_range _ _ _ (by simp)

theorem decBytes_ne_nil (u : Nat) : decBytes u ≠ [] := by
  intro h
  have := decBytesAux_length_succ u u []
  unfold decBytes at h
  rw [h] at this
  simp at this

theorem b32Char_mem_cons (v : Nat) : b32Char v ∈ '?' :: b32Alphabet := by
  unfold b32Char
  rw [List.getD_eq_getElem?_getD]
  cases h : b32Alphabet[v]? with
  | none => exact List.mem_cons_self
  | some c => exact List.mem_cons_of_mem _ (List.mem_of_getElem? h)

theorem b32Char_mem (v : Nat) (h : v < 32) : b32Char v ∈ b32Alphabet := by
  unfold b32Char
  have h : v < b32Alphabet.length := (by decide +kernel : b32Alphabet.length = 32) ▸ h
  rw [List.getD_eq_getElem?_getD, List.getElem?_eq_getElem h]
  exact List.getElem_mem h

theorem b32Char_ne_dash (v : Nat) : b32Char v ≠ '-' := fun e =>
  absurd (e ▸ b32Char_mem_cons v) (by decide +kernel)

theorem b32First6_length (bs : List Nat) (h : bs ≠ []) : (b32First6 bs).length = 6 := by
  rcases bs with _ | ⟨a, _ | ⟨b, _ | ⟨c, _ | ⟨d, t⟩⟩⟩⟩ <;> simp_all [b32First6]

theorem b32First6_take4 (bs : List Nat) : b32First6 bs = b32First6 (bs.take 4) := by
  rcases bs with _ | ⟨a, _ | ⟨b, _ | ⟨c, _ | ⟨d, t⟩⟩⟩⟩ <;> simp [b32First6]

/-- every character is a `b32Char` or the padding, whatever the bytes are -/
theorem b32First6_nodash (bs : List Nat) : '-' ∉ b32First6 bs := by
  have h (v : Nat) : ¬'-' = b32Char v := fun e => b32Char_ne_dash v e.symm
  rcases bs with _ | ⟨a, _ | ⟨b, _ | ⟨c, _ | ⟨d, t⟩⟩⟩⟩ <;> simp [b32First6, h]

theorem b32First6_alphabet (bs : List Nat) (h : ∀ b ∈ bs, b < 256) (hl : 4 ≤ bs.length) :
    ∀ c ∈ b32First6 bs, c ∈ b32Alphabet := by
  rcases bs with _ | ⟨a, _ | ⟨b, _ | ⟨c, _ | ⟨d, t⟩⟩⟩⟩ <;> simp at hl
  have ha := h a (by simp); have hb := h b (by simp); have hc := h c (by simp); have hd := h d (by simp)
  intro x hx
  simp only [b32First6, List.getD_cons_zero, List.getD_cons_succ, List.mem_cons, List.not_mem_nil, or_false] at hx
  rcases hx with rfl | rfl | rfl | rfl | rfl | rfl <;> exact b32Char_mem _ (by omega)

theorem b32First6_padding (bs : List Nat) (h0 : bs ≠ []) (h3 : bs.length ≤ 3) : '=' ∈ b32First6 bs := by
  rcases bs with _ | ⟨a, _ | ⟨b, _ | ⟨c, _ | ⟨d, t⟩⟩⟩⟩
  · contradiction
  · simp [b32First6]
  · simp [b32First6]
  · simp [b32First6]
  · simp at h3

/-- what the six characters can see of the decimal digits: all of them when there are at most three, the first
three and the fourth divided by four otherwise — numbered 0 … 4109 -/
def codeOf (bs : List Nat) : Nat :=
  match bs with
  | [] => 0
  | [a] => a - 48
  | [a, b] => 10 + (a - 48) * 10 + (b - 48)
  | [a, b, c] => 110 + (a - 48) * 100 + (b - 48) * 10 + (c - 48)
  | a :: b :: c :: d :: _ => 1110 + ((a - 48) * 100 + (b - 48) * 10 + (c - 48)) * 3 + (d / 4 - 12)

def code (u : Nat) : Nat := codeOf (decBytes u)

/-- the two places of a numeral in base `k` are determined by its value -/
theorem radix_inj {k x y x' y' : Nat} (hy : y < k) (hy' : y' < k) (e : x * k + y = x' * k + y') :
    x = x' ∧ y = y' := by
  have hk : 0 < k := Nat.zero_lt_of_lt hy
  have hd := congrArg (· / k) e
  have hm := congrArg (· % k) e
  simp only [Nat.mul_comm _ k, Nat.mul_add_div hk, Nat.mul_add_mod, Nat.div_eq_of_lt, Nat.mod_eq_of_lt, hy, hy',
    Nat.add_zero] at hd hm
  exact ⟨hd, hm⟩

theorem Digit.val_lt {b : Nat} (h : Digit b) : b - 48 < 10 := by unfold Digit at h; omega
theorem Digit.val_inj {a b : Nat} (ha : Digit a) (hb : Digit b) (e : a - 48 = b - 48) : a = b := by
  unfold Digit at ha hb; omega
theorem Digit.quarter_lt {b : Nat} (h : Digit b) : b / 4 - 12 < 3 := by unfold Digit at h; omega
theorem Digit.quarter_inj {a b : Nat} (ha : Digit a) (hb : Digit b) (e : a / 4 - 12 = b / 4 - 12) :
    a / 4 = b / 4 := by
  unfold Digit at ha hb; omega
theorem two_places_lt {x y : Nat} (hx : x < 10) (hy : y < 10) : x * 10 + y < 100 := by omega

/-- the codes of the four shapes `b32First6` distinguishes lie in consecutive intervals -/
theorem codeOf_range (bs : List Nat) (h : ∀ b ∈ bs, Digit b) :
    match bs with
    | [] => True
    | [_] => codeOf bs < 10
    | [_, _] => 10 ≤ codeOf bs ∧ codeOf bs < 110
    | [_, _, _] => 110 ≤ codeOf bs ∧ codeOf bs < 1110
    | _ => 1110 ≤ codeOf bs ∧ codeOf bs < 4110 := by
  rcases bs with _ | ⟨a, _ | ⟨b, _ | ⟨c, _ | ⟨d, t⟩⟩⟩⟩
  · trivial
  all_goals
    simp only [List.forall_mem_cons] at h
    have ha := h.1.val_lt
    try have hb := h.2.1.val_lt
    try have hc := h.2.2.1.val_lt
    try have hd := h.2.2.2.1.quarter_lt
    simp only [codeOf]
    omega

theorem b32First6_of_codeOf (xs ys : List Nat) (hx : ∀ b ∈ xs, Digit b) (hy : ∀ b ∈ ys, Digit b)
    (hxn : xs ≠ []) (hyn : ys ≠ []) (e : codeOf xs = codeOf ys) : b32First6 xs = b32First6 ys := by
  obtain ⟨a, xs, rfl⟩ := List.exists_cons_of_ne_nil hxn
  obtain ⟨a', ys, rfl⟩ := List.exists_cons_of_ne_nil hyn
  have rx := codeOf_range _ hx
  have ry := codeOf_range _ hy
  rcases xs with _ | ⟨b, _ | ⟨c, _ | ⟨d, t⟩⟩⟩ <;> rcases ys with _ | ⟨b', _ | ⟨c', _ | ⟨d', t'⟩⟩⟩ <;>
    simp only at rx ry
  -- different shapes have different codes
  all_goals try (exfalso; omega)
  all_goals simp only [codeOf, Nat.add_assoc, Nat.add_left_cancel_iff] at e
  all_goals simp only [List.forall_mem_cons] at hx hy
  · cases hx.1.val_inj hy.1 e
    rfl
  · obtain ⟨h1, h2⟩ := radix_inj hx.2.1.val_lt hy.2.1.val_lt e
    cases hx.1.val_inj hy.1 h1
    cases hx.2.1.val_inj hy.2.1 h2
    rfl
  · obtain ⟨h1, h2⟩ := radix_inj (two_places_lt hx.2.1.val_lt hx.2.2.1.val_lt)
      (two_places_lt hy.2.1.val_lt hy.2.2.1.val_lt) e
    obtain ⟨h2, h3⟩ := radix_inj hx.2.2.1.val_lt hy.2.2.1.val_lt h2
    cases hx.1.val_inj hy.1 h1
    cases hx.2.1.val_inj hy.2.1 h2
    cases hx.2.2.1.val_inj hy.2.2.1 h3
    rfl
  · obtain ⟨h0, hq⟩ := radix_inj hx.2.2.2.1.quarter_lt hy.2.2.2.1.quarter_lt e
    obtain ⟨h1, h2⟩ := radix_inj (two_places_lt hx.2.1.val_lt hx.2.2.1.val_lt)
      (two_places_lt hy.2.1.val_lt hy.2.2.1.val_lt) h0
    obtain ⟨h2, h3⟩ := radix_inj hx.2.2.1.val_lt hy.2.2.1.val_lt h2
    cases hx.1.val_inj hy.1 h1
    cases hx.2.1.val_inj hy.2.1 h2
    cases hx.2.2.1.val_inj hy.2.2.1 h3
    have hq := hx.2.2.2.1.quarter_inj hy.2.2.2.1 hq
    have h128 : d / 128 = d' / 128 := by omega
    simp only [b32First6, List.getD_cons_zero, List.getD_cons_succ, hq, h128]

theorem codeOf_lt (bs : List Nat) (h : ∀ b ∈ bs, Digit b) : codeOf bs < 4110 := by
  have := codeOf_range bs h
  split at this <;> first | omega | simp [codeOf]

theorem code_lt (u : Nat) : code u < 4110 := codeOf_lt _ (decBytes_range u)

theorem hashEnc_of_code (u v : Nat) (e : code u = code v) : hashEnc u = hashEnc v := by
  unfold hashEnc hashEncChars
  rw [b32First6_of_codeOf _ _ (decBytes_range u) (decBytes_range v) (decBytes_ne_nil u) (decBytes_ne_nil v) e]

theorem decBytesAux_length_ge4 (f n : Nat) (acc : List Nat) (h : 1000 ≤ n) :
    acc.length + 4 ≤ (decBytesAux (f + 4) n acc).length := by
  have h1 : ¬ n < 10 := by omega
  have h2 : ¬ n / 10 < 10 := by omega
  have h3 : ¬ n / 10 / 10 < 10 := by omega
  rw [show f + 4 = (f + 3) + 1 from rfl, decBytesAux, if_neg h1,
      show f + 3 = (f + 2) + 1 from rfl, decBytesAux, if_neg h2,
      show f + 2 = (f + 1) + 1 from rfl, decBytesAux, if_neg h3]
  have := decBytesAux_length_succ f (n / 10 / 10 / 10) ((48 + n / 10 / 10 % 10) :: (48 + n / 10 % 10) :: (48 + n % 10) :: acc)
  simp only [List.length_cons] at this
  omega

theorem decBytes_length_ge4 (u : Nat) (h : 1000 ≤ u) : 4 ≤ (decBytes u).length := by
  unfold decBytes
  have := decBytesAux_length_ge4 (u - 3) u [] h
  rw [show u - 3 + 4 = u + 1 by omega] at this
  simpa using this

theorem decBytes_length_le3 (u : Nat) (h : u < 1000) : (decBytes u).length ≤ 3 := by
  unfold decBytes
  by_cases h1 : u < 10
  · rw [decBytesAux, if_pos h1]; simp
  · obtain ⟨f, hf⟩ : ∃ f, u + 1 = f + 3 := ⟨u - 2, by omega⟩
    rw [hf, show f + 3 = (f + 2) + 1 from rfl, decBytesAux, if_neg h1]
    by_cases h2 : u / 10 < 10
    · rw [show f + 2 = (f + 1) + 1 from rfl, decBytesAux, if_pos h2]; simp
    · rw [show f + 2 = (f + 1) + 1 from rfl, decBytesAux, if_neg h2, decBytesAux, if_pos (by omega)]; simp

end Furiko.HashEnc
