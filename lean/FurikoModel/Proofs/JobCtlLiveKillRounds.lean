/-
Liveness of the job controller, kill: convergence.  With a cooperative kubelet (the round `roundK` of
`JobCtlLiveReapRound`) a Job whose kill timestamp has passed is `Finished`/`Killed` with every unfinished pod gone
within two rounds (`roundK_spec`, `kill_core`); with a dead kubelet (no pod ever terminates, `adv` nanoseconds pass
before each pass)

    roundD adv s  =  deliverAll ; advance adv ; work ; deliverAll

it is so within three, by force deletion (`roundD_mark`, `roundD_force`, `kill_core_dead`).  `kill_stage`: the user
setting the kill timestamp in a state of the fair rounds of a single-task Job leads to the invariant `KState`.
Also what the statements of `Props/C12Live.lean` are phrased with (`killRunEnv`, `deadRunEnv`, `KilledFinal`).
Core Lean only.
-/
import FurikoModel.Proofs.JobCtlLiveReapRound

set_option linter.unusedSimpArgs false
set_option linter.unusedVariables false

namespace Furiko.JobCtl.Live
open Furiko Furiko.JobCtl Furiko.WQ Furiko.StatusLemmas Furiko.JobCtlPlan

variable {ok : Sys → Action → Prop} {j0 jo jo' : JobObj} {kt : Time} {F0 : Int} {s w : Sys}

/-- **the invariant after a pass and the deliveries**: the pods the pass left are, up to `SamePod`, pods of `s` -/
theorem kstate_after (h : KState jo kt F0 s)
    (hw : KPass jo jo' kt F0 s w) (himg : ∀ p' ∈ w.pods, ∃ p ∈ s.pods, SamePod p' p) (hnd : (podNames w.pods).Nodup) :
    KState jo' kt F0 (deliverAll w) ∧ (deliverAll w).pods = w.pods ∧ (deliverAll w).clock = s.clock ∧
    (deliverAll w).cfg = s.cfg := by
  obtain ⟨hfr, d5, d6⟩ := fresh_deliverAll hw.job hw.jsync hw.psync hw.faults
  refine ⟨⟨hfr, hw.spec, by rw [d5.clock, hw.clock]; exact h.passed,
    (h.pods.of_image hw.name hw.uid himg hnd).of_pods_eq d5.pods, d6.wf hw.wf, h.lbKill, hw.lbRefs, ?_, ?_⟩, d5.pods,
    by rw [d5.clock, hw.clock], by rw [d5.cfg, hw.cfg]⟩
  · intro p hp f hf
    rw [d5.pods] at hp
    obtain ⟨p0, hp0, _, _, _, f4, _⟩ := himg p hp
    rw [f4] at hf
    exact h.lbPods p0 hp0 f hf
  · rw [d5.clock, hw.clock, d5.cfg, hw.cfg]
    have : getTTLAfterFinished jo'.job s.cfg = getTTLAfterFinished jo.job s.cfg := by
      unfold getTTLAfterFinished; rw [hw.ttl]
    rw [this]; exact h.ttl

theorem envK_kstate (h : KState jo kt F0 s) :
    KState jo kt F0 (envK s) ∧ (envK s).pods = s.pods.filter stays ∧ (∀ x ∈ s.q.queue, x ∈ (envK s).q.queue) ∧
    (envK s).clock = s.clock := by
  obtain ⟨hf, hpods, hmono, hwf, hclock, hcfg⟩ := envK_fresh h.fresh h.pods.nodup h.wf
  have hsub : ∀ p ∈ (envK s).pods, p ∈ s.pods := fun p hp => by
    rw [hpods] at hp; exact (List.mem_filter.mp hp).1
  exact ⟨⟨hf, h.spec, by rw [hclock]; exact h.passed,
    h.pods.of_sub hsub (by rw [hpods]; exact podNames_filter_nodup _ h.pods.nodup), hwf, h.lbKill, h.lbRefs,
    fun p hp => h.lbPods p (hsub p hp), by rw [hclock, hcfg]; exact h.ttl⟩, hpods, hmono, hclock⟩

theorem roundK_spec (h : KState jo kt F0 s) (hq : s.q.queue ≠ []) :
    ∃ jo', KState jo' kt F0 (roundK s) ∧ jo'.name = jo.name ∧ jo'.uid = jo.uid ∧ (roundK s).clock = s.clock ∧
      (∀ p' ∈ (roundK s).pods, ∃ p ∈ s.pods, p.pod.deletionTimestamp = none ∧ p'.pod.name = p.pod.name ∧
        p'.pod.isFinished = p.pod.isFinished ∧ (p.pod.isFinished = false → p'.pod.deletionTimestamp.isSome = true)) ∧
      ((∃ p ∈ s.pods, p.pod.deletionTimestamp = none ∧ p.pod.isFinished = false) → (roundK s).q.queue ≠ []) ∧
      ((∀ p ∈ s.pods, p.pod.deletionTimestamp = none → p.pod.isFinished = true) →
        (∃ f, jo'.job.status.condition.finished = some f ∧ f.result = .killed) ∧
        ∀ p ∈ (roundK s).pods, p.pod.isFinished = true) := by
  obtain ⟨h1, hpods1, hqmono, hclock1⟩ := envK_kstate h
  obtain ⟨hsub, hq1⟩ := envK_rest hpods1 hqmono hq
  obtain ⟨k, rest, hqk⟩ := advance_ready h1.wf hq1 (envK s).clock
  obtain ⟨jo', N, hw, hpodsw, hN, hevs⟩ := work_kill h1 (fun p hp => (hsub p hp).2) k rest hqk
  have hround : roundK s = deliverAll (work (envK s)).1 := rfl
  obtain ⟨hks, hpodsR, hclockR, _⟩ := kstate_after h1 hw (by rw [hpodsw]; exact markDts_image _ _ _)
    (by rw [hpodsw, podNames_markDts]; exact h1.pods.nodup)
  rw [hpodsw] at hpodsR
  rw [hround]
  have hmk := fun p hp => markDts_of_unfinished (nowT (envK s)) h1.pods.nodup hN (p := p) hp
  refine ⟨jo', hks, hw.name, hw.uid, hclockR.trans hclock1, ?_, ?_, ?_⟩
  · intro p' hp'
    rw [hpodsR] at hp'
    obtain ⟨p0, hp0, rfl⟩ := List.mem_map.mp hp'
    exact ⟨p0, (hsub p0 hp0).1, (hsub p0 hp0).2, markDts_name _ N p0, markDts_isFinished _ N p0, fun hf => by rw [(hmk p0 hp0).2 hf (hsub p0 hp0).2]; rfl⟩
  · rintro ⟨p, hp, hdn, hfn⟩
    have hp1 : p ∈ (envK s).pods := by
      rw [hpods1]; exact List.mem_filter.mpr ⟨hp, by unfold stays; rw [hdn]; rfl⟩
    refine marked_ready h1.pods hw.job hw.name hw.uid hw.jsync hw.psync hw.wf hw.podCache hpodsw hevs hp1 (fun e => ?_)
    have := (hmk p hp1).2 hfn hdn
    rw [e, hdn] at this; cases this
  · intro hall
    have hall1 : ∀ p ∈ (envK s).pods, p.pod.isFinished = true := fun p hp => hall p (hsub p hp).1 (hsub p hp).2
    refine ⟨hw.killed hall1, fun p hp => ?_⟩
    rw [hpodsR] at hp
    obtain ⟨p0, hp0, rfl⟩ := List.mem_map.mp hp
    rw [(hmk p0 hp0).1 (hall1 p0 hp0)]; exact hall1 p0 hp0

/-- the Job is `Finished` with result `Killed`, every pod left on the server is finished: what the kill rounds
reach, said of the Job `jo` of a `KState jo … s` (for the form that speaks of the state alone see `KilledFinal`) -/
structure KDone (jo : JobObj) (s : Sys) : Prop where
  killed : ∃ f, jo.job.status.condition.finished = some f ∧ f.result = .killed
  podsFin : ∀ p ∈ s.pods, p.pod.isFinished = true

/-- **a kill converges within two rounds** -/
theorem kill_core (h : KState jo kt F0 s) (hq : s.q.queue ≠ []) :
    ∃ k, 1 ≤ k ∧ k ≤ 2 ∧ ∃ jo', KState jo' kt F0 (roundKN k s) ∧ jo'.name = jo.name ∧ jo'.uid = jo.uid ∧
      KDone jo' (roundKN k s) ∧ (roundKN k s).clock = s.clock ∧
      ∀ p' ∈ (roundKN k s).pods, ∃ p ∈ s.pods, p.pod.name = p'.pod.name ∧ p.pod.isFinished = true ∧
        p.pod.deletionTimestamp = none := by
  obtain ⟨jo1, h1, hn1, hu1, hc1, hp1, hq1, hfin1⟩ := roundK_spec h hq
  by_cases hA : ∃ p ∈ s.pods, p.pod.deletionTimestamp = none ∧ p.pod.isFinished = false
  · -- round 1 marks the unfinished pods, round 2 finds them gone
    obtain ⟨jo2, h2, hn2, hu2, hc2, hp2, _, hfin2⟩ := roundK_spec h1 (hq1 hA)
    obtain ⟨hk2, hpf2⟩ := hfin2 (fun p' hp' hd' => by
      obtain ⟨p, _, _, _, hf, hm⟩ := hp1 p' hp'
      cases hfp : p.pod.isFinished with
      | true => rw [hf, hfp]
      | false =>
        have := hm hfp
        rw [hd'] at this; cases this)
    refine ⟨2, by omega, Nat.le_refl _, jo2, h2, hn2.trans hn1, hu2.trans hu1, ⟨hk2, hpf2⟩, hc2.trans hc1, ?_⟩
    intro p'' hp''
    obtain ⟨p', hp', hd', hn', hf', _⟩ := hp2 p'' hp''
    obtain ⟨p, hp, hd, hn, hf, _⟩ := hp1 p' hp'
    exact ⟨p, hp, (hn'.trans hn).symm, by rw [← hf, ← hf']; exact hpf2 p'' hp'', hd⟩
  · obtain ⟨hk1, hpf1⟩ := hfin1 (fun p hp hd => by
      cases hfp : p.pod.isFinished with
      | true => rfl
      | false => exact absurd ⟨p, hp, hd, hfp⟩ hA)
    refine ⟨1, Nat.le_refl _, by omega, jo1, h1, hn1, hu1, ⟨hk1, hpf1⟩, hc1, ?_⟩
    intro p' hp'
    obtain ⟨p, hp, hd, hn, hf, _⟩ := hp1 p' hp'
    exact ⟨p, hp, hn.symm, by rw [← hf]; exact hpf1 p' hp', hd⟩

/-- a final state stays final under a further round that runs a pass -/
theorem kill_final_stable {jo : JobObj} {kt : Time} {F0 : Int} {s : Sys} (h : KState jo kt F0 s) (hd : KDone jo s)
    (hq : s.q.queue ≠ []) : ∃ jo', KState jo' kt F0 (roundK s) ∧ jo'.name = jo.name ∧ KDone jo' (roundK s) := by
  obtain ⟨jo1, h1, hn1, _, _, _, _, hfin1⟩ := roundK_spec h hq
  obtain ⟨hk1, hpf1⟩ := hfin1 (fun p hp _ => hd.podsFin p hp)
  exact ⟨jo1, h1, hn1, hk1, hpf1⟩

/-- time passes: the invariant is kept as long as the TTL has not elapsed -/
theorem adv_stage (h : KState jo kt F0 s) (adv : Nat)
    (httl : s.clock + adv < F0 + getTTLAfterFinished jo.job s.cfg) :
    KState jo kt F0 (step s (.advance adv)) :=
  ⟨⟨h.fresh.jobCache, h.fresh.job, h.fresh.podCache, h.fresh.jobEvs, h.fresh.podEvs, h.fresh.faults⟩, h.spec,
   Int.le_trans h.passed (by show s.clock ≤ s.clock + (adv : Int); omega), ⟨h.pods.owned, h.pods.sane, h.pods.nodup⟩, h.wf,
   h.lbKill, h.lbRefs, h.lbPods, httl⟩

/-- the actions of a round with a dead kubelet: controller passes, informer deliveries, the clock -/
def deadEnv (_ : Sys) (a : Action) : Prop :=
  match a with
  | .work | .deliverJob | .deliverPod | .advance _ => True
  | _ => False

instance (s : Sys) (a : Action) : Decidable (deadEnv s a) := by cases a <;> unfold deadEnv <;> infer_instance

/-- one round with a dead kubelet; `adv` nanoseconds pass before the pass -/
def roundD (adv : Nat) (s : Sys) : Sys := deliverAll (step (step (deliverAll s) (.advance adv)) .work)

def roundDN (adv : Nat) : Nat → Sys → Sys
  | 0, s => s
  | n + 1, s => roundDN adv n (roundD adv s)

theorem roundD_steps (hok : ∀ s a, deadEnv s a → ok s a) (adv : Nat)
    (s0 s : Sys) (h : Steps ok j0 s0 s) : Steps ok j0 s0 (roundD adv s) := by
  have hj : ∀ s, ok s .deliverJob := fun s => hok s _ trivial
  have hp : ∀ s, ok s .deliverPod := fun s => hok s _ trivial
  unfold roundD
  refine deliverAll_steps hj hp s0 _ (.step .work ?_ (hok _ _ trivial) trivial)
  exact .step _ (deliverAll_steps hj hp s0 _ h) (hok _ _ trivial) trivial

theorem roundDN_steps (hok : ∀ s a, deadEnv s a → ok s a) (adv : Nat) :
    ∀ (n : Nat) (s0 s : Sys), Steps ok j0 s0 s → Steps ok j0 s0 (roundDN adv n s)
  | 0, _, _, h => h
  | n + 1, s0, s, h => roundDN_steps hok adv n s0 _ (roundD_steps hok adv s0 s h)

/-- **a round that marks** (no pod is being deleted yet): every unfinished pod gets the deletion timestamp and stays -/
theorem roundD_mark (h : KState jo kt F0 s) (hq : s.q.queue ≠ [])
    (hnodel : ∀ p ∈ s.pods, p.pod.deletionTimestamp = none) (adv : Nat)
    (httl : s.clock + adv < F0 + getTTLAfterFinished jo.job s.cfg) :
    ∃ jo', KState jo' kt F0 (roundD adv s) ∧ jo'.name = jo.name ∧ jo'.job.template = jo.job.template ∧
      jo'.job.ttlSecondsAfterFinished = jo.job.ttlSecondsAfterFinished ∧
      (roundD adv s).clock = s.clock + adv ∧ (roundD adv s).cfg = s.cfg ∧
      (∀ p' ∈ (roundD adv s).pods, ∃ p ∈ s.pods, p.pod.name = p'.pod.name ∧ p'.pod.isFinished = p.pod.isFinished ∧
        ((p.pod.isFinished = true ∧ p'.pod.deletionTimestamp = none) ∨
         (p.pod.isFinished = false ∧ ∃ D, p'.pod.deletionTimestamp = some D ∧ D ≤ s.clock + adv))) ∧
      ((∃ p ∈ s.pods, p.pod.isFinished = false) →
        (roundD adv s).q.queue ≠ [] ∧ ∃ p' ∈ (roundD adv s).pods, p'.pod.isFinished = false) ∧
      ((∀ p ∈ s.pods, p.pod.isFinished = true) →
        ∃ f, jo'.job.status.condition.finished = some f ∧ f.result = .killed) := by
  have hidle : deliverAll s = s := deliverAll_idle s h.fresh.jobEvs h.fresh.podEvs
  have h1 := adv_stage h adv httl
  obtain ⟨k, rest, hqk⟩ := advance_ready h1.wf hq (step s (.advance adv)).clock
  have hround : roundD adv s = deliverAll (work (step s (.advance adv))).1 := by unfold roundD; rw [hidle]; rfl
  obtain ⟨jo', N, hw, hpodsw, hN, hevs⟩ := work_kill h1 hnodel k rest hqk
  obtain ⟨hks, hpodsR, hclockR, hcfgR⟩ := kstate_after h1 hw (by rw [hpodsw]; exact markDts_image _ _ _)
    (by rw [hpodsw, podNames_markDts]; exact h.pods.nodup)
  rw [hpodsw] at hpodsR
  rw [hround]
  have hmk := fun p hp => markDts_of_unfinished (nowT (step s (.advance adv))) h1.pods.nodup hN (p := p) hp
  refine ⟨jo', hks, hw.name, hw.template, hw.ttl, hclockR, hcfgR, ?_, ?_, hw.killed⟩
  · intro p' hp'
    rw [hpodsR] at hp'
    obtain ⟨p0, hp0, rfl⟩ := List.mem_map.mp hp'
    refine ⟨p0, hp0, (markDts_name _ N p0).symm, markDts_isFinished _ N p0, ?_⟩
    cases hf : p0.pod.isFinished with
    | true => exact Or.inl ⟨rfl, by rw [(hmk p0 hp0).1 hf]; exact hnodel p0 hp0⟩
    | false => exact Or.inr ⟨rfl, _, (hmk p0 hp0).2 hf (hnodel p0 hp0), nowT_le_clock (step s (.advance adv))⟩
  · rintro ⟨p, hp, hfn⟩
    refine ⟨marked_ready h1.pods hw.job hw.name hw.uid hw.jsync hw.psync hw.wf hw.podCache hpodsw hevs hp (fun e => ?_),
      _, by rw [hpodsR]; exact List.mem_map_of_mem hp, by rw [markDts_isFinished]; exact hfn⟩
    have := (hmk p hp).2 hfn (hnodel p hp)
    rw [e, hnodel p hp] at this; cases this

/-- **a round that force-deletes**: the unfinished pods, all being deleted since before the round, are removed -/
theorem roundD_force (h : KState jo kt F0 s) (hq : s.q.queue ≠ [])
    (hF : 0 < getForceDeleteTimeout s.cfg)
    (hforb : (jo.job.template.map (·.forbidTaskForceDeletion)).getD false = false)
    (hpods : ∀ p ∈ s.pods, (p.pod.isFinished = true ∧ p.pod.deletionTimestamp = none) ∨
      (p.pod.isFinished = false ∧ ∃ D, p.pod.deletionTimestamp = some D ∧ D ≤ s.clock))
    (adv : Nat) (hadv : getForceDeleteTimeout s.cfg ≤ adv)
    (httl : s.clock + adv < F0 + getTTLAfterFinished jo.job s.cfg) :
    ∃ jo', KState jo' kt F0 (roundD adv s) ∧ jo'.name = jo.name ∧
      jo'.job.ttlSecondsAfterFinished = jo.job.ttlSecondsAfterFinished ∧
      (roundD adv s).clock = s.clock + adv ∧ (roundD adv s).cfg = s.cfg ∧
      (∀ p' ∈ (roundD adv s).pods, p' ∈ s.pods ∧ p'.pod.isFinished = true ∧ p'.pod.deletionTimestamp = none) ∧
      ((∃ p ∈ s.pods, p.pod.isFinished = false) → (roundD adv s).q.queue ≠ []) := by
  have hidle : deliverAll s = s := deliverAll_idle s h.fresh.jobEvs h.fresh.podEvs
  have h1 := adv_stage h adv httl
  obtain ⟨k, rest, hqk⟩ := advance_ready h1.wf hq (step s (.advance adv)).clock
  have hround : roundD adv s = deliverAll (work (step s (.advance adv))).1 := by unfold roundD; rw [hidle]; rfl
  obtain ⟨jo', M, hw, hpodsw, hM, hevs⟩ := work_force h1 hF hforb (by
    intro p hp
    rcases hpods p hp with hx | ⟨hf, D, hD, hle⟩
    · exact Or.inl hx
    · refine Or.inr ⟨hf, D, hD, ?_⟩
      show D + getForceDeleteTimeout s.cfg ≤ s.clock + (adv : Int)
      exact Int.add_le_add hle hadv) k rest hqk
  -- an unfinished pod is named in `M`, hence removed
  have hgone : ∀ p ∈ s.pods, p.pod.isFinished = false → keepPod M p = false := fun p hp hf => by
    have : p.pod.name ∈ M := (hM p.pod.name).mpr ⟨p, hp, rfl, hf⟩
    unfold keepPod
    simp [this]
  have hsub : ∀ p' ∈ (work (step s (.advance adv))).1.pods, p' ∈ s.pods ∧ p'.pod.isFinished = true ∧
      p'.pod.deletionTimestamp = none := by
    intro p' hp'
    rw [hpodsw] at hp'
    obtain ⟨hp0, hkeep⟩ := List.mem_filter.mp hp'
    refine ⟨hp0, ?_⟩
    rcases hpods p' hp0 with hx | ⟨hf, _⟩
    · exact hx
    · rw [hgone p' hp0 hf] at hkeep; cases hkeep
  obtain ⟨hks, hpodsR, hclockR, hcfgR⟩ := kstate_after h1 hw (fun p' hp' => ⟨p', (hsub p' hp').1, SamePod.refl p'⟩)
    (by rw [hpodsw]; exact podNames_filter_nodup _ h.pods.nodup)
  rw [hround]
  refine ⟨jo', hks, hw.name, hw.ttl, hclockR, hcfgR, fun p' hp' => hsub p' (hpodsR ▸ hp'), ?_⟩
  rintro ⟨p, hp, hfn⟩
  cases hev : (work (step s (.advance adv))).1.podEvs with
  | nil =>
    -- no event pending: the pod cache, still the old pods, would be the filtered list
    have hsync := hw.psync
    unfold PSync at hsync
    rw [hev, hw.podCache, hpodsw] at hsync
    have hmem : p ∈ s.pods.filter (keepPod M) := by
      have hsync' : s.pods = s.pods.filter (keepPod M) := hsync
      rw [← hsync']; exact hp
    have hkeep := (List.mem_filter.mp hmem).2
    rw [hgone p hp hfn] at hkeep
    cases hkeep
  | cons e rest' =>
    obtain ⟨p0, hp0, rfl⟩ := hevs e (by rw [hev]; exact List.mem_cons_self)
    have ho := h.pods.owned p0 hp0
    exact deliverAll_ready_pod _ jo' _ p0 rest' hev
      (Or.inr ⟨rfl, by rw [hw.podCache]; exact findPod_of_mem_nodup h.pods.nodup hp0⟩) hw.jsync hw.job
      (by rw [hw.uid]; exact ho.1) (by rw [hw.name]; exact ho.2.1) hw.wf

/-- **a kill converges by force deletion when the kubelet is dead**: at most three rounds (1: graceful deletes mark
every unfinished pod; 2: the timeout has elapsed, they are force-deleted; 3: their refs are recorded as finished) -/
theorem kill_core_dead (h : KState jo kt F0 s) (hq : s.q.queue ≠ [])
    (hnodel : ∀ p ∈ s.pods, p.pod.deletionTimestamp = none)
    (hF : 0 < getForceDeleteTimeout s.cfg)
    (hforb : (jo.job.template.map (·.forbidTaskForceDeletion)).getD false = false)
    (adv : Nat) (hadv : getForceDeleteTimeout s.cfg ≤ adv)
    (httl : s.clock + 3 * adv < F0 + getTTLAfterFinished jo.job s.cfg) :
    ∃ k, 1 ≤ k ∧ k ≤ 3 ∧ ∃ jo', KState jo' kt F0 (roundDN adv k s) ∧ jo'.name = jo.name ∧
      KDone jo' (roundDN adv k s) ∧
      ∀ p' ∈ (roundDN adv k s).pods, ∃ p ∈ s.pods, p.pod.name = p'.pod.name ∧ p.pod.isFinished = true := by
  have hadv0 : (0 : Int) ≤ adv := Int.natCast_nonneg adv
  obtain ⟨jo1, h1, hn1, htm1, httlf1, hc1, hcfg1, hp1, hq1, hfin1⟩ := roundD_mark h hq hnodel adv (by omega)
  by_cases hex : ∃ p ∈ s.pods, p.pod.isFinished = false
  · obtain ⟨hq1', hex1⟩ := hq1 hex
    have hTTL1 : getTTLAfterFinished jo1.job (roundD adv s).cfg = getTTLAfterFinished jo.job s.cfg := by
      unfold getTTLAfterFinished; rw [httlf1, hcfg1]
    have hpods1 : ∀ p ∈ (roundD adv s).pods, (p.pod.isFinished = true ∧ p.pod.deletionTimestamp = none) ∨
        (p.pod.isFinished = false ∧ ∃ D, p.pod.deletionTimestamp = some D ∧ D ≤ (roundD adv s).clock) := by
      intro p' hp'
      obtain ⟨p, _, _, hf, hcase⟩ := hp1 p' hp'
      rcases hcase with ⟨hfin, hd⟩ | ⟨hfin, D, hD, hle⟩
      · exact Or.inl ⟨by rw [hf]; exact hfin, hd⟩
      · exact Or.inr ⟨by rw [hf]; exact hfin, D, hD, by rw [hc1]; exact hle⟩
    obtain ⟨jo2, h2, hn2, httlf2, hc2, hcfg2, hp2, hq2⟩ := roundD_force h1 hq1' (by rw [hcfg1]; exact hF)
      (by rw [htm1]; exact hforb) hpods1 adv (by rw [hcfg1]; exact hadv) (by rw [hTTL1, hc1]; omega)
    have hTTL2 : getTTLAfterFinished jo2.job (roundD adv (roundD adv s)).cfg = getTTLAfterFinished jo.job s.cfg := by
      unfold getTTLAfterFinished at hTTL1 ⊢; rw [httlf2, hcfg2]; exact hTTL1
    obtain ⟨jo3, h3, hn3, _, _, _, _, hp3, _, hfin3⟩ := roundD_mark h2 (hq2 hex1) (fun p hp => (hp2 p hp).2.2) adv
      (by rw [hTTL2, hc2, hc1]; omega)
    have hall2 : ∀ p ∈ (roundD adv (roundD adv s)).pods, p.pod.isFinished = true := fun p hp => (hp2 p hp).2.1
    refine ⟨3, by omega, Nat.le_refl _, jo3, h3, (hn3.trans hn2).trans hn1, ⟨hfin3 hall2, ?_⟩, ?_⟩
    · intro p' hp'
      obtain ⟨p, hp, _, hf, _⟩ := hp3 p' hp'
      rw [hf]; exact hall2 p hp
    · intro p' hp'
      obtain ⟨p2, hp2m, hn', _, _⟩ := hp3 p' hp'
      obtain ⟨hp1m, hf2, _⟩ := hp2 p2 hp2m
      obtain ⟨p0, hp0, hn0, hf0, _⟩ := hp1 p2 hp1m
      exact ⟨p0, hp0, hn0.trans hn', by rw [← hf0]; exact hf2⟩
  · have hall : ∀ p ∈ s.pods, p.pod.isFinished = true := fun p hp => by
      cases hf : p.pod.isFinished with
      | true => rfl
      | false => exact absurd ⟨p, hp, hf⟩ hex
    refine ⟨1, Nat.le_refl _, by omega, jo1, h1, hn1, ⟨hfin1 hall, ?_⟩, ?_⟩
    · intro p' hp'
      obtain ⟨p, hp, _, hf, _⟩ := hp1 p' hp'
      rw [hf]; exact hall p hp
    · intro p' hp'
      obtain ⟨p, hp, hn, _, _⟩ := hp1 p' hp'
      exact ⟨p, hp, hn, hall p hp⟩

/-- the state once the kill timestamp `t` set by the user has reached the controller's cache -/
def killAt (t : Time) (s : Sys) : Sys := deliverAll (step s (.kill t))

/-- the Job with the kill timestamp, as the server stores it -/
def killedObj (jo : JobObj) (t : Time) (rv : Nat) : JobObj :=
  { jo with job := { jo.job with killTimestamp := some t }, rv := rv }

theorem killAt_steps (hj : ∀ s, ok s .deliverJob) (hp : ∀ s, ok s .deliverPod)
    (hk : ∀ s t, ok s (.kill t)) (t : Time) (s0 s : Sys) (h : Steps ok j0 s0 s) : Steps ok j0 s0 (killAt t s) :=
  deliverAll_steps hj hp s0 _ (.step _ h (hk _ _) trivial)

/-- **the kill timestamp set in a state of the fair rounds** gives a `KState` with the key ready in which no pod is
being deleted; template and TTL are those of the Job before -/
theorem kill_stage (h : Canon ok j0 jo F0 s) (t : Time)
    (ht : t ≤ s.clock) (hF : F0 ≤ t) (httl : s.clock < F0 + getTTLAfterFinished jo.job s.cfg) :
    KState (killedObj jo t (s.rv + 1)) t F0 (killAt t s) ∧ (killAt t s).q.queue ≠ [] ∧
    (killAt t s).pods = s.pods ∧ (killAt t s).clock = s.clock ∧ (killAt t s).cfg = s.cfg ∧
    (∀ p ∈ (killAt t s).pods, p.pod.deletionTimestamp = none) ∧
    (killedObj jo t (s.rv + 1)).job.template = jo.job.template ∧
    getTTLAfterFinished (killedObj jo t (s.rv + 1)).job (killAt t s).cfg = getTTLAfterFinished jo.job s.cfg := by
  obtain ⟨hfr, hq, hwf, hpods, hclock, hcfg⟩ := mutate_stage (nj := killedObj jo t (s.rv + 1)) (w := killAt t s) h.fresh h.wf
    (fun j => { j with job := { j.job with killTimestamp := some t } }) rfl rfl
  obtain ⟨tm, htm, _⟩ := h.spec.tmpl
  refine ⟨⟨hfr, ?_, by rw [hclock]; exact ht, ?_, hwf, hF, h.lbRefs, ?_, by rw [hclock, hcfg]; exact httl⟩,
    hq, hpods, hclock, hcfg, fun p hp => h.pods.nodel p (hpods ▸ hp), rfl, by rw [hcfg]; rfl⟩
  · exact ⟨by show jo.job.template.isSome = true; rw [htm]; rfl, rfl, h.spec.adm, h.spec.del, h.spec.started⟩
  · exact ⟨fun p hp => h.pods.owned p (hpods ▸ hp), fun p hp => h.pods.sane p (hpods ▸ hp), hpods ▸ h.pods.nodup⟩
  · intro p hp f hf
    exact podFinLB_raw (h.lbPods p (hpods ▸ hp)) hf

/-- the actions of the runs of `Props/C12Live.lean` with a cooperative kubelet: those of the fair rounds under
faults (controller passes, informer deliveries, kubelet status writes, clock advances, replacements of the
fault list), the user setting the kill timestamp, and the kubelet finishing the termination of a pod that
carries a deletion timestamp -/
def killRunEnv (_ : Sys) (a : Action) : Prop :=
  match a with
  | .work | .deliverJob | .deliverPod | .advance _ | .kubelet _ | .setFaults _ | .kill _ | .podGone _ => True
  | _ => False

instance (s : Sys) (a : Action) : Decidable (killRunEnv s a) := by cases a <;> unfold killRunEnv <;> infer_instance

theorem fair_in_killRunEnv : ∀ s a, fairEnv s a → killRunEnv s a := fun _ a h => by cases a <;> first | exact h | trivial
theorem killEnv_in_killRunEnv : ∀ s a, killEnv s a → killRunEnv s a := fun _ a h => by cases a <;> first | exact h | trivial

/-- what the final state of a kill looks like, said of the state alone (the statements of `Props/C12Live.lean`
name no invariant): the authoritative Job, called `name`, `Finished` with result `Killed`, every pod left on the
server finished, nothing in flight.  A `KState` with `KDone` is such a state (`killedFinal_of`). -/
structure KilledFinal (name : String) (s : Sys) : Prop where
  killed : ∃ jo f, s.job = some jo ∧ jo.name = name ∧ jo.job.status.condition.finished = some f ∧ f.result = .killed
  podsDone : ∀ p ∈ s.pods, p.pod.isFinished = true
  fresh : s.jobEvs = [] ∧ s.podEvs = [] ∧ s.jobCache = s.job ∧ s.podCache = s.pods ∧ s.faults = []

theorem killedFinal_of (h : KState jo kt F0 s) (hd : KDone jo s) :
    KilledFinal jo.name s := by
  obtain ⟨f, hf, hr⟩ := hd.killed
  exact ⟨⟨jo, f, h.fresh.job, rfl, hf, hr⟩, hd.podsFin, h.fresh.jobEvs, h.fresh.podEvs,
    by rw [h.fresh.jobCache, h.fresh.job], h.fresh.podCache, h.fresh.faults⟩

/-- the actions of the runs with a dead kubelet after the kill: those of the fair rounds under faults (the
kubelet writes of the run BEFORE the kill included) and the user setting the kill timestamp; no pod ever
terminates on its own after the kill (`roundD` uses no kubelet action) -/
def deadRunEnv (_ : Sys) (a : Action) : Prop :=
  match a with
  | .work | .deliverJob | .deliverPod | .advance _ | .kubelet _ | .setFaults _ | .kill _ => True
  | _ => False

instance (s : Sys) (a : Action) : Decidable (deadRunEnv s a) := by cases a <;> unfold deadRunEnv <;> infer_instance

theorem fair_in_deadRunEnv : ∀ s a, fairEnv s a → deadRunEnv s a := fun _ a h => by cases a <;> first | exact h | trivial
theorem deadEnv_in_deadRunEnv : ∀ s a, deadEnv s a → deadRunEnv s a := fun _ a h => by cases a <;> first | exact h | trivial

end Furiko.JobCtl.Live
