/-
`Inv4` (contiguous retry numbers) is preserved by every step (all actions, foreign pods included).
Core Lean only.
-/
import FurikoModel.Proofs.JobCtlInvContig
import FurikoModel.Proofs.JobCtlInvStabStep

set_option linter.unusedSimpArgs false
set_option linter.unusedVariables false

namespace Furiko.JobCtl
open Furiko Furiko.WQ Furiko.StatusLemmas Furiko.ParallelLemmas

variable {j0 : JobObj} {s s' : Sys}

/-- the Job object of an intermediate state of the pass: untouched, a version written in this pass
(its resourceVersion is above the one the pass started at), or gone -/
def SameNewerOrGone (s0 s : Sys) : Prop :=
  s.job = s0.job ∨ (∃ x, s.job = some x ∧ s0.rv < x.rv) ∨ s.job = none

structure PassFacts4 (j0 : JobObj) (s0 sp : Sys) (jo : JobObj) : Prop where
  frame : Frame s0 sp
  wf2 : WF2 j0 sp.d
  podsSp : PodsGood j0 sp
  goodJo : Good j0 sp.d jo.job
  contigJo : Contig j0 sp.d jo.job.status.tasks
  down0 : ∀ j, s0.job = some j → ∀ c ∈ s0.podCache, c.ownerUid = some j0.uid → PodDown s0.d j.job.status.tasks c
  rvJo : jo.rv ≤ s0.rv
  idCur : CachedIsCur jo (sync sp jo).1
  idCur0 : CachedIsCur0 jo s0 sp

theorem Inv4.jobGone (h : Inv4 j0 s) (hg : JobGone s s') : Inv4 j0 s' := by
  have hseen := hg.seenVers
  refine ⟨?_, ?_, ?_⟩
  · intro v hv
    rw [hg.static.d]
    rcases hv with hv | hv
    · rw [hg.job] at hv; cases hv
    · exact h.contig v (Or.inr (hseen ▸ hv))
  · intro j hj; rw [hg.job] at hj; cases hj
  · intro v hv j hj; rw [hg.job] at hj; cases hj

/-- a new version with the refs of the current one meets what `Inv4.jobWrite` asks -/
theorem Inv4.same_status {cur nj : JobObj} (h : Inv4 j0 s) (h2 : Inv2 j0 s)
    (hcur : s.job = some cur) (hst : nj.job.status = cur.job.status) :
    Good j0 s.d nj.job ∧ Contig j0 s.d nj.job.status.tasks ∧ ∀ n ∈ refNames cur.job, n ∈ refNames nj.job :=
  ⟨(h2.job cur hcur).of_status_eq hst, hst ▸ h.contig cur (Or.inl hcur), fun n hn => by unfold refNames; rw [hst]; exact hn⟩

theorem Inv4.change {A W G} (h4 : Inv4 j0 s) (h2 : Inv2 j0 s) (hwf : WF2 j0 s.d)
    (hc : Change A PodKeeps W G s s')
    (hA : ∀ p, A p → ∀ j, s.job = some j → p.ownerUid = some j0.uid → PodDown s.d j.job.status.tasks p)
    (hW : ∀ cur nj, W cur nj → s.job = some cur → Good j0 s.d nj.job ∧ Contig j0 s.d nj.job.status.tasks ∧
      ∀ n ∈ refNames cur.job, n ∈ refNames nj.job) : Inv4 j0 s' := by
  have pod : ∀ q, Anywhere s' q → Anywhere s q ∨
      ∀ j, s.job = some j → q.ownerUid = some j0.uid → PodDown s.d j.job.status.tasks q := by
    intro q hq
    rcases hc.anywhere q hq with h | ⟨o, ho, k⟩ | a
    · exact .inl h
    · exact .inr fun j hj hown =>
        (h4.down j hj o (Or.inl ho) (k.ownerUid ▸ hown)).transfer k.parallelIndex k.retryIndex
    · exact .inr (hA q a)
  cases hc with
  | frame hf => exact h4.frame hf
  | podAdd _ _ hs => exact h4.podChange hs.static hs.job hs.jobEvs pod
  | podSet _ _ _ hs => exact h4.podChange hs.static hs.job hs.jobEvs pod
  | podDel _ hs => exact h4.podChange hs.static hs.job hs.jobEvs pod
  | jobWrite cur nj w hcur hs =>
    obtain ⟨hg, hct, hn⟩ := hW cur nj w hcur
    exact h4.jobWrite h2 hwf hs hcur hg hct hn
  | jobGone _ _ _ hs => exact h4.jobGone hs

theorem Inv4.micro {j0 jo : JobObj} {s0 sp s s' : Sys} (hb : Base j0 s) (h2 : Inv2 j0 s) (h4 : Inv4 j0 s)
    (hc : s.jobCache = some jo) (pf : PassFacts4 j0 s0 sp jo) (hd : s.d = sp.d)
    (hji : SameNewerOrGone s0 s) (hm : Micro jo sp s s') : Inv4 j0 s' := by
  have hseen := mem_seenVers_cache hc
  have hjo := (hb.seenOK jo hseen).1
  have hwf : WF2 j0 s.d := hd ▸ pf.wf2
  refine h4.change h2 hwf hm.change ?_ ?_
  · rintro _ ⟨idx, retry, hreq, _, rfl⟩ j hj _ idx' retry' hpi hri i h0 hi
    simp only [newPod, Option.some.injEq] at hpi hri
    subst hpi; subst hri
    have hf := createReq_facts hreq
    have hx := attempts_below_next (hd ▸ pf.contigJo) idx.hash i h0 (by rw [← hf.2.1]; exact hi)
    exact hasAttempt_mono hwf (h2.seen jo hseen).refs (h2.job j hj).refs (h4.le jo hseen j hj) hx
  · intro cur nj w hcur
    rcases w.resolve hb hc pf.idCur hcur with ⟨_, _, rfl⟩ | ⟨rfl, _, rfl⟩ | ⟨hpc, hwas, rfl⟩
    · exact h4.same_status h2 hcur rfl
    · exact h4.same_status h2 hcur rfl
    · -- the cached Job was the authoritative one when the pass started
      have hj0 : s0.job = some jo := by
        rcases hwas with rfl | h1
        · rcases hji with h | ⟨x, hx, hr⟩ | h
          · rw [← h]; exact hcur
          · rw [hcur] at hx; cases hx
            have := pf.rvJo
            omega
          · rw [hcur] at h; cases h
        · exact pf.idCur0 jo h1 rfl
      have hdown : ∀ c ∈ sp.podCache, c.ownerUid = some j0.uid → PodDown sp.d jo.job.status.tasks c := by
        intro c hcm ho
        rw [pf.frame.d]
        exact pf.down0 jo hj0 c (pf.frame.podCache ▸ hcm) ho
      have hcontig := sync_contig sp jo pf.wf2 pf.podsSp hjo pf.goodJo pf.contigJo hdown
      have hgood := (sync_good sp jo pf.wf2 pf.podsSp hjo pf.goodJo).1
      refine ⟨hd ▸ hgood.of_status_eq rfl, hd ▸ hcontig, fun n hn => ?_⟩
      unfold refNames at hn
      rw [hpc.agree.1] at hn
      exact (sync_spec sp jo sp (CreatePhase.refl _)).2.names n hn

theorem Inv4.micros {j0 jo : JobObj} {s0 sp s s' : Sys} (hb : Base j0 s) (h2 : Inv2 j0 s) (h4 : Inv4 j0 s)
    (hc : s.jobCache = some jo) (hc0 : s0.jobCache = some jo) (pf : PassFacts4 j0 s0 sp jo) (hd : s.d = sp.d)
    (hrv0 : s0.rv ≤ s.rv) (hj : s.job = s0.job) (hm : Micros jo sp s s') : Inv4 j0 s' := by
  induction hm with
  | refl => exact h4
  | tail hms hm ih =>
    have hbm := hb.micros hc hms
    have h2m := Inv2.micros hb h2 hc pf.wf2 pf.podsSp pf.goodJo hd.symm hms
    have hji := (jobMoves_micros hb hc hc0 pf.frame hrv0 pf.idCur hms).same_or_newer
    rw [hj] at hji
    exact Inv4.micro hbm.1 h2m ih hbm.2 pf (hms.static.d.trans hd) hji hm

theorem Inv4.init (hwf : WF j0) (clock : Int) (cfg : ExecConfig) (d : PIndex) :
    Inv4 j0 (initSys clock cfg d j0) := by
  have hc : Contig j0 d j0.job.status.tasks := by rw [hwf.noTasks]; intro r hr; cases hr
  unfold initSys userCreateJob
  refine ⟨?_, ?_, ?_⟩
  · intro v hv
    rcases hv with hv | hv
    · simp only [Option.some.injEq] at hv; subst hv; exact hc
    · simp only [seenVers, upserts, Option.toList_none, List.nil_append, List.filterMap_cons,
        List.filterMap_nil, List.mem_singleton] at hv
      subst hv; exact hc
  · intro j _ p hp
    rcases hp with hp | hp | hp
    · cases hp
    · cases hp
    · simp at hp
  · intro v hv j hj
    simp only [Option.some.injEq] at hj
    simp only [seenVers, upserts, Option.toList_none, List.nil_append, List.filterMap_cons, List.filterMap_nil,
      List.mem_singleton] at hv
    subst hv; subst hj
    exact fun n hn => hn

theorem Inv4.step (hb : Base j0 s) (h2 : Inv2 j0 s) (h4 : Inv4 j0 s) (hwf : WF2 j0 s.d)
    (a : Action) (hal : Allowed j0 s a) : Inv4 j0 (JobCtl.step s a) := by
  rcases step_change hal with rfl | hq | hch
  · show Inv4 j0 (work s).1
    cases hc : s.jobCache with
    | none => exact h4.frame (work_frame s hc)
    | some jo =>
      obtain ⟨sp, hf, hm⟩ := work_micros s jo hc
      have hseen := mem_seenVers_cache hc
      have h2sp := h2.frame hf
      have hcsp : sp.jobCache = some jo := hf.jobCache.trans hc
      have pf : PassFacts4 j0 s sp jo :=
        ⟨hf, hf.d ▸ hwf, h2sp.pods, h2sp.seen jo (mem_seenVers_cache hcsp), hf.d ▸ h4.contig jo (Or.inr hseen),
          fun j hj c hcm => h4.down j hj c (Or.inr (Or.inl hcm)), (hb.seenOK jo hseen).2,
          cachedIsCur_sync (hb.frame hf) hcsp, cachedIsCur0_sync (hb.frame hf) hcsp hf⟩
      exact Inv4.micros (hb.frame hf) h2sp (h4.frame hf) hcsp hc pf rfl (by rw [hf.rv]; exact Nat.le_refl _)
        hf.job hm
  · exact h4.quiet hq
  · -- a pod that is not controlled by the Job: nothing is claimed about it
    exact h4.change h2 hwf hch (fun p hp _ _ ho => absurd ho hp.2)
      (fun cur nj w hcur => h4.same_status h2 hcur w.status_eq)

/-- `Inv4` holds in every reachable state (all actions allowed) -/
theorem inv4_of_reach {ok : Sys → Action → Prop}
    (hr : Reach ok j0 s) (hwf : WF2 j0 s.d) : Inv4 j0 s := by
  induction hr with
  | init c cfg d hw => exact Inv4.init hw c cfg d
  | step a hr' hoka hal ih =>
    rw [step_d] at hwf
    exact (ih hwf).step (base_of_reach hr') (inv2_of_reach hr' hwf) hwf a hal

end Furiko.JobCtl
