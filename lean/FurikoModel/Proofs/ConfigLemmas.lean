/- Helper lemmas for Props/C19.lean (dynamic configuration): the layered merge seen through one key
(`keyStep`, `lookup_foldl_mergeMap`), all-or-nothing `unmarshalAll`, and the invariant
`lkg_invariant` that ties the manager's cache to the specification `lastGood` of
Spec/ConfigSpec.lean. Core Lean only. -/
import FurikoModel.Model.Config
import FurikoModel.Spec.ConfigSpec

namespace Furiko.Config

/-- keys of a `Config` map are distinct (it is a Go map) -/
def WF (m : CMap) : Prop := (m.map Prod.fst).Nodup

/-- the last-known-good cache: a stored value is found under its name, other names are untouched -/
theorem lkgLookup_store {T} (c : List (String × T)) (n n' : String) (t : T) :
    lkgLookup (lkgStore c n t) n' = if n = n' then some t else lkgLookup c n' := by
  induction c with
  | nil => simp [lkgStore, lkgLookup]
  | cons hd tl ih =>
    obtain ⟨a, b⟩ := hd
    by_cases h : a = n <;> by_cases h1 : a = n' <;> by_cases h2 : n = n' <;>
      simp_all [lkgStore, lkgLookup]

/-- a `Config` map is the same association list, with `Val` for values -/
theorem lookup_eq_lkgLookup (m : CMap) (k : String) : lookup m k = lkgLookup m k := by
  induction m with
  | nil => rfl
  | cons hd tl ih => simp only [lookup, lkgLookup, ih]

theorem set_eq_lkgStore (m : CMap) (k : String) (v : Val) : set m k v = lkgStore m k v := by
  induction m with
  | nil => rfl
  | cons hd tl ih => simp only [set, lkgStore, ih]

theorem lookup_set (m : CMap) (k k' : String) (v : Val) :
    lookup (set m k v) k' = if k = k' then some v else lookup m k' := by
  simp only [lookup_eq_lkgLookup, set_eq_lkgStore, lkgLookup_store]

theorem mergeVal_nonobj (d : Option Val) (v : Val) (h : v.isObj = false) : mergeVal d v = v := by
  cases v <;> simp_all [mergeVal, Val.isObj]

theorem mergeVal_none (v : Val) : mergeVal none v = v := by
  cases v <;> simp [mergeVal]

theorem lookup_mergeKey (dst : CMap) (k : String) (v : Val) (k' : String) :
    lookup (mergeKey dst (k, v)) k' =
      if k = k' then some (mergeVal (lookup dst k) v) else lookup dst k' := by
  cases v with
  | null => simp [mergeKey, lookup_set, mergeVal]
  | atom r e => simp [mergeKey, lookup_set, mergeVal]
  | obj r e =>
    simp only [mergeKey]
    cases hd : lookup dst k with
    | none => simp [lookup_set, mergeVal]
    | some d => by_cases he : d.isEmpty = true <;> by_cases hk : k = k' <;> simp_all [lookup_set, mergeVal]

theorem lookup_of_not_mem (m : CMap) (k : String) (h : k ∉ m.map Prod.fst) : lookup m k = none := by
  induction m with
  | nil => rfl
  | cons hd tl ih =>
    obtain ⟨a, b⟩ := hd
    simp only [List.map_cons, List.mem_cons, not_or] at h
    have : ¬ a = k := fun e => h.1 e.symm
    simp [lookup, this, ih h.2]

/-- per-key view of one layer -/
def keyStep (k : String) (d : Option Val) (l : CMap) : Option Val :=
  match lookup l k with
  | none => d
  | some v => some (mergeVal d v)

/-- the map loop of mergo, seen through one key (the iteration order of the Go map does not matter) -/
theorem lookup_mergeMap (dst src : CMap) (hs : WF src) (k : String) :
    lookup (mergeMap dst src) k = keyStep k (lookup dst k) src := by
  unfold keyStep
  induction src generalizing dst with
  | nil => simp [mergeMap, lookup]
  | cons hd tl ih =>
    obtain ⟨a, b⟩ := hd
    have hnd : a ∉ tl.map Prod.fst ∧ WF tl := by
      simpa [WF, List.nodup_cons] using hs
    have ih' := ih (mergeKey dst (a, b)) hnd.2
    simp only [mergeMap, List.foldl_cons] at ih' ⊢
    rw [ih']
    by_cases h : a = k
    · subst h
      simp [lookup, lookup_of_not_mem tl a hnd.1, lookup_mergeKey]
    · simp only [lookup, h, if_false, lookup_mergeKey]

theorem lookup_foldl_mergeMap (layers : List CMap) (acc : CMap) (hw : ∀ l ∈ layers, WF l) (k : String) :
    lookup (layers.foldl mergeMap acc) k = layers.foldl (keyStep k) (lookup acc k) := by
  induction layers generalizing acc with
  | nil => rfl
  | cons l rest ih =>
    simp only [List.foldl_cons]
    rw [ih (mergeMap acc l) (fun x hx => hw x (List.mem_cons_of_mem _ hx)),
      lookup_mergeMap acc l (hw l List.mem_cons_self) k]

theorem foldl_keyStep_unbound (layers : List CMap) (k : String) (d : Option Val)
    (h : ∀ l ∈ layers, lookup l k = none) : layers.foldl (keyStep k) d = d := by
  induction layers generalizing d with
  | nil => rfl
  | cons l rest ih =>
    simp only [List.foldl_cons, keyStep, h l List.mem_cons_self]
    exact ih d (fun x hx => h x (List.mem_cons_of_mem _ hx))

theorem unmarshalAll_none (es : List Entry) (h : ∃ e ∈ es, e.2 = none) : unmarshalAll es = none := by
  induction es with
  | nil => simp at h
  | cons hd tl ih =>
    obtain ⟨n, _ | c⟩ := hd
    · rfl
    · simp only [List.mem_cons, exists_eq_or_imp, reduceCtorEq, false_or] at h
      simp [unmarshalAll, ih h]

theorem unmarshalAll_some (es : List Entry) (h : ∀ e ∈ es, e.2 ≠ none) :
    unmarshalAll es = some (es.map fun e => (e.1, e.2.getD [])) := by
  induction es with
  | nil => rfl
  | cons hd tl ih =>
    obtain ⟨n, p⟩ := hd
    cases p with
    | none => exact absurd rfl (h (n, none) List.mem_cons_self)
    | some c =>
      simp [unmarshalAll, ih (fun e he => h e (List.mem_cons_of_mem _ he))]

/-- what `loadConfig` looks at; reads cannot change it -/
def Mgr.src {T} (m : Mgr T) : Bool × List (String × CMap) × KLoader × KLoader :=
  (m.started, m.defaults, m.cm, m.sec)

theorem loadAndDecode_src {T} (decode : String → CMap → Option T) {m m' : Mgr T} (h : m.src = m'.src)
    (name : String) : m.loadAndDecode decode name = m'.loadAndDecode decode name := by
  simp only [Mgr.src, Prod.mk.injEq] at h
  obtain ⟨h1, h2, h3, h4⟩ := h
  have hl : ∀ l, m.loaderLoad l name = m'.loaderLoad l name := by
    intro l; cases l <;> simp [Mgr.loaderLoad, h2, h3, h4]
  simp [Mgr.loadAndDecode, Mgr.loadConfig, Mgr.loadConfigWith, h1, hl]

theorem read_src {T} (decode : String → CMap → Option T) (m : Mgr T) (name : String) :
    (m.read decode name).1.src = m.src := by
  simp only [Mgr.read]
  split
  · rfl
  · split <;> rfl

theorem applyEv_src {T} {m m' : Mgr T} (h : m.src = m'.src) (s : Src) (k : EvKind) (t : Bool)
    (es : List Entry) : (m.applyEv s k t es).src = (m'.applyEv s k t es).src := by
  simp only [Mgr.src, Prod.mk.injEq] at h
  cases s <;> simp [Mgr.applyEv, Mgr.src, h]

theorem applyEv_lkg {T} (m : Mgr T) (s : Src) (k : EvKind) (t : Bool) (es : List Entry) :
    (m.applyEv s k t es).lkg = m.lkg := by
  cases s <;> rfl

/-- the manager's cache always equals the specification's register, and reads never touch the sources -/
theorem lkg_invariant {T} (decode : String → CMap → Option T) (name : String) (ops : List Op) :
    ∀ (m m' : Mgr T), m.src = m'.src →
      lkgLookup (m.run decode ops).lkg name = lastGood decode name m' (lkgLookup m.lkg name) ops ∧
      (m.run decode ops).src = (ops.foldl srcStep m').src := by
  induction ops with
  | nil => intro m m' h; exact ⟨rfl, h⟩
  | cons op ops ih =>
    intro m m' h
    simp only [Mgr.run, List.foldl_cons] at ih ⊢
    cases op with
    | ev s k t es =>
      have := ih (m.applyEv s k t es) (m'.applyEv s k t es) (applyEv_src h s k t es)
      simpa [Mgr.step, lastGood, srcStep, applyEv_lkg] using this
    | read n =>
      have := ih (m.read decode n).1 m' ((read_src decode m n).trans h)
      simp only [Mgr.step, lastGood, srcStep]
      refine ⟨?_, this.2⟩
      rw [this.1]
      congr 1
      rw [← loadAndDecode_src decode h name]
      simp only [Mgr.read]
      by_cases hn : n = name
      · subst hn
        cases hd : m.loadAndDecode decode n with
        | some t => simp [lkgLookup_store]
        | none => cases hl : lkgLookup m.lkg n <;> simp [hl]
      · cases hd : m.loadAndDecode decode n with
        | some t => simp [lkgLookup_store, hn]
        | none => cases hl : lkgLookup m.lkg n <;> simp [hn]

/-- once there is a remembered value there always is one -/
theorem lastGood_ne_none {T} (decode : String → CMap → Option T) (name : String) (ops : List Op) :
    ∀ (m : Mgr T) {b : Option T}, b ≠ none → lastGood decode name m b ops ≠ none := by
  induction ops with
  | nil => intro _ b hb; exact hb
  | cons op ops ih =>
    intro m b hb
    cases op with
    | ev s k t es => exact ih _ hb
    | read n =>
      apply ih
      split
      · split <;> simp_all
      · exact hb

end Furiko.Config
