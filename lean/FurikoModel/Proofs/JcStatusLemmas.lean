/- Helper lemmas for Props/C15 (model: Model/JobConfigStatus.lean): the order `optLe` on optional
times with nil least and `MaxLe` on statuses, sortedness of the reference lists, `TimeMax` as the
maximum in that order, and what one `syncCore` leaves on the API. Core Lean only. -/
import FurikoModel.Model.JobConfigStatus

namespace Furiko.JcStatus

/-- `a ≤ b` on `*metav1.Time` values where nil (never) is the least element -/
def optLe : Option Int → Option Int → Prop
  | none, _ => True
  | some _, none => False
  | some a, some b => a ≤ b

instance : (a b : Option Int) → Decidable (optLe a b)
  | none, _ => isTrue trivial
  | some _, none => isFalse (fun h => h)
  | some a, some b => inferInstanceAs (Decidable (a ≤ b))

theorem optLe_refl (a : Option Int) : optLe a a := by
  cases a <;> simp [optLe]

theorem optLe_trans {a b c : Option Int} (h1 : optLe a b) (h2 : optLe b c) : optLe a c := by
  cases a <;> cases b <;> cases c <;> simp_all [optLe] <;> omega

theorem optLe_some_iff {t : Int} {b : Option Int} : optLe (some t) b ↔ ∃ v, b = some v ∧ t ≤ v := by
  cases b <;> simp [optLe]

theorem insertRef_perm (r : JobRef) (l : List JobRef) : (insertRef r l).Perm (r :: l) := by
  induction l with
  | nil => simp [insertRef]
  | cons x xs ih =>
    unfold insertRef
    split
    · exact (List.Perm.cons x ih).trans (List.Perm.swap r x xs)
    · exact List.Perm.refl _

theorem sortRefs_perm (l : List JobRef) : (sortRefs l).Perm l := by
  induction l with
  | nil => simp [sortRefs]
  | cons r rs ih =>
    unfold sortRefs
    exact (insertRef_perm r (sortRefs rs)).trans (List.Perm.cons r ih)

theorem insertRef_sorted (r : JobRef) (l : List JobRef)
    (h : l.Pairwise (fun a b => a.created ≤ b.created)) :
    (insertRef r l).Pairwise (fun a b => a.created ≤ b.created) := by
  induction l with
  | nil => simp [insertRef]
  | cons x xs ih =>
    have hx := List.pairwise_cons.mp h
    unfold insertRef
    split
    · refine List.pairwise_cons.mpr ⟨fun b hb => ?_, ih hx.2⟩
      rcases List.mem_cons.mp ((insertRef_perm r xs).mem_iff.mp hb) with rfl | hb'
      · omega
      · exact hx.1 b hb'
    · refine List.pairwise_cons.mpr ⟨fun b hb => ?_, h⟩
      rcases List.mem_cons.mp hb with rfl | hb'
      · omega
      · have := hx.1 b hb'; omega
theorem sortRefs_sorted (l : List JobRef) :
    (sortRefs l).Pairwise (fun a b => a.created ≤ b.created) := by
  induction l with
  | nil => simp [sortRefs]
  | cons r rs ih => unfold sortRefs; exact insertRef_sorted r _ ih

theorem toJobReferences_perm (items : List Job) : (toJobReferences items).Perm (items.map toRef) :=
  sortRefs_perm _

theorem toJobReferences_length (items : List Job) : (toJobReferences items).length = items.length := by
  have := (toJobReferences_perm items).length_eq
  simpa using this

/-- the running maximum is at least its start value and every element, and it is one of them -/
theorem maxFrom_spec (init : Int) (ts : List Int) :
    init ≤ maxFrom init ts ∧ (∀ t ∈ ts, t ≤ maxFrom init ts) ∧
      (maxFrom init ts = init ∨ maxFrom init ts ∈ ts) := by
  induction ts generalizing init with
  | nil => simp [maxFrom]
  | cons x xs ih =>
    obtain ⟨h1, h2, h3⟩ := ih (if init < x then x else init)
    rw [show maxFrom init (x :: xs) = maxFrom (if init < x then x else init) xs from rfl]
    refine ⟨by omega, fun t ht => ?_, ?_⟩
    · rcases List.mem_cons.1 ht with rfl | ht
      · omega
      · exact h2 t ht
    · rcases h3 with h | h
      · rw [h]; split
        · exact Or.inr List.mem_cons_self
        · exact Or.inl rfl
      · exact Or.inr (List.mem_cons_of_mem _ h)

/-- the optional maximum the two `GetLast…Time` functions return: `getLastScheduleTime jobs` is
`lastOf (jobs.filterMap labelScheduleTime)`, `getLastStartTime jobs` is `lastOf (jobs.filterMap countedStartTime)` -/
def lastOf (ts : List Int) : Option Int :=
  let m := maxFrom zeroUnix ts
  if m == zeroUnix then none else some m

theorem lastOf_some_mem {ts : List Int} {v : Int} (h : lastOf ts = some v) : v ∈ ts := by
  simp only [lastOf] at h
  split at h
  · cases h
  · rename_i hne
    cases h
    exact (maxFrom_spec zeroUnix ts).2.2.resolve_left (by simpa using hne)

/-! ### TimeMax and the update rule `new = from-jobs ? TimeMax(from-jobs, old) : old`

`TimeMax(nil, old)` is `old`, so the rule is `TimeMax(from-jobs, old)` in both cases. -/

theorem timeMax_some_some (x y : Int) : timeMax (some x) (some y) = if x < y then some y else some x := rfl

/-- `TimeMax` is the maximum in the order in which nil is least -/
theorem timeMax_spec (a b : Option Int) :
    optLe a (timeMax a b) ∧ optLe b (timeMax a b) ∧ (timeMax a b = a ∨ timeMax a b = b) := by
  cases a with
  | none => exact ⟨trivial, optLe_refl b, Or.inr rfl⟩
  | some x =>
    cases b with
    | none => exact ⟨optLe_refl _, trivial, Or.inl rfl⟩
    | some y => rw [timeMax_some_some]; split <;> simp [optLe] <;> omega

theorem timeMax_idem (a b : Option Int) : timeMax a (timeMax a b) = timeMax a b := by
  cases a with
  | none => rfl
  | some x =>
    cases b with
    | none => simp [timeMax]
    | some y => simp only [timeMax_some_some]; split <;> simp [timeMax_some_some] <;> omega

theorem computeStatus_lastScheduled (jc : JobConfig) (rjs : List Job) :
    (computeStatus jc rjs).lastScheduled =
      timeMax (lastOf (rjs.filterMap labelScheduleTime)) jc.status.lastScheduled := by
  show (match getLastScheduleTime rjs with | some t => _ | none => _) = timeMax (getLastScheduleTime rjs) _
  cases getLastScheduleTime rjs <;> rfl

theorem computeStatus_lastExecuted (jc : JobConfig) (rjs : List Job) :
    (computeStatus jc rjs).lastExecuted =
      timeMax (lastOf (rjs.filterMap countedStartTime)) jc.status.lastExecuted := by
  show (match getLastStartTime rjs with | some t => _ | none => _) = timeMax (getLastStartTime rjs) _
  cases getLastStartTime rjs <;> rfl

/-- both maxima a sync writes: at least every time later than the zero time among those it folds
over, whatever the object read said -/
theorem timeMax_lastOf_ge {ts : List Int} {t : Int} (h : t ∈ ts) (hz : zeroUnix < t) (old : Option Int) :
    optLe (some t) (timeMax (lastOf ts) old) := by
  refine optLe_trans ?_ (timeMax_spec _ old).1
  have h1 := (maxFrom_spec zeroUnix ts).2.1 t h
  simp only [lastOf]
  split
  · rename_i heq
    have : maxFrom zeroUnix ts = zeroUnix := by simpa using heq
    omega
  · exact h1

/-- `a`'s two maxima are at most `b`'s -/
def MaxLe (a b : Status) : Prop :=
  optLe a.lastScheduled b.lastScheduled ∧ optLe a.lastExecuted b.lastExecuted

theorem MaxLe.refl (a : Status) : MaxLe a a := ⟨optLe_refl _, optLe_refl _⟩

theorem MaxLe.trans {a b c : Status} (h1 : MaxLe a b) (h2 : MaxLe b c) : MaxLe a c :=
  ⟨optLe_trans h1.1 h2.1, optLe_trans h1.2 h2.2⟩

theorem computeStatus_maxLe (jc : JobConfig) (rjs : List Job) : MaxLe jc.status (computeStatus jc rjs) := by
  refine ⟨?_, ?_⟩
  · rw [computeStatus_lastScheduled]; exact (timeMax_spec _ _).2.1
  · rw [computeStatus_lastExecuted]; exact (timeMax_spec _ _).2.1

/-- whatever a sync does, the authoritative object afterwards is either the one before or
that one with the status computed from the object that was read, the read object having the
current resourceVersion when `occ` holds -/
theorem syncCore_api (occ : Bool) (cur read : JobConfig) (cache : List Job) (n : Nat) :
    (syncCore occ (some cur) read cache n).1 = some cur ∨
    ((syncCore occ (some cur) read cache n).1 =
        some { cur with status := computeStatus read (listJobs cache read), rv := n } ∧
      (occ = true → read.rv = cur.rv)) := by
  simp only [syncCore, writeStatus]
  split
  · exact Or.inl rfl
  · by_cases hc : (occ && read.rv != cur.rv) = true
    · simp [hc]
    · exact Or.inr ⟨by simp [hc], fun ho => by simpa [ho] using hc⟩

/-- a sync that read the current object (same resourceVersion, same status) leaves on the API the
status it computed: it writes it, or it found it there already -/
theorem syncCore_current (occ : Bool) {cur read : JobConfig} (hst : read.status = cur.status)
    (hrv : read.rv = cur.rv) (cache : List Job) (n : Nat) :
    (((syncCore occ (some cur) read cache n).1).getD cur).status = computeStatus read (listJobs cache read) := by
  unfold syncCore
  simp only
  split
  · rename_i heq
    exact (heq.trans hst).symm
  · simp [writeStatus, hrv]

end Furiko.JcStatus
