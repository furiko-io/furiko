/-
Liveness of the job controller: what the statements of `Props/C20Live.lean` are phrased with — the
oracle's verdict (`OracleVerdict`), the final states (`Final`) and `final_of`: a `Done` state that agrees with
the oracle is `Final` — and the example Job's spec facts.  Core Lean only.
-/
import FurikoModel.Proofs.JobCtlLiveFaults
import FurikoModel.Proofs.JobCtlInvExamples

set_option linter.unusedVariables false
set_option linter.unusedSimpArgs false

namespace Furiko.JobCtl.Live
open Furiko Furiko.JobCtl

theorem fair_in_faultEnv : ∀ s a, fairEnv s a → faultEnv s a := fun _ a h => by cases a <;> first | exact h | trivial

/-- the verdict of the oracle on a Job named `name` with default-index hash `h` and `n` attempts, read off the
number `m` of recorded refs and the finished condition `f`: `Success` with the last recorded attempt the
first one the oracle lets succeed, or `Failed` with `n` attempts the oracle fails -/
def OracleVerdict (orc : String → Outcome) (name h : String) (n : Int) (m : Nat) (f : CondFinished) : Prop :=
  (f.result = .success ∧ 1 ≤ m ∧ orc (taskName name h ((m - 1 : Nat) : Int)) = .succeed ∧
    ∀ i : Nat, i + 1 < m → orc (taskName name h (i : Int)) = .fail) ∨
  (f.result = .failed ∧ (m : Int) = n ∧ ∀ i : Nat, i < m → orc (taskName name h (i : Int)) = .fail)

structure Final (orc : String → Outcome) (j0 : JobObj) (s : Sys) : Prop where
  verdict : ∃ jo f, s.job = some jo ∧ jo.name = j0.name ∧ jo.job.status.condition.finished = some f ∧
    OracleVerdict orc j0.name s.d.hash j0.job.maxAttempts jo.job.status.tasks.length f ∧
    (∀ r ∈ jo.job.status.tasks, r.finishTimestamp.isSome = true)
  podsDone : ∀ p ∈ s.pods, p.pod.isFinished = true
  fresh : s.jobEvs = [] ∧ s.podEvs = [] ∧ s.jobCache = s.job ∧ s.podCache = s.pods ∧ s.faults = []

theorem final_of {ok : Sys → Action → Prop} {j0 jo : JobObj} {F0 : Int} {s : Sys} (orc : String → Outcome)
    (h : Canon ok j0 jo F0 s) (hd : Done jo s) (ht : Truth orc jo s) (hn : jo.name = j0.name) : Final orc j0 s := by
  obtain ⟨f, hf, hv⟩ := verdict orc h hd ht
  have hmax : jo.job.maxAttempts = j0.job.maxAttempts := maxAttempts_of_template h.ver.template
  refine ⟨⟨jo, f, h.fresh.job, hn, hf, ?_, hd.allFin⟩, hd.podsFin, h.fresh.jobEvs, h.fresh.podEvs,
    by rw [h.fresh.jobCache, h.fresh.job], h.fresh.podCache, h.fresh.faults⟩
  unfold OracleVerdict
  rw [← hn, ← hmax]
  exact hv

/-- the example Job of `JobCtlInvExamples` is a simple Job -/
theorem ex_spec : SimpleSpec Ex.job.job := ⟨⟨{ maxAttempts := some 2 }, rfl, rfl⟩, rfl, rfl, rfl, rfl⟩

/-- the example Job with the delete-dependents finalizer -/
def exJobF : JobObj := { Ex.job with finalizer := true }

theorem ex_specF : SimpleSpec exJobF.job := ⟨⟨{ maxAttempts := some 2 }, rfl, rfl⟩, rfl, rfl, rfl, rfl⟩
theorem ex_wfF : WF exJobF := ⟨rfl, rfl, rfl⟩

end Furiko.JobCtl.Live
