/-
Per-key invariants of the pop loop and the per-key tick theorem (`work_key_stream_lemma`).
-/
import FurikoModel.Proofs.CronTick
import FurikoModel.Proofs.CronRun

namespace Furiko.Cron
open Furiko

/-- Invariant of a well-formed key during a tick.  `L` is the full due list of the key's
initial entry `e0`; either the key is still walking through `L` — what it has requested, followed
by what is still due for its entry, is `L` — or the cap was hit and the key has been re-based to
`nx nowS` (second disjunct). -/
def OKInv (nx : Int → Option Int) (nowS : Int) (c : Nat) (e0 : Int) (s : KState) : Prop :=
  (s.out.length = s.cnt ∧ s.cnt ≤ c ∧ s.out ++ rem nx nowS s.ent = dueList nx nowS e0 ∧
     s.ent = (match s.out.getLast? with | none => some e0 | some lf => nx lf))
  ∨ (s.cnt = c ∧ s.out = (dueList nx nowS e0).take c ∧ c < (dueList nx nowS e0).length ∧
     s.ent = nx nowS)

theorem OKInv_init (nx : Int → Option Int) (nowS : Int) (c : Nat) (e0 : Int) :
    OKInv nx nowS c e0 ⟨some e0, 0, []⟩ :=
  Or.inl ⟨rfl, Nat.zero_le _, rfl, rfl⟩

theorem OKInv_step {M : Int → Prop} {nx : Int → Option Int} (h : NextSpec M nx)
    {nowS : Int} {c : Nat} {e0 : Int} {s : KState} {ts : Int} (cap : Int) (hc : c = cap.toNat)
    (hI : OKInv nx nowS c e0 s) (he : s.ent = some ts) (hts : ts ≤ nowS) :
    OKInv nx nowS c e0
      (if (s.cnt : Int) ≥ cap then ⟨nx nowS, s.cnt, s.out⟩
       else ⟨nx ts, s.cnt + 1, s.out ++ [ts]⟩) := by
  rcases hI with ⟨h1, h2, h3, _⟩ | ⟨_, _, _, h4⟩
  · rw [he, rem, dueList_of_le h hts] at h3
    have hlen := congrArg List.length h3
    rw [List.length_append, List.length_cons] at hlen
    by_cases hcap : (s.cnt : Int) ≥ cap
    · simp only [hcap, if_true]
      have : s.cnt = c := by omega
      exact Or.inr ⟨this, by rw [← h3, ← this]; exact (List.take_left' h1).symm, by omega, rfl⟩
    · simp only [hcap, if_false]
      exact Or.inl ⟨by simp [h1], (by omega : s.cnt + 1 ≤ c), by rw [List.append_assoc]; exact h3,
        by simp⟩
  · exfalso
    rw [he] at h4
    have := ((h nowS).1 ts h4.symm).1
    omega

theorem OKInv_final {nx : Int → Option Int} {nowS : Int} {c : Nat} {e0 : Int} {s : KState}
    (hI : OKInv nx nowS c e0 s) (hgt : ∀ t, s.ent = some t → nowS < t) :
    s.out = (dueList nx nowS e0).take c ∧
    ((dueList nx nowS e0).length ≤ c →
      s.ent = (match (dueList nx nowS e0).getLast? with | none => some e0 | some lf => nx lf)) ∧
    (c < (dueList nx nowS e0).length → s.ent = nx nowS) := by
  rcases hI with ⟨h1, h2, h3, h5⟩ | ⟨h1, h2, h3, h4⟩
  · rw [rem_eq_nil_of_gt nx nowS s.ent hgt, List.append_nil] at h3
    rw [← h3]
    exact ⟨(List.take_of_length_le (by omega)).symm, fun _ => h5, fun hlt => by omega⟩
  · exact ⟨h2, fun hle => by omega, fun _ => h4⟩

theorem work_eq (w : Worker) (now : Int) (cap : Int) (flushLimit fuel : Nat)
    (hchan : w.chan = []) :
    work w now cap flushLimit fuel =
      ({ w with heap := (workLoop w.lister now cap fuel w.heap [] []).1, chan := [] },
       (workLoop w.lister now cap fuel w.heap [] []).2.1,
       (workLoop w.lister now cap fuel w.heap [] []).2.2) := by
  unfold work
  rw [hchan, refresh_nil]

theorem work_keywise {w : Worker} {now : Int} {cap : Int} (flushLimit fuel : Nat)
    (hInv : Heap.Inv w.heap) (hL : ListerOK w.lister) (hchan : w.chan = [])
    (P : String → KState → Prop)
    (hP : ∀ k s ts, P k s → s.ent = some ts → ts ≤ floorSec now →
      P k (kstep (lookup w.lister k) (floorSec now) cap ts s))
    (h0 : ∀ k, P k ⟨Heap.search w.heap k, 0, []⟩) :
    Heap.Inv (work w now cap flushLimit fuel).1.heap ∧
    (work w now cap flushLimit fuel).1.lister = w.lister ∧
    (work w now cap flushLimit fuel).1.chan = [] ∧
    (∃ counts', ∀ k, P k (view (work w now cap flushLimit fuel).1.heap counts'
        (work w now cap flushLimit fuel).2.1 k)) ∧
    ((work w now cap flushLimit fuel).2.2 = true →
      ∀ k p, Heap.search (work w now cap flushLimit fuel).1.heap k = some p →
        floorSec now < p) := by
  rw [work_eq w now cap flushLimit fuel hchan]
  have := workLoop_keywise hL P hP fuel w.heap [] [] hInv (by
    intro k; simpa [view, getCount, outk] using h0 k)
  exact ⟨this.1, rfl, rfl, this.2.1, this.2.2⟩

def JC.Active (jc : JC) : Prop := jc.sched.enabled = true ∧ jc.sched.parseErr = false

theorem bumpEnt_active {jc : JC} (h : jc.Active) (s : Int) : bumpEnt jc s = jc.nextAfter s := by
  simp [bumpEnt, h.1, h.2]

/-- after a tick in which something was due for the key, the key's new entry is the answer of
`Next` at `nowS` — whether or not the cap was hit -/
theorem nextAfter_last_eq_now {jc : JC} (hs : jc.SortedOK) (nowS e lf : Int)
    (hl : (dueList jc.nextAfter nowS e).getLast? = some lf) :
    jc.nextAfter lf = jc.nextAfter nowS := by
  have hsp := JC.nextAfter_spec hs
  obtain ⟨_, h2, _, h4⟩ := dueList_getLast_max hsp nowS e lf hl
  refine NextAt.unique (M := jc.M') (s := nowS) ?_ (hsp nowS)
  have a := hsp lf
  refine ⟨fun m hm => ?_, fun hn u hu => ?_⟩
  · have b := a.1 m hm
    exact ⟨h4 m b.2.1 b.1, b.2.1, fun u hu hsu => b.2.2 u hu (by omega)⟩
  · have := a.2 hn u hu; omega

section tick
variable {w : Worker} {now : Int} {cap : Int} (flushLimit fuel : Nat)
  (hInv : Heap.Inv w.heap) (hL : ListerOK w.lister) (hchan : w.chan = [])
include hInv hL hchan

theorem work_key (k : String)
    (P : KState → Prop)
    (hP : ∀ s ts, P s → s.ent = some ts → ts ≤ floorSec now →
      P (kstep (lookup w.lister k) (floorSec now) cap ts s))
    (h0 : P ⟨Heap.search w.heap k, 0, []⟩) :
    (∃ cnt, P ⟨Heap.search (work w now cap flushLimit fuel).1.heap k, cnt,
      outk (work w now cap flushLimit fuel).2.1 k⟩) ∧
    ((work w now cap flushLimit fuel).2.2 = true →
      ∀ p, Heap.search (work w now cap flushLimit fuel).1.heap k = some p → floorSec now < p) := by
  obtain ⟨_, _, _, ⟨counts', h⟩, hgt⟩ := work_keywise flushLimit fuel hInv hL hchan
    (fun k' s => k' = k → P s)
    (fun k' s ts hs he ht hk => by subst hk; exact hP s ts (hs rfl) he ht)
    (fun k' hk => by subst hk; exact h0)
  exact ⟨⟨_, h k rfl⟩, fun hd p => hgt hd k p⟩

theorem work_key_stream_lemma (hdone : (work w now cap flushLimit fuel).2.2 = true)
    {k : String} {jc : JC} (hlk : lookup w.lister k = some jc) (hact : jc.Active)
    {e : Int} (he : Heap.search w.heap k = some e) :
    outk (work w now cap flushLimit fuel).2.1 k
      = (dueList jc.nextAfter (floorSec now) e).take cap.toNat ∧
    (dueList jc.nextAfter (floorSec now) e = [] →
      Heap.search (work w now cap flushLimit fuel).1.heap k = some e) ∧
    (∀ lf, (dueList jc.nextAfter (floorSec now) e).getLast? = some lf →
      (dueList jc.nextAfter (floorSec now) e).length ≤ cap.toNat →
      Heap.search (work w now cap flushLimit fuel).1.heap k = jc.nextAfter lf) ∧
    (cap.toNat < (dueList jc.nextAfter (floorSec now) e).length →
      Heap.search (work w now cap flushLimit fuel).1.heap k
        = jc.nextAfter (floorSec now)) := by
  have hsp := JC.nextAfter_spec (lookup_ok hL hlk).2
  obtain ⟨⟨_, hI⟩, hgt⟩ := work_key flushLimit fuel hInv hL hchan k
    (OKInv jc.nextAfter (floorSec now) cap.toNat e)
    (fun s ts hI hent hts => by
      simp only [kstep, hlk, bumpEnt_active hact]
      exact OKInv_step hsp cap rfl hI hent hts)
    (he ▸ OKInv_init _ _ _ _)
  obtain ⟨h1, h2, h3⟩ := OKInv_final hI (hgt hdone)
  refine ⟨h1, fun hnil => ?_, fun lf hlf hle => ?_, h3⟩
  · simpa [hnil] using h2
  · simpa [hlf] using h2 hle

theorem work_key_entry_due (hdone : (work w now cap flushLimit fuel).2.2 = true)
    {k : String} {jc : JC} (hlk : lookup w.lister k = some jc) (hact : jc.Active)
    {e : Int} (he : Heap.search w.heap k = some e) (hdue : e ≤ floorSec now) :
    Heap.search (work w now cap flushLimit fuel).1.heap k
      = jc.nextAfter (floorSec now) := by
  have hs := (lookup_ok hL hlk).2
  obtain ⟨_, _, h2, h3⟩ := work_key_stream_lemma flushLimit fuel hInv hL hchan hdone hlk hact he
  by_cases hle : (dueList jc.nextAfter (floorSec now) e).length ≤ cap.toNat
  · cases hl : (dueList jc.nextAfter (floorSec now) e).getLast? with
    | none =>
      have := List.getLast?_eq_none_iff.1 hl
      rw [dueList_of_le (JC.nextAfter_spec hs) hdue] at this; cases this
    | some lf => rw [h2 lf hl hle]; exact nextAfter_last_eq_now hs _ _ _ hl
  · exact h3 (by omega)

theorem work_inv :
    Heap.Inv (work w now cap flushLimit fuel).1.heap ∧
    (work w now cap flushLimit fuel).1.lister = w.lister ∧
    (work w now cap flushLimit fuel).1.chan = [] := by
  have := work_keywise (w := w) (now := now) (cap := cap) flushLimit fuel hInv hL hchan
    (fun _ _ => True) (fun _ _ _ _ _ _ => trivial) (fun _ => trivial)
  exact ⟨this.1, this.2.1, this.2.2.1⟩

theorem work_key_not_due {k : String} {e : Int} (he : Heap.search w.heap k = some e) (hnd : floorSec now < e) :
    outk (work w now cap flushLimit fuel).2.1 k = [] ∧
    Heap.search (work w now cap flushLimit fuel).1.heap k = some e := by
  obtain ⟨⟨_, h⟩, _⟩ := work_key (now := now) (cap := cap) flushLimit fuel hInv hL hchan k
    (fun s => s.ent = some e ∧ s.out = [])
    (fun s ts hs hent hts => by rw [hs.1] at hent; cases hent; omega) ⟨he, rfl⟩
  exact ⟨h.2, h.1⟩

theorem work_out_arrived (k : String) :
    ∀ t ∈ outk (work w now cap flushLimit fuel).2.1 k, t ≤ floorSec now := by
  obtain ⟨⟨_, h⟩, _⟩ := work_key (now := now) (cap := cap) flushLimit fuel hInv hL hchan k
    (fun s => ∀ t ∈ s.out, t ≤ floorSec now)
    (fun s ts hP _ hts => by
      unfold kstep
      cases lookup w.lister k with
      | none => exact hP
      | some jc =>
        by_cases hcap : (s.cnt : Int) ≥ cap
        · simpa [hcap] using hP
        · simp only [hcap, if_false]
          intro t ht
          rcases List.mem_append.1 ht with h | h
          · exact hP t h
          · simp at h; omega)
    (fun t ht => nomatch ht)
  exact h

end tick

theorem work_key_absent {w : Worker} {now : Int} {cap : Int} (flushLimit fuel : Nat)
    (hInv : Heap.Inv w.heap) (hL : ListerOK w.lister) (hchan : w.chan = [])
    {k : String} (he : Heap.search w.heap k = none) :
    outk (work w now cap flushLimit fuel).2.1 k = [] ∧
    Heap.search (work w now cap flushLimit fuel).1.heap k = none := by
  obtain ⟨⟨_, h⟩, _⟩ := work_key (now := now) (cap := cap) flushLimit fuel hInv hL hchan k
    (fun s => s.ent = none ∧ s.out = [])
    (fun s ts hs hent _ => by rw [hs.1] at hent; cases hent) ⟨he, rfl⟩
  exact ⟨h.2, h.1⟩

theorem work_key_missing {w : Worker} {now : Int} {cap : Int} (flushLimit fuel : Nat)
    (hInv : Heap.Inv w.heap) (hL : ListerOK w.lister) (hchan : w.chan = [])
    (hdone : (work w now cap flushLimit fuel).2.2 = true)
    {k : String} (hlk : lookup w.lister k = none) {e : Int}
    (he : Heap.search w.heap k = some e) :
    outk (work w now cap flushLimit fuel).2.1 k = [] ∧
    Heap.search (work w now cap flushLimit fuel).1.heap k
      = if e ≤ floorSec now then none else some e := by
  obtain ⟨⟨_, hI⟩, hgt⟩ := work_key (now := now) (cap := cap) flushLimit fuel hInv hL hchan k
    (fun s => s.out = [] ∧ (s.ent = some e ∨ (s.ent = none ∧ e ≤ floorSec now)))
    (fun s ts hI hent hts => by
      rw [hlk]
      refine ⟨hI.1, Or.inr ⟨rfl, ?_⟩⟩
      rcases hI.2 with h | h
      · rw [h] at hent; cases hent; exact hts
      · exact h.2)
    ⟨rfl, Or.inl he⟩
  refine ⟨hI.1, ?_⟩
  rcases hI.2 with h | h
  · have := hgt hdone e h
    simp only at h
    rw [h, if_neg (by omega)]
  · simp only at h
    rw [h.1, if_pos h.2]

/-- key whose lister entry is disabled or does not parse: the model still requests the popped
time once (cap permitting) and drops the key. -/
theorem work_key_inactive {w : Worker} {now : Int} {cap : Int} (flushLimit fuel : Nat)
    (hInv : Heap.Inv w.heap) (hL : ListerOK w.lister) (hchan : w.chan = [])
    (hdone : (work w now cap flushLimit fuel).2.2 = true)
    {k : String} {jc : JC} (hlk : lookup w.lister k = some jc) (hact : ¬ jc.Active) {e : Int}
    (he : Heap.search w.heap k = some e) :
    outk (work w now cap flushLimit fuel).2.1 k
      = (if e ≤ floorSec now ∧ 0 < cap then [e] else []) ∧
    Heap.search (work w now cap flushLimit fuel).1.heap k
      = if e ≤ floorSec now then none else some e := by
  have hbe : ∀ s, bumpEnt jc s = none := by
    intro s
    unfold bumpEnt
    unfold JC.Active at hact
    cases h1 : jc.sched.enabled <;> cases h2 : jc.sched.parseErr <;> simp_all
  obtain ⟨⟨_, hI⟩, hgt⟩ := work_key (now := now) (cap := cap) flushLimit fuel hInv hL hchan k
    (fun s => (s.ent = some e ∧ s.out = [] ∧ s.cnt = 0) ∨
      (s.ent = none ∧ e ≤ floorSec now ∧ s.out = if 0 < cap then [e] else []))
    (fun s ts hI hent hts => by
      rcases hI with ⟨h1, h2, h3⟩ | ⟨h1, _, _⟩
      · rw [h1] at hent; cases hent
        right
        simp only [kstep, hlk, hbe, h3, h2]
        by_cases hcap : 0 < cap
        · have : ¬ cap ≤ 0 := by omega
          simp [this, hcap, hts]
        · have : cap ≤ 0 := by omega
          simp [this, hcap, hts]
      · rw [h1] at hent; cases hent)
    (Or.inl ⟨he, rfl, rfl⟩)
  rcases hI with ⟨h1, h2, _⟩ | ⟨h1, h2, h3⟩
  · have := hgt hdone e h1
    simp only at h1 h2
    rw [h1, h2, if_neg (by omega), if_neg (by omega)]
    exact ⟨rfl, rfl⟩
  · simp only at h1 h3
    rw [h1, h3, if_pos h2]
    simp [h2]

theorem mem_outk {l : List (String × Int)} {k : String} {t : Int} :
    t ∈ outk l k ↔ (k, t) ∈ l := by
  unfold outk
  simp only [List.mem_map, List.mem_filter, decide_eq_true_eq]
  constructor
  · rintro ⟨⟨k', t'⟩, ⟨hm, hk⟩, ht⟩
    simp only at hk ht
    subst hk; subst ht; exact hm
  · intro h
    exact ⟨(k, t), ⟨h, rfl⟩, rfl⟩

end Furiko.Cron
