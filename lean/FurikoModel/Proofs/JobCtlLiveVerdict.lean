/-
Liveness of the job controller: FAIR ROUNDS FROM THE CREATION OF A SIMPLE JOB TO THE ORACLE'S VERDICT.
* Final states are fixpoints of the fair round (`round_done`, `done_forever`): with the Job finished, every pod
  finished and recorded and the recorded status stable, a round changes neither the Job nor the pods nor the
  resourceVersion counter nor the clock, and its pass (if the key is ready at all) issues no API call.
* The invariant holds right after the creation event of a simple, started Job was delivered (`init_canon`).
* `Truth orc`: the state agrees with the kubelet oracle `orc` so far — finished pods ended as `orc` says (and
  none was OOM-killed), every recorded attempt still has its pod, an attempt recorded as over without success
  failed according to `orc`, a successful or live one is the latest.  Fair rounds keep it (`truth_round`), and
  in a final state it pins the result down (`verdict`): `Success` with `k+1` refs where `k` is the first attempt
  `orc` lets succeed, or `Failed` with `maxAttempts` refs when `orc` fails them all.
* The assembled statement `fresh_job_converges`.
Core Lean only.
-/
import FurikoModel.Proofs.JobCtlLiveRound

set_option linter.unusedSimpArgs false
set_option linter.unusedVariables false

namespace Furiko.JobCtl.Live
open Furiko Furiko.JobCtl Furiko.WQ Furiko.StatusLemmas Furiko.JobCtlPlan Furiko.Conv Furiko.ParallelLemmas

/-- with every pod finished the kubelet has nothing to do -/
theorem sweep_idle (orc : String → Outcome) (s : Sys) (h : ∀ p ∈ s.pods, p.pod.isFinished = true) : sweep orc s = s := by
  unfold sweep
  have : ∀ (L : List String), L.foldl (sweepOne orc) s = s := by
    intro L
    induction L with
    | nil => rfl
    | cons n rest ih =>
      simp only [List.foldl_cons]
      have h1 : sweepOne orc s n = s := by
        unfold sweepOne
        cases hf : findPod s.pods n with
        | none => rfl
        | some p =>
          simp only
          rw [if_pos (h p (findPod_some hf).1)]
      rw [h1]; exact ih
  exact this _

theorem Done.congr {jo jo' : JobObj} {s W : Sys} (hd : Done jo s) (hjob : jo'.job = jo.job) (hpods : W.pods = s.pods)
    (hd' : W.d = s.d) : Done jo' W := by
  refine ⟨by rw [hjob]; exact hd.fin, by rw [hjob]; exact hd.allFin, by rw [hjob]; exact hd.complete,
    by rw [hpods]; exact hd.podsFin, ?_, ?_⟩
  · intro p hp; rw [hpods] at hp; unfold refNames; rw [hjob]; exact hd.recorded p hp
  · intro c
    have : foundTasks ({ W with clock := c } : Sys) jo' = foundTasks ({ s with clock := c } : Sys) jo := by
      have hl : (fun r : TaskRef => lookTask ({ W with clock := c } : Sys) r.name) =
          (fun r => lookTask ({ s with clock := c } : Sys) r.name) := by
        funext r; unfold lookTask
        show (findPod W.pods r.name).bind (podTask c) = (findPod s.pods r.name).bind (podTask c)
        rw [hpods]
      unfold foundTasks; rw [hjob, hl]
    rw [this, hd', hjob]
    exact hd.stable c

section
variable {ok : Sys → Action → Prop} {j0 jo : JobObj} {F0 : Int} {s : Sys}

/-- the pass of a final state recomputes the recorded status, over a complete summary -/
theorem Done.pass_facts (hd : Done jo s) (h : Canon ok j0 jo F0 s) :
    recompute s.clock s.d jo.job (foundTasks s jo) = jo.job ∧
    (getParallelTaskSummary s.d jo.job (refreshedRefs s jo)).complete = true := by
  have hstab := hd.stable s.clock
  refine ⟨hstab, ?_⟩
  have := recompute_found_tasks s jo
  rw [hstab] at this
  rw [← this]
  apply (simple_summary s.d jo.job _ h.spec h.allHash).2.2.mpr
  rcases hd.complete with hx | hx
  · exact Or.inl hx
  · right; rw [countP_terminal_of_allFin hd.allFin]; exact hx

/-- the environment half of a round does nothing in a final state -/
theorem Done.env_idle (hd : Done jo s) (hok : ∀ s a, fairEnv s a → ok s a) (h : Canon ok j0 jo F0 s)
    (orc : String → Outcome) : jump (envState orc s) = s := by
  obtain ⟨f, hf, _, _⟩ := hd.fin
  have hidle : deliverAll s = s := deliverAll_idle s h.fresh.jobEvs h.fresh.podEvs
  have henv : envState orc s = s := by unfold envState; rw [hidle, sweep_idle orc s hd.podsFin, hidle]
  rw [henv]
  exact (jump_stage hok h).2.2.2.2.2.2.2 (by rw [hf]; rfl)

/-- **final states are fixpoints of the fair round** -/
theorem round_done (hok : ∀ s a, fairEnv s a → ok s a) (orc : String → Outcome) (h : Canon ok j0 jo F0 s)
    (hd : Done jo s) (hT : s.clock < F0 + getTTLAfterFinished jo.job s.cfg) :
    Canon ok j0 jo F0 (round orc s) ∧ Done jo (round orc s) ∧ (round orc s).job = s.job ∧
    (round orc s).pods = s.pods ∧ (round orc s).rv = s.rv ∧ (round orc s).clock = s.clock ∧
    (round orc s).cfg = s.cfg ∧ (work s).1.calls = [] ∧ round orc s = deliverAll (work s).1 := by
  have hround : round orc s = deliverAll (work s).1 := by
    show deliverAll (work (jump (envState orc s))).1 = _
    rw [hd.env_idle hok h orc]
  have hps : PState ok j0 jo F0 s := ⟨h, hd.podsFin⟩
  rw [hround]
  cases hqq : (s.q.advance s.clock).queue with
  | nil =>
    -- nothing ready: the worker idles
    have hg : (s.q.advance s.clock).get = none := by unfold WQ.get; rw [hqq]
    have hw : (work s).1 = { s with q := s.q.advance s.clock, calls := [], delRun := none } := by rw [work_none s hg]
    have hdl : deliverAll (work s).1 = (work s).1 := by
      apply deliverAll_idle
      · rw [hw]; exact h.fresh.jobEvs
      · rw [hw]; exact h.fresh.podEvs
    have hreach := h.reach.steps (deliverAll_steps (fun s => hok s _ trivial) (fun s => hok s _ trivial) s _ (work_steps hok s))
    rw [hdl] at hreach ⊢
    rw [hw] at hreach ⊢
    exact ⟨h.idle hreach, hd.congr rfl rfl rfl, rfl, rfl, rfl, rfl, rfl, rfl, rfl⟩
  | cons k rest =>
    -- the pass recomputes the recorded status and writes nothing
    obtain ⟨hstab, hcomp⟩ := hd.pass_facts h
    obtain ⟨hpo, hW, n1, n2, n4⟩ : PassOut jo s (work s).1 (recompute s.clock s.d jo.job (foundTasks s jo)).status [] ∧
        dropFaults (work (withFaults s [])).1 = (work s).1 ∧ (work s).1.job = some jo ∧ (work s).1.rv = s.rv ∧
        (work s).1.calls = [] := by
      rcases pass_uniform hps [] k rest hqq _ _ [] jo.job (foundTasks s jo) ⟨CreateOutF.refl _, fun hfs => hfs,
        TimersOnly.refl _ _, create_complete hps (spF s [] k rest) h.fresh.podCache rfl rfl hcomp, Or.inl rfl,
        hps.tasksOK_found, by simp⟩ hT with ⟨hpo, _, hfe⟩ | ⟨_, _, hne⟩
      · obtain ⟨hW, _, hnw⟩ := hfe rfl
        exact ⟨hW ▸ hpo, hW, hnw (by rw [hstab])⟩
      · exact absurd rfl hne
    obtain ⟨jo', haf, hdone, _, hpods⟩ := core_complete hok hps _ (work_steps hok s) hcomp hpo
    -- the authoritative Job is unchanged
    have hsrv := (deliverAll_spec _ hpo.psync hpo.jsync).2.2.2.2.1
    have hjoeq : jo' = jo := by
      have := haf.canon.fresh.job
      rw [hsrv.job, n1] at this
      exact (Option.some.inj this).symm
    subst hjoeq
    exact ⟨haf.canon, hdone, by rw [hsrv.job, n1, h.fresh.job], hpods, by rw [hsrv.rv, n2], haf.clock, haf.cfg, n4, rfl⟩

end

/-- the state after the creation event of the Job was delivered to the Job informer -/
def startState (clock : Int) (cfg : ExecConfig) (d : PIndex) (j0 : JobObj) : Sys :=
  deliverAll (initSys clock cfg d j0)

theorem startState_eq (clock : Int) (cfg : ExecConfig) (d : PIndex) (j0 : JobObj) :
    startState clock cfg d j0 =
      { clock := clock, cfg := cfg, d := d, rv := 1, job := some { j0 with rv := 1 },
        jobCache := some { j0 with rv := 1 }, q := ({} : WQ).add (jobKey { j0 with rv := 1 }) } := rfl

/-- **the invariant holds at the start**: a well-formed simple Job (started, one index, no kill timestamp,
no admission error), right after its creation event was delivered -/
theorem init_canon {ok : Sys → Action → Prop} (hok : ∀ s a, fairEnv s a → ok s a) (clock : Int) (cfg : ExecConfig)
    (d : PIndex) (j0 : JobObj) (hwf : WF j0) (hspec : SimpleSpec j0.job) (hn : 1 ≤ j0.job.maxAttempts)
    (hunf : j0.job.status.condition.finished = none) (hdash : '-' ∉ d.hash.toList) (F0 : Int)
    (hF0 : F0 ≤ secs (clock / 1000000000)) :
    Canon ok j0 { j0 with rv := 1 } F0 (startState clock cfg d j0) ∧
    Busy { j0 with rv := 1 } (startState clock cfg d j0) := by
  have hreach : Reach ok j0 (startState clock cfg d j0) := by
    have h0 : Reach ok j0 (initSys clock cfg d j0) := .init clock cfg d hwf
    exact h0.steps (deliverAll_steps (fun s => hok s _ trivial) (fun s => hok s _ trivial) _ _ (.refl _))
  rw [startState_eq] at hreach ⊢
  refine ⟨⟨hreach, hdash, ⟨rfl, rfl, rfl, rfl, rfl, rfl⟩, hspec, hn, ⟨?_, ?_, ?_, ?_⟩, Retry.WF_empty.add _, ?_, ?_, hF0, ?_, ?_⟩,
    ⟨hunf, ?_, Or.inl ?_⟩⟩
  · intro p hp; cases hp
  · intro p hp; cases hp
  · intro p hp; cases hp
  · exact List.nodup_nil
  · show (j0.job.status.tasks.map _).Perm _
    rw [hwf.noTasks]; exact List.Perm.refl _
  · intro p hp; cases hp
  · intro r hr
    have : r ∈ j0.job.status.tasks := hr
    rw [hwf.noTasks] at this; cases this
  · intro p hp; cases hp
  · intro r hr
    have : r ∈ j0.job.status.tasks := hr
    rw [hwf.noTasks] at this; cases this
  · have := Retry.mem_queue_add_self Retry.WF_empty (jobKey { j0 with rv := 1 })
    intro e
    rw [e] at this; cases this

/-- the state agrees with the kubelet oracle -/
structure Truth (orc : String → Outcome) (jo : JobObj) (s : Sys) : Prop where
  pods : ∀ p ∈ s.pods, p.pod.isOOMKilled = false ∧
    (p.pod.isFinished = true → (p.pod.phase = .succeeded ↔ orc p.pod.name = .succeed))
  noLoss : ∀ r ∈ jo.job.status.tasks, r.name ∈ podNames s.pods
  failed : ∀ r ∈ jo.job.status.tasks, r.finishTimestamp.isSome = true → r.status.result ≠ .succeeded →
    orc r.name = .fail
  succ : ∀ r ∈ jo.job.status.tasks, r.finishTimestamp.isSome = true → r.status.result = .succeeded →
    orc r.name = .succeed ∧ ∀ r' ∈ jo.job.status.tasks, r'.retryIndex ≤ r.retryIndex
  live : ∀ r ∈ jo.job.status.tasks, LiveRef r → ∀ r' ∈ jo.job.status.tasks, r'.retryIndex ≤ r.retryIndex

theorem outcome_fail_of_ne {o : Outcome} (h : o ≠ .succeed) : o = .fail := by cases o <;> simp_all

/-- a finished pod that was not OOM-killed reports `Succeeded` exactly in phase Succeeded -/
theorem result_of_phase {p : PodObj} (hoom : p.pod.isOOMKilled = false) (hfin : p.pod.isFinished = true) :
    p.pod.result = .succeeded ↔ p.pod.phase = .succeeded := by
  unfold Pod.result
  rw [hoom]
  unfold Pod.isFinished at hfin
  cases hp : p.pod.phase <;> simp_all

theorem sweepPod_truth (orc : String → Outcome) (p : PodObj) (hoom : p.pod.isOOMKilled = false)
    (h : p.pod.isFinished = true → (p.pod.phase = .succeeded ↔ orc p.pod.name = .succeed)) :
    (sweepPod orc p).pod.isOOMKilled = false ∧
    ((sweepPod orc p).pod.phase = .succeeded ↔ orc (sweepPod orc p).pod.name = .succeed) := by
  unfold sweepPod
  by_cases hf : p.pod.isFinished = true
  · rw [if_pos hf]; exact ⟨hoom, h hf⟩
  · rw [if_neg hf]
    refine ⟨hoom, ?_⟩
    show (orc p.pod.name).phase = .succeeded ↔ orc p.pod.name = .succeed
    cases orc p.pod.name <;> simp [Outcome.phase]

/-- the pods after the controller half of a round agree with the oracle: they are the swept pods of the round's
first state, possibly plus a new one that is not finished -/
theorem truth_pods (orc : String → Outcome) {jo jo1 : JobObj} {s0 e w : Sys} (ht : Truth orc jo s0)
    (hpods : e.pods = s0.pods.map (sweepPod orc)) (m : Int) (c : Time)
    (hw : w.pods = e.pods ∨ w.pods = e.pods ++ [newPod jo1 e.d m c]) :
    (∀ p ∈ w.pods, p.pod.isOOMKilled = false ∧
      (p.pod.isFinished = true → (p.pod.phase = .succeeded ↔ orc p.pod.name = .succeed))) ∧
    ∀ p ∈ e.pods, p ∈ w.pods := by
  have hpodsE : ∀ p ∈ e.pods, p.pod.isOOMKilled = false ∧ (p.pod.phase = .succeeded ↔ orc p.pod.name = .succeed) := by
    intro p hp
    rw [hpods] at hp
    obtain ⟨p0, hp0, rfl⟩ := List.mem_map.mp hp
    exact sweepPod_truth orc p0 (ht.pods p0 hp0).1 (ht.pods p0 hp0).2
  rcases hw with e1 | e1 <;> rw [e1]
  · exact ⟨fun p hp => ⟨(hpodsE p hp).1, fun _ => (hpodsE p hp).2⟩, fun p hp => hp⟩
  · refine ⟨fun p hp => ?_, fun p hp => List.mem_append_left _ hp⟩
    rcases List.mem_append.mp hp with hp | hp
    · exact ⟨(hpodsE p hp).1, fun _ => (hpodsE p hp).2⟩
    · rw [List.mem_singleton.mp hp]
      exact ⟨rfl, fun hx => by cases hx⟩

section
variable {ok : Sys → Action → Prop} {j0 jo jo' : JobObj} {F0 : Int} {s e w : Sys}

/-- the pod behind a task the server shows -/
theorem PState.pod_of_task (h : PState ok j0 jo F0 e) {n : String} {t : Task} (hl : lookTask e n = some t) :
    ∃ p ∈ e.pods, p.pod.name = n ∧ podTask e.clock p = some t ∧ p.pod.isFinished = true :=
  let ⟨_, _, _, _, p, hp, hn, hpt⟩ := h.task_facts hl
  ⟨p, hp, hn, hpt, h.podsFin p hp⟩

/-- **fair rounds keep the agreement with the oracle** -/
theorem truth_round (orc : String → Outcome) (hb : Busy jo s) (ht : Truth orc jo s)
    (hpe : PState ok j0 jo F0 e) (hpods : e.pods = s.pods.map (sweepPod orc)) (hcw : Canon ok j0 jo' F0 w)
    (hname : jo'.name = jo.name) (hdw : w.d = e.d) (hrs : RefsStep e jo jo' w) : Truth orc jo' w := by
  have hce := hpe.canon
  obtain ⟨hpodsW, hsubE⟩ := truth_pods orc ht hpods _ _ hrs.2
  -- the task behind a refreshed live ref
  have hliveTask : ∀ r ∈ jo.job.status.tasks, LiveRef r → ∃ t p, lookTask e r.name = some t ∧ p ∈ e.pods ∧
      p.pod.name = r.name ∧ podTask e.clock p = some t ∧ refreshSrv e r = getTaskRef (some r) t := by
    intro r hr hl
    have hn := ht.noLoss r hr
    obtain ⟨p0, hp0, hn0⟩ := List.mem_map.mp hn
    have hpe' : sweepPod orc p0 ∈ e.pods := by rw [hpods]; exact List.mem_map_of_mem hp0
    have hnE : (sweepPod orc p0).pod.name = r.name := by rw [sweepPod_name]; exact hn0
    have hfind := findPod_of_mem_nodup hce.pods.nodup hpe'
    obtain ⟨t, htk⟩ := podTask_of_noPanic (hce.pods.sane _ hpe').1
    have hlook : lookTask e r.name = some t := by
      unfold lookTask; rw [← hnE, hfind]; exact htk
    refine ⟨t, sweepPod orc p0, hlook, hpe', hnE, htk, ?_⟩
    unfold refreshSrv; rw [hlook]
  -- the extra ref carries the next retry number
  have hextra : ∀ g ∈ jo'.job.status.tasks, ∀ t, g = getTaskRef none t → lookTask w t.name = some t →
      t.name = taskName jo.name e.d.hash jo.job.status.tasks.length →
      g.retryIndex = jo.job.status.tasks.length ∧ g.name = t.name ∧
      ∃ p ∈ w.pods, p.pod.name = t.name ∧ podTask w.clock p = some t := by
    intro g hg t hgt hlt htn
    obtain ⟨p, hp, hpt⟩ := lookTask_some hlt
    have hpm := findPod_some hp
    have h2 : g.name = t.name := by rw [hgt, getTaskRef_name, (podTask_ok hpt).1]
    have h1 := (hcw.refOK hg).2.1
    rw [h2, htn, hname, hdw] at h1
    exact ⟨((taskName_inj hce.nodash hce.nodash h1).2).symm, h2, p, hpm.1, hpm.2, hpt⟩
  -- a finished pod of `w` that is the pod of a task
  have hpodRes : ∀ {now : Time}, ∀ p ∈ w.pods, ∀ t, podTask now p = some t → t.ref.finishTimestamp.isSome = true →
      (t.ref.status.result = .succeeded ↔ orc p.pod.name = .succeed) := by
    intro now p hp t hpt htf
    have hfin : p.pod.isFinished = true := by
      cases hx : p.pod.isFinished with
      | true => rfl
      | false =>
        have := (podTask_fields hpt).2.2.2.2.2.2.2 hx
        rw [this] at htf; cases htf
    rw [(podTask_fields hpt).2.2.2.2.1, result_of_phase (hpodsW p hp).1 hfin]
    exact (hpodsW p hp).2 hfin
  -- every ref of `jo'` is a dead ref of `jo`, refreshed, or the ref of a task read from a pod of `w` — the pod of
  -- the live ref of `jo`, or of the next attempt — and then it carries the greatest retry number
  have hcl : ∀ g ∈ jo'.job.status.tasks,
      (∃ r ∈ jo.job.status.tasks, Dead r ∧ g = refreshSrv e r) ∨
      (∃ p ∈ w.pods, p.pod.name = g.name ∧
        (g.finishTimestamp.isSome = true → (g.status.result = .succeeded ↔ orc p.pod.name = .succeed)) ∧
        ∀ g' ∈ jo'.job.status.tasks, g'.retryIndex ≤ g.retryIndex) := by
    intro g hg
    rcases hrs.1 g hg with ⟨r, hr, rfl⟩ | ⟨t, hgt, hlt, htn, _⟩
    · rcases hb.shape r hr with hd | hl
      · exact Or.inl ⟨r, hr, hd, rfl⟩
      · obtain ⟨t, p, hlook, hp, hpn, hpt, hre⟩ := hliveTask r hr hl
        obtain ⟨tg, tf, _⟩ := hpe.task_facts hlook
        refine Or.inr ⟨p, hsubE p hp, hpn.trans (hpe.refreshSrv_facts hr).name.symm, fun _ => ?_, fun g' hg' => ?_⟩
        · rw [hre, (live_getTaskRef hl tg tf).2.1]
          exact hpodRes p (hsubE p hp) t hpt tf
        · rw [(hpe.refreshSrv_facts hr).retry]
          rcases hrs.1 g' hg' with ⟨r', hr', rfl⟩ | ⟨t', _, _, _, hall'⟩
          · rw [(hpe.refreshSrv_facts hr').retry]; exact ht.live r hr hl r' hr'
          · exact absurd hl (hall' r hr).not_live
    · obtain ⟨hgr, hn, p, hp, hpn, hpt⟩ := hextra g hg t hgt hlt htn
      refine Or.inr ⟨p, hp, hpn.trans hn.symm, fun hgf => ?_, fun g' hg' => ?_⟩
      · rw [hgt, (getTaskRef_none_fields t).2.1] at hgf
        rw [hgt, (getTaskRef_none_fields t).1]
        exact hpodRes p hp t hpt hgf
      · rw [hgr]
        rcases hrs.1 g' hg' with ⟨r', hr', rfl⟩ | ⟨t', hgt', hlt', htn', _⟩
        · rw [(hpe.refreshSrv_facts hr').retry]; exact Int.le_of_lt (hce.retry_lt hr').2.1
        · rw [(hextra g' hg' t' hgt' hlt' htn').1]; exact Int.le_refl _
  refine ⟨hpodsW, fun g hg => ?_, fun g hg hgf hgs => ?_, fun g hg hgf hgs => ?_, fun g hg hgl => ?_⟩
  · rcases hcl g hg with ⟨r, hr, _, rfl⟩ | ⟨p, hp, hpn, _⟩
    · rw [(hpe.refreshSrv_facts hr).name]
      obtain ⟨p0, hp0, hn0⟩ := List.mem_map.mp (ht.noLoss r hr)
      exact List.mem_map.mpr ⟨_, hsubE _ (hpods ▸ List.mem_map_of_mem hp0), by rw [sweepPod_name]; exact hn0⟩
    · exact List.mem_map.mpr ⟨p, hp, hpn⟩
  · rcases hcl g hg with ⟨r, hr, hd, rfl⟩ | ⟨p, hp, hpn, hiff, _⟩
    · rw [(hpe.refreshSrv_facts hr).name]
      exact ht.failed r hr hd.fin hd.nosucc
    · rw [← hpn]
      exact outcome_fail_of_ne (fun hx => hgs ((hiff hgf).mpr hx))
  · rcases hcl g hg with ⟨r, hr, hd, rfl⟩ | ⟨p, hp, hpn, hiff, hmax⟩
    · exact absurd hgs ((hpe.refreshSrv_facts hr).dead hd).1.nosucc
    · exact ⟨hpn ▸ (hiff hgf).mp hgs, hmax⟩
  · rcases hcl g hg with ⟨r, hr, _, rfl⟩ | ⟨_, _, _, _, hmax⟩
    · have := (hpe.refreshSrv_facts hr).fin
      rw [hgl.unfin] at this; cases this
    · exact hmax

end

section
variable {ok : Sys → Action → Prop} {j0 jo : JobObj} {F0 : Int} {s : Sys}

/-- **the verdict**: in a final state that agrees with the oracle, the Job is `Success` with the last recorded
attempt the first one the oracle lets succeed, or `Failed` with `maxAttempts` attempts the oracle fails -/
theorem verdict (orc : String → Outcome) (h : Canon ok j0 jo F0 s) (hd : Done jo s) (ht : Truth orc jo s) :
    ∃ f, jo.job.status.condition.finished = some f ∧
      ((f.result = .success ∧ 1 ≤ jo.job.status.tasks.length ∧
          orc (taskName jo.name s.d.hash ((jo.job.status.tasks.length - 1 : Nat) : Int)) = .succeed ∧
          ∀ i : Nat, i + 1 < jo.job.status.tasks.length → orc (taskName jo.name s.d.hash (i : Int)) = .fail) ∨
       (f.result = .failed ∧ (jo.job.status.tasks.length : Int) = jo.job.maxAttempts ∧
          ∀ i : Nat, i < jo.job.status.tasks.length → orc (taskName jo.name s.d.hash (i : Int)) = .fail)) := by
  obtain ⟨f, hf, hs1, hs2⟩ := hd.fin
  refine ⟨f, hf, ?_⟩
  by_cases hany : AnySucc jo.job.status.tasks
  · left
    obtain ⟨g, hg, hgs⟩ := hany
    have hgf := hd.allFin g hg
    obtain ⟨horc, hmax⟩ := ht.succ g hg hgf hgs
    obtain ⟨g0, glt, _⟩ := h.retry_lt hg
    have hpos : 1 ≤ jo.job.status.tasks.length := by omega
    -- the successful ref carries the last retry number
    obtain ⟨rl, hrl, hrli, _⟩ := h.refAt (jo.job.status.tasks.length - 1) (by omega)
    have hlast : g.retryIndex = ((jo.job.status.tasks.length - 1 : Nat) : Int) := by
      have := hmax rl hrl
      rw [hrli] at this
      omega
    refine ⟨hs1 ⟨g, hg, hgs⟩, hpos, ?_, ?_⟩
    · rw [← hlast, ← (h.refOK hg).2.1]; exact horc
    · intro i hi
      obtain ⟨r, hr, hri, hrn⟩ := h.refAt i (by omega)
      rw [← hrn]
      apply ht.failed r hr (hd.allFin r hr)
      intro hrs
      have := (ht.succ r hr (hd.allFin r hr) hrs).2 rl hrl
      rw [hrli, hri] at this
      omega
  · right
    have hge : (jo.job.status.tasks.length : Int) ≥ jo.job.maxAttempts := by
      rcases hd.complete with hx | hx
      · exact absurd hx hany
      · exact hx
    have hpos : 1 ≤ jo.job.status.tasks.length := by have := h.npos; omega
    obtain ⟨rl, hrl, hrli, _⟩ := h.refAt (jo.job.status.tasks.length - 1) (by omega)
    have hlt := (h.retry_lt hrl).2.2
    rw [hrli] at hlt
    refine ⟨hs2 hany, by omega, ?_⟩
    intro i hi
    obtain ⟨r, hr, _, hrn⟩ := h.refAt i hi
    rw [← hrn]
    exact ht.failed r hr (hd.allFin r hr) (fun hrs => hany ⟨r, hr, hrs⟩)

end

/-- `truth_round` in the form `rounds_converge_with` wants -/
theorem truth_preserved {ok : Sys → Action → Prop} {j0 : JobObj} {F0 : Int} (hok : ∀ s a, fairEnv s a → ok s a)
    (orc : String → Outcome) (jo jo' : JobObj) (s : Sys) (h : Canon ok j0 jo F0 s) (hb : Busy jo s)
    (ht : Truth orc jo s) (hn : jo'.name = jo.name) (hcw : Canon ok j0 jo' F0 (round orc s))
    (hrs : RefsStep (jump (envState orc s)) jo jo' (round orc s))
    (hpods : (jump (envState orc s)).pods = s.pods.map (sweepPod orc)) (hd : (jump (envState orc s)).d = s.d)
    (hps : PState ok j0 jo F0 (jump (envState orc s))) : Truth orc jo' (round orc s) := by
  have hdw : (round orc s).d = (jump (envState orc s)).d := by
    rw [hd]
    exact steps_d (j0 := j0) (round_steps hok orc s s (.refl s))
  exact truth_round orc hb ht hps hpods hcw hn hdw hrs

/-- no pod, no ref: the state agrees with every oracle -/
theorem truth_start (orc : String → Outcome) (clock : Int) (cfg : ExecConfig) (d : PIndex) (j0 : JobObj) (hwf : WF j0) :
    Truth orc { j0 with rv := 1 } (startState clock cfg d j0) := by
  rw [startState_eq]
  refine ⟨(fun p hp => by cases hp), ?_, ?_, ?_, ?_⟩
  all_goals
    intro r hr
    have : r ∈ j0.job.status.tasks := hr
    rw [hwf.noTasks] at this
    cases this

section
variable {ok : Sys → Action → Prop} {j0 : JobObj} {F0 : Int}

/-- a final state stays final under any number of further fair rounds, with the same Job, pods,
resourceVersion counter and clock -/
theorem done_forever (hok : ∀ s a, fairEnv s a → ok s a) (orc : String → Outcome) (jo : JobObj) :
    ∀ (n : Nat) (s : Sys), Canon ok j0 jo F0 s → Done jo s → s.clock < F0 + getTTLAfterFinished jo.job s.cfg →
      Canon ok j0 jo F0 (roundN orc n s) ∧ Done jo (roundN orc n s) ∧ (roundN orc n s).job = s.job ∧
      (roundN orc n s).pods = s.pods ∧ (roundN orc n s).rv = s.rv ∧ (roundN orc n s).clock = s.clock
  | 0, s, h, hd, _ => ⟨h, hd, rfl, rfl, rfl, rfl⟩
  | n + 1, s, h, hd, hT => by
    obtain ⟨h1, h2, h3, h4, h5, h6, h7, _⟩ := round_done hok orc h hd hT
    obtain ⟨i1, i2, i3, i4, i5, i6⟩ := done_forever hok orc jo n (round orc s) h1 h2 (by rw [h6, h7]; exact hT)
    exact ⟨i1, i2, i3.trans h3, i4.trans h4, i5.trans h5, i6.trans h6⟩

/-- a simple Job from its creation: at most `3·maxAttempts + 2` fair rounds reach a final state that agrees
with the oracle, before the TTL has elapsed -/
theorem fresh_job_run (hok : ∀ s a, fairEnv s a → ok s a) (orc : String → Outcome) (clock : Int)
    (cfg : ExecConfig) (d : PIndex) (j0 : JobObj) (hwf : WF j0) (hspec : SimpleSpec j0.job)
    (hn : 1 ≤ j0.job.maxAttempts) (hunf : j0.job.status.condition.finished = none) (hdash : '-' ∉ d.hash.toList)
    (F0 : Int) (hF0 : F0 ≤ secs (clock / 1000000000))
    (hT : ∀ k, k < 3 * j0.job.maxAttempts.toNat + 2 →
      (roundN orc (k + 1) (startState clock cfg d j0)).clock < F0 + getTTLAfterFinished j0.job cfg) :
    ∃ k, 1 ≤ k ∧ k ≤ 3 * j0.job.maxAttempts.toNat + 2 ∧
      ∃ jo', jo'.name = j0.name ∧ Canon ok j0 jo' F0 (roundN orc k (startState clock cfg d j0)) ∧
        Done jo' (roundN orc k (startState clock cfg d j0)) ∧ Truth orc jo' (roundN orc k (startState clock cfg d j0)) ∧
        (roundN orc k (startState clock cfg d j0)).clock <
          F0 + getTTLAfterFinished jo'.job (roundN orc k (startState clock cfg d j0)).cfg := by
  obtain ⟨hcan, hbusy⟩ := init_canon hok clock cfg d j0 hwf hspec hn hunf hdash F0 hF0
  -- no ref yet: three rounds per attempt, and the first retry timer need not be armed
  have hmu : mu { j0 with rv := 1 } (startState clock cfg d j0) ≤ 3 * j0.job.maxAttempts.toNat + 2 := by
    unfold mu
    have : ({ j0 with rv := 1 } : JobObj).job.status.tasks = [] := hwf.noTasks
    rw [this]
    simp only [List.all_nil, ↓reduceIte, List.length_nil]
    show 3 * (j0.job.maxAttempts - 0).toNat + 2 - _ ≤ _
    split <;> omega
  obtain ⟨k, hk, hk1, jo', hn', hcan', hdone, htruth, hclk⟩ := rounds_converge_with hok orc (Truth orc)
    (fun jo jo' s h hb ht hn hcw hrs hpods hd hps => truth_preserved hok orc jo jo' s h hb ht hn hcw hrs hpods hd hps)
    (3 * j0.job.maxAttempts.toNat + 2) _ _ hcan hbusy (truth_start orc clock cfg d j0 hwf) hmu hT
  exact ⟨k, hk1, Nat.le_trans hk hmu, jo', hn', hcan', hdone, htruth, hclk⟩

/-- **a simple Job from its creation**: the oracle decides -/
theorem fresh_job_converges (hok : ∀ s a, fairEnv s a → ok s a) (orc : String → Outcome) (clock : Int)
    (cfg : ExecConfig) (d : PIndex) (j0 : JobObj) (hwf : WF j0) (hspec : SimpleSpec j0.job)
    (hn : 1 ≤ j0.job.maxAttempts) (hunf : j0.job.status.condition.finished = none) (hdash : '-' ∉ d.hash.toList)
    (F0 : Int) (hF0 : F0 ≤ secs (clock / 1000000000))
    (hT : ∀ k, k < 3 * j0.job.maxAttempts.toNat + 2 →
      (roundN orc (k + 1) (startState clock cfg d j0)).clock < F0 + getTTLAfterFinished j0.job cfg) :
    ∃ k, 1 ≤ k ∧ k ≤ 3 * j0.job.maxAttempts.toNat + 2 ∧
      Steps ok j0 (startState clock cfg d j0) (roundN orc k (startState clock cfg d j0)) ∧
      ∃ jo', jo'.name = j0.name ∧ Canon ok j0 jo' F0 (roundN orc k (startState clock cfg d j0)) ∧
        Done jo' (roundN orc k (startState clock cfg d j0)) ∧
        Truth orc jo' (roundN orc k (startState clock cfg d j0)) := by
  obtain ⟨k, hk1, hk, jo', hn', hcan', hdone, htruth, _⟩ :=
    fresh_job_run hok orc clock cfg d j0 hwf hspec hn hunf hdash F0 hF0 hT
  exact ⟨k, hk1, hk, roundN_steps hok orc k _ _ (.refl _), jo', hn', hcan', hdone, htruth⟩

end

end Furiko.JobCtl.Live
