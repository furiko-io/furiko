/-
Map-level specifications of the `Schedule` operations (`schedDelete`, `schedBump`, `schedPop`) from
the heap interface theorems of Proofs/HeapSpec.lean, and one tick of `CronWorker.Work`: key-wise
view of `workLoop`.
Every iteration pops one key and changes only that key's (entry, counter, output) triple
(`kstep`); `workLoop_keywise` lifts any per-key invariant preserved by `kstep` to the loop.
-/
import FurikoModel.Proofs.CronLemmas

namespace Furiko.Cron
open Furiko

theorem schedDelete_inv {pq : Heap.PQ} (h : Heap.Inv pq) (key : String) :
    Heap.Inv (schedDelete pq key) := (Heap.delete_spec h key).1

theorem schedDelete_search {pq : Heap.PQ} (h : Heap.Inv pq) (key k : String) :
    Heap.search (schedDelete pq key) k = if k = key then none else Heap.search pq k :=
  (Heap.delete_spec h key).2 k

/-- entry left by a `Bump` of a key that is not in the heap (the model bumps a key only after it has
popped or deleted it) -/
def bumpEnt (jc : JC) (s : Int) : Option Int :=
  if jc.sched.enabled && !jc.sched.parseErr then jc.nextAfter s else none

/-- `Bump` of a key that is not in the heap -/
theorem schedBump_spec {pq : Heap.PQ} (h : Heap.Inv pq) (jc : JC) (hs : jc.SortedOK)
    (fromNs : Int) (hnone : Heap.search pq jc.key = none) :
    Heap.Inv (schedBump pq jc fromNs).1 ∧
    ∀ k, Heap.search (schedBump pq jc fromNs).1 k =
      if k = jc.key then bumpEnt jc (floorSec fromNs) else Heap.search pq k := by
  unfold schedBump bumpEnt
  cases hen : jc.sched.enabled with
  | false => exact ⟨schedDelete_inv h _, schedDelete_search h _⟩
  | true =>
    cases hpe : jc.sched.parseErr with
    | true =>
      refine ⟨h, fun k => ?_⟩
      simp only [Bool.not_true, Bool.false_eq_true, if_false, if_true, Bool.and_false]
      split
      · next hk => rw [hk, hnone]
      · rfl
    | false =>
      simp only [Bool.not_true, Bool.not_false, Bool.false_eq_true, if_false, Bool.and_self, if_true]
      rw [getNext_eq_nextAfter]
      cases hn : jc.nextAfter (floorSec fromNs) with
      | none => exact ⟨schedDelete_inv h _, schedDelete_search h _⟩
      | some n =>
        have hgt : n * 1000000000 > fromNs :=
          getNext_after (JC.nxt_spec hs) _ _ _ _ (by rw [getNext_eq_nextAfter]; exact hn)
        simp only [hgt, decide_true, Bool.not_true, Bool.false_eq_true, if_false, hnone]
        exact Heap.push_spec h _ _ hnone

theorem schedPop_some {pq pq' : Heap.PQ} {key : String} {ts nowNs : Int} (h : Heap.Inv pq)
    (hp : schedPop pq nowNs = some (pq', key, ts)) :
    Heap.search pq key = some ts ∧ ts * 1000000000 ≤ nowNs ∧
    (∀ k p, Heap.search pq k = some p → ts ≤ p) ∧ Heap.Inv pq' ∧
    ∀ k, Heap.search pq' k = if k = key then none else Heap.search pq k := by
  unfold schedPop at hp
  cases hpk : Heap.peek pq with
  | none => simp [hpk] at hp
  | some item =>
    simp only [hpk] at hp
    by_cases hgt : item.prio * 1000000000 > nowNs
    · simp [hgt] at hp
    · simp only [hgt, if_false] at hp
      obtain ⟨pq1, it', hpop, _, _, hinv, hsr⟩ := Heap.pop_spec h hpk
      simp only [hpop, Option.some.injEq, Prod.mk.injEq] at hp
      obtain ⟨rfl, rfl, rfl⟩ := hp
      have hm := Heap.peek_min h hpk
      exact ⟨hm.1, by omega, hm.2, hinv, hsr⟩

theorem schedPop_none {pq : Heap.PQ} {nowNs : Int} (h : Heap.Inv pq)
    (hp : schedPop pq nowNs = none) :
    ∀ k p, Heap.search pq k = some p → p * 1000000000 > nowNs := by
  intro k p hk
  unfold schedPop at hp
  cases hpk : Heap.peek pq with
  | none =>
    have := (Heap.peek_none_iff h).1 hpk k
    rw [this] at hk; cases hk
  | some item =>
    simp only [hpk] at hp
    by_cases hgt : item.prio * 1000000000 > nowNs
    · have := (Heap.peek_min h hpk).2 k p hk
      omega
    · simp only [hgt, if_false] at hp
      obtain ⟨pq1, it', hpop, _⟩ := Heap.pop_spec h hpk
      simp [hpop] at hp

theorem schedPop_isSome {pq : Heap.PQ} {nowNs : Int} (h : Heap.Inv pq) {k : String} {p : Int}
    (hk : Heap.search pq k = some p) (hp : p * 1000000000 ≤ nowNs) :
    (schedPop pq nowNs).isSome := by
  cases hs : schedPop pq nowNs with
  | some _ => rfl
  | none => have := schedPop_none h hs k p hk; omega

def outk (l : List (String × Int)) (k : String) : List Int :=
  (l.filter (fun p => p.1 = k)).map (fun p => p.2)

theorem outk_nil (k : String) : outk [] k = [] := rfl

theorem outk_append (a b : List (String × Int)) (k : String) :
    outk (a ++ b) k = outk a k ++ outk b k := by
  simp [outk]

theorem lookup_mem {l : List (String × JC)} {k : String} {jc : JC} (h : lookup l k = some jc) :
    (k, jc) ∈ l := by
  induction l with
  | nil => cases h
  | cons p t ih => grind [lookup]

theorem lookup_ok {l : List (String × JC)} (hl : ListerOK l) {k : String} {jc : JC}
    (h : lookup l k = some jc) : jc.key = k ∧ jc.SortedOK :=
  hl.1 (k, jc) (lookup_mem h)

theorem getCount_incCount (c : List (String × Nat)) (key k : String) :
    getCount (incCount c key) k = if k = key then getCount c k + 1 else getCount c k := by
  induction c with
  | nil => grind [incCount, getCount]
  | cons p t ih => grind [incCount, getCount]

structure KState where
  ent : Option Int
  cnt : Nat
  out : List Int

/-- effect of one `Pop` + `syncOne` of key `k` (popped at `ts`) on that key's state -/
def kstep (ojc : Option JC) (nowS : Int) (cap : Int) (ts : Int) (s : KState) : KState :=
  match ojc with
  | none => ⟨none, s.cnt, s.out⟩
  | some jc =>
    if (s.cnt : Int) ≥ cap then ⟨bumpEnt jc nowS, s.cnt, s.out⟩
    else ⟨bumpEnt jc ts, s.cnt + 1, s.out ++ [ts]⟩

def view (heap : Heap.PQ) (counts : List (String × Nat)) (fired : List (String × Int))
    (k : String) : KState :=
  ⟨Heap.search heap k, getCount counts k, outk fired k⟩

theorem pop_sync_view {heap h1 : Heap.PQ} {lister : List (String × JC)} (hInv : Heap.Inv heap)
    (hL : ListerOK lister) {now : Int} {key : String} {ts : Int}
    (hpop : schedPop heap now = some (h1, key, ts)) (counts : List (String × Nat)) (cap : Int)
    (fired : List (String × Int)) :
    Heap.search heap key = some ts ∧ ts ≤ floorSec now ∧
    Heap.Inv (syncOne h1 lister now key ts counts cap).1 ∧
    ∀ k, view (syncOne h1 lister now key ts counts cap).1
            (syncOne h1 lister now key ts counts cap).2.1
            (fired ++ (syncOne h1 lister now key ts counts cap).2.2.toList) k =
      if k = key then kstep (lookup lister key) (floorSec now) cap ts (view heap counts fired key)
      else view heap counts fired k := by
  obtain ⟨hsk, hts, _, hInv1, hs1⟩ := schedPop_some hInv hpop
  have hpopped : Heap.search h1 key = none := by rw [hs1, if_pos rfl]
  refine ⟨hsk, (le_floorSec_iff _ _).2 hts, ?_⟩
  unfold syncOne
  cases hlk : lookup lister key with
  | none =>
    refine ⟨hInv1, fun k => ?_⟩
    by_cases hk : k = key
    · subst hk
      simp [view, kstep, hpopped]
    · simp [view, hk, hs1]
  | some jc =>
    obtain ⟨hkey, hsorted⟩ := lookup_ok hL hlk
    by_cases hcap : (getCount counts key : Int) ≥ cap
    · simp only [hcap, if_true]
      have hb := schedBump_spec hInv1 jc hsorted now (hkey ▸ hpopped)
      refine ⟨hb.1, fun k => ?_⟩
      by_cases hk : k = key
      · subst hk
        simp [view, hb.2, hkey, kstep, hcap]
      · have : ¬ k = jc.key := by rw [hkey]; exact hk
        simp [view, hb.2, this, hk, hs1]
    · simp only [hcap, if_false]
      have hb := schedBump_spec hInv1 jc hsorted (ts * 1000000000) (hkey ▸ hpopped)
      refine ⟨hb.1, fun k => ?_⟩
      by_cases hk : k = key
      · subst hk
        simp [view, hb.2, hkey, kstep, hcap, floorSec_mul, getCount_incCount, outk]
      · have h1' : ¬ k = jc.key := by rw [hkey]; exact hk
        have h2 : ¬ key = k := fun h => hk h.symm
        simp [view, hb.2, h1', hk, getCount_incCount, outk, h2, hs1]

theorem workLoop_keywise {lister : List (String × JC)} {now : Int} {cap : Int}
    (hL : ListerOK lister) (P : String → KState → Prop)
    (hP : ∀ k s ts, P k s → s.ent = some ts → ts ≤ floorSec now →
      P k (kstep (lookup lister k) (floorSec now) cap ts s)) :
    ∀ (fuel : Nat) (heap : Heap.PQ) (counts : List (String × Nat))
      (acc : List (String × Int)),
      Heap.Inv heap → (∀ k, P k (view heap counts acc.reverse k)) →
      Heap.Inv (workLoop lister now cap fuel heap counts acc).1 ∧
      (∃ counts', ∀ k, P k (view (workLoop lister now cap fuel heap counts acc).1
          counts' (workLoop lister now cap fuel heap counts acc).2.1 k)) ∧
      ((workLoop lister now cap fuel heap counts acc).2.2 = true →
        ∀ k p, Heap.search (workLoop lister now cap fuel heap counts acc).1 k
          = some p → floorSec now < p) := by
  intro fuel
  induction fuel with
  | zero =>
    intro heap counts acc hInv hAll
    simp only [workLoop]
    exact ⟨hInv, ⟨counts, hAll⟩, fun h => by cases h⟩
  | succ fuel ih =>
    intro heap counts acc hInv hAll
    unfold workLoop
    cases hpop : schedPop heap now with
    | none =>
      refine ⟨hInv, ⟨counts, hAll⟩, fun _ k p hk => ?_⟩
      have := schedPop_none hInv hpop k p hk
      exact (floorSec_lt_iff _ _).2 this
    | some r =>
      obtain ⟨h1, key, ts⟩ := r
      obtain ⟨hsk, hts, hInv', hv⟩ := pop_sync_view hInv hL hpop counts cap acc.reverse
      simp only []
      apply ih _ _ _ hInv'
      intro k
      have hv2 := hv k
      generalize syncOne h1 lister now key ts counts cap = r at hv2 ⊢
      obtain ⟨rh, rc, ro⟩ := r
      suffices h : P k (view rh rc (acc.reverse ++ ro.toList) k) by
        cases ro <;> simpa using h
      simp only [] at hv2
      rw [hv2]
      split
      · next hk =>
        subst hk
        exact hP k _ ts (hAll k) hsk hts
      · exact hAll k

theorem refresh_nil (heap : Heap.PQ) (lister : List (String × JC)) (now : Int) (limit : Nat) :
    refresh heap lister [] now limit = (heap, []) := by
  cases limit <;> rfl

end Furiko.Cron
