/-
Lemmas about the deterministic work queue (`Model/WorkQueue.lean`): which keys an operation can
introduce, what stays dirty, and what `AddAfter`/`AddRateLimited` guarantee about deadlines.
-/
import FurikoModel.Model.WorkQueue
import FurikoModel.Proofs.LookupLemmas

set_option linter.unusedSimpArgs false
set_option linter.unusedVariables false

namespace Furiko.WQ

/-- every key the queue knows about -/
def WQ.keys (q : WQ) : List String :=
  q.queue ++ q.dirty ++ q.processing ++ q.delayed.map (·.1)

theorem mem_keys {q : WQ} {x : String} :
    x ∈ q.keys ↔ x ∈ q.queue ∨ x ∈ q.dirty ∨ x ∈ q.processing ∨ ∃ d, (x, d) ∈ q.delayed := by
  simp [WQ.keys, or_assoc]

theorem mem_keys_add {q : WQ} {k x : String} (h : x ∈ (q.add k).keys) : x ∈ q.keys ∨ x = k := by
  simp only [mem_keys, WQ.add] at h ⊢
  grind

theorem dirty_add_self (q : WQ) (k : String) : k ∈ (q.add k).dirty := by
  unfold WQ.add
  split
  · rename_i h; simpa using h
  · split <;> simp

theorem dirty_add_mono {q : WQ} {k x : String} (h : x ∈ q.dirty) : x ∈ (q.add k).dirty := by
  unfold WQ.add
  split
  · exact h
  · split <;> simp [h]

theorem get_some {q : WQ} {k : String} {q1 : WQ} (h : q.get = some (k, q1)) :
    ∃ rest, q.queue = k :: rest ∧
      q1 = { q with queue := rest, processing := k :: q.processing, dirty := q.dirty.erase k } := by
  unfold WQ.get at h
  split at h
  · simp at h
  · rename_i k' rest hq
    simp only [Option.some.injEq, Prod.mk.injEq] at h
    obtain ⟨rfl, rfl⟩ := h
    exact ⟨rest, hq, rfl⟩

theorem mem_keys_get {q : WQ} {k : String} {q1 : WQ} (h : q.get = some (k, q1)) :
    k ∈ q.keys ∧ ∀ x, x ∈ q1.keys → x ∈ q.keys := by
  obtain ⟨rest, hq, rfl⟩ := get_some h
  simp only [mem_keys, hq]
  grind [List.mem_of_mem_erase]

theorem mem_keys_done {q : WQ} {k x : String} (h : x ∈ (q.done k).keys) : x ∈ q.keys ∨ x = k := by
  simp only [mem_keys, WQ.done] at h ⊢
  grind [List.mem_of_mem_erase]

theorem mem_setDelayed {d : List (String × Int)} {k : String} {t : Int} {p : String × Int}
    (h : p ∈ setDelayed d k t) : p ∈ d ∨ p.1 = k := by
  induction d with
  | nil => simp [setDelayed] at h; simp [h]
  | cons y rest ih =>
    simp only [setDelayed] at h
    split at h <;> grind

theorem mem_keys_addAfter {q : WQ} {k x : String} {t now : Int}
    (h : x ∈ (q.addAfter k t now).keys) : x ∈ q.keys ∨ x = k := by
  simp only [mem_keys, WQ.addAfter] at h ⊢
  grind [mem_setDelayed]

theorem mem_keys_addRateLimited {q : WQ} {k x : String} {now : Int}
    (h : x ∈ (q.addRateLimited k now).keys) : x ∈ q.keys ∨ x = k := by
  simp only [mem_keys, WQ.addRateLimited] at h ⊢
  grind [mem_setDelayed]

theorem keys_forget (q : WQ) (k : String) : (q.forget k).keys = q.keys := rfl

/-- `insertDue` only orders: the due list is a permutation of what was inserted -/
theorem insertDue_perm (x : String × Int) (l : List (String × Int)) : (insertDue x l).Perm (x :: l) := by
  induction l with
  | nil => exact .refl _
  | cons y rest ih =>
    simp only [insertDue]
    split
    · exact .refl _
    · exact (ih.cons y).trans (.swap x y rest)

theorem foldl_insertDue_perm (l acc : List (String × Int)) :
    (l.foldl (fun acc x => insertDue x acc) acc).Perm (l ++ acc) :=
  List.foldl_insert_perm insertDue insertDue_perm l acc

theorem mem_foldl_insertDue {l acc : List (String × Int)} {y : String × Int}
    (h : y ∈ l.foldl (fun acc x => insertDue x acc) acc) : y ∈ l ∨ y ∈ acc :=
  List.mem_append.mp ((foldl_insertDue_perm l acc).mem_iff.mp h)

theorem mem_keys_foldl_add {l : List (String × Int)} {q : WQ} {x : String}
    (h : x ∈ (l.foldl (fun acc y => acc.add y.1) q).keys) : x ∈ q.keys ∨ ∃ y ∈ l, y.1 = x := by
  induction l generalizing q with
  | nil => exact Or.inl h
  | cons y rest ih =>
    simp only [List.foldl_cons] at h
    rcases ih h with h' | ⟨z, hz, hzx⟩
    · rcases mem_keys_add h' with h'' | h''
      · exact Or.inl h''
      · exact Or.inr ⟨y, by simp, h''.symm⟩
    · exact Or.inr ⟨z, by simp [hz], hzx⟩

theorem mem_keys_advance {q : WQ} {now : Int} {x : String} (h : x ∈ (q.advance now).keys) :
    x ∈ q.keys := by
  unfold WQ.advance at h
  rcases mem_keys_foldl_add h with h' | ⟨y, hy, rfl⟩
  · simp only [mem_keys] at h' ⊢
    rcases h' with h' | h' | h' | ⟨d, h'⟩
    · simp [h']
    · simp [h']
    · simp [h']
    · right; right; right; exact ⟨d, (List.mem_filter.mp h').1⟩
  · rcases mem_foldl_insertDue hy with h' | h'
    · have := (List.mem_filter.mp h').1
      simp only [mem_keys]
      right; right; right; exact ⟨y.2, this⟩
    · simp at h'

/-- key `k` is scheduled no later than `b` -/
def HasDeadline (d : List (String × Int)) (k : String) (b : Int) : Prop :=
  ∃ d', (k, d') ∈ d ∧ d' ≤ b

theorem hasDeadline_setDelayed_self (d : List (String × Int)) (k : String) (t : Int) :
    HasDeadline (setDelayed d k t) k t := by
  induction d with
  | nil => exact ⟨t, by simp [setDelayed], Int.le_refl _⟩
  | cons y rest ih =>
    obtain ⟨k', dl⟩ := y
    simp only [setDelayed]
    split
    · refine ⟨if t < dl then t else dl, by simp, ?_⟩
      split <;> omega
    · obtain ⟨d', hd', hle⟩ := ih
      exact ⟨d', by simp [hd'], hle⟩

theorem hasDeadline_setDelayed_mono {d : List (String × Int)} {k : String} {b : Int}
    (h : HasDeadline d k b) (k2 : String) (t : Int) : HasDeadline (setDelayed d k2 t) k b := by
  induction d with
  | nil => obtain ⟨_, h, _⟩ := h; simp at h
  | cons y rest ih =>
    obtain ⟨k', dl⟩ := y
    obtain ⟨d', hd', hle⟩ := h
    simp only [setDelayed]
    simp only [List.mem_cons, Prod.mk.injEq] at hd'
    split
    · rename_i hk
      rcases hd' with ⟨rfl, rfl⟩ | hd'
      · refine ⟨if t < d' then t else d', by simp [hk], ?_⟩
        split <;> omega
      · exact ⟨d', by simp [hd'], hle⟩
    · rcases hd' with ⟨rfl, rfl⟩ | hd'
      · exact ⟨d', by simp, hle⟩
      · obtain ⟨d'', hd'', hle'⟩ := ih ⟨d', hd', hle⟩
        exact ⟨d'', by simp [hd''], hle'⟩

theorem hasDeadline_addAfter_self (q : WQ) (k : String) (t now : Int) :
    HasDeadline (q.addAfter k t now).delayed k (if t < now + 1000000000 then now + 1000000000 else t) :=
  hasDeadline_setDelayed_self _ _ _

theorem hasDeadline_addAfter_mono {q : WQ} {k : String} {b : Int} (h : HasDeadline q.delayed k b)
    (k2 : String) (t now : Int) : HasDeadline (q.addAfter k2 t now).delayed k b :=
  hasDeadline_setDelayed_mono h _ _

theorem two_pow_le_64 {e : Nat} (h : e ≤ 6) : (2 ^ e : Nat) ≤ 64 :=
  Nat.pow_le_pow_right (by decide) h

/-- `AddRateLimited` schedules the key at most 320 ms (5 ms · 2⁶) ahead -/
theorem hasDeadline_addRateLimited_self (q : WQ) (k : String) (now : Int) :
    HasDeadline (q.addRateLimited k now).delayed k (now + 320000000) := by
  unfold WQ.addRateLimited
  simp only
  obtain ⟨d', hd', hle⟩ := hasDeadline_setDelayed_self q.delayed k
    (now + 5000000 * ((2 ^ (if numRequeues q.requeues k > 6 then 6 else numRequeues q.requeues k) : Nat) : Int))
  refine ⟨d', hd', Int.le_trans hle ?_⟩
  have h6 : (if numRequeues q.requeues k > 6 then 6 else numRequeues q.requeues k) ≤ 6 := by
    split <;> omega
  have := two_pow_le_64 h6
  omega

end Furiko.WQ
