/-
Liveness of the job controller: API calls, the creation stage and the `work` step UNDER ANY FAULT LIST
(`Sys.faults`: one entry consumed per call; `err` / `timeout` / `conflict` = not applied and reported failed,
`applied-err` = applied but reported failed, anything else = applied and reported).
* `apiCreatePod_cases`, `apiCreatePod_taken_cases`, `apiUpdateJobStatus_cases`: the outcomes of a call;
* `syncCreateTasks_created` / `_existing` / `_failed`: the creation stage of a simple Job given the outcome of
  its one create call;
* `work_end`: one `work` step with the unconsumed faults dropped afterwards (`dropFaults`): whatever `SyncOne`
  returned, if the state it left is the pass-start state plus "created pods, status possibly written"
  (`PassEnd`), the state after the step has the `PassOut` facts; a pass that reported an error leaves its key
  with a back-off timer.
Core Lean only.
-/
import FurikoModel.Proofs.JobCtlLiveAfter

set_option linter.unusedSimpArgs false
set_option linter.unusedVariables false

namespace Furiko.JobCtl.Live
open Furiko Furiko.JobCtl Furiko.WQ Furiko.StatusLemmas Furiko.JobCtlPlan Furiko.Conv

/-- the state after a call consumed its fault -/
def faultTail (s : Sys) : Sys := { s with faults := s.faults.tail, delRun := none }

theorem nextFault_eq' (s : Sys) : nextFault s = (s.faults.headD "", faultTail s) := by
  unfold nextFault popFault faultTail
  cases h : s.faults with
  | nil => simp [h]
  | cons f rest => rfl

/-- the state after a call that was not applied -/
def notApplied (s : Sys) (c : Call) : Sys := { faultTail s with calls := s.calls ++ [c] }

theorem notApplied_static (s : Sys) (c : Call) :
    (notApplied s c).clock = s.clock ∧ (notApplied s c).d = s.d ∧ (notApplied s c).podCache = s.podCache :=
  ⟨rfl, rfl, rfl⟩

/-- the state after a pod create that was applied -/
def createdF (s : Sys) (jo : JobObj) (idx : PIndex) (retry : Int) : Sys :=
  { faultTail s with rv := s.rv + 1, pods := s.pods ++ [newPod jo idx retry (nowT s)],
                     podEvs := s.podEvs ++ [.upsert (newPod jo idx retry (nowT s))],
                     calls := s.calls ++ [⟨"create", "pods", taskName jo.name idx.hash retry, "ok", false, false⟩] }

theorem createdF_static (s : Sys) (jo : JobObj) (idx : PIndex) (retry : Int) :
    (createdF s jo idx retry).clock = s.clock ∧ (createdF s jo idx retry).d = s.d := ⟨rfl, rfl⟩

/-- the state after a status update that was applied -/
def statusF (s : Sys) (jo : JobObj) (rjF : Job) : Sys :=
  { faultTail s with rv := s.rv + 1, job := some (written jo rjF (s.rv + 1)),
                     jobEvs := s.jobEvs ++ [.upsert (written jo rjF (s.rv + 1))],
                     calls := s.calls ++ [⟨"update", "jobs", jo.name, "ok", true, false⟩] }

/-- a call reads the fault `""` when none is pending -/
theorem fault_pending {s : Sys} {f : String} (hfe : s.faults.headD "" = f) (hf : f ≠ "") : s.faults ≠ [] := by
  intro e
  rw [e] at hfe
  exact hf hfe.symm

/-- a pod create of a free name under any fault list: not applied (reported failed), applied but reported
failed, or applied and reported -/
theorem apiCreatePod_cases (s : Sys) (jo : JobObj) (idx : PIndex) (retry : Int)
    (hn : findPod s.pods (taskName jo.name idx.hash retry) = none) :
    (s.faults ≠ [] ∧ ∃ c, apiCreatePod s jo idx retry = (notApplied s c, .err)) ∨
    (s.faults ≠ [] ∧ apiCreatePod s jo idx retry = (createdF s jo idx retry, .err)) ∨
    apiCreatePod s jo idx retry = (createdF s jo idx retry, .ok (newPod jo idx retry (nowT s))) := by
  unfold apiCreatePod
  rw [nextFault_eq']
  generalize hfe : s.faults.headD "" = f
  by_cases hf : isFailFault f = true
  · left
    simp only [hf, ↓reduceIte, log]
    exact ⟨fault_pending hfe (fun e => by rw [e] at hf; cases hf), _, rfl⟩
  · right
    have hn' : findPod (faultTail s).pods (taskName jo.name idx.hash retry) = none := hn
    simp only [hf, Bool.false_eq_true, ↓reduceIte, hn', Option.isSome_none, log]
    by_cases ha : f = "applied-err"
    · left
      refine ⟨fault_pending hfe (fun e => by rw [e] at ha; exact absurd ha (by decide)), ?_⟩
      simp [ha, newPod, faultTail, nowT, nowSec, createdF]
    · right; simp [ha, newPod, faultTail, nowT, nowSec, createdF]

/-- a pod create of a name that is taken under any fault list: not applied and reported failed, or answered
AlreadyExists -/
theorem apiCreatePod_taken_cases (s : Sys) (jo : JobObj) (idx : PIndex) (retry : Int) (p : PodObj)
    (hn : findPod s.pods (taskName jo.name idx.hash retry) = some p) :
    (s.faults ≠ [] ∧ ∃ c, apiCreatePod s jo idx retry = (notApplied s c, .err)) ∨
    (∃ c, apiCreatePod s jo idx retry = (notApplied s c, .exists)) := by
  unfold apiCreatePod
  rw [nextFault_eq']
  by_cases hf : isFailFault (s.faults.headD "") = true
  · left
    simp only [hf, ↓reduceIte, log]
    exact ⟨fault_pending rfl (fun e => by rw [e] at hf; cases hf), _, rfl⟩
  · right
    have hn' : findPod (faultTail s).pods (taskName jo.name idx.hash retry) = some p := hn
    simp only [hf, Bool.false_eq_true, ↓reduceIte, hn', Option.isSome_some, log]
    exact ⟨_, rfl⟩

/-- a status update with the authoritative version in hand under any fault list: not applied and reported
failed, or applied (reported either way) -/
theorem apiUpdateJobStatus_cases (s : Sys) (jo : JobObj) (newJob : Job) (hj : s.job = some jo)
    (hne : newJob.status ≠ jo.job.status) :
    (s.faults ≠ [] ∧ ∃ c, apiUpdateJobStatus s jo { jo with job := newJob } = (notApplied s c, false)) ∨
    (∃ b, apiUpdateJobStatus s jo { jo with job := newJob } = (statusF s jo newJob, b) ∧ (s.faults = [] → b = true)) := by
  unfold apiUpdateJobStatus
  rw [nextFault_eq']
  generalize hfe : s.faults.headD "" = f
  by_cases hf : isFailFault f = true
  · left
    simp only [hf, ↓reduceIte, log]
    exact ⟨fault_pending hfe (fun e => by rw [e] at hf; cases hf), _, rfl⟩
  · right
    have hj' : (faultTail s).job = some jo := hj
    have hno : ¬ ({ ({ jo with job := { jo.job with status := newJob.status }, rv := s.rv + 1 } : JobObj) with rv := jo.rv } = jo) := by
      intro e
      have := congrArg (fun j => j.job.status) e
      exact hne this
    simp only [hf, Bool.false_eq_true, ↓reduceIte, hj', log]
    refine ⟨decide (f ≠ "applied-err"), ?_, fun e => by rw [e] at hfe; rw [← hfe]; rfl⟩
    simp [hno, statusF, written, faultTail]

/-- the create call was applied and reported: the task is recorded by this pass -/
theorem syncCreateTasks_created (s X : Sys) (jo : JobObj) (T : List Task) (h : SimpleSpec jo.job)
    (hc : (getParallelTaskSummary s.d jo.job (generateTaskRefs s.clock jo.job.status.tasks T)).complete = false)
    (hf : jo.job.status.tasks.any refActiveOrSuccessful = false)
    (hlt : nextRetryIndex s.d jo.job.status.tasks s.d.hash < jo.job.maxAttempts)
    (hdue : DueReq s.clock (theReq s.d jo.job).earliest)
    (hcr : apiCreatePod s jo s.d (theReq s.d jo.job).retryIndex =
      (X, .ok (newPod jo s.d (theReq s.d jo.job).retryIndex (nowT s)))) :
    syncCreateTasks s jo jo.job T =
      ((updateTaskRefStatus (armEarliest X (jobKey jo) (theReq s.d jo.job).earliest) (jobKey jo) jo.job
          (T ++ [newTask jo s.d (theReq s.d jo.job).retryIndex (nowT s)])).1,
       some ((updateTaskRefStatus (armEarliest X (jobKey jo) (theReq s.d jo.job).earliest) (jobKey jo) jo.job
          (T ++ [newTask jo s.d (theReq s.d jo.job).retryIndex (nowT s)])).2,
         T ++ [newTask jo s.d (theReq s.d jo.job).retryIndex (nowT s)])) := by
  unfold syncCreateTasks
  have hm := reqs_single s.d jo.job h hf hlt
  have hidx : (theReq s.d jo.job).index = s.d := rfl
  have hskip := skip_false s _ hdue
  simp only [canCreate_simple h, Bool.not_true, Bool.false_eq_true, ↓reduceIte, hc, hm, createLoop, hskip,
    syncCreateTask, hidx]
  rw [hcr]
  simp only [podTask_newPod, Option.map_some, createLoop]
  by_cases hz : (theReq s.d jo.job).earliest = zeroTime
  · simp only [hz, ↓reduceIte, armEarliest, newTask]
  · simp only [hz, ↓reduceIte, armEarliest, newTask]

/-- the create call was answered AlreadyExists: the task of that name is adopted -/
theorem syncCreateTasks_existing (s X : Sys) (jo : JobObj) (T : List Task) (h : SimpleSpec jo.job)
    (hc : (getParallelTaskSummary s.d jo.job (generateTaskRefs s.clock jo.job.status.tasks T)).complete = false)
    (hf : jo.job.status.tasks.any refActiveOrSuccessful = false)
    (hlt : nextRetryIndex s.d jo.job.status.tasks s.d.hash < jo.job.maxAttempts)
    (hdue : DueReq s.clock (theReq s.d jo.job).earliest) (p : PodObj) (t : Task)
    (hcr : apiCreatePod s jo s.d (theReq s.d jo.job).retryIndex = (X, .exists))
    (hfind : findPod X.podCache (taskName jo.name s.d.hash (theReq s.d jo.job).retryIndex) = some p)
    (hown : p.ownerUid = some jo.uid) (ht : podTask s.clock p = some t) :
    syncCreateTasks s jo jo.job T =
      ((updateTaskRefStatus (armEarliest X (jobKey jo) (theReq s.d jo.job).earliest) (jobKey jo) jo.job (T ++ [t])).1,
       some ((updateTaskRefStatus (armEarliest X (jobKey jo) (theReq s.d jo.job).earliest) (jobKey jo) jo.job
          (T ++ [t])).2, T ++ [t])) := by
  unfold syncCreateTasks
  have hm := reqs_single s.d jo.job h hf hlt
  have hidx : (theReq s.d jo.job).index = s.d := rfl
  have hskip := skip_false s _ hdue
  simp only [canCreate_simple h, Bool.not_true, Bool.false_eq_true, ↓reduceIte, hc, hm, createLoop, hskip,
    syncCreateTask, hidx]
  rw [hcr]
  simp only [hfind, hown, ↓reduceIte, ht, Option.map_some, createLoop]
  by_cases hz : (theReq s.d jo.job).earliest = zeroTime
  · simp only [hz, ↓reduceIte, armEarliest]
  · simp only [hz, ↓reduceIte, armEarliest]

/-- the create call was reported failed: the creation stage returns the error -/
theorem syncCreateTasks_failed (s X : Sys) (jo : JobObj) (T : List Task) (h : SimpleSpec jo.job)
    (hc : (getParallelTaskSummary s.d jo.job (generateTaskRefs s.clock jo.job.status.tasks T)).complete = false)
    (hf : jo.job.status.tasks.any refActiveOrSuccessful = false)
    (hlt : nextRetryIndex s.d jo.job.status.tasks s.d.hash < jo.job.maxAttempts)
    (hdue : DueReq s.clock (theReq s.d jo.job).earliest)
    (hcr : apiCreatePod s jo s.d (theReq s.d jo.job).retryIndex = (X, .err)) :
    syncCreateTasks s jo jo.job T = (X, none) := by
  unfold syncCreateTasks
  have hm := reqs_single s.d jo.job h hf hlt
  have hidx : (theReq s.d jo.job).index = s.d := rfl
  have hskip := skip_false s _ hdue
  simp only [canCreate_simple h, Bool.not_true, Bool.false_eq_true, ↓reduceIte, hc, hm, createLoop, hskip,
    syncCreateTask, hidx]
  rw [hcr]

/-- the creation stage failed: `Reconciler.sync` returns the error with the Job as it got it, and `SyncOne`
writes nothing -/
theorem syncOne_failed (sp X : Sys) (jo : JobObj) (hc : sp.jobCache = some jo) (hjo : SimpleSpec jo.job)
    (hcreate : syncCreateTasks sp jo jo.job (tasksForRefs sp jo jo.job.status.tasks) = (X, none)) :
    syncOne sp = (X, false) := by
  have hsync : sync sp jo = (X, jo.job, jo.finalizer, false, false) := by
    rw [sync_eq]
    have hstage : syncTasksStage sp jo = (X, none) := by
      unfold syncTasksStage
      have h1 : isStarted jo.job = true := hjo.started
      have h2 : isDeleted jo.job = false := by unfold isDeleted; rw [hjo.del]; rfl
      simp only [h1, h2, Bool.not_false, Bool.and_self, ↓reduceIte]
      unfold syncJobTasks
      simp only [hcreate]
    simp only [hstage]
  unfold syncOne
  simp only [hc, hsync, ne_eq, not_true_eq_false, decide_false, Bool.or_self, Bool.false_eq_true, ↓reduceIte,
    Bool.not_true]

/-- calls succeed again: the unconsumed faults are dropped (`Action.setFaults []`) -/
def dropFaults (s : Sys) : Sys := { s with faults := [] }

theorem dropFaults_step (s : Sys) : dropFaults s = step s (.setFaults []) := rfl

/-- the state `SyncOne` left: the pass-start state, the created pods, the status `st` on the server (either the
cached one, nothing written, or written by a status update of this pass), timers -/
structure PassEnd (jo : JobObj) (s Y : Sys) (k : String) (rest : List String) (st : JobStatus)
    (created : List PodObj) : Prop where
  job : (st = jo.job.status ∧ Y.job = some jo ∧ Y.jobEvs = []) ∨
    (∃ j, Y.job = some j ∧ Y.jobEvs = [.upsert j] ∧ j.name = jo.name ∧ j.uid = jo.uid ∧
      j.finalizer = jo.finalizer ∧ j.job = { jo.job with status := st })
  jobCache : Y.jobCache = some jo
  pods : Y.pods = s.pods ++ created
  podEvs : Y.podEvs = created.map PEv.upsert
  podCache : Y.podCache = s.pods
  clock : Y.clock = s.clock
  d : Y.d = s.d
  cfg : Y.cfg = s.cfg
  queue : Y.q.queue = rest
  dirty : Y.q.dirty = (s.q.advance s.clock).dirty.erase k
  processing : Y.q.processing = k :: (s.q.advance s.clock).processing

/-- the queue after a pass that reported an error: well-formed, the key has a back-off timer -/
theorem queue_after_err {q qs : WQ} {k : String} {rest : List String} (now : Int) (hwf : Retry.WF q)
    (hq : q.queue = k :: rest) (h1 : qs.queue = rest) (h2 : qs.dirty = q.dirty.erase k)
    (h3 : qs.processing = k :: q.processing) :
    Retry.WF ((qs.addRateLimited k now).done k) ∧ ((qs.addRateLimited k now).done k).delayed ≠ [] := by
  obtain ⟨hwf', hdl, _⟩ := queue_done (q' := qs.addRateLimited k now) hwf hq h1 h2 h3
  refine ⟨hwf', ?_⟩
  rw [hdl]
  show setDelayed qs.delayed k _ ≠ []
  obtain ⟨dl, hm, _⟩ := setDelayed_self qs.delayed k (now + 5000000 * ((2 ^ (if numRequeues qs.requeues k > 6 then 6 else numRequeues qs.requeues k) : Nat) : Int))
  intro e
  rw [e] at hm; cases hm

/-- **one `work` step under any fault list**, given what `SyncOne` left -/
theorem work_end (s : Sys) (jo : JobObj) (k : String) (rest : List String) (Y : Sys) (b : Bool) (st : JobStatus)
    (created : List PodObj) (hwf : Retry.WF (s.q.advance s.clock)) (hq : (s.q.advance s.clock).queue = k :: rest)
    (hone : syncOne (passStart s (popQ (s.q.advance s.clock) k rest)) = (Y, b))
    (hY : PassEnd jo s Y k rest st created)
    (hps : (created.map PEv.upsert).foldl applyPEv s.pods = s.pods ++ created) :
    PassOut jo s (dropFaults (work s).1) st created ∧ (b = false → (dropFaults (work s).1).q.delayed ≠ []) ∧
    (b = true → (dropFaults (work s).1).q.delayed = Y.q.delayed) := by
  have hg := get_cons hq
  rw [work_some s k _ hg, hone]
  have hjob : ∃ jo', Y.job = some jo' ∧ jo'.name = jo.name ∧ jo'.uid = jo.uid ∧ jo'.finalizer = jo.finalizer ∧
      jo'.job = { jo.job with status := st } := by
    rcases hY.job with ⟨e1, e2, _⟩ | ⟨j, e1, _, e3, e4, e5, e6⟩
    · exact ⟨jo, e2, rfl, rfl, rfl, by rw [e1]⟩
    · exact ⟨j, e1, e3, e4, e5, e6⟩
  have hjs : Y.jobEvs.foldl applyJEv Y.jobCache = Y.job := by
    rcases hY.job with ⟨_, e2, e3⟩ | ⟨j, e1, e2, _⟩
    · rw [e3, hY.jobCache, e2]; rfl
    · rw [e2, e1]; rfl
  have hpsync : Y.podEvs.foldl applyPEv Y.podCache = Y.pods := by rw [hY.podEvs, hY.podCache, hY.pods]; exact hps
  have hwrote : st ≠ jo.job.status → ∃ j rest', Y.jobEvs = .upsert j :: rest' := by
    intro hne
    rcases hY.job with ⟨e1, _⟩ | ⟨j, _, e2, _⟩
    · exact absurd e1 hne
    · exact ⟨j, [], e2⟩
  cases b with
  | true =>
    obtain ⟨qa, qb, qc⟩ := queue_after_ok hwf hq hY.queue hY.dirty hY.processing
    simp only [if_true]
    exact ⟨⟨hjob, hjs, hpsync, hY.pods, hY.clock, hY.d, hY.cfg, rfl, qa, hwrote⟩, (fun hx => by cases hx), fun _ => qb⟩
  | false =>
    obtain ⟨qa, qb⟩ := queue_after_err Y.clock hwf hq hY.queue hY.dirty hY.processing
    simp only [Bool.false_eq_true, if_false]
    exact ⟨⟨hjob, hjs, hpsync, hY.pods, hY.clock, hY.d, hY.cfg, rfl, qa, hwrote⟩, (fun _ => qb), (fun hx => by cases hx)⟩

/-- what the `work` step leaves of the state `SyncOne` left, queue and delete batch aside -/
theorem work_srv (s : Sys) (k : String) (rest : List String) (Y : Sys) (b : Bool)
    (hq : (s.q.advance s.clock).queue = k :: rest)
    (hone : syncOne (passStart s (popQ (s.q.advance s.clock) k rest)) = (Y, b)) :
    (work s).1.faults = Y.faults ∧ (work s).1.job = Y.job ∧ (work s).1.rv = Y.rv ∧ (work s).1.calls = Y.calls := by
  rw [work_some s k _ (get_cons hq), hone]
  exact ⟨rfl, rfl, rfl, rfl⟩

end Furiko.JobCtl.Live
