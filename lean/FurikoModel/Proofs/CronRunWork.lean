/-
Several ticks of `work` (empty channel, unchanged lister) and their key-wise projection onto the
abstract run of Proofs/CronRun.lean; with an arbitrary channel: keys that stay silent.
-/
import FurikoModel.Proofs.CronFlush
import FurikoModel.Proofs.CronRun

namespace Furiko.Cron
open Furiko

/-- run ticks at the reference times `ts` (ns); returns the final worker, the
per-tick request lists, and whether every tick's pop loop ended by itself. -/
def runTicks (cap : Int) (flushLimit fuel : Nat) :
    Worker → List Int → Worker × List (List (String × Int)) × Bool
  | w, [] => (w, [], true)
  | w, now :: rest =>
    ((runTicks cap flushLimit fuel (work w now cap flushLimit fuel).1 rest).1,
     (work w now cap flushLimit fuel).2.1 ::
       (runTicks cap flushLimit fuel (work w now cap flushLimit fuel).1 rest).2.1,
     (work w now cap flushLimit fuel).2.2 &&
       (runTicks cap flushLimit fuel (work w now cap flushLimit fuel).1 rest).2.2)

theorem outk_flatten (ls : List (List (String × Int))) (k : String) :
    outk ls.flatten k = (ls.map (fun l => outk l k)).flatten := by
  induction ls with
  | nil => rfl
  | cons a t ih => simp [outk_append, ih]

theorem work_key_tick {w : Worker} {now : Int} {cap : Int} (flushLimit fuel : Nat)
    (hInv : Heap.Inv w.heap) (hL : ListerOK w.lister) (hchan : w.chan = [])
    (hdone : (work w now cap flushLimit fuel).2.2 = true)
    {k : String} {jc : JC} (hlk : lookup w.lister k = some jc) (hact : jc.Active) :
    outk (work w now cap flushLimit fuel).2.1 k
      = tickOut jc.nextAfter (floorSec now) cap.toNat (Heap.search w.heap k) ∧
    Heap.search (work w now cap flushLimit fuel).1.heap k
      = tickEnt jc.nextAfter (floorSec now) (Heap.search w.heap k) := by
  cases he : Heap.search w.heap k with
  | none =>
    have := work_key_absent (now := now) (cap := cap) flushLimit fuel hInv hL hchan he
    exact ⟨by rw [this.1]; simp [tickOut, rem], by rw [this.2]; rfl⟩
  | some e =>
    have h1 := (work_key_stream_lemma flushLimit fuel hInv hL hchan hdone hlk hact he).1
    refine ⟨h1, ?_⟩
    simp only [tickEnt]
    by_cases hdue : e ≤ floorSec now
    · rw [if_pos hdue]
      exact work_key_entry_due flushLimit fuel hInv hL hchan hdone hlk hact he hdue
    · rw [if_neg hdue]
      exact (work_key_stream_lemma flushLimit fuel hInv hL hchan hdone hlk hact he).2.1
        (dueList_of_gt jc.nextAfter (by omega))

theorem runTicks_inv (cap : Int) (flushLimit fuel : Nat) :
    ∀ (ts : List Int) (w : Worker), Heap.Inv w.heap → ListerOK w.lister → w.chan = [] →
      Heap.Inv (runTicks cap flushLimit fuel w ts).1.heap ∧
      (runTicks cap flushLimit fuel w ts).1.lister = w.lister ∧
      (runTicks cap flushLimit fuel w ts).1.chan = [] ∧
      (runTicks cap flushLimit fuel w ts).2.1.length = ts.length := by
  intro ts
  induction ts with
  | nil => intro w h1 _ h3; exact ⟨h1, rfl, h3, rfl⟩
  | cons now rest ih =>
    intro w h1 h2 h3
    have a := work_inv (now := now) (cap := cap) flushLimit fuel h1 h2 h3
    have b := ih _ a.1 (a.2.1 ▸ h2) a.2.2
    simp only [runTicks, List.length_cons]
    exact ⟨b.1, b.2.1.trans a.2.1, b.2.2.1, by rw [b.2.2.2]⟩

theorem runTicks_key (cap : Int) (flushLimit fuel : Nat) {k : String} {jc : JC}
    (hact : jc.Active) :
    ∀ (ts : List Int) (w : Worker), Heap.Inv w.heap → ListerOK w.lister → w.chan = [] →
      lookup w.lister k = some jc → (runTicks cap flushLimit fuel w ts).2.2 = true →
      (runTicks cap flushLimit fuel w ts).2.1.map (fun l => outk l k)
        = (keyRun jc.nextAfter cap.toNat (Heap.search w.heap k) (ts.map floorSec)).1 ∧
      Heap.search (runTicks cap flushLimit fuel w ts).1.heap k
        = (keyRun jc.nextAfter cap.toNat (Heap.search w.heap k) (ts.map floorSec)).2 := by
  intro ts
  induction ts with
  | nil => intro w _ _ _ _ _; exact ⟨rfl, rfl⟩
  | cons now rest ih =>
    intro w h1 h2 h3 hlk hdone
    simp only [runTicks, Bool.and_eq_true] at hdone
    have a := work_inv (now := now) (cap := cap) flushLimit fuel h1 h2 h3
    have t := work_key_tick flushLimit fuel h1 h2 h3 hdone.1 hlk hact
    have b := ih _ a.1 (a.2.1 ▸ h2) a.2.2 (a.2.1 ▸ hlk) hdone.2
    simp only [runTicks, List.map_cons, keyRun]
    rw [b.1, b.2, t.1, t.2]
    exact ⟨rfl, rfl⟩

def EntryOK (jc : JC) (lo e : Int) : Prop :=
  jc.M' e ∧ lo < e ∧ ∀ u, jc.M' u → ¬ (lo < u ∧ u < e)

theorem nextAt_entryOK {jc : JC} {ref : Int} {ent : Option Int} (h : NextAt jc.M' ref ent) :
    (∀ e', ent = some e' → EntryOK jc ref e') ∧ (ent = none → ∀ u, jc.M' u → u ≤ ref) := by
  refine ⟨fun e' he' => ?_, h.2⟩
  have a := h.1 e' he'
  exact ⟨a.2.1, a.1, fun u hu hlt => by have := a.2.2 u hu hlt.1; omega⟩

theorem run_stream_inv (cap : Int) (flushLimit fuel : Nat) {w : Worker} {k : String} {jc : JC}
    (hInv : Heap.Inv w.heap) (hL : ListerOK w.lister) (hchan : w.chan = [])
    (hlk : lookup w.lister k = some jc) (hact : jc.Active) {e0 : Int}
    (he : Heap.search w.heap k = some e0) (ts : List Int) (hts : List.Pairwise (· ≤ ·) ts)
    (hdone : (runTicks cap flushLimit fuel w ts).2.2 = true) :
    outk (runTicks cap flushLimit fuel w ts).2.1.flatten k
      = (keyRun jc.nextAfter cap.toNat (some e0) (ts.map floorSec)).1.flatten ∧
    RunInv jc.M' e0 ((ts.map floorSec).getLast?.getD (e0 - 1))
      (Heap.search (runTicks cap flushLimit fuel w ts).1.heap k)
      (outk (runTicks cap flushLimit fuel w ts).2.1.flatten k) ∧
    (NoCapHit jc.nextAfter cap.toNat (some e0) (ts.map floorSec) →
      RunComplete jc.M' e0 ((ts.map floorSec).getLast?.getD (e0 - 1))
        (outk (runTicks cap flushLimit fuel w ts).2.1.flatten k)) := by
  have hsp := JC.nextAfter_spec (lookup_ok hL hlk).2
  have hk := runTicks_key cap flushLimit fuel (k := k) hact ts w hInv hL hchan hlk hdone
  rw [he] at hk
  have hstream : outk (runTicks cap flushLimit fuel w ts).2.1.flatten k
      = (keyRun jc.nextAfter cap.toNat (some e0) (ts.map floorSec)).1.flatten := by
    rw [outk_flatten, hk.1]
  rw [hstream, hk.2]
  exact ⟨rfl, keyRun_inv_init hsp cap.toNat e0 hts⟩

theorem runTicks_absent (cap : Int) (flushLimit fuel : Nat) (k : String) :
    ∀ (ts : List Int) (w : Worker), Heap.Inv w.heap → ListerOK w.lister →
      (∀ jc ∈ w.chan, jc.key ≠ k) → Heap.search w.heap k = none →
      (∀ l ∈ (runTicks cap flushLimit fuel w ts).2.1, outk l k = []) ∧
      Heap.search (runTicks cap flushLimit fuel w ts).1.heap k = none := by
  intro ts
  induction ts with
  | nil => intro w _ _ _ he; exact ⟨fun l hl => by simp [runTicks] at hl, he⟩
  | cons now rest ih =>
    intro w h1 h2 h3 he
    have a := work_absent_general (now := now) (cap := cap) flushLimit fuel h1 h2 h3 he
    have b := ih (work w now cap flushLimit fuel).1 a.1 h2 a.2.2.2 a.2.2.1
    simp only [runTicks]
    refine ⟨fun l hl => ?_, b.2⟩
    rcases List.mem_cons.1 hl with rfl | hl
    · exact a.2.1
    · exact b.1 l hl

theorem runTicks_missing (cap : Int) (flushLimit fuel : Nat) (k : String) :
    ∀ (ts : List Int) (w : Worker), Heap.Inv w.heap → ListerOK w.lister →
      lookup w.lister k = none →
      ∀ l ∈ (runTicks cap flushLimit fuel w ts).2.1, outk l k = [] := by
  intro ts
  induction ts with
  | nil => intro w _ _ _ l hl; simp [runTicks] at hl
  | cons now rest ih =>
    intro w h1 h2 hlk l hl
    have a := work_missing_general (now := now) (cap := cap) flushLimit fuel h1 h2 hlk
    have hi := work_inv_general (now := now) (cap := cap) flushLimit fuel h1 h2
    simp only [runTicks] at hl
    rcases List.mem_cons.1 hl with rfl | hl
    · exact a
    · exact ih (work w now cap flushLimit fuel).1 hi h2 hlk l hl

end Furiko.Cron
