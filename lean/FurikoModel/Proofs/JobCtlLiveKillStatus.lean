/-
Liveness of the job controller, kill: the status of a Job whose kill timestamp has passed (pure).  For a
started Job with a template, no admission error and not being deleted (`KillSpec`), `UpdateJobStatusFromTaskRefs`
computes `Finished`/`Killed` as soon as every recorded ref is finished, and is idempotent at every clock
reading at or after the kill timestamp (`statusOf_idem_k`, `recompute_idem_k`); finish times through
`GenerateTaskRefs` (`gen_allFin`, `gen_lb`) bound the finish time of the recomputed condition from below
(`recompute_fin_lb`).  Core Lean only.
-/
import FurikoModel.Proofs.JobCtlLiveFinal

set_option linter.unusedSimpArgs false
set_option linter.unusedVariables false

namespace Furiko.JobCtl.Live
open Furiko Furiko.JobCtl Furiko.WQ Furiko.StatusLemmas Furiko.JobCtlPlan

/-- the spec side of a started Job that is to be killed: a template, a kill timestamp, no admission error,
not being deleted -/
structure KillSpec (rj : Job) (kt : Time) : Prop where
  tmpl : rj.template.isSome = true
  kill : rj.killTimestamp = some kt
  adm : rj.admissionError = false
  del : rj.deletionTimestamp = none
  started : rj.status.startTime.isSome = true

theorem KillSpec.congr {a b : Job} {kt : Time} (h : KillSpec a kt) (hs : SameSpec a b)
    (hst : b.status.startTime = a.status.startTime) : KillSpec b kt :=
  ⟨by rw [hs.template]; exact h.tmpl, by rw [hs.killTimestamp]; exact h.kill,
   by rw [hs.admissionError]; exact h.adm, by rw [hs.deletionTimestamp]; exact h.del, by rw [hst]; exact h.started⟩

theorem KillSpec.statusOf {rj : Job} {kt : Time} (h : KillSpec rj kt) (now : Time) (d : PIndex) :
    KillSpec (Live.statusOf now d rj) kt :=
  h.congr (statusOf_sameSpec now d rj).1 (statusOf_sameSpec now d rj).2.2.1

theorem KillSpec.recompute {rj : Job} {kt : Time} (h : KillSpec rj kt) (now : Time) (d : PIndex) (T : List Task) :
    KillSpec (Live.recompute now d rj T) kt :=
  h.congr (recompute_sameSpec now d rj T).1 (recompute_sameSpec now d rj T).2.2

theorem KillSpec.updateRefs {rj : Job} {kt : Time} (h : KillSpec rj kt) (now : Time) (T : List Task) :
    KillSpec (updateJobTaskRefs now rj T) kt := h.congr (updateJobTaskRefs_sameSpec now rj T) rfl

theorem KillSpec.template_some {rj : Job} {kt : Time} (h : KillSpec rj kt) : ∃ t, rj.template = some t := by
  cases hx : rj.template with
  | none => have := h.tmpl; rw [hx] at this; cases this
  | some t => exact ⟨t, rfl⟩

theorem passed_true {now kt : Time} (h : kt ≤ now) : isTimeSetAndEarlierOrEqual now (some kt) = true := by
  unfold isTimeSetAndEarlierOrEqual
  by_cases hlt : kt < now
  · simp [hlt]
  · have : kt = now := Int.le_antisymm h (Int.not_lt.mp hlt)
    simp [this]

/-- the condition of a Job whose kill timestamp has passed: `Finished`/`Killed` when every index is
terminated, "deleting tasks" otherwise -/
theorem getCondition_killed (now : Time) (d : PIndex) (rj : Job) (kt : Time) (h : KillSpec rj kt) (hk : kt ≤ now) :
    getCondition now d rj =
      if (getParallelStatusCounters (getParallelStatus d rj rj.status.tasks).indexes).terminated ≥ ((rj.indexes d).length : Int) then
        { finished := some {
            latestCreationTimestamp := latestCreated rj.status.tasks
            latestRunningTimestamp := latestRunning rj.status.tasks
            finishTimestamp := if (latestFinished rj.status.tasks).isSome then latestFinished rj.status.tasks else rj.killTimestamp
            result := .killed } }
      else { waiting := some .deletingTasks } := by
  have hstart : rj.status.startTime.isNone = false := by
    cases hs : rj.status.startTime with
    | none => have := h.started; rw [hs] at this; cases this
    | some _ => rfl
  unfold getCondition
  simp only [h.adm, hstart, h.kill, passed_true hk, Bool.false_eq_true, ↓reduceIte]

theorem terminated_of_allFin (d : PIndex) (rj : Job) (h : AllFin rj.status.tasks) :
    (getParallelStatusCounters (getParallelStatus d rj rj.status.tasks).indexes).terminated ≥ ((rj.indexes d).length : Int) := by
  show (getParallelStatusCounters (indexStatuses d rj rj.status.tasks)).terminated ≥ _
  rw [terminated_ge_iff]
  intro i _ r hr _
  exact h r hr

theorem getParallelStatus_congr (d : PIndex) {a b : Job} (ht : b.template = a.template) (ts : List TaskRef) :
    getParallelStatus d b ts = getParallelStatus d a ts := by
  have hi : b.indexes d = a.indexes d := indexes_of_template ht d
  have hm : b.maxAttempts = a.maxAttempts := maxAttempts_of_template ht
  have hstrat : b.strategy = a.strategy := by unfold Job.strategy Job.parallelism; rw [ht]
  unfold getParallelStatus getParallelTaskSummary indexStatuses
  rw [hi, hm, hstrat]

/-- explicit form of the recomputed status of a Job that is not being deleted -/
theorem statusOf_live (now : Time) (d : PIndex) (rj : Job) (t : Template) (ht : rj.template = some t)
    (hdel : rj.deletionTimestamp = none) :
    statusOf now d rj =
      { rj with status := { rj.status with
          parallelStatus := (match t.parallelism with
            | some _ => some (getParallelStatus d rj rj.status.tasks)
            | none => rj.status.parallelStatus)
          condition := getCondition now d rj
          state := getJobStateFromCondition (getCondition now d rj)
          phase := getPhase now { rj with status := { rj.status with
            parallelStatus := (match t.parallelism with
              | some _ => some (getParallelStatus d rj rj.status.tasks)
              | none => rj.status.parallelStatus)
            condition := getCondition now d rj
            state := getJobStateFromCondition (getCondition now d rj) } } } } := by
  cases rj with
  | mk tm k ttl sp adm dts st =>
    simp only at ht hdel
    subst ht
    subst hdel
    unfold statusOf updateJobStatusFromTaskRefs updateJobStatusFromTaskRefsWith
    simp only [Option.getD_some, statusBeforePhase, deletionOverrides, Option.isSome_none,
      Bool.false_and, Bool.false_eq_true, ↓reduceIte]
    cases t.parallelism <;> rfl

/-- with the kill timestamp passed `GetPhase` reads neither the clock nor the stored phase and state -/
theorem getPhase_congr_k (now now' : Time) (a b : Job) (kt : Time) (hk : a.killTimestamp = some kt)
    (hk' : b.killTimestamp = some kt) (hle : kt ≤ now) (hle' : kt ≤ now')
    (hc : b.status.condition = a.status.condition) (ht : b.status.tasks = a.status.tasks)
    (hp : b.status.parallelStatus = a.status.parallelStatus) (hcr : b.status.createdTasks = a.status.createdTasks) :
    getPhase now' b = getPhase now a := by
  unfold getPhase
  simp only [hc, ht, hp, hcr, hk, hk', passed_true hle, passed_true hle']

/-- **the status computation is idempotent** on a killed Job, at all clock readings after the kill timestamp -/
theorem statusOf_idem_k (now now' : Time) (d : PIndex) (rj : Job) (kt : Time) (h : KillSpec rj kt)
    (hk : kt ≤ now) (hk' : kt ≤ now') : statusOf now' d (statusOf now d rj) = statusOf now d rj := by
  have h' := h.statusOf now d
  obtain ⟨t, ht⟩ := h.template_some
  obtain ⟨hs, htasks, hst, _, _⟩ := statusOf_sameSpec now d rj
  have ht' : (statusOf now d rj).template = some t := by rw [hs.template]; exact ht
  have hcond : getCondition now' d (statusOf now d rj) = getCondition now d rj := by
    -- once the kill timestamp has passed the condition does not read the clock
    rw [getCondition_killed now' d _ kt h' hk', ← getCondition_killed now d _ kt h' hk]
    exact getCondition_congr_fields now d rj _ h.adm hs.admissionError hst htasks hs.killTimestamp hs.template hs.startPolicy
  have hps : getParallelStatus d (statusOf now d rj) (statusOf now d rj).status.tasks =
      getParallelStatus d rj rj.status.tasks := by
    rw [htasks]; exact getParallelStatus_congr d hs.template _
  rw [statusOf_live now' d _ t ht' h'.del, hcond, hps]
  rw [statusOf_live now d rj t ht h.del]
  cases hp : t.parallelism with
  | none =>
    simp only
    congr 2
    exact getPhase_congr_k now now' _ _ kt h.kill h.kill hk hk' rfl rfl rfl rfl
  | some sp =>
    simp only
    congr 2
    exact getPhase_congr_k now now' _ _ kt h.kill h.kill hk hk' rfl rfl rfl rfl

theorem recompute_condition_k (now : Time) (d : PIndex) (rj : Job) (T : List Task) (kt : Time) (h : KillSpec rj kt) :
    (recompute now d rj T).status.condition = getCondition now d (updateJobTaskRefs now rj T) := by
  obtain ⟨t, ht⟩ := (h.updateRefs now T).template_some
  unfold recompute
  rw [statusOf_live now d _ t ht (h.updateRefs now T).del]

/-- recomputing from the recomputed Job changes nothing, provided `GenerateTaskRefs` is at its fixpoint -/
theorem recompute_idem_k (now now' : Time) (d : PIndex) (rj : Job) (T T' : List Task) (kt : Time) (h : KillSpec rj kt)
    (hk : kt ≤ now) (hk' : kt ≤ now')
    (hgen : generateTaskRefs now' (generateTaskRefs now rj.status.tasks T) T' = generateTaskRefs now rj.status.tasks T) :
    recompute now' d (recompute now d rj T) T' = recompute now d rj T := by
  have hX := h.updateRefs now T
  obtain ⟨t, ht⟩ := hX.template_some
  have hu : updateJobTaskRefs now' (recompute now d rj T) T' = recompute now d rj T := by
    unfold recompute
    rw [statusOf_live now d _ t ht hX.del]
    unfold updateJobTaskRefs
    simp only [hgen]
  unfold recompute at hu ⊢
  rw [hu]
  exact statusOf_idem_k now now' d _ kt hX hk hk'

/-- **a killed Job whose refs are all finished after the refresh is recomputed `Finished`/`Killed`** -/
theorem recompute_killed (now : Time) (d : PIndex) (rj : Job) (T : List Task) (kt : Time) (h : KillSpec rj kt)
    (hk : kt ≤ now) (hfin : AllFin (generateTaskRefs now rj.status.tasks T)) :
    ∃ f, (recompute now d rj T).status.condition.finished = some f ∧ f.result = .killed := by
  rw [recompute_condition_k now d rj T kt h, getCondition_killed now d _ kt (h.updateRefs now T) hk,
    if_pos (terminated_of_allFin d (updateJobTaskRefs now rj T) hfin)]
  exact ⟨_, rfl, rfl⟩

/-- the finish time `GetTaskRef` records is the task's or that of the ref recorded before -/
theorem getTaskRef_finish (e : Option TaskRef) (t : Task) :
    (getTaskRef e t).finishTimestamp = t.ref.finishTimestamp ∨
      ∃ ex, e = some ex ∧ (getTaskRef e t).finishTimestamp = ex.finishTimestamp := by
  cases e with
  | none => rw [getTaskRef_none]; split <;> exact Or.inl rfl
  | some ex =>
    rw [getTaskRef_some]
    split
    · exact Or.inr ⟨ex, rfl, rfl⟩
    · cases hf : t.ref.finishTimestamp with
      | none => exact Or.inr ⟨ex, rfl, rfl⟩
      | some f => exact Or.inl rfl

theorem lostRef_finish (now : Time) (ex : TaskRef) :
    (lostRef now ex).finishTimestamp.isSome = true ∧
    ((lostRef now ex).finishTimestamp = some now ∨ (lostRef now ex).finishTimestamp = ex.finishTimestamp) := by
  unfold lostRef
  cases hd : ex.deletedStatus <;> cases hf : ex.finishTimestamp <;> simp [hd, hf]

/-- every listed task finished: every ref `GenerateTaskRefs` returns is finished (a ref whose task is not
listed is recorded as finished) -/
theorem gen_allFin (now : Time) (ex : List TaskRef) (T : List Task)
    (h : ∀ t ∈ T, t.ref.finishTimestamp.isSome = true) : AllFin (generateTaskRefs now ex T) := by
  intro r hr
  rcases mem_generateTaskRefs hr with ⟨t, ht, rfl⟩ | ⟨e, _, _, rfl⟩
  · exact (getTaskRef_dom _ t).1 (h t ht)
  · exact (lostRef_finish now e).1

/-- a lower bound of all finish times is kept by `GenerateTaskRefs` -/
theorem gen_lb (F0 : Int) (now : Time) (ex : List TaskRef) (T : List Task)
    (hex : ∀ r ∈ ex, ∀ f, r.finishTimestamp = some f → F0 ≤ f)
    (hT : ∀ t ∈ T, ∀ f, t.ref.finishTimestamp = some f → F0 ≤ f) (hnow : F0 ≤ now) :
    ∀ r ∈ generateTaskRefs now ex T, ∀ f, r.finishTimestamp = some f → F0 ≤ f := by
  intro r hr f hf
  rcases mem_generateTaskRefs hr with ⟨t, ht, rfl⟩ | ⟨e, he, _, rfl⟩
  · rcases getTaskRef_finish _ t with h | ⟨e, he, h⟩
    · rw [h] at hf; exact hT t ht f hf
    · rw [h] at hf; exact hex e (lookupRef_some he).1 f hf
  · rcases (lostRef_finish now e).2 with h | h
    · rw [h] at hf
      have : now = f := Option.some.inj hf
      rw [← this]; exact hnow
    · rw [h] at hf; exact hex e he f hf

theorem latestFinished_mem (L : List TaskRef) (g : Time) (h : latestFinished L = some g) :
    ∃ r ∈ L, r.finishTimestamp = some g := by
  rw [latestFinished_eq_fold] at h
  obtain ⟨_, _, h3⟩ := foldl_timeMax_spec (L.map (·.finishTimestamp)) none
  rw [h] at h3
  rcases h3 with h3 | h3
  · cases h3
  · obtain ⟨r, hr, e⟩ := List.mem_map.mp h3
    exact ⟨r, hr, e⟩

theorem markDeleted_finish (rj : Job) (names : List String) (f : TaskRef → TaskRef)
    (hf : ∀ r, (f r).finishTimestamp = r.finishTimestamp) :
    (markDeleted rj names f).status.tasks.map (·.finishTimestamp) = rj.status.tasks.map (·.finishTimestamp) := by
  unfold markDeleted
  simp only [List.map_map]
  apply List.map_congr_left
  intro r _
  simp only [Function.comp]
  split
  · exact hf r
  · rfl

/-- a lower bound of the finish times of a list of refs bounds every list with the same finish times -/
theorem lb_of_finish_eq {F0 : Int} {L L' : List TaskRef} (e : L'.map (·.finishTimestamp) = L.map (·.finishTimestamp))
    (h : ∀ r ∈ L, ∀ x, r.finishTimestamp = some x → F0 ≤ x) : ∀ r ∈ L', ∀ x, r.finishTimestamp = some x → F0 ≤ x := by
  intro r hr x hx
  have : r.finishTimestamp ∈ L'.map (·.finishTimestamp) := List.mem_map.mpr ⟨r, hr, rfl⟩
  rw [e] at this
  obtain ⟨r', hr', e'⟩ := List.mem_map.mp this
  exact h r' hr' x (by rw [e']; exact hx)

/-- the condition recomputed for a Job whose kill timestamp has passed: `Finished` only as `Killed`, at the
latest recorded finish time or, when there is none, the kill timestamp -/
theorem recompute_fin_k (now : Time) (d : PIndex) (rj : Job) (T : List Task) (kt : Time) (h : KillSpec rj kt)
    (hk : kt ≤ now) (fin : CondFinished) (hfin : (recompute now d rj T).status.condition.finished = some fin) :
    fin.result = .killed ∧
    fin.finishTimestamp = (if (latestFinished (generateTaskRefs now rj.status.tasks T)).isSome
      then latestFinished (generateTaskRefs now rj.status.tasks T) else some kt) := by
  have hX := h.updateRefs now T
  rw [recompute_condition_k now d rj T kt h, getCondition_killed now d _ kt hX hk] at hfin
  split at hfin
  · simp only [Option.some.injEq] at hfin
    subst hfin
    refine ⟨rfl, ?_⟩
    show (if (latestFinished (updateJobTaskRefs now rj T).status.tasks).isSome = true then _ else _) = _
    rw [hX.kill]
    rfl
  · cases hfin

/-- the finish time of the recomputed condition is at least any lower bound of the recorded finish times, the
listed tasks' finish times, the kill timestamp and the clock -/
theorem recompute_fin_lb (F0 : Int) (now : Time) (d : PIndex) (rj : Job) (T : List Task) (kt : Time) (h : KillSpec rj kt)
    (hk : kt ≤ now) (hF : F0 ≤ kt)
    (hex : ∀ r ∈ rj.status.tasks, ∀ f, r.finishTimestamp = some f → F0 ≤ f)
    (hT : ∀ t ∈ T, ∀ f, t.ref.finishTimestamp = some f → F0 ≤ f)
    (fin : CondFinished) (hfin : (recompute now d rj T).status.condition.finished = some fin) :
    F0 ≤ fin.finishTimestamp.getD zeroTime := by
  obtain ⟨_, hft⟩ := recompute_fin_k now d rj T kt h hk fin hfin
  rw [hft]
  cases hl : latestFinished (generateTaskRefs now rj.status.tasks T) with
  | none => simp only [Option.isSome_none, Bool.false_eq_true, ↓reduceIte, Option.getD_some]; exact hF
  | some g =>
    simp only [Option.isSome_some, ↓reduceIte, Option.getD_some]
    obtain ⟨r, hr, hg⟩ := latestFinished_mem _ g hl
    exact gen_lb F0 now rj.status.tasks T hex hT (Int.le_trans hF hk) r hr g hg

theorem getTTL_sameSpec {a b : Job} (h : SameSpec a b) (cfg : ExecConfig) :
    getTTLAfterFinished b cfg = getTTLAfterFinished a cfg := by
  unfold getTTLAfterFinished; rw [h.ttl]

end Furiko.JobCtl.Live
