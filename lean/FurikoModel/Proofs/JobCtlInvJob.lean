/-
How the AUTHORITATIVE Job object changes in one step of the transition system (`JobMoves`), derived
from the base invariant (`rvId`: a status / spec write of the controller that passes the
resourceVersion check was computed from exactly the object it overwrites).

Second half: transporting a relation on Job values along those changes.  Two lemmas are general —
`jobMoves_rel_work` for ONE step (a relation that status-keeping writes respect and `sync` satisfies holds
across a `JobMoves`), `steps_relObj` for a HISTORY (any reflexive, transitive relation that every step
respects) — the others (`jobMoves_rel`, `steps_rel`, `steps_jobMoves_rel`; `job_steps_rel` in
`JobCtlInvC12Chain`) are their instances.  Core Lean only.
-/
import FurikoModel.Proofs.JobCtlInvBase

set_option linter.unusedSimpArgs false
set_option linter.unusedVariables false

namespace Furiko.JobCtl
open Furiko Furiko.WQ

variable {j0 : JobObj} {s s' : Sys} {ok : Sys → Action → Prop}

theorem Micro.rv_le {jo : JobObj} {sp s s' : Sys} (hm : Micro jo sp s s') : s.rv ≤ s'.rv := hm.change.rv_le

theorem Micros.rv_le {jo : JobObj} {sp s s' : Sys} (hm : Micros jo sp s s') : s.rv ≤ s'.rv := by
  induction hm with
  | refl => exact Nat.le_refl _
  | tail _ hm ih => exact Nat.le_trans ih hm.rv_le

/-- One change of the authoritative Job object during action `a` taken in state `s0`.
`ctlSpec` / `ctlStatus` / `goneSpec`: the controller's `Update` / `UpdateStatus`, computed by `sync` in
the state `sp` the pass started in (`sp` = `s0` up to queue bookkeeping) from the cached Job `jo`, which
IS the object being overwritten.  Every new version carries a resourceVersion above `s0.rv`.
The controller's cases are `PassWrite` / `PassGone` with the overwritten object identified (`PassWrite.move`,
`PassGone.move`), the user's are `UserWrite` (`job_moves`). -/
inductive JobMove (s0 : Sys) (a : Action) : Option JobObj → Option JobObj → Prop
  /-- the user deletes a Job that carries no finalizer -/
  | goneUser (cur : JobObj) : a = .userDelete → cur.finalizer = false → JobMove s0 a (some cur) none
  /-- TTL deletion (`DeleteJob`) of a Job that carries no finalizer -/
  | goneTTL (cur : JobObj) : a = .work → cur.finalizer = false → JobMove s0 a (some cur) none
  /-- the `Update` of a pass writes "no finalizer" over a Job that is being deleted: the object goes;
  that pass has only done bookkeeping before (`s0.job` is still the cached object) -/
  | goneSpec (jo : JobObj) (sp : Sys) : a = .work → s0.jobCache = some jo → Frame s0 sp → s0.job = some jo →
      jo.job.deletionTimestamp.isSome = true → (sync sp jo).2.2.1 = false → JobMove s0 a (some jo) none
  | delMark (cur : JobObj) (t : Time) (rv : Nat) : (a = .work ∨ a = .userDelete) →
      cur.finalizer = true → cur.job.deletionTimestamp = none → s0.rv < rv →
      JobMove s0 a (some cur) (some { cur with job := { cur.job with deletionTimestamp := some t }, rv := rv })
  | kill (cur : JobObj) (t : Time) (rv : Nat) : a = .kill t → s0.rv < rv →
      JobMove s0 a (some cur) (some { cur with job := { cur.job with killTimestamp := some t }, rv := rv })
  | ctlSpec (jo : JobObj) (sp : Sys) (rv : Nat) : a = .work → s0.jobCache = some jo → Frame s0 sp → s0.rv < rv →
      ¬ (jo.job.deletionTimestamp.isSome = true ∧ (sync sp jo).2.2.1 = false) →
      JobMove s0 a (some jo)
        (some (specWrite jo { jo with job := (sync sp jo).2.1, finalizer := (sync sp jo).2.2.1 } rv))
  | ctlStatus (jo : JobObj) (sp : Sys) (rv : Nat) : a = .work → s0.jobCache = some jo → Frame s0 sp → s0.rv < rv →
      JobMove s0 a (some jo) (some (statusWrite jo { jo with job := (sync sp jo).2.1 } rv))
  /-- the `UpdateStatus` of a pass that follows the `Update` of the same pass (`UpdateJobAndStatus`): it is
  written on top of the object that `Update` produced -/
  | ctlStatusOn (jo : JobObj) (sp : Sys) (rv0 rv : Nat) : a = .work → s0.jobCache = some jo → Frame s0 sp →
      s0.rv < rv →
      JobMove s0 a
        (some (specWrite jo { jo with job := (sync sp jo).2.1, finalizer := (sync sp jo).2.2.1 } rv0))
        (some (statusWrite (specWrite jo { jo with job := (sync sp jo).2.1, finalizer := (sync sp jo).2.2.1 } rv0)
          { jo with job := (sync sp jo).2.1 } rv))

inductive JobMoves (s0 : Sys) (a : Action) : Option JobObj → Option JobObj → Prop
  | refl (o : Option JobObj) : JobMoves s0 a o o
  | tail {o o' o'' : Option JobObj} : JobMoves s0 a o o' → JobMove s0 a o' o'' → JobMoves s0 a o o''

theorem JobMoves.single {s0 : Sys} {a : Action} {o o' : Option JobObj} (h : JobMove s0 a o o') :
    JobMoves s0 a o o' := .tail (.refl o) h

theorem JobMoves.trans {s0 : Sys} {a : Action} {o1 o2 o3 : Option JobObj} (h1 : JobMoves s0 a o1 o2)
    (h2 : JobMoves s0 a o2 o3) : JobMoves s0 a o1 o3 := by
  induction h2 with
  | refl => exact h1
  | tail _ hm ih => exact .tail ih hm

theorem JobMoves.of_eq {s0 : Sys} {a : Action} {o o' : Option JobObj} (h : o' = o) : JobMoves s0 a o o' := by
  subst h; exact .refl _

theorem Change.jobMoves {A R W G} {s0 s s' : Sys} {a : Action} (hc : Change A R W G s s')
    (hW : ∀ cur nj, W cur nj → s.job = some cur → JobMove s0 a (some cur) (some nj))
    (hG : ∀ cur, G cur → s.job = some cur → JobMove s0 a (some cur) none) : JobMoves s0 a s.job s'.job := by
  cases hc with
  | frame hf => exact .of_eq hf.job
  | podAdd _ _ h => exact .of_eq h.job
  | podSet _ _ _ h => exact .of_eq h.job
  | podDel _ h => exact .of_eq h.job
  | jobWrite cur nj w hcur h => rw [hcur, h.job]; exact .single (hW cur nj w hcur)
  | jobGone cur g hcur h => rw [hcur, h.job]; exact .single (hG cur g hcur)

/-- the stored object a status write of the pass overwrites: the cached Job, or what the `Update` of the
same pass made of it -/
def PassCur (jo : JobObj) (sp : Sys) (cur : JobObj) : Prop :=
  cur = jo ∨ ∃ r0, cur = specWrite jo { jo with job := (sync sp jo).2.1, finalizer := (sync sp jo).2.2.1 } r0

/-- … which agrees with the cached Job in all a pass reads of it but the admission-error annotation and the finalizer -/
theorem PassCur.agree {jo cur : JobObj} {sp : Sys} (h : PassCur jo sp cur) :
    cur.job.status = jo.job.status ∧ cur.job.template = jo.job.template ∧
    cur.job.deletionTimestamp = jo.job.deletionTimestamp ∧ cur.job.killTimestamp = jo.job.killTimestamp := by
  have hle := (sync_spec sp jo sp (CreatePhase.refl _)).2
  rcases h with rfl | ⟨r0, rfl⟩
  · exact ⟨rfl, rfl, rfl, rfl⟩
  · exact ⟨rfl, hle.template, rfl, hle.kill⟩

/-- The versions a pass writes, with the object they overwrite identified: an `Update` / `UpdateStatus`
that passes the resourceVersion check overwrites the cached Job (`rvId`), the `UpdateStatus` after a
successful `Update` — which was issued on the cached Job, still stored then — overwrites what that wrote. -/
theorem PassWrite.resolve {j0 jo cur nj : JobObj} {sp s : Sys} (hb : Base j0 s) (hc : s.jobCache = some jo)
    (hid : CachedIsCur jo (sync sp jo).1) (hcur : s.job = some cur) (hw : PassWrite jo sp s cur nj) :
    (cur.finalizer = true ∧ cur.job.deletionTimestamp = none ∧
      nj = { cur with job := { cur.job with deletionTimestamp := some (nowT s) }, rv := s.rv + 1 }) ∨
    (cur = jo ∧ ¬ (jo.job.deletionTimestamp.isSome = true ∧ (sync sp jo).2.2.1 = false) ∧
      nj = specWrite jo { jo with job := (sync sp jo).2.1, finalizer := (sync sp jo).2.2.1 } (s.rv + 1)) ∨
    (PassCur jo sp cur ∧ (cur = jo ∨ (sync sp jo).1.job = some jo) ∧
      nj = statusWrite cur { jo with job := (sync sp jo).2.1 } (s.rv + 1)) := by
  have hjo : ∀ {c}, s.job = some c → c.rv = jo.rv → c = jo :=
    fun h hrv => (hb.rvId _ h jo (mem_seenVers_cache hc) hrv.symm).symm
  cases hw with
  | delMark hf hd => exact .inl ⟨hf, hd, rfl⟩
  | spec hrv hn => cases hjo hcur hrv; exact .inr (.inl ⟨rfl, hn, rfl⟩)
  | status hrv => exact .inr (.inr ⟨.inl (hjo hcur hrv), .inl (hjo hcur hrv), rfl⟩)
  | statusOn s1 hs1 hs hok =>
    have := apiUpdateJob_ok_cur (hs1 ▸ hid) hok cur (hs ▸ hcur)
    exact .inr (.inr ⟨.inr ⟨_, this.1⟩, .inr (hs1 ▸ this.2.2), rfl⟩)

theorem PassWrite.move {j0 jo cur nj : JobObj} {s0 sp s : Sys} (hb : Base j0 s) (hc : s.jobCache = some jo)
    (hc0 : s0.jobCache = some jo) (hsp : Frame s0 sp) (hrv0 : s0.rv ≤ s.rv)
    (hid : CachedIsCur jo (sync sp jo).1) (hcur : s.job = some cur) (hw : PassWrite jo sp s cur nj) :
    JobMove s0 .work (some cur) (some nj) := by
  have hlt := Nat.lt_succ_of_le hrv0
  rcases hw.resolve hb hc hid hcur with ⟨hf, hd, rfl⟩ | ⟨rfl, hn, rfl⟩ | ⟨rfl | ⟨r0, rfl⟩, _, rfl⟩
  · exact .delMark cur _ _ (Or.inl rfl) hf hd hlt
  · exact .ctlSpec _ sp _ rfl hc0 hsp hlt hn
  · exact .ctlStatus _ sp _ rfl hc0 hsp hlt
  · exact .ctlStatusOn jo sp _ _ rfl hc0 hsp hlt

theorem PassGone.move {j0 jo cur : JobObj} {s0 sp s : Sys} (hb : Base j0 s) (hc : s.jobCache = some jo)
    (hc0 : s0.jobCache = some jo) (hsp : Frame s0 sp) (hcur : s.job = some cur) (hg : PassGone jo sp s cur) :
    JobMove s0 .work (some cur) none := by
  rcases hg with hf | ⟨hrv, hs, hd, hfin⟩
  · exact .goneTTL cur rfl hf
  · cases hb.rvId _ hcur jo (mem_seenVers_cache hc) hrv.symm
    -- the pass has only done bookkeeping so far: the object it overwrites is the one of `s0`
    have hfr : Frame sp s := by
      rcases sync_fin_deleted sp jo hd with hk | hk
      · rw [hs]; exact hk.2 (hk.1 ▸ hfin)
      · rw [hs]; exact hk.2.2.2
    exact .goneSpec jo sp rfl hc0 hsp (by rw [← hsp.job, ← hfr.job]; exact hcur) hd hfin

theorem jobMoves_micro {j0 jo : JobObj} {s0 sp s s' : Sys} (hb : Base j0 s) (hc : s.jobCache = some jo)
    (hc0 : s0.jobCache = some jo) (hsp : Frame s0 sp) (hrv0 : s0.rv ≤ s.rv)
    (hid : CachedIsCur jo (sync sp jo).1) (hm : Micro jo sp s s') :
    JobMoves s0 .work s.job s'.job :=
  hm.change.jobMoves (fun _ _ w hcur => w.move hb hc hc0 hsp hrv0 hid hcur)
    (fun _ g hcur => g.move hb hc hc0 hsp hcur)

theorem jobMoves_micros {j0 jo : JobObj} {s0 sp s s' : Sys} (hb : Base j0 s) (hc : s.jobCache = some jo)
    (hc0 : s0.jobCache = some jo) (hsp : Frame s0 sp) (hrv0 : s0.rv ≤ s.rv)
    (hid : CachedIsCur jo (sync sp jo).1) (hm : Micros jo sp s s') :
    JobMoves s0 .work s.job s'.job := by
  induction hm with
  | refl => exact .refl _
  | tail hms hm ih =>
    have := hb.micros hc hms
    exact ih.trans (jobMoves_micro this.1 this.2 hc0 hsp (Nat.le_trans hrv0 hms.rv_le) hid hm)

theorem JobMoves.same_or_newer {s0 : Sys} {a : Action} {o o' : Option JobObj} (h : JobMoves s0 a o o') :
    o' = o ∨ (∃ x, o' = some x ∧ s0.rv < x.rv) ∨ o' = none := by
  induction h with
  | refl => exact Or.inl rfl
  | tail _ hm _ =>
    cases hm with
    | goneUser => exact Or.inr (Or.inr rfl)
    | goneTTL => exact Or.inr (Or.inr rfl)
    | goneSpec => exact Or.inr (Or.inr rfl)
    | delMark cur t rv _ _ _ hrv => exact Or.inr (Or.inl ⟨_, rfl, hrv⟩)
    | kill cur t rv _ hrv => exact Or.inr (Or.inl ⟨_, rfl, hrv⟩)
    | ctlSpec jo sp rv _ _ _ hrv _ => exact Or.inr (Or.inl ⟨_, rfl, hrv⟩)
    | ctlStatus jo sp rv _ _ _ hrv => exact Or.inr (Or.inl ⟨_, rfl, hrv⟩)
    | ctlStatusOn jo sp rv0 rv _ _ _ hrv => exact Or.inr (Or.inl ⟨_, rfl, hrv⟩)

/-- if the metadata write of the pass that started in `sp` (= `s0` up to bookkeeping) passes the
resourceVersion check, the pass has not touched the Job object before: the object of `s0` is the cached Job -/
def CachedIsCur0 (jo : JobObj) (s0 sp : Sys) : Prop :=
  ∀ c, (sync sp jo).1.job = some c → c.rv = jo.rv → s0.job = some jo

theorem cachedIsCur0_sync {j0 jo : JobObj} {s0 sp : Sys} (hb : Base j0 sp) (hc : sp.jobCache = some jo)
    (hf : Frame s0 sp) : CachedIsCur0 jo s0 sp := by
  intro c hcj hrv
  have hid := cachedIsCur_sync hb hc
  have hcjo := hid c hcj hrv
  subst hcjo
  have hm := (sync_spec sp c sp (CreatePhase.refl _)).1
  have hmv := jobMoves_micros (s0 := sp) hb hc hc (Frame.refl sp) (Nat.le_refl _) hid hm
  have hjrv : c.rv ≤ sp.rv := (hb.seenOK c (mem_seenVers_cache hc)).2
  rcases hmv.same_or_newer with h | ⟨x, hx, hr⟩ | h
  · rw [← hf.job, ← h]; exact hcj
  · rw [hcj] at hx; cases hx; omega
  · rw [hcj] at h; cases h

theorem job_moves (hb : Base j0 s) (a : Action) (hal : Allowed j0 s a) :
    JobMoves s a s.job (step s a).job := by
  rcases step_change hal with rfl | hq | hch
  · show JobMoves s .work s.job (work s).1.job
    cases hc : s.jobCache with
    | none => exact .of_eq (work_frame s hc).job
    | some jo =>
      obtain ⟨sp, hf, hm⟩ := work_micros s jo hc
      have := jobMoves_micros (hb.frame hf) (hf.jobCache.trans hc) hc hf (by rw [hf.rv]; exact Nat.le_refl _)
        (cachedIsCur_sync (hb.frame hf) (hf.jobCache.trans hc)) hm
      rw [hf.job] at this
      exact this
  · exact .of_eq hq.job
  · refine hch.jobMoves (fun cur nj w _ => ?_) (fun cur g _ => .goneUser cur g.1 g.2)
    cases w with
    | kill t ha => exact .kill cur t _ ha (Nat.lt_succ_self _)
    | delMark ha hf hd => exact .delMark cur _ _ (Or.inr ha) hf hd (Nat.lt_succ_self _)

theorem JobMoves.none_stays {s0 : Sys} {a : Action} {o o' : Option JobObj} (h : JobMoves s0 a o o') (ho : o = none) :
    o' = none := by
  induction h with
  | refl => exact ho
  | tail _ hm ih =>
    have := ih
    cases hm with
    | goneUser => rfl
    | goneTTL => rfl
    | goneSpec => rfl
    | delMark => cases this
    | kill => cases this
    | ctlSpec => cases this
    | ctlStatus => cases this
    | ctlStatusOn => cases this

theorem JobMove.src {s0 : Sys} {a : Action} {o o' : Option JobObj} (h : JobMove s0 a o o') : ∃ cur, o = some cur := by
  cases h <;> exact ⟨_, rfl⟩

/-- A move to a new version keeps status and template and unsets neither deletion nor kill timestamp (the
user's writes, the deletion mark, the controller's `Update`), or it is a status write of a pass. -/
theorem JobMove.some_cases {s0 : Sys} {a : Action} {cur nj : JobObj} (h : JobMove s0 a (some cur) (some nj)) :
    (nj.job.status = cur.job.status ∧ nj.job.template = cur.job.template ∧
      (nj.job.deletionTimestamp = none → cur.job.deletionTimestamp = none) ∧
      (nj.job.killTimestamp = none → cur.job.killTimestamp = none)) ∨
    (∃ jo sp rv, a = .work ∧ s0.jobCache = some jo ∧ Frame s0 sp ∧ PassCur jo sp cur ∧
      nj = statusWrite cur { jo with job := (sync sp jo).2.1 } rv) := by
  cases h with
  | delMark => exact .inl ⟨rfl, rfl, nofun, id⟩
  | kill => exact .inl ⟨rfl, rfl, id, nofun⟩
  | ctlSpec jo sp =>
    have hle := (sync_spec sp cur sp (CreatePhase.refl _)).2
    exact .inl ⟨rfl, hle.template, id, fun h => hle.kill ▸ h⟩
  | ctlStatus jo sp rv ha hc hf => exact .inr ⟨cur, sp, rv, ha, hc, hf, .inl rfl, rfl⟩
  | ctlStatusOn jo sp rv0 rv ha hc hf => exact .inr ⟨jo, sp, rv, ha, hc, hf, .inr ⟨rv0, rfl⟩, rfl⟩

/-! ### transporting a relation along the moves of the Job -/

/-- ONE STEP, the general form.  A relation on Job values that is reflexive, transitive, unaffected by
writes that keep the status (`hset`), and that every Job `sync` computes in a controller pass satisfies with
respect to its input (`hsync`): it holds between the authoritative Job before and after any step. -/
theorem jobMoves_rel_work {s0 : Sys} {a : Action} (R : Job → Job → Prop)
    (hrefl : ∀ x, R x x) (htrans : ∀ x y z, R x y → R y z → R x z)
    (hsync : ∀ (jo : JobObj) (sp : Sys), a = .work → s0.jobCache = some jo → Frame s0 sp → R jo.job (sync sp jo).2.1)
    (hset : ∀ x y z : Job, R x y → z.status = y.status → R x z)
    {o o' : Option JobObj} (h : JobMoves s0 a o o') :
    ∀ j j', o = some j → o' = some j' → R j.job j'.job := by
  induction h with
  | refl => intro j j' h1 h2; rw [h1] at h2; cases h2; exact hrefl _
  | tail hms hm ih =>
    intro j j' h1 h2
    obtain ⟨cur, rfl⟩ := hm.src
    subst h2
    refine htrans _ _ _ (ih j cur h1 rfl) ?_
    rcases hm.some_cases with ⟨hst, _⟩ | ⟨jo, sp, rv, ha, hc, hf, hpc, rfl⟩
    · exact hset _ _ _ (hrefl _) hst
    · -- the object the status is written over carries the status of the cached Job
      exact htrans _ jo.job _ (hset _ _ _ (hrefl _) hpc.agree.1.symm) (hset _ _ _ (hsync jo sp ha hc hf) rfl)

/-- … without the fact that only a pass writes a computed status -/
theorem jobMoves_rel {s0 : Sys} {a : Action} (R : Job → Job → Prop)
    (hrefl : ∀ x, R x x) (htrans : ∀ x y z, R x y → R y z → R x z)
    (hsync : ∀ (jo : JobObj) (sp : Sys), s0.jobCache = some jo → Frame s0 sp → R jo.job (sync sp jo).2.1)
    (hset : ∀ x y z : Job, R x y → z.status = y.status → R x z)
    {o o' : Option JobObj} (h : JobMoves s0 a o o') :
    ∀ j j', o = some j → o' = some j' → R j.job j'.job :=
  jobMoves_rel_work R hrefl htrans (fun jo sp _ => hsync jo sp) hset h

theorem step_job_none (hr : Reach ok j0 s) (a : Action)
    (hal : Allowed j0 s a) (h : s.job = none) : (step s a).job = none :=
  (job_moves (base_of_reach hr) a hal).none_stays h

/-- A HISTORY, the general form.  A reflexive, transitive relation on the objects that every step respects
holds between the stored object of a state and of any later state (a removed Job never comes back, so the
Job existed throughout). -/
theorem steps_relObj (R : JobObj → JobObj → Prop)
    (hrefl : ∀ x, R x x) (htrans : ∀ x y z, R x y → R y z → R x z)
    (hstep : ∀ s1 a, Steps ok j0 s s1 → Reach ok j0 s1 → ok s1 a → Allowed j0 s1 a → ∀ j j', s1.job = some j →
      (step s1 a).job = some j' → R j j')
    (hr : Reach ok j0 s) (hs : Steps ok j0 s s') :
    ∀ j j', s.job = some j → s'.job = some j' → R j j' := by
  induction hs with
  | refl => intro j j' h1 h2; rw [h1] at h2; cases h2; exact hrefl _
  | step a hs' hok hal ih =>
    intro j j' h1 h2
    rename_i s''
    have hr'' := hr.steps hs'
    cases hj : s''.job with
    | none => rw [step_job_none hr'' a hal hj] at h2; cases h2
    | some j'' => exact htrans _ _ _ (ih j j'' h1 hj) (hstep s'' a hs' hr'' hok hal j'' j' hj h2)

/-- … for a relation on the Job values -/
theorem steps_rel (R : Job → Job → Prop)
    (hrefl : ∀ x, R x x) (htrans : ∀ x y z, R x y → R y z → R x z)
    (hstep : ∀ s1 a, Steps ok j0 s s1 → Reach ok j0 s1 → ok s1 a → Allowed j0 s1 a → ∀ j j', s1.job = some j →
      (step s1 a).job = some j' → R j.job j'.job)
    (hr : Reach ok j0 s) (hs : Steps ok j0 s s') :
    ∀ j j', s.job = some j → s'.job = some j' → R j.job j'.job :=
  steps_relObj (fun x y => R x.job y.job) (fun _ => hrefl _) (fun _ _ _ => htrans _ _ _) hstep hr hs

/-- … with `jobMoves_rel_work` supplying the step: what `sync` computes is judged in the state the pass runs in -/
theorem steps_jobMoves_rel {j0 : JobObj} (R : Job → Job → Prop)
    (hrefl : ∀ x, R x x) (htrans : ∀ x y z, R x y → R y z → R x z)
    (hset : ∀ x y z : Job, R x y → z.status = y.status → R x z)
    (hsync : ∀ s1, Steps ok j0 s s1 → Reach ok j0 s1 → ∀ (jo : JobObj) (sp : Sys), s1.jobCache = some jo → Frame s1 sp →
      R jo.job (sync sp jo).2.1)
    (hr : Reach ok j0 s) (hs : Steps ok j0 s s') :
    ∀ j j', s.job = some j → s'.job = some j' → R j.job j'.job :=
  steps_rel R hrefl htrans (fun s1 a hs1 hr1 _ hal =>
    jobMoves_rel_work R hrefl htrans (fun jo sp _ => hsync s1 hs1 hr1 jo sp) hset
      (job_moves (base_of_reach hr1) a hal)) hr hs

end Furiko.JobCtl
