/-
Where the NAMES of the recorded refs come from (an instance of `PassWalk`): every name in the status a
pass computes was recorded before, or is the name of a creation request computed from the cached Job,
or is the name of a pod in the pod cache that is controlled by the Job.  Core Lean only.
-/
import FurikoModel.Proofs.JobCtlInvRefsInv

set_option linter.unusedSimpArgs false
set_option linter.unusedVariables false

namespace Furiko.JobCtl
open Furiko Furiko.WQ Furiko.StatusLemmas Furiko.ParallelLemmas

/-- every recorded name is in `N` -/
def NOK (N : List String) (rj : Job) : Prop := ∀ n ∈ refNames rj, n ∈ N

theorem updateJobTaskRefs_nok {N : List String} (now : Time) (a : Job) (T : List Task) (ha : NOK N a)
    (hT : ∀ t ∈ T, TaskOK t ∧ t.name ∈ N) : NOK N (updateJobTaskRefs now a T) := by
  intro n hn
  obtain ⟨r, hr, rfl⟩ := List.mem_map.mp hn
  rcases mem_generateTaskRefs hr with ⟨t, ht, rfl⟩ | ⟨ex, hex, _, rfl⟩
  · rw [getTaskRef_name, (hT t ht).1]; exact (hT t ht).2
  · rw [(lostRef_fields now ex).1]; exact ha _ (List.mem_map_of_mem hex)

theorem NOK.of_tasks {N : List String} {a b : Job} (ha : NOK N a) (e : b.status.tasks = a.status.tasks) : NOK N b := by
  intro n hn; unfold refNames at hn; rw [e] at hn; exact ha n hn

theorem markDeleted_nok {N : List String} (a : Job) (names : List String) (f : TaskRef → TaskRef)
    (hf : ∀ r, (f r).name = r.name) (ha : NOK N a) : NOK N (markDeleted a names f) := by
  intro n hn
  unfold refNames markDeleted at hn
  simp only [List.map_map] at hn
  obtain ⟨r, hr, rfl⟩ := List.mem_map.mp hn
  have : (if names.contains r.name = true then f r else r).name = r.name := by
    split
    · exact hf r
    · rfl
  show (if names.contains r.name = true then f r else r).name ∈ N
  rw [this]
  exact ha _ (List.mem_map_of_mem hr)

theorem deletedStatusIfNotSet_nok {N : List String} (a : Job) (name : String) (st : TaskStatus) (ha : NOK N a) :
    NOK N (updateTaskRefDeletedStatusIfNotSet a name st) := by
  intro n hn
  unfold refNames updateTaskRefDeletedStatusIfNotSet at hn
  simp only [List.map_map] at hn
  obtain ⟨r, hr, rfl⟩ := List.mem_map.mp hn
  have : (if (r.name == name && r.deletedStatus.isNone) = true then { r with deletedStatus := some st } else r).name =
      r.name := by split <;> rfl
  show (if (r.name == name && r.deletedStatus.isNone) = true then { r with deletedStatus := some st } else r).name ∈ N
  rw [this]
  exact ha _ (List.mem_map_of_mem hr)

/-- the names of the creation requests computed from the cached Job -/
def reqNamesOf (d : PIndex) (jo : JobObj) : List String :=
  match computeMissingIndexesForCreation d jo.job (jo.job.indexes d) with
  | some reqs => reqs.map (reqName jo)
  | none => []

/-- the names of the cached pods that are controlled by the Job -/
def ownedNames (cache : List PodObj) (jo : JobObj) : List String :=
  podNames (cache.filter (fun p => decide (p.ownerUid = some jo.uid)))

theorem mem_ownedNames {cache : List PodObj} {jo : JobObj} {p : PodObj} (hp : p ∈ cache)
    (ho : p.ownerUid = some jo.uid) : p.pod.name ∈ ownedNames cache jo := by
  unfold ownedNames podNames
  exact List.mem_map_of_mem (List.mem_filter.mpr ⟨hp, by simpa using ho⟩)

theorem ownedNames_mem {cache : List PodObj} {jo : JobObj} {n : String} (h : n ∈ ownedNames cache jo) :
    ∃ p ∈ cache, p.ownerUid = some jo.uid ∧ p.pod.name = n := by
  unfold ownedNames podNames at h
  obtain ⟨p, hp, hn⟩ := List.mem_map.mp h
  have := List.mem_filter.mp hp
  exact ⟨p, this.1, by simpa using this.2, hn⟩

/-- the names of the creation requests computed from the cached Job that are FREE on the server when the
pass starts (the pass's own create call then makes the pod, controlled by the Job — or fails; a
requested name that is occupied is only ever adopted from a cached pod controlled by the Job) -/
def freshReqNames (sp : Sys) (jo : JobObj) : List String :=
  (reqNamesOf sp.d jo).filter (fun n => decide (n ∉ podNames sp.pods))

/-- the allowed names of a pass: recorded before; requested and free on the server; or the name of a
cached pod that is controlled by the Job -/
def allowedNames (sp : Sys) (jo : JobObj) : List String :=
  refNames jo.job ++ freshReqNames sp jo ++ ownedNames sp.podCache jo

theorem mem_allowed_old {sp : Sys} {jo : JobObj} {n : String} (h : n ∈ refNames jo.job) : n ∈ allowedNames sp jo :=
  List.mem_append_left _ (List.mem_append_left _ h)
theorem mem_allowed_req {sp : Sys} {jo : JobObj} {n : String} (h : n ∈ reqNamesOf sp.d jo)
    (hf : n ∉ podNames sp.pods) : n ∈ allowedNames sp jo :=
  List.mem_append_left _ (List.mem_append_right _ (List.mem_filter.mpr ⟨h, by simpa using hf⟩))
theorem mem_allowed_cache {sp : Sys} {jo : JobObj} {n : String} (h : n ∈ ownedNames sp.podCache jo) :
    n ∈ allowedNames sp jo := List.mem_append_right _ h

theorem adoptUnrecordedTasks_names (s : Sys) (jo : JobObj) (tasks : List Task) (N : List String)
    (hT : ∀ t ∈ tasks, TaskOK t ∧ t.name ∈ N) (hc : ∀ n ∈ ownedNames s.podCache jo, n ∈ N) :
    ∀ t ∈ adoptUnrecordedTasks s jo tasks, TaskOK t ∧ t.name ∈ N := by
  intro t hm
  unfold adoptUnrecordedTasks at hm
  rcases List.mem_append.mp hm with h | h
  · exact hT t h
  · obtain ⟨p, hpf, hp⟩ := List.mem_filterMap.mp h
    have hpm : p ∈ s.podCache := (JobCtlPlan.sortPods_perm s.podCache).subset (List.mem_filter.mp hpf).1
    have hown : p.ownerUid = some jo.uid := by
      have := (List.mem_filter.mp hpf).2
      simp only [Bool.and_eq_true, Bool.not_eq_true', decide_eq_true_eq] at this
      exact this.2
    have := podTask_ok hp
    exact ⟨this.1, by rw [this.2]; exact hc _ (mem_ownedNames hpm hown)⟩

theorem passWalk_nok (s : Sys) (jo : JobObj) :
    PassWalk s jo (fun T rj => NOK (allowedNames s jo) rj ∧ ∀ t ∈ T, TaskOK t ∧ t.name ∈ allowedNames s jo) where
  refresh := fun _ ⟨h, ht⟩ => ⟨updateJobTaskRefs_nok _ _ _ h ht, ht⟩
  status := fun _ _ ⟨h, ht⟩ => ⟨h.of_tasks (statusOf_tasks _ _ _).1, ht⟩
  pending := fun _ _ ⟨h, ht⟩ => ⟨markDeleted_nok _ _ _ (fun _ => rfl) h, ht⟩
  kill := fun ⟨h, ht⟩ => ⟨markDeleted_nok _ _ _ (fun _ => rfl) h, ht⟩
  force := fun _ ⟨h, ht⟩ => ⟨markDeleted_nok _ _ _ (fun _ => rfl) h, ht⟩
  jobDeleted := fun _ ⟨h, ht⟩ => ⟨deletedStatusIfNotSet_nok _ _ _ h, ht⟩
  start := ⟨fun n hn => mem_allowed_old hn, fun t ht => by
    unfold tasksForRefs at ht
    obtain ⟨r, hr, hg⟩ := List.mem_filterMap.mp ht
    exact ⟨(getTaskForRef_ok hg).1, mem_allowed_old ((getTaskForRef_ok hg).2 ▸ List.mem_map_of_mem hr)⟩⟩
  adopt := fun _ _ ⟨h, ht⟩ => ⟨h, adoptUnrecordedTasks_names s jo _ _ ht (fun n hn => mem_allowed_cache hn)⟩
  created := by
    intro reqs rj' new _ _ _ _ hreqs ha hsub hn
    refine ⟨NOK.of_tasks (fun n hn => mem_allowed_old hn) (by rw [ha.status]), fun t hm => ?_⟩
    rcases List.mem_append.mp hm with h | h
    · unfold tasksForRefs at h
      obtain ⟨r, hr, hg⟩ := List.mem_filterMap.mp h
      exact ⟨(getTaskForRef_ok hg).1, mem_allowed_old ((getTaskForRef_ok hg).2 ▸ List.mem_map_of_mem hr)⟩
    · obtain ⟨x, hx, rfl⟩ := List.mem_map.mp h
      refine ⟨(hn x hx).ok.1, ?_⟩
      rw [(hn x hx).ok.2]
      obtain ⟨p, _, hpn, ho, hsrc⟩ := hn x hx
      rcases hsrc with ⟨_, hfr⟩ | hc
      · refine mem_allowed_req ?_ hfr
        unfold reqNamesOf
        rw [hreqs]
        exact List.mem_map_of_mem (hsub.subset (List.mem_map_of_mem hx))
      · exact hpn ▸ mem_allowed_cache (mem_ownedNames hc ho)
  finalizer := by
    intro T rj _ ⟨h, _⟩
    refine ⟨h, ?_⟩
    refine adoptUnrecordedTasks_names s { jo with job := rj } _ _ ?_ (fun n hn => mem_allowed_cache hn)
    intro t ht
    unfold tasksForRefsConfirmed at ht
    obtain ⟨r, hr, hg⟩ := List.mem_filterMap.mp ht
    exact ⟨(getTaskForRefConfirmed_ok hg).1, h _ ((getTaskForRefConfirmed_ok hg).2 ▸ List.mem_map_of_mem hr)⟩

theorem sync_allowedNames (s : Sys) (jo : JobObj) : NOK (allowedNames s jo) (sync s jo).2.1 :=
  (passWalk_nok s jo).sync_inv.elim fun _ h => h.1

end Furiko.JobCtl
