/-
Where a stored Job status comes from (history level, all actions).

* from `Proofs/JobCtlInvWalk.lean` (`passWalk_le`, `PassWalk.sync_form`): the Job value `Reconciler.sync`
  hands to the two final writes is the cached Job unchanged (the pass returned an error before the status
  refresh), or the output of `UpdateJobStatusFromTaskRefs` on a Job value with the cached Job's spec (`JobLe`).
* `StatusSrc` / `StatusOK`: the invariant "the authoritative status is the initial one, or was computed
  by `UpdateJobStatusFromTaskRefs` from a Job value with the same template whose deletion / kill
  timestamps are set only if the authoritative ones are", preserved by every step (`statusOK_of_reach`).
* `Coherent`, `StatusSrc.coherent`: the pure coherence / soundness theorems of `Props/C11.lean`,
  `Props/C10.lean` read off a status with such an origin.
Core Lean only.
-/
import FurikoModel.Proofs.JobCtlInvJob
import FurikoModel.Proofs.JobCtlInvRefsInv
import FurikoModel.Proofs.JobCtlPlanPass
import FurikoModel.Props.C10
import FurikoModel.Props.C11

set_option linter.unusedSimpArgs false
set_option linter.unusedVariables false

namespace Furiko.JobCtl
open Furiko Furiko.WQ Furiko.JobCtlPlan Furiko.StatusLemmas Furiko.ConditionLemmas

/-- the status of `j` was computed by `UpdateJobStatusFromTaskRefs` (clock `now`) from a Job value `rj`
with `j`'s template; `rj` was being deleted / carried a kill timestamp only if `j` is / does -/
def StatusSrc (d : PIndex) (j : Job) : Prop :=
  ∃ (now : Time) (rj nj : Job), updateJobStatusFromTaskRefs now d rj = some nj ∧ nj.status = j.status ∧
    rj.template = j.template ∧ (j.deletionTimestamp = none → rj.deletionTimestamp = none) ∧
    (j.killTimestamp = none → rj.killTimestamp = none)

/-- … or it is still the status the Job was created with -/
def StatusOK (j0 : JobObj) (d : PIndex) (j : Job) : Prop := j.status = j0.job.status ∨ StatusSrc d j

theorem StatusOK.congr {j0 : JobObj} {d : PIndex} {a b : Job} (h : StatusOK j0 d a) (hst : b.status = a.status)
    (htm : b.template = a.template) (hdel : b.deletionTimestamp = none → a.deletionTimestamp = none)
    (hkill : b.killTimestamp = none → a.killTimestamp = none) : StatusOK j0 d b := by
  rcases h with h | ⟨now, rj, nj, hu, hs, ht, hd, hk⟩
  · exact Or.inl (hst.trans h)
  · exact Or.inr ⟨now, rj, nj, hu, hs.trans hst.symm, ht.trans htm.symm, fun h' => hd (hdel h'), fun h' => hk (hkill h')⟩

/-- the status write of a pass has such an origin -/
theorem statusOK_sync {j0 : JobObj} (sp : Sys) (jo : JobObj) (htm : jo.job.template.isSome = true)
    (h : StatusOK j0 sp.d jo.job) :
    StatusOK j0 sp.d { jo.job with status := (sync sp jo).2.1.status } := by
  rcases (passWalk_le sp jo).sync_form with heq | ⟨_, rj, ⟨hle, _⟩, heq⟩
  · rw [heq]; exact h
  · have htm' : rj.template.isSome = true := by rw [hle.template]; exact htm
    obtain ⟨nj, hnj⟩ := updateJobStatusFromTaskRefs_isSome (now := sp.clock) (d := sp.d) htm'
    have hout : (sync sp jo).2.1 = nj := by rw [heq, Live.statusOf, hnj]; rfl
    refine Or.inr ⟨sp.clock, rj, nj, hnj, by rw [hout], hle.template, ?_, ?_⟩
    · intro h'; rw [hle.del]; exact h'
    · intro h'; rw [hle.kill]; exact h'

/-- every change of the authoritative Job object keeps `StatusOK` -/
theorem statusOK_moves {j0 : JobObj} {s : Sys} {a : Action} (hb : Base j0 s) (htm : j0.job.template.isSome = true)
    {o o' : Option JobObj} (hm : JobMoves s a o o') :
    (∀ j, o = some j → StatusOK j0 s.d j.job) → ∀ j', o' = some j' → StatusOK j0 s.d j'.job := by
  induction hm with
  | refl => intro h j' hj'; exact h j' hj'
  | tail hms hmv ih =>
    intro h j' hj'
    obtain ⟨cur, rfl⟩ := hmv.src
    subst hj'
    have hcur := ih h cur rfl
    rcases hmv.some_cases with ⟨hst, htm', hdel, hkill⟩ | ⟨jo, sp, rv, _, hc, hf, hpc, rfl⟩
    · exact hcur.congr hst htm' hdel hkill
    · -- the object the status is written over carries status, template and both timestamps of the cached Job
      obtain ⟨e1, e2, e3, e4⟩ := hpc.agree
      have hjo := (hb.seenOK jo (mem_seenVers_cache hc)).1
      have := statusOK_sync (j0 := j0) sp jo (by rw [hjo.template]; exact htm)
        (hf.d ▸ hcur.congr e1.symm e2.symm (fun h' => e3 ▸ h') (fun h' => e4 ▸ h'))
      rw [hf.d] at this
      exact this.congr rfl e2 (fun h' => e3.symm ▸ h') (fun h' => e4.symm ▸ h')

/-- **`StatusOK` is an invariant** of every history (all actions allowed; Job created with a template) -/
theorem statusOK_of_reach {ok : Sys → Action → Prop} {j0 : JobObj} {s : Sys} (hr : Reach ok j0 s)
    (htm : j0.job.template.isSome = true) : ∀ j, s.job = some j → StatusOK j0 s.d j.job := by
  induction hr with
  | init c cfg d _ =>
    intro j hj
    unfold initSys userCreateJob at hj
    simp only [Option.some.injEq] at hj
    subst hj
    exact Or.inl rfl
  | step a hr' _ hal ih =>
    intro j hj
    rw [step_d]
    exact statusOK_moves (base_of_reach hr') htm (job_moves (base_of_reach hr') a hal) ih j hj

theorem strategy_of_template {a b : Job} (h : a.template = b.template) : a.strategy = b.strategy := by
  unfold Job.strategy Job.parallelism; rw [h]

theorem satisfied_congr {d : PIndex} {a b : Job} (h : a.template = b.template) (ts : List TaskRef) :
    Satisfied d a ts ↔ Satisfied d b ts := by
  unfold Satisfied; rw [strategy_of_template h, indexes_of_template h]

theorem unsatisfiable_congr {d : PIndex} {a b : Job} (h : a.template = b.template) (ts : List TaskRef) :
    Unsatisfiable d a ts ↔ Unsatisfiable d b ts := by
  unfold Unsatisfiable; rw [strategy_of_template h, indexes_of_template h, maxAttempts_of_template h]

/-- the coherence of a status that `UpdateJobStatusFromTaskRefs` computed, and the soundness of its result
with respect to the Job's own template and task list -/
structure Coherent (d : PIndex) (j : Job) : Prop where
  /-- exactly one of queueing / waiting / running / finished is set -/
  one : j.status.condition.count = 1
  /-- the coarse state names it -/
  state : StateMatches j.status.state j.status.condition
  /-- the phase is terminal iff the finished condition is set -/
  phase : phaseIsTerminal j.status.phase = j.status.condition.finished.isSome
  /-- result Success ⇒ the strategy is satisfied by the recorded refs -/
  success : ∀ f, j.status.condition.finished = some f → f.result = .success → Satisfied d j j.status.tasks
  /-- result Failed ⇒ the strategy can no longer be satisfied -/
  failed : ∀ f, j.status.condition.finished = some f → f.result = .failed →
    Unsatisfiable d j j.status.tasks ∧ ¬ Satisfied d j j.status.tasks
  /-- the result is one of Success / Failed / AdmissionError / Killed -/
  known : ∀ f, j.status.condition.finished = some f → f.result ≠ .finalStateUnknown ∧ f.result ≠ .other
  /-- Killed ⇒ the Job carries a kill timestamp or is being deleted -/
  killed : ∀ f, j.status.condition.finished = some f → f.result = .killed →
    j.killTimestamp.isSome = true ∨ j.deletionTimestamp.isSome = true
  /-- Finished, not by admission error, Job not being deleted ⇒ started, and every ref of every index
  carries a finish timestamp -/
  terminated : ∀ f, j.status.condition.finished = some f → f.result ≠ .admissionError →
    j.deletionTimestamp = none →
    j.status.startTime.isSome = true ∧ ∀ i ∈ j.indexes d, IndexAllFinished d j.status.tasks i

/-- the finished condition of the written status, when the deletion override did not fire, is the one
`GetCondition` computed -/
theorem finished_of_update {now : Time} {d : PIndex} {rj nj : Job} (h : updateJobStatusFromTaskRefs now d rj = some nj)
    (f : CondFinished) (hf : nj.status.condition.finished = some f) :
    (getCondition now d rj).finished = some f ∨
    (rj.deletionTimestamp.isSome = true ∧ f.result = .killed) := by
  obtain ⟨t, _, hc, _⟩ := update_some false now d rj nj h
  rw [hc, sbp_condition] at hf
  by_cases ho : deletionOverrides rj (getCondition now d rj) = true
  · rw [if_pos ho] at hf
    right
    unfold deletionOverrides at ho
    simp only [Bool.and_eq_true] at ho
    refine ⟨ho.1, ?_⟩
    unfold deletionOverride at hf
    simp only [Option.some.injEq] at hf
    rw [← hf]
  · rw [if_neg ho] at hf
    exact Or.inl hf

theorem StatusSrc.coherent {d : PIndex} {j : Job} (h : StatusSrc d j) : Coherent d j := by
  obtain ⟨now, rj, nj, hu, hs, htm, hdel, hkill⟩ := h
  have htasks : rj.status.tasks = j.status.tasks := by
    rw [← hs]; exact (update_some false now d rj nj hu).choose_spec.2.2.2.2.1.symm
  have hstart : rj.status.startTime = j.status.startTime := by
    rw [← hs]; exact (updateJobStatusFromTaskRefs_le hu).startTime.symm
  refine ⟨?_, ?_, ?_, ?_, ?_, ?_, ?_, ?_⟩
  · rw [← hs]; exact (Furiko.Props.C11.exactly_one_condition now d rj).2 false nj hu
  · rw [← hs]; exact Furiko.Props.C11.state_matches_condition now d rj nj hu
  · rw [← hs]; exact (Furiko.Props.C11.phase_terminal_iff_finished now d rj).2 false nj hu
  · intro f hf hr
    rw [← hs] at hf
    rcases finished_of_update hu f hf with hg | ⟨_, hk⟩
    · have := (Furiko.Props.C10.succeeded_sound now d rj f hg hr).2
      rw [htasks] at this
      exact (satisfied_congr htm _).mp this
    · rw [hr] at hk; cases hk
  · intro f hf hr
    rw [← hs] at hf
    rcases finished_of_update hu f hf with hg | ⟨_, hk⟩
    · have := Furiko.Props.C10.failed_sound now d rj f hg hr
      rw [htasks] at this
      exact ⟨(unsatisfiable_congr htm _).mp this.1, fun h' => this.2 ((satisfied_congr htm _).mpr h')⟩
    · rw [hr] at hk; cases hk
  · intro f hf
    rw [← hs] at hf
    rcases finished_of_update hu f hf with hg | ⟨_, hk⟩
    · exact Furiko.Props.C10.finished_result_known now d rj f hg
    · rw [hk]; exact ⟨by simp, by simp⟩
  · intro f hf hr
    rw [← hs] at hf
    rcases finished_of_update hu f hf with hg | ⟨hd, _⟩
    · left
      cases hk : j.killTimestamp with
      | some k => rfl
      | none =>
        exfalso
        have hrk := hkill hk
        rcases getCondition_finished now d rj f hg with ⟨_, h2⟩ | ⟨_, _, _, ⟨h1, _⟩ | ⟨_, _, h2⟩⟩
        · rw [hr] at h2; cases h2
        · rw [hrk] at h1; simp [isTimeSetAndEarlierOrEqual] at h1
        · rw [hr] at h2
          unfold finishedResult at h2
          rw [hrk] at h2
          simp only [Option.isSome_none, Bool.false_eq_true, if_false] at h2
          split at h2 <;> cases h2
    · right
      cases hj : j.deletionTimestamp with
      | some k => rfl
      | none => rw [hdel hj] at hd; cases hd
  · intro f hf hne hnd
    rw [← hs] at hf
    have hrd := hdel hnd
    rcases finished_of_update hu f hf with hg | ⟨hd, _⟩
    · rcases getCondition_finished now d rj f hg with ⟨_, h2⟩ | ⟨_, hst, ht, _⟩
      · exact absurd h2 hne
      · refine ⟨by rw [← hstart]; exact hst, ?_⟩
        have := (terminated_ge_iff d rj rj.status.tasks).mp ht
        rw [htasks, indexes_of_template htm] at this
        exact this
    · rw [hrd] at hd; cases hd

end Furiko.JobCtl
