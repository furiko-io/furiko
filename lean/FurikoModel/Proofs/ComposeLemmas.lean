/-
Helper lemmas for Props/Compose.lean (cross-component theorems).

* cron reconciler (`Furiko.CronRec`): the transition system of `Model/CronRec.lean` as a
  deterministic successor function (`applyAct`), runs of action lists, the catch-up envelope
  (`CatchUpAct`), "a request is eventually processed successfully" (`Served`) and the invariant
  `CInv` of a catch-up run.
* what an admission error does to condition and phase (`admission_error_phase`).
* translation `toJcJob` of a `CronRec.Job` into the `JcStatus.Job` the JobConfig controller reads,
  and what `listJobs` / `labelScheduleTime` see of it.
* "active" in the queue model and in the JobConfig-status model (`SameJob`).
Imports the `Props` modules whose theorems `Props/Compose.lean` composes.  Core Lean only.
-/
import FurikoModel.Props.C02
import FurikoModel.Props.C04
import FurikoModel.Props.C04Status
import FurikoModel.Props.C05
import FurikoModel.Props.C06
import FurikoModel.Props.C08Hist
import FurikoModel.Props.C12
import FurikoModel.Props.C12Plan
import FurikoModel.Props.C15
import FurikoModel.Props.C20

set_option linter.unusedVariables false

namespace Furiko.CronRec
open Furiko.Str

/-- the successor state of an action (`step world s a s'` is `Pre world s a ∧ s' = applyAct s a`) -/
def applyAct (s : Sys) : Action → Sys
  | .request c t => { s with queue := jobConfigKey c.ns c.name t :: s.queue }
  | .process key now active maxEnq inj requeue =>
      { s with api := (syncItem now s.api (listerGet s.jcCache) active maxEnq (jobLister s.jobCache) inj key).api,
               queue := if requeue then s.queue else s.queue.filter (· ≠ key) }
  | .crash => { s with queue := [] }
  | .deliver jcs jobs => { s with jcCache := jcs, jobCache := jobs }
  | .delete ns name => { s with api := s.api.filter (fun j => ¬ (j.ns = ns ∧ j.name = name)) }

/-- the guard of an action -/
def Pre (world : JobConfig → Prop) (s : Sys) : Action → Prop
  | .request c _ => world c
  | .process key _ _ _ _ _ => key ∈ s.queue
  | .deliver jcs _ => ∀ c ∈ jcs, world c
  | .crash => True
  | .delete _ _ => True

instance (world : JobConfig → Prop) [DecidablePred world] (s : Sys) (a : Action) :
    Decidable (Pre world s a) := by
  cases a <;> unfold Pre <;> infer_instance

theorem step_iff (world : JobConfig → Prop) (s : Sys) (a : Action) (s' : Sys) :
    step world s a s' ↔ Pre world s a ∧ s' = applyAct s a := by
  cases a <;> simp [step, Pre, applyAct]

theorem Reachable.apply {world : JobConfig → Prop} {s : Sys} (h : Reachable world s) {a : Action}
    (hpre : Pre world s a) : Reachable world (applyAct s a) :=
  .step a h ((step_iff world s a _).2 ⟨hpre, rfl⟩)

/-- the state after a list of actions -/
def runActs (s : Sys) : List Action → Sys
  | [] => s
  | a :: rest => runActs (applyAct s a) rest

/-- every action of the list is enabled when it is taken -/
def Legal (world : JobConfig → Prop) : Sys → List Action → Prop
  | _, [] => True
  | s, a :: rest => Pre world s a ∧ Legal world (applyAct s a) rest

theorem reachable_runActs {world : JobConfig → Prop} (acts : List Action) :
    ∀ s, Reachable world s → Legal world s acts → Reachable world (runActs s acts) := by
  induction acts with
  | nil => intro s h _; exact h
  | cons a rest ih =>
    intro s h hl
    exact ih _ (h.apply hl.1) hl.2

/-- The catch-up envelope for one restart whose cron worker requested the work items `rq`
(pairs of store key `ns/name` and schedule time): the only keys enqueued are the requested ones
(`E-SingleLeader`: nobody else feeds the queue), no Job is deleted while the catch-up is being
processed, and the controller does not crash again (a second crash is a second restart). -/
def CatchUpAct (rq : List (String × Int)) : Action → Prop
  | .request c t => (String.ofList (metaNsKey c.ns c.name), t) ∈ rq
  | .process _ _ _ _ _ _ => True
  | .deliver _ _ => True
  | .crash => False
  | .delete _ _ => False

instance (rq : List (String × Int)) (a : Action) : Decidable (CatchUpAct rq a) := by
  cases a <;> unfold CatchUpAct <;> infer_instance

/-- `a` is a pass that settles the work item `(c, t)` in state `s`: it processes the item's key
and either the Job already exists on the server (then any pass is a no-op, `process_idempotent`),
or the pass goes all the way to a successful create: the JobConfig lister holds a version of `c`
(same uid) whose option defaults evaluate, the schedule is not skipped by policy (Forbid at the
limit, `MaxEnqueuedJobs`), the Job lister does not claim the Job, and the create call is applied
(`inj = none`, or applied-but-reported-failed). -/
def Effective (c : JobConfig) (t : Int) (s : Sys) : Action → Prop
  | .process key _ active maxEnq inj _ =>
      key = jobConfigKey c.ns c.name t ∧
      (s.api.has c.ns (jobName c.name t) = true ∨
       ∃ cv, listerGet s.jcCache c.ns c.name = some cv ∧ cv.uid = c.uid ∧ cv.subst ≠ none ∧
          ¬ (cv.policy = policyForbid ∧ active cv + 1 > cv.maxConc.getD Facts.defaultMaxConcurrency) ∧
          queueFull maxEnq cv.queued = false ∧
          jobLister s.jobCache c.ns (jobName c.name t) = false ∧
          (inj = .none ∨ inj = .errApplied))
  | _ => False

/-- somewhere in the run `acts` from `s` there is a pass that settles `(c, t)` — "the create
faults are eventually followed by a success"; before and after it the item may be processed any
number of times, with any cache views and any faults -/
def Served (c : JobConfig) (t : Int) : Sys → List Action → Prop
  | _, [] => False
  | s, a :: rest => Effective c t s a ∨ Served c t (applyAct s a) rest

/-- what the API server guarantees about JobConfig identities and names -/
structure WorldOK (world : JobConfig → Prop) : Prop where
  /-- a uid belongs to one (namespace, name) (`C02.UidFunctional`) -/
  uid_fun : ∀ a b, world a → world b → a.uid = b.uid → a.ns = b.ns ∧ a.name = b.name
  /-- … and, over the history considered, a (namespace, name) to one uid: no JobConfig was deleted
  and re-created under the same name while Jobs of the old one are still around -/
  name_fun : ∀ a b, world a → world b → a.ns = b.ns → a.name = b.name → a.uid = b.uid
  /-- JobConfigs are namespaced; namespaces contain no `/` -/
  ns_ok : ∀ a, world a → a.ns ≠ [] ∧ '/' ∉ a.ns
  /-- names contain no `/` and do not end in `-` (DNS-1123) -/
  name_ok : ∀ a, world a → '/' ∉ a.name ∧ a.name.getLast? ≠ some '-'

/-- unique decomposition at the first `/` -/
theorem split_at_first_slash {a a' b b' : Str} (ha : '/' ∉ a) (ha' : '/' ∉ a')
    (h : a ++ '/' :: b = a' ++ '/' :: b') : a = a' ∧ b = b' := by
  induction a generalizing a' with
  | nil =>
    cases a' with
    | nil => simpa using h
    | cons x q => simp at h; simp [← h.1] at ha'
  | cons y r ih =>
    cases a' with
    | nil => simp at h; simp [h.1] at ha
    | cons x q =>
      simp only [List.cons_append, List.cons.injEq] at h
      simp only [List.mem_cons, not_or] at ha ha'
      obtain ⟨rfl, rfl⟩ := ih ha.2 ha'.2 h.2
      exact ⟨by rw [h.1], rfl⟩
/-- the lister returns an object stored under the (namespace, name) it was asked for -/
theorem listerGet_ident {cache : List JobConfig} {ns name : Str} {cv : JobConfig}
    (h : listerGet cache ns name = some cv) (hns : '/' ∉ ns)
    (hcv : '/' ∉ cv.ns) (hcvn : '/' ∉ cv.name) : cv.ns = ns ∧ cv.name = name := by
  have hp : metaNsKey cv.ns cv.name = ns ++ '/' :: name := by simpa using List.find?_some h
  unfold metaNsKey at hp
  split at hp
  · exact split_at_first_slash hcv hns hp
  · exact absurd (hp ▸ (by simp : '/' ∈ ns ++ '/' :: name)) hcvn

theorem has_true_iff {api : Api} {ns name : Str} :
    api.has ns name = true ↔ ∃ j ∈ api, j.ns = ns ∧ j.name = name := by
  simp [Api.has]

section Pass
variable (now : Int) (api : Api) (lookup : Str → Str → Option JobConfig) (active : JobConfig → Int)
  (mx : Option Int) (inCache : Str → Str → Bool) (inj : Inject)

/-- one pass never frees a name -/
theorem syncItem_has_mono (key : Str) {ns name : Str} (h : api.has ns name = true) :
    (syncItem now api lookup active mx inCache inj key).api.has ns name = true := by
  rcases syncItem_api now api lookup active mx inCache inj key with he | ⟨_, _, _, _, _, _, he, _⟩ <;> rw [he]
  · exact h
  · unfold Api.has at h ⊢
    rw [List.any_append, h]; rfl

/-- a pass on the key of `t` that finds a version `cv` whose option defaults evaluate and that is not
skipped by policy: it stops at the Job lister's claim, or it issues the create of the Job of `(cv, t)` -/
theorem syncOne_pass (ns name : Str) {t : Int} (ht : InInt64 t) {cv : JobConfig}
    (hl : lookup ns name = some cv) {vars : KV} (hsub : cv.subst = some vars)
    (hforbid : ¬ (cv.policy = policyForbid ∧ active cv + 1 > cv.maxConc.getD Facts.defaultMaxConcurrency))
    (hq : queueFull mx cv.queued = false) :
    let j := scheduledJob now cv t vars
    let o := syncOne now api lookup active mx inCache inj ns (joinKey name t)
    o.api = (if inCache cv.ns (generateName now cv.name t) then api else (apiCreate api j inj).1) ∧
    o.result = if inCache cv.ns (generateName now cv.name t) then .ok
      else (afterCreate (apiCreate api j inj).2).1 := by
  unfold syncOne
  rw [splitKey_joinKey name ht]
  simp only [hl]
  unfold processCron
  simp only [hforbid, if_false, hq, Bool.false_eq_true, newJobFromJobConfig, hsub]
  cases inCache cv.ns (generateName now cv.name t) <;> exact ⟨rfl, rfl⟩

/-- one pass on a requested key: the server is unchanged, or it gained exactly the Job of the
key's schedule time, built from the version the lister returned for the key's (namespace, name) -/
theorem syncItem_requested_api (ns name : Str) (t : Int) (hns : '/' ∉ ns) (hname : '/' ∉ name) :
    (syncItem now api lookup active mx inCache inj (jobConfigKey ns name t)).api = api ∨
    ∃ cv vars, lookup ns name = some cv ∧
      (syncItem now api lookup active mx inCache inj (jobConfigKey ns name t)).api
        = api ++ [scheduledJob now cv t vars] := by
  unfold syncItem
  rw [splitNsKey_jobConfigKey t hns hname]
  simp only
  rcases syncOne_api now api lookup active mx inCache inj ns (joinKey name t) with
    h | ⟨cfgName, t', cv, vars, hk, hl, h, _⟩
  · left; exact h
  · right
    by_cases ht : InInt64 t
    · rw [splitKey_joinKey name ht] at hk
      cases hk
      exact ⟨cv, vars, hl, h⟩
    · rw [splitKey_joinKey_out_of_range name ht] at hk
      cases hk

end Pass

/-- Invariant of a catch-up run for JobConfig `c`, requested items `rq`, server content `api0` at
the restart. -/
structure CInv (world : JobConfig → Prop) (c : JobConfig) (rq : List (String × Int)) (api0 : Api)
    (s : Sys) : Prop where
  reach : Reachable world s
  /-- no Job carries the zero-time annotation (finding C02-F1 is outside the envelope) -/
  clean : ∀ j ∈ s.api, j.schedAnnot ≠ some (showInt zeroUnix)
  /-- the work queue holds requested keys only -/
  queue : ∀ k ∈ s.queue, ∃ c' t', world c' ∧ k = jobConfigKey c'.ns c'.name t' ∧
      (String.ofList (metaNsKey c'.ns c'.name), t') ∈ rq
  /-- the server only grew, and every new Job of `c` is the Job of a requested time -/
  grow : ∃ new, s.api = api0 ++ new ∧ ∀ j ∈ new, j.ownerUid = some c.uid →
      ∃ t, (String.ofList (metaNsKey c.ns c.name), t) ∈ rq ∧ j.schedAnnot = some (showInt t) ∧
        j.ns = c.ns ∧ j.name = jobName c.name t

/-- a run inside the catch-up envelope -/
def CatchUp (rq : List (String × Int)) (acts : List Action) : Prop := ∀ a ∈ acts, CatchUpAct rq a

section CatchUpRun
variable {world : JobConfig → Prop} (hW : WorldOK world) {c : JobConfig} (hc : world c)
  {rq : List (String × Int)}

/-- inside the catch-up envelope the server only grows: a name that is taken stays taken -/
theorem applyAct_has_mono {s : Sys} {a : Action} (ha : CatchUpAct rq a)
    {ns name : Str} (h : s.api.has ns name = true) : (applyAct s a).api.has ns name = true := by
  cases a with
  | crash | delete _ _ => exact ha.elim
  | request _ _ | deliver _ _ => exact h
  | process key now active mx inj requeue => exact syncItem_has_mono (h := h) ..

theorem has_mono_run (acts : List Action) :
    ∀ s, CatchUp rq acts → ∀ ns name, s.api.has ns name = true →
      (runActs s acts).api.has ns name = true := by
  induction acts with
  | nil => intro s _ ns name h; exact h
  | cons a rest ih =>
    intro s hcu ns name h
    obtain ⟨ha, hcu'⟩ := List.forall_mem_cons.1 hcu
    exact ih _ hcu' ns name (applyAct_has_mono ha h)

include hW hc

theorem CInv.step (hrq : ∀ p ∈ rq, p.2 ≠ zeroUnix) {api0 : Api} {s : Sys}
    (h : CInv world c rq api0 s) (a : Action) (hpre : Pre world s a) (hcu : CatchUpAct rq a) :
    CInv world c rq api0 (applyAct s a) := by
  have hreach := h.reach.apply hpre
  cases a with
  | request c' t' =>
    refine ⟨hreach, h.clean, ?_, h.grow⟩
    intro k hk
    rcases List.mem_cons.1 hk with rfl | hk
    · exact ⟨c', t', hpre, rfl, hcu⟩
    · exact h.queue k hk
  | deliver jcs jobs => exact ⟨hreach, h.clean, h.queue, h.grow⟩
  | process key now active mx inj requeue =>
    have hq' : ∀ k ∈ (applyAct s (.process key now active mx inj requeue)).queue, k ∈ s.queue := by
      intro k hk
      simp only [applyAct] at hk
      split at hk
      · exact hk
      · exact (List.mem_filter.1 hk).1
    obtain ⟨c', t', hwc', rfl, hin⟩ := h.queue key hpre
    have hinv := inv_reachable h.reach
    rcases syncItem_requested_api now s.api (listerGet s.jcCache) active mx (jobLister s.jobCache) inj
        c'.ns c'.name t' (hW.ns_ok c' hwc').2 (hW.name_ok c' hwc').1 with he | ⟨cv, vars, hl, he⟩
    · have hapi : (applyAct s (.process _ now active mx inj requeue)).api = s.api := he
      exact ⟨hreach, by rw [hapi]; exact h.clean, fun k hk => h.queue k (hq' k hk), by rw [hapi]; exact h.grow⟩
    · have hapi : (applyAct s (.process _ now active mx inj requeue)).api
          = s.api ++ [scheduledJob now cv t' vars] := he
      have hwcv : world cv := hinv.cache cv (listerGet_mem hl)
      obtain ⟨e1, e2⟩ := listerGet_ident hl (hW.ns_ok c' hwc').2 (hW.ns_ok cv hwcv).2 (hW.name_ok cv hwcv).1
      have ht' : t' ≠ zeroUnix := hrq _ hin
      refine ⟨hreach, ?_, fun k hk => h.queue k (hq' k hk), ?_⟩
      · rw [hapi]
        intro j hj
        rcases List.mem_append.1 hj with hj | hj
        · exact h.clean j hj
        · rw [List.mem_singleton.1 hj, schedAnnot_scheduledJob]
          exact fun hh => ht' (Str.showInt_injective (Option.some.inj hh))
      · obtain ⟨new, hnew, hprop⟩ := h.grow
        refine ⟨new ++ [scheduledJob now cv t' vars], by rw [hapi, hnew, List.append_assoc],
          fun j hj ho => ?_⟩
        rcases List.mem_append.1 hj with hj | hj
        · exact hprop j hj ho
        · rw [List.mem_singleton.1 hj] at ho ⊢
          rw [ownerUid_scheduledJob] at ho
          obtain ⟨u1, u2⟩ := hW.uid_fun cv c hwcv hc (Option.some.inj ho)
          refine ⟨t', by rw [← u1, ← u2, e1, e2]; exact hin, schedAnnot_scheduledJob now cv t' vars, u1, ?_⟩
          show generateName now cv.name t' = _
          rw [generateName_eq_jobName now cv.name ht', u2]
  | _ => exact hcu.elim

theorem CInv.run (hrq : ∀ p ∈ rq, p.2 ≠ zeroUnix) {api0 : Api} (acts : List Action) :
    ∀ s, CInv world c rq api0 s → Legal world s acts → CatchUp rq acts →
      CInv world c rq api0 (runActs s acts) := by
  induction acts with
  | nil => intro s h _ _; exact h
  | cons a rest ih =>
    intro s h hl hcu
    obtain ⟨ha, hcu'⟩ := List.forall_mem_cons.1 hcu
    exact ih _ (h.step hW hc hrq a hl.1 ha) hl.2 hcu'

/-- an effective pass leaves the name of the Job of `(c, t)` taken on the server -/
theorem effective_has {t : Int} (ht : t ≠ zeroUnix) (hti : InInt64 t) {s : Sys} (hinv : Inv world s) {a : Action}
    (he : Effective c t s a) : (applyAct s a).api.has c.ns (jobName c.name t) = true := by
  cases a with
  | process key now active mx inj requeue =>
    obtain ⟨rfl, hor⟩ := he
    by_cases hfree : s.api.has c.ns (jobName c.name t) = true
    · exact syncItem_has_mono (h := hfree) ..
    · obtain ⟨cv, hl, hu, hsub, hforbid, hqf, hcache, hinj⟩ := hor.resolve_left hfree
      have hwcv : world cv := hinv.cache cv (listerGet_mem hl)
      obtain ⟨e1, e2⟩ := listerGet_ident hl (hW.ns_ok c hc).2 (hW.ns_ok cv hwcv).2 (hW.name_ok cv hwcv).1
      obtain ⟨vars, hsv⟩ := Option.ne_none_iff_exists'.1 hsub
      have hgn : generateName now cv.name t = jobName c.name t := by
        rw [generateName_eq_jobName now cv.name ht, e2]
      have key := (syncOne_pass now s.api (listerGet s.jcCache) active mx (jobLister s.jobCache) inj
        c.ns c.name hti hl hsv hforbid hqf).1
      simp only [e1, hgn, hcache, Bool.false_eq_true, if_false] at key
      simp only [applyAct, syncItem, splitNsKey_jobConfigKey t (hW.ns_ok c hc).2 (hW.name_ok c hc).1, key]
      rcases hinj with rfl | rfl <;> simp [apiCreate, scheduledJob, e1, hgn, hfree, has_true_iff]
  | _ => exact he.elim

/-- if `(c, t)` is served in a catch-up run, the name of its Job is taken at the end -/
theorem served_has {t : Int} (ht : t ≠ zeroUnix) (hti : InInt64 t) (acts : List Action) :
    ∀ s, Reachable world s → Legal world s acts → CatchUp rq acts → Served c t s acts →
      (runActs s acts).api.has c.ns (jobName c.name t) = true := by
  induction acts with
  | nil => intro s _ _ _ h; exact h.elim
  | cons a rest ih =>
    intro s hr hl hcu hs
    have hcu' := (List.forall_mem_cons.1 hcu).2
    rcases hs with he | hs
    · exact has_mono_run rest _ hcu' _ _ (effective_has hW hc ht hti (inv_reachable hr) he)
    · exact ih _ (hr.apply hl.1) hl.2 hcu' hs

/-- name hygiene: in a reachable state without zero-time Jobs, the object stored under the name of
the Job of `(c, t)` IS that Job: owned by `c`'s uid, annotated with `t` -/
theorem job_at_name {t : Int} {s : Sys} (hinv : Inv world s)
    (hclean : ∀ j ∈ s.api, j.schedAnnot ≠ some (showInt zeroUnix)) {j : Job} (hj : j ∈ s.api)
    (hns : j.ns = c.ns) (hname : j.name = jobName c.name t) :
    j.ownerUid = some c.uid ∧ j.schedAnnot = some (showInt t) := by
  obtain ⟨c2, t2, now2, vars, hw2, rfl⟩ := hinv.made j hj
  have ht2 : t2 ≠ zeroUnix := by
    intro h
    apply hclean _ hj
    rw [schedAnnot_scheduledJob, h]
  have hn : jobName c2.name t2 = jobName c.name t := by
    rw [← generateName_eq_jobName now2 c2.name ht2]; exact hname
  have hns' : c2.ns = c.ns := hns
  rcases (jobName_eq_iff c2.name c.name t2 t).1 hn with ⟨e1, e2⟩ | ⟨e, _, _⟩ | ⟨e, _, _⟩
  · rw [ownerUid_scheduledJob, schedAnnot_scheduledJob, e2, hW.name_fun c2 c hw2 hc hns' e1]
    exact ⟨rfl, rfl⟩
  · exact absurd (by rw [e]; simp) (hW.name_ok c2 hw2).2
  · exact absurd (by rw [e]; simp) (hW.name_ok c hc).2

end CatchUpRun

end Furiko.CronRec

namespace Furiko

/-- the phase written for a Job whose condition was computed from a Job carrying the
admission-error annotation is `AdmissionError`, which `JobPhase.IsTerminal` (regenerated table)
classifies as terminal — whatever the clocks, the tasks and the kill timestamp are -/
theorem admission_error_phase (now now' : Time) (d : PIndex) (rj rj' : Job)
    (hadm : rj.admissionError = true) (hc : rj'.status.condition = getCondition now d rj) :
    getPhase now' rj' = "AdmissionError" ∧ phaseIsTerminal (getPhase now' rj') = true := by
  have h1 : getPhase now' rj' = "AdmissionError" := by
    unfold getPhase
    rw [hc]
    unfold getCondition
    simp only
    rw [if_pos hadm]
    show phaseOfResult .admissionError = "AdmissionError"
    decide
  exact ⟨h1, by rw [h1]; decide⟩

end Furiko

namespace Furiko.Compose
open Furiko Furiko.Str

theorem digitVal_of_isDigit {c : Char} (h : c.isDigit = true) :
    48 ≤ c.toNat ∧ digitVal c = some (c.toNat - 48) := by
  simp only [Char.isDigit, Bool.and_eq_true, decide_eq_true_eq] at h
  exact ⟨UInt32.le_iff_toNat_le.1 h.1, by simp [digitVal, show '0' ≤ c ∧ c ≤ '9' from h]⟩

/-- the accumulation loop of `JcStatus.atoi` (on `Int`, `c - 48`) computes what `Str.parseDigitsFrom`
(on `Nat`, `digitVal`) computes, on digit strings -/
theorem jcFold_eq (ds : Str) : ∀ (acc k : Nat), (∀ c ∈ ds, c.isDigit = true) →
    parseDigitsFrom acc ds = some k →
    ds.foldl (fun (a : Int) c => a * 10 + ((c.toNat : Int) - 48)) (acc : Int) = (k : Int) := by
  induction ds with
  | nil =>
    intro acc k _ h
    simp only [parseDigitsFrom, Option.some.injEq] at h
    simp [h]
  | cons c cs ih =>
    intro acc k hd h
    obtain ⟨hge, hval⟩ := digitVal_of_isDigit (hd c (by simp))
    simp only [parseDigitsFrom, hval] at h
    rw [List.foldl_cons, ← ih (acc * 10 + (c.toNat - 48)) k (fun x hx => hd x (by simp [hx])) h]
    congr 1
    omega

/-- the two models' `strconv.Atoi` agree on rendered integers: the JobConfig controller's parser
(`JcStatus.atoi`, on `String`) reads back what the cron reconciler's renderer (`Str.showInt`) wrote -/
theorem jcAtoi_showInt {t : Int} (ht : InInt64 t) : JcStatus.atoi (String.ofList (showInt t)) = some t := by
  have hd : ∀ c ∈ natDigits t.natAbs, c.isDigit = true := fun c hc => natDigits_isDigit hc
  have hall : (natDigits t.natAbs).all Char.isDigit = true := List.all_eq_true.2 hd
  have hemp : (natDigits t.natAbs).isEmpty = false := by
    cases h : natDigits t.natAbs with
    | nil => exact absurd h (natDigits_ne_nil _)
    | cons _ _ => rfl
  have hfold : (natDigits t.natAbs).foldl (fun (a : Int) c => a * 10 + ((c.toNat : Int) - 48)) 0 = t.natAbs := by
    simpa using jcFold_eq (natDigits t.natAbs) 0 t.natAbs hd (parseDigits_natDigits t.natAbs)
  obtain ⟨hlo, hhi⟩ := ht
  unfold int64Min at hlo
  unfold int64Max at hhi
  unfold JcStatus.atoi
  rw [String.toList_ofList, showInt]
  split
  · simp [hall, hemp, hfold]; omega
  · simp only []
    split
    · rename_i heq; exact absurd (hd '-' (by simp [heq])) (by decide)
    · rename_i heq; exact absurd (hd '+' (by simp [heq])) (by decide)
    · simp [hall, hemp, hfold]; omega
/-- the fields of a Job object that the API server and the other controllers set (not the cron
reconciler) -/
structure JobMeta where
  uid : String
  created : Int
  startTime : Option Int := none
  phase : String := ""
  deletion : Option Int := none
  deriving DecidableEq, Repr

/-- the projection of a Job built by the cron reconciler that the JobConfig controller reads:
namespace, name, the uid label, the controller owner reference and the schedule-time annotation are
the reconciler's; the rest is `m` -/
def toJcJob (j : CronRec.Job) (m : JobMeta) : JcStatus.Job :=
  { ns := String.ofList j.ns, name := String.ofList j.name, uid := m.uid, created := m.created,
    labelUid := (CronRec.mapGet j.labels CronRec.labelKeyUID).map String.ofList,
    owner := (j.owners.find? (·.controller)).map
      (fun o => { kind := String.ofList o.kind, name := String.ofList o.name, uid := String.ofList o.uid }),
    startTime := m.startTime, phase := m.phase, deletion := m.deletion,
    schedAnn := j.schedAnnot.map String.ofList }

/-- what the JobConfig controller sees of the Job the cron reconciler builds for `(c, t)`: it is
selected by `listJobs` for every JobConfig object with `c`'s namespace and uid, its schedule time
reads back as `t`, and it is inside `E-OwnerLabel` (label and controller reference agree) -/
theorem toJcJob_scheduled (now : Int) (c : CronRec.JobConfig) (t : Int) (ht : InInt64 t)
    (j : CronRec.Job) (h : CronRec.newJobFromJobConfig now c CronRec.typeScheduled t = some j)
    (m : JobMeta) (jc : JcStatus.JobConfig) (hns : jc.ns = String.ofList c.ns)
    (huid : jc.uid = String.ofList c.uid) (cache : List JcStatus.Job) (hin : toJcJob j m ∈ cache) :
    toJcJob j m ∈ JcStatus.listJobs cache jc ∧ JcStatus.labelScheduleTime (toJcJob j m) = some t ∧
    (toJcJob j m).owner = some { kind := "JobConfig", name := String.ofList c.name, uid := jc.uid } := by
  obtain ⟨ha, _, hl, ho, _, hjns, _⟩ := Props.C02.job_records_identity now c t ht j h
  refine ⟨?_, ?_, ?_⟩
  · unfold JcStatus.listJobs
    apply List.mem_filter.2
    refine ⟨hin, ?_⟩
    simp [toJcJob, hl, hjns, hns, huid]
  · simp [JcStatus.labelScheduleTime, toJcJob, ha, jcAtoi_showInt ht]
  · simp only [toJcJob, ho, CronRec.controllerRef, huid]
    simp
    decide

end Furiko.Compose

namespace Furiko.Compose

/-- `q` (queue model) and `r` (JobConfig-status model) are views of one Job object: same uid label,
same `status.startTime` (whole seconds; not the pointer-to-zero-time, which only the
JobConfig-status model's data convention can express), and the queue model's `terminal` flag is
`JobPhase.IsTerminal` of the phase (regenerated table `Facts.terminalPhases`) -/
structure SameJob (q : Queue.JobV) (r : JcStatus.Job) : Prop where
  label : r.labelUid = q.label
  start : r.startTime = q.startTime
  nonzero : q.startTime ≠ some JcStatus.zeroUnix
  terminal : q.terminal = JcStatus.isTerminal r.phase

theorem SameJob.isStarted {q : Queue.JobV} {r : JcStatus.Job} (h : SameJob q r) :
    JcStatus.isStarted r = q.isStarted := by
  unfold JcStatus.isStarted Queue.JobV.isStarted
  rw [h.start]
  cases hs : q.startTime with
  | none => rfl
  | some t =>
    have : t ≠ JcStatus.zeroUnix := fun e => h.nonzero (by rw [hs, e])
    simp [JcStatus.tIsZero, this]

theorem SameJob.isActive {q : Queue.JobV} {r : JcStatus.Job} (h : SameJob q r) :
    JcStatus.isActive r = q.isActive := by
  unfold JcStatus.isActive Queue.JobV.isActive
  rw [h.isStarted, h.terminal]

theorem SameJob.isQueued {q : Queue.JobV} {r : JcStatus.Job} (h : SameJob q r) :
    JcStatus.isQueued r = q.isQueued := by
  unfold JcStatus.isQueued Queue.JobV.isQueued
  rw [h.isStarted, h.terminal]

/-- over a population of Jobs seen by both models: the Jobs the JobConfig controller lists for `jc`
and finds active are as many as the queue model's ground truth for `jc.uid` -/
theorem active_count_agree (jc : JcStatus.JobConfig) (views : List (Queue.JobV × JcStatus.Job))
    (h : ∀ p ∈ views, SameJob p.1 p.2 ∧ p.2.ns = jc.ns) :
    ((JcStatus.listJobs (views.map (·.2)) jc).filter JcStatus.isActive).length
      = Queue.actCount (views.map (·.1)) jc.uid := by
  unfold JcStatus.listJobs Queue.actCount
  rw [List.filter_filter, ← List.countP_eq_length_filter, ← List.countP_eq_length_filter,
    List.countP_map, List.countP_map]
  apply List.countP_congr
  intro p hp
  obtain ⟨hs, hns⟩ := h p hp
  simp only [Function.comp, hs.isActive, hs.label, hns, beq_self_eq_true, Bool.true_and,
    Bool.and_eq_true, beq_iff_eq, decide_eq_true_eq]
  exact ⟨fun ⟨a, b⟩ => ⟨b, a⟩, fun ⟨a, b⟩ => ⟨b, a⟩⟩

end Furiko.Compose
