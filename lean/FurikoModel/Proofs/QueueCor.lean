/-
Small facts about the worker steps used by the property files (the timers after a step of the
independent worker, the delivery of a create event, what the three delivery actions leave alone:
`apiView`), the work-queue invariant "dirty ⊆ queue ∪ processing" under the controller's handler,
and the concrete scenarios the `example`s run on.
-/
import FurikoModel.Proofs.QueueWork

set_option linter.unusedSimpArgs false
set_option linter.unusedVariables false

namespace Furiko.Queue
open Furiko.WQ

theorem indPost_delayed_ok (s1 : Sys) (k : String) :
    (indPost s1 k true).indQ.delayed = s1.indQ.delayed := by
  simp [indPost, delayed_done, WQ.forget]

theorem indPost_delayed_err (s1 : Sys) (k : String) :
    HasDeadline (indPost s1 k false).indQ.delayed k (s1.clock + 320000000) := by
  simp only [indPost, Bool.false_eq_true, if_false, delayed_done]
  exact hasDeadline_addRateLimited_self _ _ _

theorem get_delayed {q : WQ} {k : String} {q1 : WQ} (h : q.get = some (k, q1)) :
    q1.delayed = q.delayed := by
  obtain ⟨rest, _, rfl⟩ := get_some h; rfl

/-- the API side of the state: no delivery action touches it -/
def apiView (s : Sys) := (s.jobs, s.clock, s.faults, s.rv)

theorem deliverJob_keep (s : Sys) :
    (deliverJob s).jobEvs = s.jobEvs.tail ∧ apiView (deliverJob s) = apiView s := by
  unfold deliverJob
  cases h : s.jobEvs with
  | nil => exact ⟨h, rfl⟩
  | cons ev rest =>
    cases ev with
    | add j | update j => exact ⟨rfl, rfl⟩
    | delete j =>
      simp only
      cases findJob s.jobCache j.name <;> exact ⟨rfl, rfl⟩

theorem notifyStore_storeQ (s : Sys) : (notifyStore s).storeQ = s.storeQ.tail := by
  unfold notifyStore
  cases h : s.storeQ with
  | nil => show s.storeQ = []; exact h
  | cons n rest => rfl

theorem notifyStore_keep (s : Sys) :
    (notifyStore s).jobEvs = s.jobEvs ∧ apiView (notifyStore s) = apiView s := by
  unfold notifyStore
  cases h : s.storeQ <;> exact ⟨rfl, rfl⟩

theorem ctrlNotify_keep (s : Sys) (j : JobV) :
    (ctrlNotify s j).jobEvs = s.jobEvs ∧ (ctrlNotify s j).storeQ = s.storeQ ∧
    (ctrlNotify s j).ctrlQ = s.ctrlQ ∧ apiView (ctrlNotify s j) = apiView s := by
  unfold ctrlNotify
  cases lookupOwner s.jcCache j with
  | none => exact ⟨rfl, rfl, rfl, rfl⟩
  | some o => cases o <;> exact ⟨rfl, rfl, rfl, rfl⟩

theorem notifyCtrl_keep (s : Sys) :
    (notifyCtrl s).jobEvs = s.jobEvs ∧ (notifyCtrl s).storeQ = s.storeQ ∧
    apiView (notifyCtrl s) = apiView s := by
  unfold notifyCtrl
  cases h : s.ctrlQ with
  | nil => exact ⟨rfl, rfl, rfl⟩
  | cons n rest =>
    obtain ⟨h1, h2, _, h4⟩ := ctrlNotify_keep { s with ctrlQ := rest } (noteJob n)
    exact ⟨h1, h2, h4⟩

theorem deliverJob_add {s : Sys} {j : JobV} {rest : List Ev} (hev : s.jobEvs = .add j :: rest) :
    ∃ note, noteJob note = j ∧ (deliverJob s).ctrlQ = s.ctrlQ ++ [note] ∧
      (deliverJob s).jcCache = s.jcCache := by
  unfold deliverJob
  rw [hev]
  simp only
  split
  · exact ⟨_, rfl, rfl, trivial⟩
  · exact ⟨_, rfl, rfl, trivial⟩

theorem lookupOwner_independent (jcCache : List JCV) {j : JobV} (h : j.ownerName = none) :
    lookupOwner jcCache j = some none := by
  unfold lookupOwner; rw [h]

/-- the work-queue invariant "dirty ⊆ queue ∪ processing" -/
def DirtyQueued (q : WQ) : Prop := ∀ k ∈ q.dirty, k ∈ q.queue ∨ k ∈ q.processing

theorem dirtyQueued_add {q : WQ} (h : DirtyQueued q) (k : String) : DirtyQueued (q.add k) := by
  unfold DirtyQueued WQ.add at *
  grind

theorem dirtyQueued_ctrlNotify {s : Sys} (j : JobV) (h1 : DirtyQueued s.cfgQ)
    (h2 : DirtyQueued s.indQ) :
    DirtyQueued (ctrlNotify s j).cfgQ ∧ DirtyQueued (ctrlNotify s j).indQ := by
  unfold ctrlNotify
  split
  · exact ⟨h1, h2⟩
  · exact ⟨dirtyQueued_add h1 _, h2⟩
  · exact ⟨h1, dirtyQueued_add h2 _⟩

theorem dirtyQueued_drainN (m : Nat) {s : Sys} (h1 : DirtyQueued s.cfgQ) (h2 : DirtyQueued s.indQ) :
    DirtyQueued (drainN m s).cfgQ ∧ DirtyQueued (drainN m s).indQ :=
  drainN_preserve (P := fun x => DirtyQueued x.cfgQ ∧ DirtyQueued x.indQ)
    (fun _ j h => dirtyQueued_ctrlNotify j h.1 h.2) (fun _ _ h => h) m ⟨h1, h2⟩

namespace Scen

def jcN (m : Int) : JCV := { name := "c", uid := "u", maxConc := m, rv := 0 }

/-- a Job owned by JobConfig `c` -/
def mk (n : String) (hp : Bool) (pol : Nat) (sa : Option Int) : JobV :=
  { name := n, label := some "u", ownerName := some "c", ownerUid := some "u", created := 0, hasPolicy := hp, policy := pol, startAfter := sa, startTime := none, terminal := false, admErr := false, rv := 0 }

/-- an independent Job -/
def mkInd (n : String) (hp : Bool) (sa : Option Int) : JobV :=
  { name := n, label := none, ownerName := none, ownerUid := none, created := 0, hasPolicy := hp, policy := 0, startAfter := sa, startTime := none, terminal := false, admErr := false, rv := 0 }

def iter (f : Sys → Sys) : Nat → Sys → Sys
  | 0, s => s
  | n + 1, s => iter f n (f s)

/-- JobConfig `c` with limit `m` created and cached; the Jobs created, delivered to the cache and
notified to both handlers -/
def base (m : Int) (jobs : List JobV) : Sys :=
  let s := deliverJC (userAddJC {} (jcN m))
  let s := jobs.foldl userAddJob s
  let s := iter deliverJob jobs.length s
  let s := iter notifyStore jobs.length s
  iter notifyCtrl jobs.length s

/-- a (Enqueue), b (Forbid), c (Enqueue), d (Allow) under limit 1 -/
def s4 : Sys := base 1 [mk "a" true 2 none, mk "b" true 1 none, mk "c" true 2 none, mk "d" false 0 none]

/-- the same with the first controller write failing -/
def s4err : Sys := { s4 with faults := ["err"] }

/-- two Enqueue Jobs under limit 2, `a` created at 0 s and `b` at 2 s -/
def s2 : Sys :=
  let s := userAddJob (deliverJC (userAddJC {} (jcN 2))) (mk "a" true 2 none)
  let s := userAddJob { s with clock := 2000000000 } (mk "b" true 2 none)
  iter notifyCtrl 2 (iter notifyStore 2 (iter deliverJob 2 s))

/-- one Job that must wait until t = 5 s, clock at 1 s -/
def sLater : Sys := { base 1 [mk "a" true 0 (some 5)] with clock := 1000000000 }

/-- independent Job `i`, created, delivered, notified -/
def sInd : Sys := iter notifyCtrl 1 (iter deliverJob 1 (userAddJob {} (mkInd "i" false none)))

/-- independent Job that must wait until t = 5 s -/
def sIndLater : Sys := iter notifyCtrl 1 (iter deliverJob 1 (userAddJob {} (mkInd "i" true (some 5))))

end Scen

end Furiko.Queue
