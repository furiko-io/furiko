/-
Preservation of the global invariant `Inv` (Proofs/QueueEnv.lean): building blocks.  The invariant
moves to a state whose versions are versions of the old one (`Inv.of_ver_sub`, `Inv_congr`), and
through an API mutation, which appends one watch event (`Inv_apiEvent`).
-/
import FurikoModel.Proofs.QueueEnv

set_option linter.unusedSimpArgs false
set_option linter.unusedVariables false

namespace Furiko.Queue
open Furiko.WQ

theorem applyEvs_append (cache : List JobV) (evs : List Ev) (e : Ev) :
    applyEvs cache (evs ++ [e]) = applyEv (applyEvs cache evs) e := by
  simp [applyEvs]

theorem futureNotes_append (cache : List JobV) (evs : List Ev) (e : Ev) :
    futureNotes cache (evs ++ [e])
      = futureNotes cache evs ++ (noteOf (applyEvs cache evs) e).toList := by
  induction evs generalizing cache with
  | nil => simp [futureNotes, applyEvs]
  | cons x rest ih =>
    simp only [List.cons_append, futureNotes, ih, applyEvs, List.foldl_cons, List.append_assoc]

theorem deliverJob_eq {s : Sys} {e : Ev} {rest : List Ev} (h : s.jobEvs = e :: rest) :
    deliverJob s = { s with jobEvs := rest, jobCache := applyEv s.jobCache e,
                            storeQ := s.storeQ ++ (noteOf s.jobCache e).toList,
                            ctrlQ := s.ctrlQ ++ (noteOf s.jobCache e).toList } := by
  unfold deliverJob
  rw [h]
  cases e with
  | add j =>
    simp only [noteOf, applyEv, Option.toList_some]
    cases hf : findJob s.jobCache j.name <;> rfl
  | update j =>
    simp only [noteOf, applyEv, Option.toList_some]
    cases hf : findJob s.jobCache j.name <;> rfl
  | delete j =>
    simp only [noteOf, applyEv]
    cases hf : findJob s.jobCache j.name with
    | none => simp
    | some old => simp

theorem pending_deliver {s : Sys} {e : Ev} {rest : List Ev} (h : s.jobEvs = e :: rest) :
    pending (deliverJob s) = pending s := by
  rw [deliverJob_eq h]
  simp only [pending, h, futureNotes, List.append_assoc]

/-- +1 exactly for an unstarted → active transition (the one `OnUpdate` does not count) -/
def bonus (cur nj : JobV) : Int := if (!cur.isStarted && nj.isActive) = true then 1 else 0

theorem delta_identity (cur nj : JobV) (uid : String) (hl : cur.label = nj.label) :
    ((actInd nj uid : Nat) : Int) - (actInd cur uid : Nat)
      = if cur.label = some uid then updDelta cur nj + bonus cur nj else 0 := by
  unfold actInd updDelta bonus JobV.isActive
  rw [← hl]
  by_cases hlab : cur.label = some uid
  · simp only [hlab, decide_true, Bool.true_and, if_true]
    -- both sides only read `isStarted` and `terminal` of the two versions: 16 cases
    generalize cur.isStarted = a; generalize nj.isStarted = b
    generalize cur.terminal = c; generalize nj.terminal = d
    revert a b c d; decide
  · simp [hlab]

theorem noteDelta_nonpos {n : Note} (h : goodNote n) (uid : String) : noteDelta n uid ≤ 0 := by
  cases n with
  | add j => simp [noteDelta]
  | update o n =>
    simp only [noteDelta]
    split
    · simp only [goodNote] at h
      unfold updDelta JobV.isActive
      generalize o.isStarted = a at *; generalize n.isStarted = b at *
      generalize o.terminal = c at *; generalize n.terminal = d at *
      revert a b c d; decide
    · omega
  | delete j =>
    simp only [noteDelta, delDelta]
    split
    · split <;> omega
    · omega

theorem sumDelta_nonpos {l : List Note} (h : ∀ n ∈ l, goodNote n) (uid : String) :
    sumDelta l uid ≤ 0 := by
  induction l with
  | nil => simp
  | cons n rest ih =>
    have h1 := noteDelta_nonpos (h n (by simp)) uid
    have h2 := ih (fun m hm => h m (by simp [hm]))
    simp only [sumDelta_cons]; omega

theorem sameSpec_refl (a : JobV) : sameSpec a a := by simp [sameSpec]

theorem sameSpec_symm {a b : JobV} (h : sameSpec a b) : sameSpec b a := by
  obtain ⟨h1, h2, h3, h4, h5, h6, h7⟩ := h
  exact ⟨h1.symm, h2.symm, h3.symm, h4.symm, h5.symm, h6.symm, h7.symm⟩

theorem sameSpec_trans {a b c : JobV} (h : sameSpec a b) (h' : sameSpec b c) : sameSpec a c := by
  obtain ⟨h1, h2, h3, h4, h5, h6, h7⟩ := h
  obtain ⟨g1, g2, g3, g4, g5, g6, g7⟩ := h'
  exact ⟨h1.trans g1, h2.trans g2, h3.trans g3, h4.trans g4, h5.trans g5, h6.trans g6, h7.trans g7⟩

theorem wfJob_of_sameSpec {a b : JobV} (h : sameSpec a b) (hw : wfJob a) : wfJob b := by
  obtain ⟨h1, h2, h3, h4, h5, h6, h7⟩ := h
  unfold wfJob at *
  rw [← h1, ← h2, ← h5, ← h7]; exact hw

theorem sameFixed_refl (a : JobV) : sameFixed a a := by simp [sameFixed]

theorem sameFixed_symm {a b : JobV} (h : sameFixed a b) : sameFixed b a := by
  obtain ⟨h1, h2, h3, h4, h5, h6⟩ := h
  exact ⟨h1.symm, h2.symm, h3.symm, h4.symm, h5.symm, h6.symm⟩

theorem sameFixed_trans {a b c : JobV} (h : sameFixed a b) (h' : sameFixed b c) : sameFixed a c := by
  obtain ⟨h1, h2, h3, h4, h5, h6⟩ := h
  obtain ⟨g1, g2, g3, g4, g5, g6⟩ := h'
  exact ⟨h1.trans g1, h2.trans g2, h3.trans g3, h4.trans g4, h5.trans g5, h6.trans g6⟩

theorem sameSpec.fixed {a b : JobV} (h : sameSpec a b) : sameFixed a b := by
  obtain ⟨h1, h2, h3, h4, h5, h6, _⟩ := h
  exact ⟨h1, h2, h3, h4, h5, h6⟩

theorem Inv.counter_upper {s : Sys} (h : Inv s) (uid : String) :
    (actCount s.jobs uid : Int) ≤ getCtr s.counter uid := by
  have h1 := h.ctr uid
  have h2 := sumDelta_nonpos h.good uid
  omega

theorem Inv.quiescent_exact {s : Sys} (h : Inv s) (hev : s.jobEvs = []) (hsq : s.storeQ = [])
    (uid : String) : getCtr s.counter uid = actCount s.jobs uid := by
  have h1 := h.ctr uid
  simp only [pending, hev, hsq, futureNotes, List.append_nil, sumDelta_nil] at h1
  omega

/-- a cached version with the authoritative resourceVersion is the authoritative version -/
theorem Inv.cached_eq_cur {s : Sys} (h : Inv s) {j cur : JobV} (hj : j ∈ s.jobCache)
    (hcur : findJob s.jobs j.name = some cur) (hrv : cur.rv = j.rv) : cur = j := by
  have hv1 : Ver s cur := Or.inl (findJob_some_mem hcur)
  have hv2 : Ver s j := Or.inr (Or.inl hj)
  exact (h.verFn cur j hv1 hv2 (findJob_some_name hcur)).2 hrv

theorem Ver.jobs {s : Sys} {j : JobV} (h : j ∈ s.jobs) : Ver s j := .inl h
theorem Ver.cache {s : Sys} {j : JobV} (h : j ∈ s.jobCache) : Ver s j := .inr (.inl h)
theorem Ver.ev {s : Sys} {e : Ev} (h : e ∈ s.jobEvs) : Ver s e.job := .inr (.inr (.inl ⟨e, h, rfl⟩))
theorem Ver.storeQ {s : Sys} {n : Note} {j : JobV} (h : n ∈ s.storeQ) (hj : j ∈ n.jobs) : Ver s j :=
  .inr (.inr (.inr (.inl ⟨n, h, hj⟩)))
theorem Ver.ctrlQ {s : Sys} {n : Note} {j : JobV} (h : n ∈ s.ctrlQ) (hj : j ∈ n.jobs) : Ver s j :=
  .inr (.inr (.inr (.inr ⟨n, h, hj⟩)))

/-- a property of all versions, place by place -/
theorem ver_cases {s : Sys} {P : JobV → Prop} (hjobs : ∀ j ∈ s.jobs, P j)
    (hcache : ∀ j ∈ s.jobCache, P j) (hevs : ∀ e ∈ s.jobEvs, P e.job)
    (hsq : ∀ n ∈ s.storeQ, ∀ j ∈ n.jobs, P j) (hcq : ∀ n ∈ s.ctrlQ, ∀ j ∈ n.jobs, P j) :
    ∀ j, Ver s j → P j := by
  rintro j (h | h | ⟨e, he, rfl⟩ | ⟨n, hn, hj⟩ | ⟨n, hn, hj⟩)
  · exact hjobs j h
  · exact hcache j h
  · exact hevs e he
  · exact hsq n hn j hj
  · exact hcq n hn j hj

theorem mem_applyEv {cache : List JobV} {e : Ev} {x : JobV} (h : x ∈ applyEv cache e) :
    x ∈ cache ∨ x = e.job := by
  cases e with
  | add j => exact mem_setJob h
  | update j => exact mem_setJob h
  | delete j =>
    simp only [applyEv] at h
    split at h
    · exact Or.inl h
    · exact Or.inl (mem_delJob h)

theorem nodup_names_applyEv {cache : List JobV} (e : Ev) (h : (names cache).Nodup) :
    (names (applyEv cache e)).Nodup := by
  cases e with
  | add j => exact nodup_names_setJob h
  | update j => exact nodup_names_setJob h
  | delete j =>
    simp only [applyEv]
    split
    · exact h
    · exact nodup_names_delJob h

/-- all versions of `s'` are versions of `s`: the fields of `Inv` that speak of versions follow; the
others are to be shown -/
theorem Inv.of_ver_sub {s s' : Sys} (h : Inv s) (hver : ∀ j, Ver s' j → Ver s j)
    (e_rv : s.rv ≤ s'.rv) (jobsNodup : (names s'.jobs).Nodup)
    (cacheNodup : (names s'.jobCache).Nodup) (pipe : applyEvs s'.jobCache s'.jobEvs = s'.jobs)
    (ctr : ∀ uid, getCtr s'.counter uid + sumDelta (pending s') uid = actCount s'.jobs uid)
    (good : ∀ n ∈ pending s', goodNote n)
    (ind : ∀ k ∈ s'.indQ.keys, ∀ j, Ver s j → j.name = keyName k → j.label = none)
    (faults : ∀ f ∈ s'.faults, okFault f) : Inv s' :=
  ⟨jobsNodup, cacheNodup, pipe, ctr, good, fun j hj => h.verWf j (hver j hj),
    fun j hj => Nat.le_trans (h.verRv j (hver j hj)) e_rv,
    fun j1 j2 h1 h2 => h.verFn j1 j2 (hver j1 h1) (hver j2 h2),
    fun k hk j hj => ind k hk j (hver j hj), faults⟩

/-- `Inv` does not read `clock`, `jcs`, `jcEvs`, `jcCache`, `cfgQ`, `calls`; of `indQ` it reads the
keys.  The authoritative list, the events, the cache and the store's queue are the same (`e`, by
`rfl`); what else may differ is given where it does: a greater `rv`, fewer notifications for the
controller's handler, a counter with the same values, admissible new faults. -/
theorem Inv_congr {s s' : Sys} (h : Inv s)
    (e : (s'.jobs, s'.jobEvs, s'.jobCache, s'.storeQ) = (s.jobs, s.jobEvs, s.jobCache, s.storeQ))
    (e_ind : ∀ k ∈ s'.indQ.keys, ∀ j, Ver s j → j.name = keyName k → j.label = none)
    (e_rv : s.rv ≤ s'.rv := by exact Nat.le_refl _)
    (e_cq : ∀ n ∈ s'.ctrlQ, n ∈ s.ctrlQ := by exact fun _ hn => hn)
    (e_ctr : ∀ uid, getCtr s'.counter uid = getCtr s.counter uid := by exact fun _ => rfl)
    (e_faults : ∀ f ∈ s'.faults, f ∈ s.faults ∨ okFault f := by exact fun _ hf => .inl hf) :
    Inv s' := by
  simp only [Prod.mk.injEq] at e
  obtain ⟨e_jobs, e_evs, e_cache, e_sq⟩ := e
  have hpend : pending s' = pending s := by unfold pending; rw [e_sq, e_cache, e_evs]
  refine h.of_ver_sub (ver_cases ?_ ?_ ?_ ?_ ?_) e_rv ?_ ?_ ?_ ?_ ?_ e_ind
    (fun f hf => (e_faults f hf).elim (h.faultsOk f) id)
  · rw [e_jobs]; exact fun _ => Ver.jobs
  · rw [e_cache]; exact fun _ => Ver.cache
  · rw [e_evs]; exact fun _ => Ver.ev
  · rw [e_sq]; exact fun _ hn _ => Ver.storeQ hn
  · exact fun n hn _ => Ver.ctrlQ (e_cq n hn)
  · rw [e_jobs]; exact h.jobsNodup
  · rw [e_cache]; exact h.cacheNodup
  · rw [e_cache, e_evs, e_jobs]; exact h.pipe
  · intro uid; rw [e_ctr, hpend, e_jobs]; exact h.ctr uid
  · rw [hpend]; exact h.good

/-- the `e_ind` side condition of `Inv_congr` when no new key appears -/
theorem Inv.ind_of_sub {s : Sys} (h : Inv s) {keys : List String}
    (hsub : ∀ k ∈ keys, k ∈ s.indQ.keys) :
    ∀ k ∈ keys, ∀ j, Ver s j → j.name = keyName k → j.label = none :=
  fun k hk => h.ind k (hsub k hk)

/-- The authoritative list becomes `applyEv s.jobs e` and `e` joins the undelivered events; caches
and notification queues are untouched.  To show: the version `e.job` fits in (well-formed, its
resourceVersion within `rv`, consistent with the versions of the same name, unlabelled when an
independent-queue key names it), and the counter bookkeeping for the note `e` will produce. -/
theorem Inv_apiEvent {s s' : Sys} (h : Inv s) (e : Ev)
    (e_jobs : s'.jobs = applyEv s.jobs e) (e_evs : s'.jobEvs = s.jobEvs ++ [e])
    (e_cache : s'.jobCache = s.jobCache) (e_sq : s'.storeQ = s.storeQ) (e_cq : s'.ctrlQ = s.ctrlQ)
    (e_ind : s'.indQ = s.indQ) (e_faults : ∀ f ∈ s'.faults, f ∈ s.faults) (e_rv : s.rv ≤ s'.rv)
    (hwf : wfJob e.job) (hrv : e.job.rv ≤ s'.rv)
    (hfn : ∀ j, Ver s j → j.name = e.job.name → sameFixed j e.job ∧ (j.rv = e.job.rv → j = e.job))
    (hind : ∀ k ∈ s.indQ.keys, e.job.name = keyName k → e.job.label = none)
    (ctr : ∀ uid, getCtr s'.counter uid + sumDelta (noteOf s.jobs e).toList uid + actCount s.jobs uid
      = getCtr s.counter uid + actCount (applyEv s.jobs e) uid)
    (good : ∀ n ∈ (noteOf s.jobs e).toList, goodNote n) : Inv s' := by
  have hver : ∀ j, Ver s' j → Ver s j ∨ j = e.job := by
    refine ver_cases ?_ ?_ ?_ ?_ ?_
    · rw [e_jobs]; exact fun j hj => (mem_applyEv hj).imp Ver.jobs id
    · rw [e_cache]; exact fun j hj => .inl (Ver.cache hj)
    · rw [e_evs]
      intro e' he'
      rcases List.mem_append.mp he' with he' | he'
      · exact .inl (Ver.ev he')
      · rw [List.mem_singleton.mp he']; exact .inr rfl
    · rw [e_sq]; exact fun n hn j hj => .inl (Ver.storeQ hn hj)
    · rw [e_cq]; exact fun n hn j hj => .inl (Ver.ctrlQ hn hj)
  have hpend : pending s' = pending s ++ (noteOf s.jobs e).toList := by
    unfold pending
    rw [e_sq, e_cache, e_evs, futureNotes_append, h.pipe, List.append_assoc]
  refine ⟨?_, ?_, ?_, ?_, ?_, ?_, ?_, ?_, ?_, fun f hf => h.faultsOk f (e_faults f hf)⟩
  · rw [e_jobs]; exact nodup_names_applyEv e h.jobsNodup
  · rw [e_cache]; exact h.cacheNodup
  · rw [e_cache, e_evs, applyEvs_append, h.pipe, e_jobs]
  · intro uid
    rw [hpend, sumDelta_append, e_jobs]
    have := h.ctr uid; have := ctr uid; omega
  · rw [hpend]
    exact fun n hn => (List.mem_append.mp hn).elim (h.good n) (good n)
  · exact fun j hj => (hver j hj).elim (h.verWf j) (· ▸ hwf)
  · exact fun j hj => (hver j hj).elim (fun hj => Nat.le_trans (h.verRv j hj) e_rv) (· ▸ hrv)
  · intro j1 j2 h1 h2 hn
    rcases hver j1 h1 with h1 | rfl <;> rcases hver j2 h2 with h2 | rfl
    · exact h.verFn j1 j2 h1 h2 hn
    · exact hfn j1 h1 hn
    · exact ⟨sameFixed_symm (hfn j2 h2 hn.symm).1, fun hr => ((hfn j2 h2 hn.symm).2 hr.symm).symm⟩
    · exact ⟨sameFixed_refl _, fun _ => rfl⟩
  · intro k hk j hj hn
    rw [e_ind] at hk
    rcases hver j hj with hj | rfl
    · exact h.ind k hk j hj hn
    · exact hind k hk hn

/-- An authoritative update `cur → nj` (finish, `startAfter` edit, reject write, start write): the
version `nj` replaces `cur`, its update event is appended, and the counter becomes `c`, which
accounts for an unstarted → active transition (the one `OnUpdate` will not count). -/
theorem Inv_update {s : Sys} (h : Inv s) {cur nj : JobV} (hcur : findJob s.jobs nj.name = some cur)
    (hspec : sameFixed cur nj) (hwf : wfJob nj) (hrv : nj.rv = s.rv + 1)
    (hterm : cur.terminal = true → nj.terminal = true) (c : List (String × Int))
    (hc : ∀ uid, getCtr c uid
        = getCtr s.counter uid + (if cur.label = some uid then bonus cur nj else 0)) :
    Inv { s with rv := s.rv + 1, jobs := setJob s.jobs nj, jobEvs := s.jobEvs ++ [.update nj],
                 counter := c } := by
  have hvcur : Ver s cur := Ver.jobs (findJob_some_mem hcur)
  have hcurname : cur.name = nj.name := findJob_some_name hcur
  have hnote : noteOf s.jobs (.update nj) = some (.update cur nj) := by simp only [noteOf, hcur]
  refine Inv_apiEvent h (.update nj) rfl rfl rfl rfl rfl rfl (fun _ hf => hf) (Nat.le_succ _) hwf
    (Nat.le_of_eq hrv) (fun j hj hn => ⟨?_, fun hr => ?_⟩) (fun k hk hn => ?_) (fun uid => ?_) ?_
  · exact sameFixed_trans (h.verFn j cur hj hvcur (hn.trans hcurname.symm)).1 hspec
  · have := h.verRv j hj; change j.rv = nj.rv at hr; omega
  · change nj.label = none; rw [← hspec.1]; exact h.ind k hk cur hvcur (hcurname.trans hn)
  · have h2 := actCount_setJob uid h.jobsNodup hcur
    have h3 := delta_identity cur nj uid hspec.1
    simp only [hnote, Option.toList_some, sumDelta_cons, sumDelta_nil, noteDelta, hc, applyEv]
    by_cases hl : cur.label = some uid <;> simp only [hl, if_true, if_false] at h3 ⊢ <;> omega
  · simp only [hnote, Option.toList_some, List.mem_singleton]; rintro _ rfl; exact hterm

end Furiko.Queue
