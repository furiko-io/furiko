/-
Helpers for Props/C20Inst: the per-config pass of the job-queue controller
(`Model/Queue.lean`) followed by the explicit step "every watch event the pass produced is
delivered and both handlers have run" (`deliverAll`), on top of `Proofs/QueueSys.lean`,
`Proofs/QueueReach.lean`, `Props/C05.lean`, `Props/C06.lean`.  Core Lean only.
-/
import FurikoModel.Props.C05
import FurikoModel.Props.C06

set_option linter.unusedVariables false
set_option linter.unusedSimpArgs false

namespace Furiko.ConvQ
open Furiko Furiko.Queue Furiko.WQ

def iter (f : Sys → Sys) : Nat → Sys → Sys
  | 0, s => s
  | n + 1, s => iter f n (f s)

/-- the explicit delivery step: every undelivered Job watch event is delivered to the cache, then
the store handler runs every pending notification, then the controller's handler does -/
def deliverAll (s : Sys) : Sys :=
  let s1 := iter deliverJob s.jobEvs.length s
  let s2 := iter notifyStore s1.storeQ.length s1
  iter notifyCtrl s2.ctrlQ.length s2

/-- one round: a per-config pass, then the delivery step -/
def qRound (s : Sys) : Sys := deliverAll (workConfig s).1

theorem iter_inv (f : Sys → Sys) (P : Sys → Prop) (hf : ∀ s, P s → P (f s)) :
    ∀ (n : Nat) (s : Sys), P s → P (iter f n s) := by
  intro n
  induction n with
  | zero => intro s h; exact h
  | succ n ih => intro s h; exact ih (f s) (hf s h)

theorem iter_keep {α : Type} (f : Sys → Sys) (π : Sys → α) (hf : ∀ s, π (f s) = π s) (n : Nat) (s : Sys) :
    π (iter f n s) = π s := by
  induction n generalizing s with
  | zero => rfl
  | succ n ih => show π (iter f n (f s)) = π s; rw [ih, hf]

theorem iter_drain {α : Type} (f : Sys → Sys) (π : Sys → List α) (hf : ∀ s, π (f s) = (π s).tail) :
    ∀ (n : Nat) (s : Sys), (π s).length ≤ n → π (iter f n s) = [] := by
  intro n
  induction n with
  | zero => intro s h; exact List.eq_nil_of_length_eq_zero (Nat.le_zero.mp h)
  | succ n ih =>
    intro s h
    show π (iter f n (f s)) = []
    refine ih (f s) ?_
    rw [hf, List.length_tail]
    omega

theorem deliverAll_reachable {s : Sys} (h : Reachable s) : Reachable (deliverAll s) := by
  unfold deliverAll
  simp only
  refine iter_inv notifyCtrl Reachable (fun s h => Reachable.step s .notifyCtrl h trivial) _ _ ?_
  refine iter_inv notifyStore Reachable (fun s h => Reachable.step s .notifyStore h trivial) _ _ ?_
  exact iter_inv deliverJob Reachable (fun s h => Reachable.step s .deliverJob h trivial) _ _ h

/-- after the delivery step nothing is undelivered and no notification is pending; the API objects,
the clock and the pending faults are untouched -/
theorem deliverAll_facts (s : Sys) :
    (deliverAll s).jobEvs = [] ∧ (deliverAll s).storeQ = [] ∧ (deliverAll s).ctrlQ = [] ∧
    (deliverAll s).jobs = s.jobs ∧ (deliverAll s).clock = s.clock ∧ (deliverAll s).faults = s.faults ∧
    (deliverAll s).rv = s.rv := by
  unfold deliverAll
  simp only
  -- each of the three loops empties its list and keeps those emptied before
  have e1 : (iter deliverJob s.jobEvs.length s).jobEvs = [] :=
    iter_drain deliverJob (·.jobEvs) (fun s => (deliverJob_keep s).1) _ s (Nat.le_refl _)
  generalize hs1 : iter deliverJob s.jobEvs.length s = s1 at e1
  have e2 : (iter notifyStore s1.storeQ.length s1).storeQ = [] :=
    iter_drain notifyStore (·.storeQ) notifyStore_storeQ _ s1 (Nat.le_refl _)
  have e2' : (iter notifyStore s1.storeQ.length s1).jobEvs = [] := by
    rw [iter_keep notifyStore (·.jobEvs) (fun s => (notifyStore_keep s).1)]; exact e1
  generalize hs2 : iter notifyStore s1.storeQ.length s1 = s2 at e2 e2'
  have hv : apiView (iter notifyCtrl s2.ctrlQ.length s2) = apiView s := by
    rw [iter_keep notifyCtrl apiView (fun s => (notifyCtrl_keep s).2.2), ← hs2,
      iter_keep notifyStore apiView (fun s => (notifyStore_keep s).2), ← hs1,
      iter_keep deliverJob apiView (fun s => (deliverJob_keep s).2)]
  simp only [apiView, Prod.mk.injEq] at hv
  refine ⟨?_, ?_, iter_drain notifyCtrl (·.ctrlQ) notifyCtrl_ctrlQ _ s2 (Nat.le_refl _), hv⟩
  · rw [iter_keep notifyCtrl (·.jobEvs) (fun s => (notifyCtrl_keep s).1)]; exact e2'
  · rw [iter_keep notifyCtrl (·.storeQ) (fun s => (notifyCtrl_keep s).2.1)]; exact e2

/-- a per-config pass started without pending faults ends without pending faults -/
theorem workConfig_faults_nil (s : Sys) (hf : s.faults = []) : (workConfig s).1.faults = [] := by
  cases hg : (s.cfgQ.advance s.clock).get with
  | none => rw [workConfig_idle hg]; exact hf
  | some p =>
    obtain ⟨k, q1⟩ := p
    cases hjc : findJC s.jcCache (keyName k) with
    | none => rw [workConfig_noJC hg hjc]; exact hf
    | some jc =>
      rw [workConfig_get hg]
      show (syncConfig (cfgPre s q1) (keyName k)).1.faults = []
      have hjc' : findJC (cfgPre s q1).jcCache (keyName k) = some jc := hjc
      obtain ⟨cs, hp⟩ := syncConfig_Pass hjc'
      refine Pass.preserve (P := fun x => x.faults = []) ?_ ?_ ?_ ?_ ?_ hp hf
      · intro s j h; exact h
      · intro s verb name res h; show s.faults.tail = []; rw [h]; rfl
      · intro s m j cur _ h; show s.faults.tail = []; rw [h]; rfl
      · intro s j cur _ h; show s.faults.tail = []; rw [h]; rfl
      · intro s c h; exact h

namespace QEx
open Furiko.Props.C05

/-- JobConfig `c` (limit 1); Job `r` (Allow) is started and its start went through the pipeline;
then a Forbid Job `f` and an Allow Job `a` are created and announced: a reachable quiet state
with the key of `c` ready, one active Job, two queued ones -/
def hist : List Act :=
  [.addJC jcC, .deliverJC, .addJob (mkJob "r" true true 0 none)] ++ flush ++ [.workConfig] ++ flush ++
  [.addJob (mkJob "f" true true 1 none)] ++ flush ++ [.addJob (mkJob "a" true true 0 none)] ++ flush

def s0 : Sys := runActs {} hist

theorem s0_reachable : Reachable s0 := reachable_runB _ (by decide +kernel)

end QEx

end Furiko.ConvQ
