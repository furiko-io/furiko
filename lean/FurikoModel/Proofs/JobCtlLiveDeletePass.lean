/-
Liveness of the job controller, delete: ONE PASS on a Job that is being deleted and carries the finalizer,
no fault pending, no pod being deleted yet.  `handleFinishFinalizer` deletes EVERY pod gracefully and keeps
the finalizer while a pod is left, and drops it when none is (`handleFinalizer_delete`); the Job API calls of
the pass (dropping the finalizer of a Job being deleted removes the object); `Reconciler.sync`, `SyncOne`
and the `work` step in the invariant `DState` of the rounds (`work_delete`); `Gone`, the state a delete ends in;
`OnlyJob`, what the Job API calls at the end of a pass leave alone.  Core Lean only.
-/
import FurikoModel.Proofs.JobCtlLiveKillPass

set_option linter.unusedSimpArgs false
set_option linter.unusedVariables false

namespace Furiko.JobCtl.Live
open Furiko Furiko.JobCtl Furiko.WQ Furiko.StatusLemmas Furiko.JobCtlPlan

variable {ok : Sys → Action → Prop} {j0 jo : JobObj} {F0 : Int} {s : Sys}

theorem getTaskForRefConfirmed_fresh (hc : s.podCache = s.pods)
    (hown : ∀ p ∈ s.pods, p.ownerUid = some jo.uid) (r : TaskRef) :
    getTaskForRefConfirmed s jo r = lookTask s r.name := by
  unfold getTaskForRefConfirmed
  rw [getTaskForRef_fresh hc hown r]
  cases hl : lookTask s r.name with
  | some t => rfl
  | none =>
    simp only
    unfold liveGetTask isControlledByJob
    unfold lookTask at hl
    cases hp : findPod s.pods r.name with
    | none => rfl
    | some p =>
      have ho := hown p (findPod_some hp).1
      rw [hp] at hl
      simp only [Option.bind_some] at hl
      simp only [ho, decide_true, Bool.not_true, Bool.false_eq_true, ↓reduceIte]
      exact hl

/-- in a fresh state whose pods are all the Job's, the finalizer's task list is the one of a kill pass -/
theorem finalizerTasks_eq (hc : s.podCache = s.pods)
    (hown : ∀ p ∈ s.pods, p.ownerUid = some jo.uid) (rj : Job) :
    finalizerTasks s jo rj = killTasks s { jo with job := rj } := by
  unfold finalizerTasks killTasks tasksForRefsConfirmed
  rw [tasksForRefs_fresh (jo := { jo with job := rj }) hc hown]
  congr 1
  congr 1
  funext r
  exact getTaskForRefConfirmed_fresh hc hown r

theorem updDeleted_sameSpec (rj : Job) (n : String) (st : TaskStatus) :
    SameSpec rj (updateTaskRefDeletedStatusIfNotSet rj n st) := ⟨rfl, rfl, rfl, rfl, rfl, rfl⟩

theorem foldl_updDeleted_sameSpec (st : TaskStatus) : ∀ (tasks : List Task) (rj : Job),
    SameSpec rj (tasks.foldl (fun acc t => updateTaskRefDeletedStatusIfNotSet acc t.name st) rj)
  | [], rj => SameSpec.refl rj
  | t :: rest, rj => by
    simp only [List.foldl_cons]
    exact (updDeleted_sameSpec rj t.name st).trans (foldl_updDeleted_sameSpec st rest _)

/-- **`handleFinishFinalizer` of a Job being deleted** -/
theorem handleFinalizer_delete (s : Sys) (jo : JobObj) (rj : Job) (hdel : rj.deletionTimestamp.isSome = true)
    (hnf : NoFault s) (hc : s.podCache = s.pods) (hp : KPods jo s)
    (hnodel : ∀ p ∈ s.pods, p.pod.deletionTimestamp = none) :
    ∃ s' rj' fz N, handleFinalizer s jo rj true = (s', some (rj', fz)) ∧ MarkedT (jobKey jo) s s' N ∧
      (∀ n, n ∈ N ↔ ∃ p ∈ s.pods, p.pod.name = n) ∧ (fz = true ↔ s.pods ≠ []) ∧ SameSpec rj rj' := by
  have hp' : KPods { jo with job := rj } s := ⟨hp.owned, hp.sane, hp.nodup⟩
  have hT : finalizerTasks s jo rj = killTasks s { jo with job := rj } :=
    finalizerTasks_eq hc (fun p h => (hp.owned p h).1) rj
  unfold handleFinalizer
  have h1 : rj.deletionTimestamp.isNone = false := by
    cases hx : rj.deletionTimestamp with
    | none => rw [hx] at hdel; cases hdel
    | some _ => rfl
  simp only [h1, Bool.false_eq_true, ↓reduceIte, Bool.not_true, hT]
  -- the task list is empty exactly when no pod is left
  have hiff : (killTasks s { jo with job := rj }).isEmpty = true ↔ s.pods = [] := by
    rw [List.isEmpty_iff]
    constructor
    · intro hk
      cases hps : s.pods with
      | nil => rfl
      | cons p r =>
        obtain ⟨t, ht, _⟩ := killTasks_cover hc hp' (p := p) (by rw [hps]; exact List.mem_cons_self)
        rw [hk] at ht; cases ht
    · intro hnil
      cases hk : killTasks s { jo with job := rj } with
      | nil => rfl
      | cons t r =>
        obtain ⟨p, hpm, _⟩ := killTasks_mem hc hp' (t := t) (by rw [hk]; exact List.mem_cons_self)
        rw [hnil] at hpm; cases hpm
  by_cases hempty : (killTasks s { jo with job := rj }).isEmpty = true
  · -- no pod left
    simp only [hempty, Bool.not_true, Bool.false_eq_true, ↓reduceIte]
    have hnil := hiff.mp hempty
    obtain ⟨s1, hU, hU1, _⟩ := updateTaskRefStatus_eq s (jobKey jo) rj []
    rw [hU]
    refine ⟨s1, _, false, [], rfl, MarkedT.of_timers hU1, fun n => ?_, by rw [hnil]; simp,
      (recompute_sameSpec s.clock s.d rj []).1⟩
    rw [hnil]
    exact ⟨(fun h => by cases h), fun ⟨p, hp0, _⟩ => by cases hp0⟩
  · simp only [hempty, Bool.not_false, ↓reduceIte]
    have hne : s.pods ≠ [] := fun hnil => hempty (hiff.mpr hnil)
    obtain ⟨rj1, hrj1, hs1⟩ : ∃ rj1, rj1 = (killTasks s { jo with job := rj }).foldl (fun acc t =>
        updateTaskRefDeletedStatusIfNotSet acc t.name { state := .terminated, result := .killed, reason := "JobDeleted" }) rj ∧
        SameSpec rj rj1 := ⟨_, rfl, foldl_updDeleted_sameSpec _ _ rj⟩
    rw [← hrj1]
    obtain ⟨s1, hU, hU1, _⟩ := updateTaskRefStatus_eq s (jobKey jo) rj1 (killTasks s { jo with job := rj })
    rw [hU]
    have hm1 : MarkedT (jobKey jo) s s1 [] := MarkedT.of_timers hU1
    obtain ⟨hok, N, hm, hN⟩ := deleteTasks_graceful s1 (killTasks s { jo with job := rj }) (hm1.nofault hnf)
      (by rw [hm1.pods, podNames_markDts]; exact hp.nodup) (fun t ht => by
        obtain ⟨p, hpm, _, _, hd, _⟩ := killTasks_facts hc hp' ht
        rw [hd]; exact hnodel p hpm)
    generalize hD : deleteTasks s1 (killTasks s { jo with job := rj }) false = D at hok hm
    obtain ⟨s2, ok⟩ := D
    simp only at hok hm
    subst hok
    simp only [↓reduceIte]
    refine ⟨s2, _, true, N, rfl, (hm1.trans (MarkedT.of_marked hm)).congr (fun n => by simp), fun n => ?_,
      by simp [hne], ?_⟩
    · rw [hN]
      constructor
      · intro hn
        obtain ⟨t, ht, rfl⟩ := List.mem_map.mp hn
        obtain ⟨p, hpm, _, hname, _⟩ := killTasks_facts hc hp' ht
        exact ⟨p, hpm, hname.symm⟩
      · rintro ⟨p, hpm, rfl⟩
        obtain ⟨t, ht, hpt⟩ := killTasks_cover hc hp' hpm
        exact List.mem_map.mpr ⟨t, ht, (podTask_fields hpt).1⟩
    · exact hs1.trans (recompute_sameSpec s.clock s.d _ _).1

/-- the states the Job API calls of a pass leave with no fault pending: after a status update that changes
nothing (`noopK`), one answered NotFound (`absentK`), and the `Update` that drops the finalizer of a Job being
deleted, which removes the object (`droppedK`, the last stored version being `droppedObj`) -/
def noopK (s : Sys) (jo : JobObj) : Sys :=
  { s with calls := s.calls ++ [⟨"update", "jobs", jo.name, "ok", true, false⟩], delRun := none }

def absentK (s : Sys) (jo : JobObj) : Sys :=
  { s with calls := s.calls ++ [⟨"update", "jobs", jo.name, "notfound", true, false⟩], delRun := none }

def droppedObj (jo : JobObj) (newJob : Job) (rv : Nat) : JobObj :=
  { jo with job := { newJob with status := jo.job.status, deletionTimestamp := jo.job.deletionTimestamp },
            finalizer := false, rv := rv }

def droppedK (s : Sys) (jo : JobObj) (newJob : Job) : Sys :=
  { s with rv := s.rv + 1, job := none, jobEvs := s.jobEvs ++ [.delete (droppedObj jo newJob (s.rv + 1))],
           calls := s.calls ++ [⟨"update", "jobs", jo.name, "ok", false, false⟩], delRun := none }

theorem written_self (jo : JobObj) (newJob : Job) (h : newJob.status = jo.job.status) :
    written jo newJob jo.rv = jo := by
  unfold written
  rw [h]

theorem apiUpdateJobStatus_eq (s : Sys) (jo : JobObj) (newJob : Job) (h : NoFault s) (hj : s.job = some jo) :
    apiUpdateJobStatus s jo { jo with job := newJob } =
      (if newJob.status = jo.job.status then noopK s jo else afterStatusK s jo newJob, true) := by
  by_cases hd : newJob.status = jo.job.status
  · rw [if_pos hd]
    have hyes : ({ ({ jo with job := { jo.job with status := newJob.status }, rv := s.rv + 1 } : JobObj) with rv := jo.rv } = jo) :=
      written_self jo newJob hd
    unfold apiUpdateJobStatus nextFault popFault
    rw [h.1]
    simp only [isFailFault, hj, log, noopK]
    simp [hyes]
  · rw [if_neg hd]
    exact apiUpdateJobStatus_nofault s jo newJob h hj hd

theorem apiUpdateJobStatus_absent_eq (s : Sys) (jo new : JobObj) (h : NoFault s) (hj : s.job = none) :
    apiUpdateJobStatus s jo new = (absentK s jo, false) := by
  unfold apiUpdateJobStatus nextFault popFault
  rw [h.1]
  simp only [isFailFault, hj, log, absentK]
  simp

theorem apiUpdateJob_drop_eq (s : Sys) (jo : JobObj) (newJob : Job) (h : NoFault s) (hj : s.job = some jo)
    (hfz : jo.finalizer = true) (hdel : jo.job.deletionTimestamp.isSome = true) :
    apiUpdateJob s jo { jo with job := newJob, finalizer := false } = (droppedK s jo newJob, true) := by
  have hno : ¬ (droppedObj jo newJob jo.rv = jo) := by
    intro e
    have := congrArg (fun j => j.finalizer) e
    simp only [droppedObj] at this
    rw [hfz] at this
    cases this
  unfold apiUpdateJob nextFault popFault
  rw [h.1]
  simp only [isFailFault, hj, log, droppedK, droppedObj] at hno ⊢
  simp [hno, hdel]

/-- **`Reconciler.sync` on a Job that is being deleted and carries the finalizer** -/
theorem sync_delete (sp : Sys) (jo : JobObj) (hdel : jo.job.deletionTimestamp.isSome = true) (hfz : jo.finalizer = true)
    (hnf : NoFault sp) (hc : sp.podCache = sp.pods) (hp : KPods jo sp)
    (hnodel : ∀ p ∈ sp.pods, p.pod.deletionTimestamp = none) :
    ∃ s' rjF fz nt N, sync sp jo = (s', rjF, fz, true, nt) ∧ MarkedT (jobKey jo) sp s' N ∧
      (∀ n, n ∈ N ↔ ∃ p ∈ sp.pods, p.pod.name = n) ∧ (fz = true ↔ sp.pods ≠ []) ∧
      rjF.admissionError = jo.job.admissionError := by
  have hstage : syncTasksStage sp jo = (sp, some jo.job) := by
    unfold syncTasksStage
    have h2 : isDeleted jo.job = true := hdel
    simp [h2]
  obtain ⟨s2, hU, hu1, _⟩ := syncJobStatus_eq sp (jobKey jo) jo.job
  have hs2 := (statusOf_sameSpec sp.clock sp.d jo.job).1
  generalize statusOf sp.clock sp.d jo.job = rj2 at hU hs2
  have hdel2 : rj2.deletionTimestamp.isSome = true := by rw [hs2.deletionTimestamp]; exact hdel
  have hst := hu1.static
  have hT : handleTTL s2 jo rj2 = (s2, true) := by
    unfold handleTTL
    have : isDeleted rj2 = true := hdel2
    simp [this]
  have hnf2 : NoFault s2 := ⟨by rw [hst.faults]; exact hnf.1, by rw [hst.delRun]; exact hnf.2⟩
  have hc2 : s2.podCache = s2.pods := by rw [hst.podCache, hst.pods]; exact hc
  have hp2 : KPods jo s2 := ⟨by rw [hst.pods]; exact hp.owned, by rw [hst.pods]; exact hp.sane, by rw [hst.pods]; exact hp.nodup⟩
  obtain ⟨s', rj', fz, N, hF, hm, hN, hfzz, hs'⟩ := handleFinalizer_delete s2 jo rj2 hdel2 hnf2 hc2 hp2
    (by rw [hst.pods]; exact hnodel)
  have hsy : ∃ nt, sync sp jo = (s', rj', fz, true, nt) := by
    rw [sync_eq]
    simp only [hstage, hU, hT, hfz, hF]
    exact ⟨_, rfl⟩
  obtain ⟨nt, hsy⟩ := hsy
  refine ⟨s', rj', fz, nt, N, hsy, ((MarkedT.of_timers hu1).trans hm).congr (fun n => by simp), ?_, ?_, ?_⟩
  · intro n; rw [hN, hst.pods]
  · rw [hfzz, hst.pods]
  · rw [hs'.admissionError, hs2.admissionError]

/-- `SyncOne` on a Job being deleted while pods are left: no spec update, the Job stays -/
theorem syncOne_delete_keep (sp : Sys) (jo : JobObj) (s' : Sys) (rjF : Job) (nt : Bool) (hc : sp.jobCache = some jo)
    (hfz : jo.finalizer = true)
    (hsync : sync sp jo = (s', rjF, true, true, nt)) (hadm : rjF.admissionError = jo.job.admissionError)
    (hnf : NoFault s') (hj : s'.job = some jo) :
    syncOne sp =
      (if (decide (rjF.status ≠ jo.job.status) || nt) = true then
          (if rjF.status = jo.job.status then noopK s' jo else afterStatusK s' jo rjF)
        else s', true) := by
  unfold syncOne
  simp only [hc, hsync, hadm, hfz, ne_eq, not_true_eq_false, decide_false, Bool.or_self, Bool.false_eq_true, ↓reduceIte,
    Bool.not_true, statusBase_false]
  by_cases hd : (decide (¬ rjF.status = jo.job.status) || nt) = true
  · have e : ({ name := jo.name, uid := jo.uid, job := rjF, finalizer := true, rv := jo.rv } : JobObj) = { jo with job := rjF } := by
      cases jo; simp only at hfz; subst hfz; rfl
    simp only [hd, ↓reduceIte, e, apiUpdateJobStatus_eq s' jo rjF hnf hj, Bool.not_true, Bool.false_eq_true]
  · simp only [hd, Bool.false_eq_true, ↓reduceIte, Bool.not_true]

/-- `SyncOne` on a Job being deleted when no pod is left: the finalizer is dropped, the object removed (a status
update that follows is answered NotFound: the pass then reports an error) -/
theorem syncOne_delete_drop (sp : Sys) (jo : JobObj) (s' : Sys) (rjF : Job) (nt : Bool) (hc : sp.jobCache = some jo)
    (hfz : jo.finalizer = true) (hdel : jo.job.deletionTimestamp.isSome = true)
    (hsync : sync sp jo = (s', rjF, false, true, nt)) (hnf : NoFault s') (hj : s'.job = some jo) :
    syncOne sp =
      if (decide (rjF.status ≠ jo.job.status) || nt) = true then (absentK (droppedK s' jo rjF) jo, false)
      else (droppedK s' jo rjF, true) := by
  have hnfd : NoFault (droppedK s' jo rjF) := ⟨hnf.1, fun f hf => by cases hf⟩
  unfold syncOne
  simp only [hc, hsync, hfz, apiUpdateJob_drop_eq s' jo rjF hnf hj hfz hdel]
  simp only [ne_eq, Bool.false_eq_true, not_false_eq_true, decide_true, Bool.or_true, ↓reduceIte, Bool.not_true]
  by_cases hd : (decide (¬ rjF.status = jo.job.status) || nt) = true
  · -- the status write carries the resourceVersion `Update` returned, and is answered NotFound all the same
    have hab : ∀ new, apiUpdateJobStatus (droppedK s' jo rjF) (statusBase (droppedK s' jo rjF) jo true) new =
        (absentK (droppedK s' jo rjF) jo, false) :=
      fun new => apiUpdateJobStatus_absent_eq (droppedK s' jo rjF) _ new hnfd rfl
    simp only [hd, ↓reduceIte, hab, Bool.not_false]
  · simp only [hd, Bool.false_eq_true, ↓reduceIte, Bool.not_true]

open Furiko.Conv

/-- the state between two rounds of a Job being deleted: caches and server agree, nothing undelivered, no
fault pending; the Job carries a deletion timestamp and the finalizer; every pod is a readable task of it -/
structure DState (jo : JobObj) (s : Sys) : Prop where
  fresh : Fresh jo s
  del : jo.job.deletionTimestamp.isSome = true
  fz : jo.finalizer = true
  pods : KPods jo s
  wf : Retry.WF s.q

/-- the Job object and its pods are gone from the server and from the caches, nothing is in flight -/
structure Gone (s : Sys) : Prop where
  job : s.job = none
  jobCache : s.jobCache = none
  pods : s.pods = []
  podCache : s.podCache = []
  jobEvs : s.jobEvs = []
  podEvs : s.podEvs = []
  faults : s.faults = []

/-- what the Job API calls at the end of a pass leave alone -/
structure OnlyJob (s Y : Sys) : Prop where
  pods : Y.pods = s.pods
  podEvs : Y.podEvs = s.podEvs
  podCache : Y.podCache = s.podCache
  jobCache : Y.jobCache = s.jobCache
  q : Y.q = s.q
  clock : Y.clock = s.clock
  faults : Y.faults = s.faults

/-- `SyncOne` on a Job being deleted, read off the states of `syncOne_delete_keep` and `syncOne_delete_drop`: with the
finalizer kept the Job stays (as it was, or with the new status); with the finalizer dropped the object is removed -/
theorem syncOne_delete (sp : Sys) (jo : JobObj) (s' : Sys) (rjF : Job) (fz nt : Bool) (hc : sp.jobCache = some jo)
    (hfz : jo.finalizer = true) (hdel : jo.job.deletionTimestamp.isSome = true)
    (hsync : sync sp jo = (s', rjF, fz, true, nt)) (hadm : rjF.admissionError = jo.job.admissionError)
    (hnf : NoFault s') (hj : s'.job = some jo) :
    ∃ Y b, syncOne sp = (Y, b) ∧ OnlyJob s' Y ∧
      (fz = true → b = true ∧ ∃ nj, nj.name = jo.name ∧ nj.uid = jo.uid ∧ nj.finalizer = true ∧
        nj.job.deletionTimestamp = jo.job.deletionTimestamp ∧ Y.job = some nj ∧
        ((nj = jo ∧ Y.jobEvs = s'.jobEvs) ∨ Y.jobEvs = s'.jobEvs ++ [.upsert nj])) ∧
      (fz = false → Y.job = none ∧ ∃ nj, Y.jobEvs = s'.jobEvs ++ [.delete nj]) := by
  cases fz with
  | true =>
    rw [syncOne_delete_keep sp jo s' rjF nt hc hfz hsync hadm hnf hj]
    by_cases hd : (decide (rjF.status ≠ jo.job.status) || nt) = true
    · rw [if_pos hd]
      by_cases hs : rjF.status = jo.job.status
      · rw [if_pos hs]
        exact ⟨_, _, rfl, ⟨rfl, rfl, rfl, rfl, rfl, rfl, rfl⟩, fun _ => ⟨rfl, jo, rfl, rfl, hfz, rfl, hj, Or.inl ⟨rfl, rfl⟩⟩,
          fun h => by cases h⟩
      · rw [if_neg hs]
        exact ⟨_, _, rfl, ⟨rfl, rfl, rfl, rfl, rfl, rfl, rfl⟩,
          fun _ => ⟨rfl, written jo rjF (s'.rv + 1), rfl, rfl, hfz, rfl, rfl, Or.inr rfl⟩, fun h => by cases h⟩
    · rw [if_neg hd]
      exact ⟨_, _, rfl, ⟨rfl, rfl, rfl, rfl, rfl, rfl, rfl⟩, fun _ => ⟨rfl, jo, rfl, rfl, hfz, rfl, hj, Or.inl ⟨rfl, rfl⟩⟩,
        fun h => by cases h⟩
  | false =>
    rw [syncOne_delete_drop sp jo s' rjF nt hc hfz hdel hsync hnf hj]
    by_cases hd : (decide (rjF.status ≠ jo.job.status) || nt) = true
    · rw [if_pos hd]
      exact ⟨_, _, rfl, ⟨rfl, rfl, rfl, rfl, rfl, rfl, rfl⟩, (fun h => by cases h), fun _ => ⟨rfl, _, rfl⟩⟩
    · rw [if_neg hd]
      exact ⟨_, _, rfl, ⟨rfl, rfl, rfl, rfl, rfl, rfl, rfl⟩, (fun h => by cases h), fun _ => ⟨rfl, _, rfl⟩⟩

/-- what a pass on a Job being deleted leaves, `w` the state after the `work` step from `s`: every pod (those named
in `N`) has got the deletion timestamp, the caches are one delivery behind; while pods were left the Job stays,
when none was left the finalizer has been dropped and the object is gone from the server -/
structure DPass (jo : JobObj) (s w : Sys) (N : List String) : Prop where
  jsync : JSync w
  psync : PSync w
  podCache : w.podCache = s.pods
  pods : w.pods = s.pods.map (markDts (nowT s) N)
  names : ∀ n, n ∈ N ↔ ∃ p ∈ s.pods, p.pod.name = n
  faults : w.faults = []
  wf : Retry.WF w.q
  evs : ∀ e ∈ w.podEvs, ∃ p0 ∈ s.pods, ∃ p, e = PEv.upsert p ∧ p.ownerUid = p0.ownerUid ∧ p.ownerName = p0.ownerName
  kept : s.pods ≠ [] → ∃ jo', w.job = some jo' ∧ jo'.name = jo.name ∧ jo'.uid = jo.uid ∧ jo'.finalizer = true ∧
    jo'.job.deletionTimestamp = jo.job.deletionTimestamp
  dropped : s.pods = [] → w.job = none

/-- **one `work` step on a Job being deleted**, no pod being deleted yet -/
theorem work_delete (h : DState jo s)
    (hnodel : ∀ p ∈ s.pods, p.pod.deletionTimestamp = none) (k : String) (rest : List String)
    (hq : (s.q.advance s.clock).queue = k :: rest) : ∃ N, DPass jo s (work s).1 N := by
  obtain ⟨a1, _⟩ := Retry.advance_facts s.q s.clock h.wf
  have hstart := passStart_facts h.fresh (popQ (s.q.advance s.clock) k rest)
  generalize hspdef : passStart s (popQ (s.q.advance s.clock) k rest) = sp at *
  obtain ⟨s', rjF, fz, nt, N, hsync, hm, hN, hfz, hadm⟩ := sync_delete sp jo h.del h.fz hstart.nofault (hstart.podCache.trans hstart.pods.symm)
    (h.pods.of_pods_eq hstart.pods) (by rw [hstart.pods]; exact hnodel)
  have hnf' : NoFault s' := hm.nofault hstart.nofault
  obtain ⟨Y, b, hYe, hY, hkeep, hdrop⟩ :=
    syncOne_delete sp jo s' rjF fz nt hstart.jobCache h.fz h.del hsync hadm hnf' (hm.job.trans hstart.job)
  have hjev' : s'.jobEvs = [] := hm.jobEvs.trans hstart.jobEvs
  have hjc : Y.jobCache = some jo := by rw [hY.jobCache, hm.jobCache, hstart.jobCache]
  have hJ : Y.jobEvs.foldl applyJEv Y.jobCache = Y.job := by
    cases fz with
    | true =>
      obtain ⟨_, nj, _, _, _, _, hj, hje⟩ := hkeep rfl
      rcases hje with ⟨e, hje⟩ | hje
      · rw [hje, hjev', hjc, hj, e]; rfl
      · rw [hje, hjev', hjc, hj]; rfl
    | false =>
      obtain ⟨hj, nj, hje⟩ := hdrop rfl
      rw [hje, hjev', hjc, hj]; rfl
  have hP : Y.podEvs.foldl applyPEv Y.podCache = Y.pods := by
    rw [hY.podEvs, hY.podCache, hY.pods]
    exact hm.psync (by unfold PSync; rw [hstart.podEvs, hstart.podCache, hstart.pods]; rfl)
  have hnowT : nowT sp = nowT s := by unfold nowT nowSec; rw [hstart.clock]
  -- the queue after the pass, whether it reported an error (the NotFound of the status write) or not
  have hwfq : Retry.WF ((if b = true then Y.q.forget k else Y.q.addRateLimited k Y.clock).done k) := by
    have h1 : Y.q.queue = rest := by rw [hY.q, hm.queue, hstart.q]; rfl
    have h2 : Y.q.dirty = (s.q.advance s.clock).dirty.erase k := by rw [hY.q, hm.dirty, hstart.q]; rfl
    have h3 : Y.q.processing = k :: (s.q.advance s.clock).processing := by rw [hY.q, hm.processing, hstart.q]; rfl
    cases b with
    | true => exact (queue_after_ok (qs := Y.q) a1 hq h1 h2 h3).1
    | false => exact (queue_after_err (qs := Y.q) Y.clock a1 hq h1 h2 h3).1
  rw [work_some s k _ (get_cons hq), hspdef, hYe]
  refine ⟨N, hJ, hP, by rw [← hstart.podCache, ← hm.podCache, ← hY.podCache], by rw [← hnowT, ← hstart.pods, ← hm.pods, ← hY.pods],
    fun n => by rw [hN, hstart.pods], hY.faults.trans hnf'.1, hwfq, ?_, ?_, ?_⟩
  · intro e he
    have he' : e ∈ s'.podEvs := hY.podEvs ▸ he
    rcases hm.evs e he' with h0 | ⟨p0, hp0, p, e1, e2, e3⟩
    · rw [hstart.podEvs] at h0; cases h0
    · exact ⟨p0, hstart.pods ▸ hp0, p, e1, e2, e3⟩
  · intro hne
    have : fz = true := hfz.mpr (by rw [hstart.pods]; exact hne)
    obtain ⟨_, nj, n1, n2, n3, n4, hj, _⟩ := hkeep this
    exact ⟨nj, hj, n1, n2, n3, n4⟩
  · intro hnil
    cases fz with
    | true => exact absurd (hstart.pods.trans hnil) (hfz.mp rfl)
    | false => exact (hdrop rfl).1

end Furiko.JobCtl.Live
