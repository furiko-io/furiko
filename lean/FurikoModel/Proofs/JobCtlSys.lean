/-
The transition system of the job controller and its environment for ONE Job, over the executable
model `Model/JobCtl.lean` (which is validated against the Go code by the `jobctl` engine).

* `Action` / `step` : the labelled steps (one controller pass, informer deliveries, resync, process
  restart, clock advance, fault oracle, kubelet, external pod deletion, user kill / delete, foreign
  pods).  `step` only calls the model's own functions.
* `Allowed j0 s a` : the guard of an action in a state (kubelet contract of DESIGN §3, foreign pods
  are not controlled by the Job).
* `Reach ok j0 s` : `s` is reachable from the creation of the well-formed Job `j0` by allowed actions
  that satisfy the action filter `ok` (theorems that exclude an action class say so through `ok`).
* `Steps ok j0 s s'` : `s'` is reachable from `s` in that way.

Envelopes built into the model's API operations: `E-API` (name uniqueness, optimistic concurrency on
`rv`, status subresource, finalizers) and `E-ErrNotApplied` (an `err`/`timeout`/`conflict` fault has no
effect on the server); the fifth fault kind `applied-err` (applied but reported as an error) IS covered
(the adversary may put any strings in the fault list).  `E-SingleLeader`: one controller, `work` is
atomic with respect to the other actions (no informer delivery in the middle of a pass).
Core Lean only.
-/
import FurikoModel.Model.JobCtl

namespace Furiko.JobCtl
open Furiko Furiko.WQ

/-- progress rank of a pod phase: `""` < Pending < Running/Unknown < Succeeded/Failed -/
def phaseRank : PodPhase → Nat
  | .other => 0
  | .pending => 1
  | .running => 2
  | .unknown => 2
  | .succeeded => 3
  | .failed => 3

/-- The kubelet contract (DESIGN §3, `E-PodTerminalImmutable`) for a status write that replaces pod
`p` by `p'`: identity (name, owner, labels, creation / deletion timestamps, retry and parallel index)
is kept, the phase only moves forward, and a terminal pod is not changed at all. -/
def KubeletOK (p p' : PodObj) : Prop :=
  p'.ownerUid = p.ownerUid ∧ p'.ownerName = p.ownerName ∧ p'.jobLabel = p.jobLabel ∧
  p'.pod.name = p.pod.name ∧ p'.pod.creationTimestamp = p.pod.creationTimestamp ∧
  p'.pod.deletionTimestamp = p.pod.deletionTimestamp ∧ p'.pod.retryIndex = p.pod.retryIndex ∧
  p'.pod.parallelIndex = p.pod.parallelIndex ∧
  phaseRank p.pod.phase ≤ phaseRank p'.pod.phase ∧
  (p.pod.isFinished = true → p' = p)

instance (p p' : PodObj) : Decidable (KubeletOK p p') := by unfold KubeletOK; infer_instance

inductive Action where
  /-- the adversary replaces the fault oracle (any list, consumed by the following passes) -/
  | setFaults (fs : List String)
  /-- one pass of `reconciler.Controller.work` (pop a key, `SyncOne`, requeue) -/
  | work
  | deliverJob
  | deliverPod
  | resync
  /-- crash + restart of the controller process -/
  | restart
  /-- the clock advances by `d ≥ 0` nanoseconds (`E-MonotoneClock`) -/
  | advance (d : Nat)
  /-- kubelet status write (guard: `KubeletOK`) -/
  | kubelet (p : PodObj)
  /-- the kubelet finishes terminating a pod that carries a deletion timestamp -/
  | podGone (name : String)
  /-- the pod object vanishes whatever its state (node lost + GC, manual delete) -/
  | externalDelete (name : String)
  /-- the user sets `spec.killTimestamp` -/
  | kill (t : Time)
  /-- the user deletes the Job -/
  | userDelete
  /-- somebody creates a pod that is not controlled by the Job (guard: owner uid ≠ the Job's uid) -/
  | createForeign (p : PodObj)
  deriving Repr, Inhabited, DecidableEq

def step (s : Sys) : Action → Sys
  | .setFaults fs => { s with faults := fs }
  | .work => (work s).1
  | .deliverJob => deliverJob s
  | .deliverPod => deliverPod s
  | .resync => resync s
  | .restart => restart s
  | .advance d => { s with clock := s.clock + d }
  | .kubelet p => setPodState s p
  | .podGone n => removePod s n
  | .externalDelete n => removePod s n
  | .kill t => mutateJobObj s (fun j => { j with job := { j.job with killTimestamp := some t } })
  | .userDelete => userDeleteJob s
  | .createForeign p => createForeignPod s p

def OptSat {α : Type} (o : Option α) (P : α → Prop) : Prop :=
  match o with
  | some a => P a
  | none => False

instance {α : Type} (o : Option α) (P : α → Prop) [DecidablePred P] : Decidable (OptSat o P) := by
  cases o <;> unfold OptSat <;> infer_instance

theorem optSat_iff {α : Type} (o : Option α) (P : α → Prop) : OptSat o P ↔ ∃ a, o = some a ∧ P a := by
  cases o <;> simp [OptSat]

def Allowed (j0 : JobObj) (s : Sys) : Action → Prop
  | .kubelet p => OptSat (findPod s.pods p.pod.name) (fun old => KubeletOK old p)
  | .podGone n => OptSat (findPod s.pods n) (fun old => old.pod.deletionTimestamp.isSome = true)
  | .createForeign p => p.ownerUid ≠ some j0.uid
  | _ => True

instance (j0 : JobObj) (s : Sys) (a : Action) : Decidable (Allowed j0 s a) := by
  cases a <;> unfold Allowed <;> infer_instance

/-- The Job as the user (or the JobConfig controller) creates it: no task recorded yet, counters
zero, not being deleted. Everything else (template, parallelism, kill timestamp, TTL, start time set
or not, finalizer, any condition) is arbitrary. -/
structure WF (j0 : JobObj) : Prop where
  noTasks : j0.job.status.tasks = []
  noCreated : j0.job.status.createdTasks = 0
  notDeleted : j0.job.deletionTimestamp = none

instance (j0 : JobObj) : Decidable (WF j0) :=
  if h : j0.job.status.tasks = [] ∧ j0.job.status.createdTasks = 0 ∧ j0.job.deletionTimestamp = none
  then isTrue ⟨h.1, h.2.1, h.2.2⟩ else isFalse (fun w => h ⟨w.1, w.2, w.3⟩)

/-- the state right after the Job was created (empty caches, the creation event undelivered) -/
def initSys (clock : Int) (cfg : ExecConfig) (d : PIndex) (j0 : JobObj) : Sys :=
  userCreateJob { clock := clock, cfg := cfg, d := d } j0

inductive Reach (ok : Sys → Action → Prop) (j0 : JobObj) : Sys → Prop
  | init (clock : Int) (cfg : ExecConfig) (d : PIndex) (hwf : WF j0) : Reach ok j0 (initSys clock cfg d j0)
  | step {s : Sys} (a : Action) : Reach ok j0 s → ok s a → Allowed j0 s a → Reach ok j0 (step s a)

inductive Steps (ok : Sys → Action → Prop) (j0 : JobObj) : Sys → Sys → Prop
  | refl (s : Sys) : Steps ok j0 s s
  | step {s s' : Sys} (a : Action) : Steps ok j0 s s' → ok s' a → Allowed j0 s' a → Steps ok j0 s (step s' a)

theorem Reach.mono {ok ok' : Sys → Action → Prop} (h : ∀ s a, ok s a → ok' s a) {j0 : JobObj} {s : Sys}
    (hr : Reach ok j0 s) : Reach ok' j0 s := by
  induction hr with
  | init c cfg d hwf => exact .init c cfg d hwf
  | step a _ hok hal ih => exact .step a ih (h _ a hok) hal

theorem Steps.mono {ok ok' : Sys → Action → Prop} (h : ∀ s a, ok s a → ok' s a) {j0 : JobObj} {s s' : Sys}
    (hr : Steps ok j0 s s') : Steps ok' j0 s s' := by
  induction hr with
  | refl => exact .refl _
  | step a _ hok hal ih => exact .step a ih (h _ a hok) hal

theorem Reach.steps {ok : Sys → Action → Prop} {j0 : JobObj} {s s' : Sys}
    (hr : Reach ok j0 s) (hs : Steps ok j0 s s') : Reach ok j0 s' := by
  induction hs with
  | refl => exact hr
  | step a _ hok hal ih => exact .step a ih hok hal

def anyAction : Sys → Action → Prop := fun _ _ => True
instance (s : Sys) (a : Action) : Decidable (anyAction s a) := isTrue trivial

def lagOnly (_ : Sys) (a : Action) : Prop :=
  match a with
  | .work | .deliverJob | .deliverPod | .kubelet _ => True
  | _ => False

instance (s : Sys) (a : Action) : Decidable (lagOnly s a) := by cases a <;> unfold lagOnly <;> infer_instance

def lagAndLoss (_ : Sys) (a : Action) : Prop :=
  match a with
  | .work | .deliverJob | .deliverPod | .kubelet _ | .externalDelete _ | .advance _ => True
  | _ => False

instance (s : Sys) (a : Action) : Decidable (lagAndLoss s a) := by cases a <;> unfold lagAndLoss <;> infer_instance

def noForeign (_ : Sys) (a : Action) : Prop :=
  match a with
  | .createForeign _ => False
  | _ => True

instance (s : Sys) (a : Action) : Decidable (noForeign s a) := by cases a <;> unfold noForeign <;> infer_instance

def noUserEdit (_ : Sys) (a : Action) : Prop :=
  match a with
  | .kill _ | .userDelete => False
  | _ => True

instance (s : Sys) (a : Action) : Decidable (noUserEdit s a) := by cases a <;> unfold noUserEdit <;> infer_instance

/-- no pod object vanishes other than by the kubelet completing a deletion the API recorded -/
def noExternalDelete (_ : Sys) (a : Action) : Prop :=
  match a with
  | .externalDelete _ => False
  | _ => True

instance (s : Sys) (a : Action) : Decidable (noExternalDelete s a) := by cases a <;> unfold noExternalDelete <;> infer_instance

def runActs (s : Sys) (acts : List Action) : Sys := acts.foldl step s

def AllowedAll (ok : Sys → Action → Prop) (j0 : JobObj) (s : Sys) : List Action → Prop
  | [] => True
  | a :: rest => ok s a ∧ Allowed j0 s a ∧ AllowedAll ok j0 (step s a) rest

def decAllowedAll (ok : Sys → Action → Prop) [∀ s a, Decidable (ok s a)] (j0 : JobObj) :
    (s : Sys) → (acts : List Action) → Decidable (AllowedAll ok j0 s acts)
  | _, [] => isTrue trivial
  | s, a :: rest =>
    have := decAllowedAll ok j0 (step s a) rest
    (inferInstance : Decidable (ok s a ∧ Allowed j0 s a ∧ AllowedAll ok j0 (step s a) rest))

instance (ok : Sys → Action → Prop) [∀ s a, Decidable (ok s a)] (j0 : JobObj) (s : Sys) (acts : List Action) :
    Decidable (AllowedAll ok j0 s acts) := decAllowedAll ok j0 s acts

theorem steps_run {ok : Sys → Action → Prop} {j0 : JobObj} (s : Sys) (acts : List Action)
    (ha : AllowedAll ok j0 s acts) : Steps ok j0 s (runActs s acts) := by
  suffices h : ∀ s0 s, Steps ok j0 s0 s → AllowedAll ok j0 s acts → Steps ok j0 s0 (runActs s acts) from
    h s s (.refl s) ha
  clear ha
  induction acts with
  | nil => intro s0 s hs _; exact hs
  | cons a rest ih =>
    intro s0 s hs ha
    exact ih s0 (step s a) (Steps.step a hs ha.1 ha.2.1) ha.2.2

theorem runActs_append (s : Sys) (a b : List Action) : runActs s (a ++ b) = runActs (runActs s a) b := by
  unfold runActs; rw [List.foldl_append]

theorem Steps.trans {ok : Sys → Action → Prop} {j0 : JobObj} {a b c : Sys} (h1 : Steps ok j0 a b)
    (h2 : Steps ok j0 b c) : Steps ok j0 a c := by
  induction h2 with
  | refl => exact h1
  | step x _ hok hal ih => exact .step x ih hok hal

theorem reach_run {ok : Sys → Action → Prop} {j0 : JobObj} {s : Sys} (hr : Reach ok j0 s) (acts : List Action)
    (ha : AllowedAll ok j0 s acts) : Reach ok j0 (runActs s acts) :=
  hr.steps (steps_run s acts ha)

end Furiko.JobCtl
