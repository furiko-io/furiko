/-
Helper lemmas for the cron scheduler model (Model/Cron.lean): the `Next` contract (`NextSpec`),
`nextInList`, `multiNext`, `getNext` (through its whole-second form `cutNext`), `floorSec`, and
well-formedness predicates.  Core Lean only.
-/
import FurikoModel.Model.Cron
import FurikoModel.Proofs.HeapSpec

namespace Furiko.Cron
open Furiko

def SortedStrict (l : List Int) : Prop := l.Pairwise (· < ·)

theorem SortedStrict.count_eq_one {l : List Int} (h : SortedStrict l) {m : Int} (hm : m ∈ l) :
    l.count m = 1 := by
  have hle := List.nodup_iff_count.1 (List.Pairwise.imp (fun h => by omega) h : l.Nodup) m
  have hpos := List.count_pos_iff.2 hm
  omega

def ListerOK (lister : List (String × JC)) : Prop :=
  (∀ p ∈ lister, p.2.key = p.1 ∧ ∀ l ∈ p.2.sched.exprs, SortedStrict l) ∧
  (lister.map Prod.fst).Nodup

/-- `r` is the answer of a correct `Next` for the match set `M` asked at second `s`:
the least `M`-time strictly after `s`, or `none` if there is none. -/
def NextAt (M : Int → Prop) (s : Int) (r : Option Int) : Prop :=
  (∀ m, r = some m → s < m ∧ M m ∧ ∀ u, M u → s < u → m ≤ u) ∧
  (r = none → ∀ u, M u → u ≤ s)

/-- contract of `expr.Next` on whole seconds -/
def NextSpec (M : Int → Prop) (nxt : Int → Option Int) : Prop := ∀ s, NextAt M s (nxt s)

theorem NextAt.unique {M : Int → Prop} {s : Int} {r r' : Option Int}
    (h : NextAt M s r) (h' : NextAt M s r') : r = r' := by
  cases r with
  | none =>
    cases r' with
    | none => rfl
    | some m' =>
      have a := h'.1 m' rfl
      have b := h.2 rfl m' a.2.1
      omega
  | some m =>
    cases r' with
    | none =>
      have a := h.1 m rfl
      have b := h'.2 rfl m a.2.1
      omega
    | some m' =>
      have a := h.1 m rfl
      have a' := h'.1 m' rfl
      have b := a.2.2 m' a'.2.1 a'.1
      have b' := a'.2.2 m a.2.1 a.1
      congr 1; omega

theorem NextAt.congr {M M' : Int → Prop} {s : Int} {r : Option Int}
    (hM : ∀ t, M t ↔ M' t) (h : NextAt M s r) : NextAt M' s r := by
  refine ⟨fun m hm => ?_, fun hn u hu => h.2 hn u ((hM u).2 hu)⟩
  have a := h.1 m hm
  exact ⟨a.1, (hM m).1 a.2.1, fun u hu hs => a.2.2 u ((hM u).2 hu) hs⟩

theorem nextInList_spec {l : List Int} (hl : SortedStrict l) (s : Int) :
    (∀ m, nextInList l s = some m → s < m ∧ m ∈ l ∧ ∀ u ∈ l, s < u → m ≤ u) ∧
    (nextInList l s = none → ∀ u ∈ l, u ≤ s) := by
  induction l with
  | nil => simp [nextInList]
  | cons a t ih =>
    have ht : SortedStrict t := (List.pairwise_cons.1 hl).2
    have ha : ∀ u ∈ t, a < u := (List.pairwise_cons.1 hl).1
    have ih := ih ht
    unfold nextInList
    by_cases hs : s < a
    · simp only [hs, if_true]
      refine ⟨fun m hm => ?_, fun h => by cases h⟩
      cases hm
      refine ⟨hs, by simp, fun u hu _ => ?_⟩
      rcases List.mem_cons.1 hu with rfl | hu
      · exact Int.le_refl _
      · exact Int.le_of_lt (ha u hu)
    · simp only [hs, if_false]
      refine ⟨fun m hm => ?_, fun hn u hu => ?_⟩
      · have b := ih.1 m hm
        refine ⟨b.1, List.mem_cons_of_mem _ b.2.1, fun u hu hsu => ?_⟩
        rcases List.mem_cons.1 hu with rfl | hu
        · omega
        · exact b.2.2 u hu hsu
      · rcases List.mem_cons.1 hu with rfl | hu
        · omega
        · exact ih.2 hn u hu

theorem nextInList_NextSpec {l : List Int} (hl : SortedStrict l) :
    NextSpec (fun t => t ∈ l) (nextInList l) := fun s => nextInList_spec hl s

theorem NextAt.minNonZero {M N : Int → Prop} {s : Int} {a b : Option Int}
    (hb : NextAt N s b) (ha : NextAt M s a) :
    NextAt (fun t => M t ∨ N t) s (minNonZero b a) := by
  cases b with
  | none =>
    have hN := hb.2 rfl
    refine ⟨fun m hm => ?_, fun hn u hu => hu.elim (ha.2 hn u) (hN u)⟩
    have x := ha.1 m hm
    exact ⟨x.1, Or.inl x.2.1, fun u hu hs => hu.elim (x.2.2 u · hs)
      (fun hq => by have := hN u hq; omega)⟩
  | some n =>
    have y := hb.1 n rfl
    cases a with
    | none =>
      have hM := ha.2 rfl
      exact ⟨fun m hm => by
        cases hm
        exact ⟨y.1, Or.inr y.2.1, fun u hu hs => hu.elim
          (fun hp => by have := hM u hp; omega) (y.2.2 u · hs)⟩, nofun⟩
    | some c =>
      have x := ha.1 c rfl
      refine ⟨fun m hm => ?_, nofun⟩
      simp only [Cron.minNonZero, Option.some.injEq] at hm
      subst hm
      split
      · exact ⟨x.1, Or.inl x.2.1, fun u hu hs => hu.elim (x.2.2 u · hs)
          (fun hq => by have := y.2.2 u hq hs; omega)⟩
      · exact ⟨y.1, Or.inr y.2.1, fun u hu hs => hu.elim
          (fun hp => by have := x.2.2 u hp hs; omega) (y.2.2 u · hs)⟩

theorem multiNext_fold_NextAt (s : Int) :
    ∀ (ps : List ((Int → Prop) × (Int → Option Int))), (∀ p ∈ ps, NextSpec p.1 p.2) →
    ∀ (M0 : Int → Prop) (acc : Option Int), NextAt M0 s acc →
    NextAt (fun t => M0 t ∨ ∃ p ∈ ps, p.1 t) s
      ((ps.map Prod.snd).foldl (fun earliest e =>
        match e s with
        | none => earliest
        | some n => minNonZero (some n) earliest) acc) := by
  intro ps
  induction ps with
  | nil =>
    intro _ M0 acc hacc
    simpa using hacc
  | cons p ps ih =>
    intro hps M0 acc hacc
    obtain ⟨M, e⟩ := p
    have hMe : NextSpec M e := hps (M, e) (by simp)
    simp only [List.map_cons, List.foldl_cons]
    have step : NextAt (fun t => M0 t ∨ M t) s
        (match e s with
          | none => acc
          | some n => minNonZero (some n) acc) := by
      have := (hMe s).minNonZero hacc
      cases hes : e s <;> rw [hes] at this <;> exact this
    refine NextAt.congr (fun t => ?_)
      (ih (fun q hq => hps q (List.mem_cons_of_mem _ hq)) _ _ step)
    simp only [List.mem_cons, exists_eq_or_imp, or_assoc]

theorem multiNext_spec {ps : List ((Int → Prop) × (Int → Option Int))}
    (h : ∀ p ∈ ps, NextSpec p.1 p.2) :
    NextSpec (fun t => ∃ p ∈ ps, p.1 t) (multiNext (ps.map Prod.snd)) := by
  intro s
  have h0 : NextAt (fun _ => False) s none :=
    ⟨fun m hm => (by cases hm), fun _ u hu => False.elim hu⟩
  refine NextAt.congr (fun t => ?_) (multiNext_fold_NextAt s ps h _ _ h0)
  simp

/-- match predicate of an expression set given by its sorted match lists -/
def MatchesAny (exprs : List (List Int)) (t : Int) : Prop := ∃ l ∈ exprs, t ∈ l

theorem multiNext_lists_spec {exprs : List (List Int)} (h : ∀ l ∈ exprs, SortedStrict l) :
    NextSpec (MatchesAny exprs) (multiNext (exprs.map nextInList)) := by
  intro s
  have := multiNext_spec
    (ps := exprs.map fun l => ((fun t => t ∈ l : Int → Prop), nextInList l))
    (by simpa using fun l hl => nextInList_NextSpec (h l hl)) s
  rw [List.map_map] at this
  refine NextAt.congr (fun t => ?_) this
  constructor
  · rintro ⟨p, hp, hpt⟩
    obtain ⟨l, hl, rfl⟩ := List.mem_map.1 hp
    exact ⟨l, hl, hpt⟩
  · rintro ⟨l, hl, hlt⟩
    exact ⟨_, List.mem_map.2 ⟨l, hl, rfl⟩, hlt⟩

theorem floorSec_mul (s : Int) : floorSec (s * 1000000000) = s := by
  unfold floorSec; omega

theorem floorSec_le (ns : Int) : floorSec ns * 1000000000 ≤ ns := by
  unfold floorSec; omega

theorem lt_floorSec_succ (ns : Int) : ns < (floorSec ns + 1) * 1000000000 := by
  unfold floorSec; omega

theorem floorSec_lt_iff (ns n : Int) : floorSec ns < n ↔ ns < n * 1000000000 := by
  unfold floorSec; omega

theorem le_floorSec_iff (ns n : Int) : n ≤ floorSec ns ↔ n * 1000000000 ≤ ns := by
  unfold floorSec; omega

theorem floorSec_mono {a b : Int} (h : a ≤ b) : floorSec a ≤ floorSec b := by
  unfold floorSec; omega

def Within (notAfter : Option Int) (t : Int) : Prop := ∀ naf, notAfter = some naf → t ≤ naf

def NotBefore (notBefore : Option Int) (t : Int) : Prop := ∀ nbf, notBefore = some nbf → nbf ≤ t

/-- `applyNotBefore` on whole seconds: a reference second before `notBefore` becomes `nbf - 1` -/
def lowered (notBefore : Option Int) (s : Int) : Int :=
  match notBefore with
  | some nbf => if s < nbf then nbf - 1 else s
  | none => s

theorem floorSec_applyNotBefore (nbf : Option Int) (fromNs : Int) :
    floorSec (applyNotBefore nbf fromNs) = lowered nbf (floorSec fromNs) := by
  cases nbf with
  | none => rfl
  | some n =>
    simp only [applyNotBefore, lowered, floorSec_lt_iff]
    split
    · unfold floorSec; omega
    · rfl

theorem lowered_lt_iff (nbf : Option Int) (s m : Int) :
    lowered nbf s < m ↔ s < m ∧ NotBefore nbf m := by
  cases nbf with
  | none => exact ⟨fun h => ⟨h, fun _ e => nomatch e⟩, fun h => h.1⟩
  | some n =>
    have : NotBefore (some n) m ↔ n ≤ m := ⟨fun h => h n rfl, fun h _ e => Option.some.inj e ▸ h⟩
    rw [this]; unfold lowered; simp only []; split <;> omega

/-- `getNext` on whole seconds -/
def cutNext (nxt : Int → Option Int) (notBefore notAfter : Option Int) (s : Int) : Option Int :=
  match nxt (lowered notBefore s) with
  | none => none
  | some n =>
    match notAfter with
    | some naf => if n > naf then none else some n
    | none => some n

theorem getNext_eq_cutNext (nxt : Int → Option Int) (nbf naf : Option Int) (fromNs : Int) :
    getNext nxt nbf naf fromNs = cutNext nxt nbf naf (floorSec fromNs) := by
  unfold getNext cutNext
  rw [floorSec_applyNotBefore]
  cases nxt (lowered nbf (floorSec fromNs)) with
  | none => rfl
  | some n => cases naf <;> rfl

theorem cutNext_spec {M : Int → Prop} {nxt : Int → Option Int} (h : NextSpec M nxt)
    (nbf naf : Option Int) :
    NextSpec (fun t => M t ∧ NotBefore nbf t ∧ Within naf t) (cutNext nxt nbf naf) := by
  intro s
  -- asked at the lowered second, `nxt` answers for `M ∩ [notBefore, ∞)` relative to `s`
  have hb : NextAt (fun t => M t ∧ NotBefore nbf t) s (nxt (lowered nbf s)) := by
    refine ⟨fun m hm => ?_, fun hn u hu => Int.not_lt.1 fun hs => ?_⟩
    · have a := (h _).1 m hm
      have b := (lowered_lt_iff nbf s m).1 a.1
      exact ⟨b.1, ⟨a.2.1, b.2⟩, fun u hu hs => a.2.2 u hu.1 ((lowered_lt_iff nbf s u).2 ⟨hs, hu.2⟩)⟩
    · have := (h _).2 hn u hu.1
      have := (lowered_lt_iff nbf s u).2 ⟨hs, hu.2⟩
      omega
  unfold cutNext
  cases hn : nxt (lowered nbf s) with
  | none => exact ⟨nofun, fun _ u hu => hb.2 hn u ⟨hu.1, hu.2.1⟩⟩
  | some n =>
    obtain ⟨hsn, ⟨hM, hNB⟩, hmin⟩ := hb.1 n hn
    have hmin' : ∀ u, M u ∧ NotBefore nbf u ∧ Within naf u → s < u → n ≤ u :=
      fun u hu => hmin u ⟨hu.1, hu.2.1⟩
    cases naf with
    | none =>
      exact ⟨fun m hm => by cases hm; exact ⟨hsn, ⟨hM, hNB, fun _ e => nomatch e⟩, hmin'⟩, nofun⟩
    | some c =>
      simp only []
      split
      · refine ⟨nofun, fun _ u hu => Int.not_lt.1 fun hs => ?_⟩
        have := hu.2.2 c rfl
        have := hmin' u hu hs
        omega
      · exact ⟨fun m hm => by cases hm; exact ⟨hsn, ⟨hM, hNB, fun _ e => by cases e; omega⟩, hmin'⟩,
          nofun⟩

theorem getNext_spec {M : Int → Prop} {nxt : Int → Option Int} (h : NextSpec M nxt)
    (nbf naf : Option Int) (fromNs : Int) :
    NextAt (fun t => M t ∧ NotBefore nbf t ∧ Within naf t) (floorSec fromNs)
      (getNext nxt nbf naf fromNs) := by
  rw [getNext_eq_cutNext]
  exact cutNext_spec h nbf naf (floorSec fromNs)

/-- the result of `getNext` is strictly after `fromNs` as an instant (so `Bump` never errors) -/
theorem getNext_after {M : Int → Prop} {nxt : Int → Option Int} (h : NextSpec M nxt)
    (nbf naf : Option Int) (fromNs n : Int) (hn : getNext nxt nbf naf fromNs = some n) :
    n * 1000000000 > fromNs := by
  have a := ((getNext_spec h nbf naf fromNs).1 n hn).1
  exact (floorSec_lt_iff _ _).1 a

def JC.M (jc : JC) (t : Int) : Prop := MatchesAny jc.sched.exprs t

def JC.M' (jc : JC) (t : Int) : Prop :=
  jc.M t ∧ NotBefore jc.sched.notBefore t ∧ Within jc.sched.notAfter t

/-- next schedule time strictly after second `s` (what `getNext` computes) -/
def JC.nextAfter (jc : JC) (s : Int) : Option Int :=
  cutNext jc.nxt jc.sched.notBefore jc.sched.notAfter s

def JC.SortedOK (jc : JC) : Prop := ∀ l ∈ jc.sched.exprs, SortedStrict l

theorem JC.nxt_spec {jc : JC} (h : jc.SortedOK) : NextSpec jc.M jc.nxt :=
  multiNext_lists_spec h

theorem JC.nextAfter_spec {jc : JC} (h : jc.SortedOK) : NextSpec jc.M' jc.nextAfter :=
  cutNext_spec (JC.nxt_spec h) _ _

theorem getNext_eq_nextAfter (jc : JC) (fromNs : Int) :
    getNext jc.nxt jc.sched.notBefore jc.sched.notAfter fromNs
      = jc.nextAfter (floorSec fromNs) := getNext_eq_cutNext _ _ _ _

theorem getNext_sec_eq_nextAfter (jc : JC) (s : Int) :
    getNext jc.nxt jc.sched.notBefore jc.sched.notAfter (s * 1000000000) = jc.nextAfter s := by
  rw [getNext_eq_nextAfter, floorSec_mul]

end Furiko.Cron
