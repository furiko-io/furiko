/-
Helpers for Props/C20Inst (more instances of C20's convergence schema):
generic facts about `C20.runLoop`, and the JobConfig-controller instance
(model: Model/JobConfigStatus.lean; lemma library: Proofs/JcStatusLemmas.lean, Props/C15.lean).
Core Lean only.
-/
import FurikoModel.Props.C20
import FurikoModel.Props.C15

set_option linter.unusedVariables false
set_option linter.unusedSimpArgs false

namespace Furiko.Conv
open Furiko Furiko.JcStatus Furiko.Props Furiko.Props.C20

section Generic
variable {S : Type}

/-- whatever a single pass preserves from inside an invariant `P` (a preorder `R` from the state
before to the state after) holds between the start and ANY point of the retry loop … -/
theorem runLoop_rel_start (sync : S → Bool → S × Bool) (P : S → Prop) (R : S → S → Prop)
    (hrefl : ∀ s, R s s) (htrans : ∀ a b c, R a b → R b c → R a c)
    (hP : ∀ s f, P s → P (sync s f).1) (hstep : ∀ s f, P s → R s (sync s f).1) :
    ∀ (m : Nat) (fs : List Bool) (s : S), P s → R s (runLoop sync m fs s).1 := by
  intro m
  induction m with
  | zero => intro fs s _; exact hrefl s
  | succ m ih =>
    intro fs s hs
    simp only [runLoop]
    split
    · exact hstep s _ hs
    · exact htrans _ _ _ (hstep s _ hs) (ih _ _ (hP s _ hs))

/-- … and between ANY two points of it: both runs make the same first pass -/
theorem runLoop_monotone (sync : S → Bool → S × Bool) (P : S → Prop) (R : S → S → Prop)
    (hrefl : ∀ s, R s s) (htrans : ∀ a b c, R a b → R b c → R a c)
    (hP : ∀ s f, P s → P (sync s f).1)
    (hstep : ∀ s f, P s → R s (sync s f).1) (fs : List Bool) (s : S) (hs : P s) (n m : Nat) (hnm : n ≤ m) :
    R (runLoop sync n fs s).1 (runLoop sync m fs s).1 := by
  induction n generalizing m fs s with
  | zero => exact runLoop_rel_start sync P R hrefl htrans hP hstep m fs s hs
  | succ n ih =>
    obtain ⟨m, rfl⟩ : ∃ m', m = m' + 1 := ⟨m - 1, by omega⟩
    simp only [runLoop]
    split
    · exact hrefl _
    · exact ih _ _ (hP s _ hs) m (by omega)

end Generic

/-- how a faulted `UpdateStatus` fails -/
inductive JcFault where
  /-- server error / timeout: the call is answered with an error and not applied (E-ErrNotApplied) -/
  | error
  /-- optimistic-concurrency conflict: another writer bumped the resourceVersion between the
  controller's read and its write (`Model.writeStatus` itself answers `.conflict`) -/
  | conflict
deriving DecidableEq, Repr

/-- state of the instance: the authoritative JobConfig and the controller's cached copy -/
structure JcSt where
  api    : JobConfig
  cached : JobConfig
deriving DecidableEq, Repr

/-- which outcomes of `SyncOne` are `return nil` -/
def outcomeOk : Outcome → Bool
  | .cacheMiss | .noop | .updated => true
  | .conflict | .gone => false

/-- a foreign write that changes nothing the controller reads (e.g. a metadata edit) -/
def bumpRv (a : JobConfig) : JobConfig := { a with rv := a.rv + 1 }

/-- the object after an accepted `UpdateStatus` of a pass that read `a` itself -/
def written (jobs : List JcStatus.Job) (a : JobConfig) : JobConfig :=
  { a with status := computeStatus a (listJobs jobs a), rv := a.rv + 1 }

/-- explicit step: the JobConfig informer delivers the current object to the cache -/
def jcCatchUp (s : JcSt) : JcSt := { s with cached := s.api }

/-- one `SyncOne` (`Model.syncCore`, optimistic concurrency on) reading the CACHED object and the
Job cache `jobs`.  `fault = true`: the `UpdateStatus` of this pass — if one is issued — fails, in
the way `k` says.  The flag returned is "SyncOne returned nil". -/
def jcPass (k : JcFault) (jobs : List JcStatus.Job) (s : JcSt) (fault : Bool) : JcSt × Bool :=
  if fault then
    match k with
    | .error =>
      -- the call `syncCore` would issue is answered with an error: nothing applied; nil iff no call
      (s, decide ((syncCore true (some s.api) s.cached jobs (s.api.rv + 1)).2.1 = .noop))
    | .conflict =>
      let api1 := bumpRv s.api
      let r := syncCore true (some api1) s.cached jobs (api1.rv + 1)
      ({ s with api := r.1.getD api1 }, outcomeOk r.2.1)
  else
    let r := syncCore true (some s.api) s.cached jobs (s.api.rv + 1)
    ({ s with api := r.1.getD s.api }, outcomeOk r.2.1)

/-- the `sync` of the schema: one pass, then the cache catches up with the API object (the
watch event of the pass's own write, or of the foreign write, is delivered before the retry) -/
def jcSync (k : JcFault) (jobs : List JcStatus.Job) (s : JcSt) (fault : Bool) : JcSt × Bool :=
  let r := jcPass k jobs s fault
  (jcCatchUp r.1, r.2)

/-- the cache is up to date -/
def JcInv (s : JcSt) : Prop := s.cached = s.api

/-- the fixpoint: cache up to date and the API status is `computeStatus` of itself over the
current Job cache -/
def JcFix (jobs : List JcStatus.Job) (s : JcSt) : Prop :=
  s.cached = s.api ∧ s.api.status = computeStatus s.api (listJobs jobs s.api)

/-- the four shapes of a pass on an up-to-date cache -/
theorem jcSync_cases (k : JcFault) (jobs : List JcStatus.Job) (a : JobConfig) (f : Bool) :
    (computeStatus a (listJobs jobs a) = a.status ∧
      ((jcSync k jobs ⟨a, a⟩ f = (⟨a, a⟩, true) ∧ (f = false ∨ k = .error)) ∨
       (jcSync k jobs ⟨a, a⟩ f = (⟨bumpRv a, bumpRv a⟩, true) ∧ f = true ∧ k = .conflict))) ∨
    (computeStatus a (listJobs jobs a) ≠ a.status ∧
      ((jcSync k jobs ⟨a, a⟩ f = (⟨written jobs a, written jobs a⟩, true) ∧ f = false) ∨
       (jcSync k jobs ⟨a, a⟩ f = (⟨a, a⟩, false) ∧ f = true ∧ k = .error) ∨
       (jcSync k jobs ⟨a, a⟩ f = (⟨bumpRv a, bumpRv a⟩, false) ∧ f = true ∧ k = .conflict))) := by
  -- eight cases (status up to date or not, fault or not, kind of fault): evaluate the pass in each
  by_cases hst : computeStatus a (listJobs jobs a) = a.status <;> cases f <;> cases k <;>
    simp [jcSync, jcPass, jcCatchUp, syncCore, hst, outcomeOk, writeStatus, written, bumpRv]

theorem computeStatus_bumpRv (a : JobConfig) (rjs : List JcStatus.Job) :
    computeStatus (bumpRv a) rjs = computeStatus a rjs := rfl

theorem listJobs_bumpRv (jobs : List JcStatus.Job) (a : JobConfig) : listJobs jobs (bumpRv a) = listJobs jobs a := rfl

/-- `C15.sync_fixpoint` in the vocabulary of this file: the written object is a fixpoint -/
theorem written_fix (jobs : List JcStatus.Job) (a : JobConfig) :
    computeStatus (written jobs a) (listJobs jobs (written jobs a)) = (written jobs a).status :=
  C15.sync_fixpoint a (listJobs jobs a)

/-- every state the loop visits from an up-to-date cache has an up-to-date cache -/
theorem jcSync_inv (k : JcFault) (jobs : List JcStatus.Job) (s : JcSt) (f : Bool) : JcInv (jcSync k jobs s f).1 := rfl

/-- the level the reconciler reacts to, together with what a fault-free pass would write -/
def jcLevel (jobs : List JcStatus.Job) (s : JcSt) : String × String × String × Sched × Status :=
  (s.api.ns, s.api.name, s.api.uid, s.api.sched, computeStatus s.api (listJobs jobs s.api))

/-- the observable outcome: the object without its resourceVersion -/
def jcObs (s : JcSt) : String × String × String × Sched × Status :=
  (s.api.ns, s.api.name, s.api.uid, s.api.sched, s.api.status)

theorem jcSync_level (k : JcFault) (jobs : List JcStatus.Job) (s : JcSt) (f : Bool) (hs : JcInv s) :
    jcLevel jobs (jcSync k jobs s f).1 = jcLevel jobs s := by
  obtain ⟨a, c⟩ := s
  have : c = a := hs
  subst this
  rcases jcSync_cases k jobs c f with ⟨_, ⟨h, _⟩ | ⟨h, _⟩⟩ | ⟨_, ⟨h, _⟩ | ⟨h, _⟩ | ⟨h, _⟩⟩ <;> rw [h]
  · rfl
  · show (_, _, _, _, computeStatus (written jobs c) (listJobs jobs (written jobs c))) = _
    rw [written_fix]; rfl
  · rfl

/-- the actions of `C15.stepSys` that make up one `jcSync` from `⟨a, [a]⟩` -/
def jcActs (k : JcFault) (jobs : List JcStatus.Job) (a : JobConfig) (f : Bool) : List C15.Act :=
  if f then
    match k with
    | .error => []                                      -- nothing reaches the server
    | .conflict => [.edit a.sched, .sync 1 jobs]        -- foreign write, then the stale sync
  else [.sync 0 jobs]

theorem jcSync_sim (k : JcFault) (jobs : List JcStatus.Job) (a : JobConfig) (f : Bool) :
    (jcSync k jobs ⟨a, a⟩ f).1.api = (C15.runSys true ⟨a, [a]⟩ (jcActs k jobs a f)).api := by
  cases f with
  | false => rfl
  | true => cases k <;> rfl

theorem single_wf (a : JobConfig) : (C15.Sys.mk a [a]).WF := by
  intro v hv
  simp only [List.mem_singleton] at hv
  subst hv
  exact ⟨Nat.le_refl _, fun _ => rfl⟩

/-- the preorder "neither maximum moved backwards" on the API object of the instance state -/
def MaxLe (s t : JcSt) : Prop :=
  optLe s.api.status.lastScheduled t.api.status.lastScheduled ∧
  optLe s.api.status.lastExecuted t.api.status.lastExecuted

/-- one pass (fault or not) never moves a maximum backwards — by `C15.maxima_survive_deletion_occ`
applied to the C15 run that the pass is -/
theorem jcSync_maxLe (k : JcFault) (jobs : List JcStatus.Job) (s : JcSt) (f : Bool) (hs : JcInv s) :
    MaxLe s (jcSync k jobs s f).1 := by
  obtain ⟨a, c⟩ := s
  have : c = a := hs
  subst this
  have h := C15.maxima_survive_deletion_occ ⟨c, [c]⟩ (jcActs k jobs c f) (single_wf c)
  unfold MaxLe
  rw [jcSync_sim]
  exact h

end Furiko.Conv
