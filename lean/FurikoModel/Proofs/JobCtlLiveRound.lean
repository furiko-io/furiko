/-
Liveness of the job controller: THE CONTROLLER HALF OF A ROUND UNDER ANY FAULT LIST, and one fair round as the
case of no fault list.
* `pass_uniform` / `pass_failed`: the pass from a `PState` `e` whose fault list was replaced by `fs`
  (`withFaults`), uniformly in what the creation stage did: the status is recomputed as without faults and
  written, or nothing is written and the pass leaves a back-off timer; either way the state after the step
  (unconsumed faults dropped) has the `PassOut` facts.  A call fails only when a fault is pending: with `fs = []`
  the step is the `work` step of `e` itself.
* `ctl_faulted`: the five cases of the pass, by what its creation stage does.  The invariant holds after
  `setFaults fs ; work ; setFaults [] ; deliverAll`; the Job is final, or still unfinished with the key armed; the
  server carries exactly what the pass without faults writes (`RefsStep`) — and without faults the variant, read
  at pass time (`muP`), has gone down — or a fault was consumed and the server carries the status it had (a pod of
  the next attempt possibly created but not recorded).
* Hence one fair round keeps the invariant and finishes the Job or decreases the variant (`round_busy`), and at
  most `mu` rounds reach a final state (`rounds_converge`).
Core Lean only.
-/
import FurikoModel.Proofs.JobCtlLiveFaultCalls

set_option linter.unusedSimpArgs false
set_option linter.unusedVariables false

namespace Furiko.JobCtl.Live
open Furiko Furiko.JobCtl Furiko.WQ Furiko.StatusLemmas Furiko.JobCtlPlan Furiko.Conv Furiko.ParallelLemmas

/-- the adversary replaces the fault list (`Action.setFaults`) -/
def withFaults (s : Sys) (fs : List String) : Sys := { s with faults := fs }

theorem withFaults_step (s : Sys) (fs : List String) : withFaults s fs = step s (.setFaults fs) := rfl

theorem withFaults_nil {s : Sys} (h : s.faults = []) : withFaults s [] = s := by
  unfold withFaults; cases s; simp_all

theorem dropFaults_nil {s : Sys} (h : s.faults = []) : dropFaults s = s := by
  unfold dropFaults; cases s; simp_all

/-- the state `SyncOne` runs in during the `work` step of `withFaults e fs` that popped `k` -/
def spF (e : Sys) (fs : List String) (k : String) (rest : List String) : Sys :=
  passStart (withFaults e fs) (popQ ((withFaults e fs).q.advance (withFaults e fs).clock) k rest)

/-- the pass-start state under faults shows the pass what `e` shows; stated once, since the unifier compares the
two states field by field before it reduces a projection -/
theorem spF_static (e : Sys) (fs : List String) (k : String) (rest : List String) :
    (spF e fs k rest).clock = e.clock ∧ (spF e fs k rest).d = e.d ∧ (spF e fs k rest).cfg = e.cfg ∧
    (spF e fs k rest).pods = e.pods ∧ (spF e fs k rest).podCache = e.podCache ∧ nowT (spF e fs k rest) = nowT e :=
  ⟨rfl, rfl, rfl, rfl, rfl, rfl⟩

theorem createOutF_notApplied (sp : Sys) (c : Call) : CreateOutF sp (notApplied sp c) [] :=
  ⟨rfl, rfl, rfl, rfl, rfl, rfl, rfl, rfl, by simp [notApplied, faultTail], by simp [notApplied, faultTail]⟩

theorem createOutF_created (sp : Sys) (jo : JobObj) (idx : PIndex) (retry : Int) :
    CreateOutF sp (createdF sp jo idx retry) [newPod jo idx retry (nowT sp)] :=
  ⟨rfl, rfl, rfl, rfl, rfl, rfl, rfl, rfl, rfl, rfl⟩

theorem PassOut.of_faults {jo : JobObj} {e w : Sys} {fs : List String} {st : JobStatus} {created : List PodObj}
    (h : PassOut jo (withFaults e fs) w st created) : PassOut jo e w st created :=
  ⟨h.job, h.jsync, h.psync, h.pods, h.clock, h.d, h.cfg, h.faults, h.wf, h.wrote⟩

section
variable {ok : Sys → Action → Prop} {j0 jo : JobObj} {F0 : Int} {e : Sys}

theorem PState.tasks_eq (h : PState ok j0 jo F0 e) (fs : List String) (q1 : WQ) :
    tasksForRefs (passStart (withFaults e fs) q1) jo jo.job.status.tasks = foundTasks e jo := by
  have := tasksForRefs_fresh (jo := jo) (s := passStart (withFaults e fs) q1) h.canon.fresh.podCache
    (fun p hp => (h.canon.pods.owned p hp).1) jo.job.status.tasks
  rw [this]; rfl

/-- the fields of `PassEnd` that a state reached from the pass-start state by the creation stage and
timers has -/
theorem passEnd_base (h : PState ok j0 jo F0 e) (fs : List String) (k : String) (rest : List String)
    (X s' : Sys) (created : List PodObj)
    (hX : CreateOutF (spF e fs k rest) X created)
    (hto : TimersOnly (jobKey jo) X s') :
    s'.job = some jo ∧ s'.jobEvs = [] ∧ s'.jobCache = some jo ∧ s'.pods = (withFaults e fs).pods ++ created ∧
    s'.podEvs = created.map PEv.upsert ∧ s'.podCache = (withFaults e fs).pods ∧ s'.clock = (withFaults e fs).clock ∧
    s'.d = (withFaults e fs).d ∧ s'.cfg = (withFaults e fs).cfg ∧ s'.q.queue = rest ∧
    s'.q.dirty = ((withFaults e fs).q.advance (withFaults e fs).clock).dirty.erase k ∧
    s'.q.processing = k :: ((withFaults e fs).q.advance (withFaults e fs).clock).processing := by
  have hc := h.canon
  have hst := hto.static
  obtain ⟨qq, hs'eq, tq1, tq2, tq3, _⟩ := hto
  have hqs : s'.q = qq := by rw [hs'eq]
  refine ⟨by rw [hst.job, hX.job]; exact hc.fresh.job, by rw [hst.jobEvs, hX.jobEvs]; exact hc.fresh.jobEvs,
    by rw [hst.jobCache, hX.jobCache]; exact hc.fresh.jobCache, by rw [hst.pods, hX.pods]; rfl, ?_,
    by rw [hst.podCache, hX.podCache]; exact hc.fresh.podCache, by rw [hst.clock, hX.clock]; rfl,
    by rw [hst.d, hX.d]; rfl, by rw [hst.cfg, hX.cfg]; rfl, by rw [hqs, tq1, hX.q]; rfl,
    by rw [hqs, tq2, hX.q]; rfl, by rw [hqs, tq3, hX.q]; rfl⟩
  rw [hst.podEvs, hX.podEvs]
  show e.podEvs ++ _ = _
  rw [hc.fresh.podEvs]; rfl

/-- **the creation stage failed**: the pass writes nothing and leaves a back-off timer -/
theorem pass_failed (h : PState ok j0 jo F0 e) (fs : List String) (k : String) (rest : List String)
    (hq : ((withFaults e fs).q.advance (withFaults e fs).clock).queue = k :: rest) (X : Sys) (created : List PodObj)
    (hX : CreateOutF (spF e fs k rest) X created)
    (hcreate : syncCreateTasks (spF e fs k rest)
      jo jo.job (foundTasks e jo) = (X, none))
    (hps : (created.map PEv.upsert).foldl applyPEv e.pods = e.pods ++ created) :
    PassOut jo e (dropFaults (work (withFaults e fs)).1) jo.job.status created ∧
    (dropFaults (work (withFaults e fs)).1).q.delayed ≠ [] := by
  have hc := h.canon
  have hwf := (Retry.advance_facts e.q e.clock hc.wf).1
  have hone := syncOne_failed (spF e fs k rest) X jo hc.fresh.jobCache hc.spec
    (by unfold spF; rw [h.tasks_eq]; exact hcreate)
  obtain ⟨b1, b2, b3, b4, b5, b6, b7, b8, b9, b10, b11, b12⟩ := passEnd_base h fs k rest X X created hX (TimersOnly.refl _ _)
  obtain ⟨po, pe, _⟩ := work_end (withFaults e fs) jo k rest X false jo.job.status created hwf hq hone
    ⟨Or.inl ⟨rfl, b1, b2⟩, b3, b4, b5, b6, b7, b8, b9, b10, b11, b12⟩ hps
  exact ⟨po.of_faults, pe rfl⟩

/-- the `work` step `W` of `withFaults e fs` when `fs = []`; `X` and `s1` are the states after the create call and
after the creation stage, `R` the recomputed Job -/
structure Unfaulted (jo : JobObj) (e W X s1 : Sys) (R : Job) (T1 : List Task) : Prop where
  /-- it is the `work` step of `e` itself: no fault was left to drop -/
  step : W = (work e).1
  /-- an unfinished Job whose tasks are all started or over: the pass arms no timer beyond those of the creation
  stage -/
  timers : R.status.condition.finished = none →
    (∀ t ∈ T1, t.ref.finishTimestamp.isSome = true ∨ t.ref.runningTimestamp.isSome = true) →
    (work e).1.q.delayed = s1.q.delayed
  /-- the status is unchanged: no status update is issued, so Job object, resourceVersion counter and call log are
  those the create call left (used for the fixpoint `round_done`) -/
  nowrite : R.status = jo.job.status → (work e).1.job = some jo ∧ (work e).1.rv = X.rv ∧ (work e).1.calls = X.calls

/-- what the creation stage of the pass of `withFaults e fs` did when it returned a task list -/
structure CreationStage (F0 : Int) (e : Sys) (jo : JobObj) (fs : List String) (k : String) (rest : List String)
    (X s1 : Sys) (created : List PodObj) (rjA : Job) (T1 : List Task) : Prop where
  /-- the state `X` after its create call: the pass-start state plus the pods `created` -/
  out : CreateOutF (spF e fs k rest) X created
  /-- … which holds no fault when none was set -/
  nofault : fs = [] → X.faults = []
  /-- on the way to its last state `s1` it only armed timers -/
  timers : TimersOnly (jobKey jo) X s1
  /-- its result: the Job `rjA` and the task list `T1` -/
  result : syncCreateTasks (spF e fs k rest) jo jo.job (foundTasks e jo) = (s1, some (rjA, T1))
  /-- `rjA` is the cached Job or its recomputed version -/
  job : rjA = jo.job ∨ rjA = recompute e.clock e.d jo.job T1
  tasks : TasksOK F0 e jo T1
  /-- the watch events of the created pods add them to the pod cache -/
  pods : (created.map PEv.upsert).foldl applyPEv e.pods = e.pods ++ created

/-- **the creation stage returned a task list** (`hq`: the key is ready; `hclockT`: the TTL has not elapsed): the
status is recomputed as without faults and written (the status update, if one is needed, is applied: the pass
succeeds or fails; a timer of `s1` survives), or the status update is not applied: nothing is written, the failed
pass leaves a back-off timer, and a fault was pending.  Without faults the first holds with `Unfaulted`. -/
theorem pass_uniform (h : PState ok j0 jo F0 e) (fs : List String) (k : String) (rest : List String)
    (hq : ((withFaults e fs).q.advance (withFaults e fs).clock).queue = k :: rest) (X s1 : Sys)
    (created : List PodObj) (rjA : Job) (T1 : List Task) (hcs : CreationStage F0 e jo fs k rest X s1 created rjA T1)
    (hclockT : e.clock < F0 + getTTLAfterFinished jo.job e.cfg) :
    (PassOut jo e (dropFaults (work (withFaults e fs)).1) (recompute e.clock e.d jo.job T1).status created ∧
      (s1.q.delayed ≠ [] → (dropFaults (work (withFaults e fs)).1).q.delayed ≠ []) ∧
      (fs = [] → Unfaulted jo e (dropFaults (work (withFaults e fs)).1) X s1 (recompute e.clock e.d jo.job T1) T1)) ∨
    (PassOut jo e (dropFaults (work (withFaults e fs)).1) jo.job.status created ∧
      (dropFaults (work (withFaults e fs)).1).q.delayed ≠ [] ∧ fs ≠ []) := by
  obtain ⟨hX, hXf, hs1, hcreate, hrjA, hT, hps⟩ := hcs
  have hc := h.canon
  have hwf := (Retry.advance_facts e.q e.clock hc.wf).1
  obtain ⟨s', hsync, hto, hex⟩ := pass_sync h (spF e fs k rest) X s1 created rjA T1 (spF_static e fs k rest).1 (spF_static e fs k rest).2.1
    (spF_static e fs k rest).2.2.1 hX hs1
    (by unfold spF; rw [h.tasks_eq]; exact hcreate) hrjA hT hclockT
  have hspec := eq_of_sameSpec (recompute_sameSpec e.clock e.d jo.job T1).1
  have hadm : (recompute e.clock e.d jo.job T1).admissionError = jo.job.admissionError := by rw [hspec]
  have hone := syncOne_simple (spF e fs k rest) jo s' (recompute e.clock e.d jo.job T1) hc.fresh.jobCache hsync hadm
  obtain ⟨b1, b2, b3, b4, b5, b6, b7, b8, b9, b10, b11, b12⟩ := passEnd_base h fs k rest X s' created hX (hs1.trans hto)
  have htimer : s1.q.delayed ≠ [] → s'.q.delayed ≠ [] := by
    intro hne
    obtain ⟨qq, hs'eq, _, _, _, _, _, tq6⟩ := hto
    cases hdd : s1.q.delayed with
    | nil => exact absurd hdd hne
    | cons x r =>
      obtain ⟨x', hx', _⟩ := tq6 x (by rw [hdd]; exact List.mem_cons_self)
      rw [hs'eq]
      intro hnil
      rw [hnil] at hx'; cases hx'
  have hst := (hs1.trans hto).static
  -- without faults the step is the `work` step of `e` itself, whatever state `Y` `SyncOne` left
  have hfe : ∀ (Y : Sys) (b : Bool), syncOne (spF e fs k rest) = (Y, b) → (s'.faults = [] → Y.faults = []) →
      (fs = [] → (dropFaults (work (withFaults e fs)).1).q.delayed = s'.q.delayed) →
      ((recompute e.clock e.d jo.job T1).status = jo.job.status → Y = s') →
      fs = [] → Unfaulted jo e (dropFaults (work (withFaults e fs)).1) X s1 (recompute e.clock e.d jo.job T1) T1 := by
    intro Y b hone hYf hdel hnw hfs
    obtain ⟨f1, f2, f3, f4⟩ := work_srv (withFaults e fs) k rest Y b hq hone
    have hW := dropFaults_nil (f1.trans (hYf (by rw [hst.faults]; exact hXf hfs)))
    have hdel := hdel hfs
    subst hfs
    rw [withFaults_nil hc.fresh.faults] at hW f2 f3 f4 hdel ⊢
    refine ⟨hW, fun hunf hall => by rw [← hW, hdel, hex hunf hall], fun hd => ?_⟩
    rw [f2, f3, f4, hnw hd, hst.rv, hst.calls]
    exact ⟨b1, rfl, rfl⟩
  by_cases hd : (recompute e.clock e.d jo.job T1).status = jo.job.status
  · -- no status update needed
    have hone' : syncOne (spF e fs k rest) = (s', true) := by rw [hone]; simp [hd]
    obtain ⟨po, _, pd⟩ := work_end (withFaults e fs) jo k rest s' true (recompute e.clock e.d jo.job T1).status created hwf hq
      hone' ⟨Or.inl ⟨hd, b1, b2⟩, b3, b4, b5, b6, b7, b8, b9, b10, b11, b12⟩ hps
    exact Or.inl ⟨po.of_faults, fun hne => by rw [pd rfl]; exact htimer hne,
      hfe s' true hone' id (fun _ => pd rfl) (fun _ => rfl)⟩
  · rcases apiUpdateJobStatus_cases s' jo (recompute e.clock e.d jo.job T1) b1 hd with ⟨hpend, c, hup⟩ | ⟨b, hup, hb⟩
    · -- not applied: the pass fails, nothing written
      have hone' : syncOne (spF e fs k rest) = (notApplied s' c, false) := by
        rw [hone]; simp only [ne_eq, hd, not_false_eq_true, ↓reduceIte, hup]
      obtain ⟨po, pe, _⟩ := work_end (withFaults e fs) jo k rest (notApplied s' c) false jo.job.status created hwf hq
        hone' ⟨Or.inl ⟨rfl, b1, b2⟩, b3, b4, b5, b6, b7, b8, b9, b10, b11, b12⟩ hps
      refine Or.inr ⟨po.of_faults, pe rfl, fun hfs => hpend ?_⟩
      rw [hst.faults]
      exact hXf hfs
    · -- applied (reported either way)
      have hone' : syncOne (spF e fs k rest) = (statusF s' jo (recompute e.clock e.d jo.job T1), b) := by
        rw [hone]; simp only [ne_eq, hd, not_false_eq_true, ↓reduceIte, hup]
      obtain ⟨po, pe, pd⟩ := work_end (withFaults e fs) jo k rest (statusF s' jo (recompute e.clock e.d jo.job T1)) b
        (recompute e.clock e.d jo.job T1).status created hwf hq hone'
        ⟨Or.inr ⟨written jo (recompute e.clock e.d jo.job T1) (s'.rv + 1), rfl, by show s'.jobEvs ++ _ = _; rw [b2]; rfl,
          rfl, rfl, rfl, rfl⟩, b3, b4, b5, b6, b7, b8, b9, b10, b11, b12⟩ hps
      refine Or.inl ⟨po.of_faults, fun hne => ?_, hfe _ b hone' (fun hf => by show s'.faults.tail = []; rw [hf]; rfl)
        (fun hfs => by rw [pd (hb (by rw [hst.faults]; exact hXf hfs))]; rfl) (fun e1 => absurd e1 hd)⟩
      cases b with
      | true => rw [pd rfl]; exact htimer hne
      | false => exact pe rfl

end

/-- the controller half of a round under the fault list `fs` -/
def ctlF (fs : List String) (e : Sys) : Sys := deliverAll (dropFaults (work (withFaults e fs)).1)

theorem ctlF_clock (fs : List String) (e : Sys) : (ctlF fs e).clock = e.clock :=
  (deliverAll_clock _).trans (work_clock (withFaults e fs))

section
variable {ok : Sys → Action → Prop} {j0 jo : JobObj} {F0 : Int} {e : Sys}

theorem ctlF_steps (hok : ∀ s a, fairEnv s a → ok s a) (hokF : ∀ s fs, ok s (.setFaults fs)) (fs : List String) :
    Steps ok j0 e (dropFaults (work (withFaults e fs)).1) := by
  have h1 : Steps ok j0 e (withFaults e fs) := .step (.setFaults fs) (.refl e) (hokF _ _) trivial
  have h2 : Steps ok j0 e (work (withFaults e fs)).1 := .step .work h1 (hok _ _ trivial) trivial
  exact .step (.setFaults []) h2 (hokF _ _) trivial

/-- what the controller half of a round under `fs` did: the server carries exactly what the pass without faults
writes — and without faults the step is the `work` step itself and the variant has gone down —, or a fault was
consumed and the server carries the status it had (a pod of the next attempt possibly created, not recorded) -/
def FaultOutcome (fs : List String) (e : Sys) (jo jo' : JobObj) (W : Sys) : Prop :=
  (RefsStep e jo jo' W ∧ (fs = [] → W = deliverAll (work e).1 ∧ (Busy jo' W → mu jo' W < muP jo e))) ∨
  (fs ≠ [] ∧ jo'.job = jo.job ∧
    (W.pods = e.pods ∨ W.pods = e.pods ++ [newPod jo e.d jo.job.status.tasks.length (nowT e)]))

/-- **the controller half of a round under any fault list** -/
theorem ctl_faulted (hok : ∀ s a, fairEnv s a → ok s a) (fs : List String)
    (hokF : fs = [] ∨ ∀ s fs, ok s (.setFaults fs)) (h : PState ok j0 jo F0 e) (hr : Ready e) (hunf : jo.job.status.condition.finished = none)
    (hshape : DeadOrLive jo)
    (hclockT : e.clock < F0 + getTTLAfterFinished jo.job e.cfg) :
    ∃ jo' st, After ok j0 F0 e jo st jo' (ctlF fs e) ∧ (Busy jo' (ctlF fs e) ∨ Done jo' (ctlF fs e)) ∧
      FaultOutcome fs e jo jo' (ctlF fs e) := by
  have hc := h.canon
  obtain ⟨_, hdel0, k, rest, hq⟩ := h.ready hr
  -- the state after the step is reached by the `work` step alone when no fault list was set
  have stepsW : (fs = [] → dropFaults (work (withFaults e fs)).1 = (work e).1) →
      Steps ok j0 e (dropFaults (work (withFaults e fs)).1) := fun hfe =>
    hokF.elim (fun hfs => (hfe hfs).symm ▸ work_steps hok e) (fun hF => ctlF_steps hok hF fs)
  have hq' : ((withFaults e fs).q.advance (withFaults e fs).clock).queue = k :: rest := hq
  obtain ⟨pclk, pd, _, ppods, ppc, pnow⟩ := spF_static e fs k rest
  have hW : dropFaults (work (withFaults e fs)).1 = (work e).1 → ctlF fs e = deliverAll (work e).1 := fun hw => by
    unfold ctlF; rw [hw]
  -- a pass that wrote nothing and left a timer
  have finishU : ∀ (created : List PodObj),
      PassOut jo e (dropFaults (work (withFaults e fs)).1) jo.job.status created →
      (created = [] ∨ (created = [newPod jo e.d jo.job.status.tasks.length (nowT e)] ∧
        findPod e.pods (taskName jo.name e.d.hash jo.job.status.tasks.length) = none ∧
        (jo.job.status.tasks.length : Int) < jo.job.maxAttempts ∧ ∀ r ∈ jo.job.status.tasks, Dead r)) →
      (dropFaults (work (withFaults e fs)).1).q.delayed ≠ [] → fs ≠ [] →
      ∃ jo' st, After ok j0 F0 e jo st jo' (ctlF fs e) ∧ (Busy jo' (ctlF fs e) ∨ Done jo' (ctlF fs e)) ∧
        FaultOutcome fs e jo jo' (ctlF fs e) := by
    intro created hpo hcr hdl hne
    obtain ⟨jo', haf, hbusy, hpods⟩ := unwritten hok h _ (ctlF_steps hok (hokF.resolve_left hne) fs) hunf hshape created hpo hcr
      (armed_of hpo (Or.inr hdl))
    refine ⟨jo', _, haf, Or.inl hbusy, Or.inr ⟨hne, haf.job, ?_⟩⟩
    rcases hcr with e1 | ⟨e1, _⟩
    · left; show (deliverAll _).pods = _; rw [hpods, e1, List.append_nil]
    · right; show (deliverAll _).pods = _; rw [hpods, e1]
  by_cases hcomp : (getParallelTaskSummary e.d jo.job (refreshedRefs e jo)).complete = true
  · -- complete: nothing to create
    rcases pass_uniform h fs k rest hq' _ _ [] jo.job (foundTasks e jo) ⟨CreateOutF.refl _, fun hfs => hfs, TimersOnly.refl _ _,
      create_complete h (spF e fs k rest) (ppc.trans hc.fresh.podCache) pd pclk hcomp, Or.inl rfl, h.tasksOK_found, by simp⟩
      hclockT with ⟨hpo, _, hfe⟩ | ⟨hpo, hdl, hne⟩
    · obtain ⟨jo', haf, hdone, hrs, _⟩ := core_complete hok h _ (stepsW fun hfs => (hfe hfs).step) hcomp hpo
      obtain ⟨f, hf, _⟩ := hdone.fin
      exact ⟨jo', _, haf, Or.inr hdone, Or.inl ⟨hrs, fun hfs => ⟨hW (hfe hfs).step, fun hb => by rw [hb.unfinished] at hf; cases hf⟩⟩⟩
    · exact finishU [] hpo (Or.inl rfl) hdl hne
  · have hc' : (getParallelTaskSummary e.d jo.job (refreshedRefs e jo)).complete = false := by simpa using hcomp
    obtain ⟨_, hlt, hnfin⟩ := notcomplete_facts h hshape hc'
    by_cases hfound : jo.job.status.tasks.any refActiveOrSuccessful = true
    · -- a live attempt is recorded: refresh only; the variant goes down since that attempt is over now
      obtain ⟨r0, hr0, hlive⟩ := live_of_found hshape hfound
      have hcreate := syncCreateTasks_noreq (spF e fs k rest) jo (foundTasks e jo) hc.spec (by rw [pd, pclk]; exact hc')
        (Or.inl hfound)
      rw [updateTaskRefStatus_snd, pd, pclk] at hcreate
      rcases pass_uniform h fs k rest hq' _ _ [] _ (foundTasks e jo) ⟨CreateOutF.refl _, fun hfs => hfs,
        updateTaskRefStatus_fst _ (jobKey jo) jo.job (foundTasks e jo), hcreate, Or.inr rfl, h.tasksOK_found, by simp⟩ hclockT with ⟨hpo, _, hfe⟩ | ⟨hpo, hdl, hne⟩
      · obtain ⟨jo', haf, hbusy, hrs⟩ := core_refreshed hok h _ (stepsW fun hfs => (hfe hfs).step) hshape hc' hpo
          (armed_of hpo (Or.inl (refreshed_ne h hr0 hlive)))
        refine ⟨jo', _, haf, Or.inl hbusy, Or.inl ⟨hrs, fun hfs => ⟨hW (hfe hfs).step, fun _ => ?_⟩⟩⟩
        rw [mu_refreshed h (W := ctlF fs e) haf, muP_live hr0 hlive]
        exact Nat.lt_succ_of_le (Nat.sub_le _ _)
      · exact finishU [] hpo (Or.inl rfl) hdl hne
    · have hf : jo.job.status.tasks.any refActiveOrSuccessful = false := by simpa using hfound
      have hdead := allDead_of_notfound hshape hf
      have hlt' : nextRetryIndex e.d jo.job.status.tasks e.d.hash < jo.job.maxAttempts := by rw [hc.nextRetry]; exact hlt
      have hm' : (theReq (spF e fs k rest).d jo.job).retryIndex = (jo.job.status.tasks.length : Int) := hc.nextRetry
      by_cases hduereq : DueReq e.clock (theReq e.d jo.job).earliest
      · -- one more attempt is recorded: the variant goes down
        have hvar : ∀ {t : Task} {jo' : JobObj}, NextTask F0 e jo t →
            After ok j0 F0 e jo (recompute e.clock e.d jo.job (foundTasks e jo ++ [t])).status jo' (ctlF fs e) →
            mu jo' (ctlF fs e) < muP jo e := fun hn haf => by
          rw [muP_dead hdead, if_pos hduereq]
          -- `n + 1` attempts after, `n < maxAttempts` before
          exact Nat.lt_of_le_of_lt (mu_next h hn haf) (by omega)
        cases htk : findPod e.pods (taskName jo.name e.d.hash jo.job.status.tasks.length) with
        | none =>
          -- the next attempt is to be created
          have hn := h.nextTask_new
          rcases apiCreatePod_cases (spF e fs k rest) jo (spF e fs k rest).d
              (theReq (spF e fs k rest).d jo.job).retryIndex (by rw [hm', ppods, pd]; exact htk)
            with ⟨hne, c, hcr⟩ | ⟨hne, hcr⟩ | hcr
          · -- not applied
            have hcreate := syncCreateTasks_failed (spF e fs k rest) _ jo (foundTasks e jo) hc.spec hc' hf hlt' hduereq hcr
            obtain ⟨hpo, hdl⟩ := pass_failed h fs k rest hq' _ [] (createOutF_notApplied _ c) hcreate (by simp)
            exact finishU [] hpo (Or.inl rfl) hdl hne
          · -- applied, reported failed: the pod exists, unrecorded
            have hcreate := syncCreateTasks_failed (spF e fs k rest) _ jo (foundTasks e jo) hc.spec hc' hf hlt' hduereq hcr
            rw [hm', pd] at hcreate
            obtain ⟨hpo, hdl⟩ := pass_failed h fs k rest hq' _ _ (pnow ▸ createOutF_created _ jo _ _) hcreate
              (applyPEv_fresh _ _ htk)
            exact finishU _ hpo (Or.inr ⟨rfl, htk, hlt, hdead⟩) hdl hne
          · -- applied and reported: the pass goes on to record it
            have hcs := syncCreateTasks_created (spF e fs k rest) _ jo (foundTasks e jo) hc.spec hc' hf hlt' hduereq hcr
            rw [updateTaskRefStatus_snd, (armEarliest_timersOnly _ (jobKey jo) _).static.clock,
              (armEarliest_timersOnly _ (jobKey jo) _).static.d, hm', (createdF_static _ jo _ _).1,
              (createdF_static _ jo _ _).2, pclk, pd, pnow] at hcs
            have hX : CreateOutF (spF e fs k rest) (createdF (spF e fs k rest) jo e.d jo.job.status.tasks.length)
                [newPod jo e.d jo.job.status.tasks.length (nowT e)] := pnow ▸ createOutF_created _ jo _ _
            rcases pass_uniform h fs k rest hq' _ _ [newPod jo e.d jo.job.status.tasks.length (nowT e)] _
              (foundTasks e jo ++ [newTask jo e.d jo.job.status.tasks.length (nowT e)])
              ⟨hX, fun hfs => by show fs.tail = []; rw [hfs]; rfl,
                (armEarliest_timersOnly _ (jobKey jo) _).trans (updateTaskRefStatus_fst _ (jobKey jo) jo.job _),
                hcs, Or.inr rfl, hn.tasksOK h, applyPEv_fresh _ _ htk⟩ hclockT with ⟨hpo, _, hfe⟩ | ⟨hpo, hdl, hne⟩
            · obtain ⟨jo', haf, hbusy, hrs⟩ := core_created hok h _ (stepsW fun hfs => (hfe hfs).step) hdead htk hpo
                (armed_of hpo (Or.inl (next_ne h hn)))
              exact ⟨jo', _, haf, Or.inl hbusy, Or.inl ⟨hrs, fun hfs => ⟨hW (hfe hfs).step, fun _ => hvar hn haf⟩⟩⟩
            · exact finishU _ hpo (Or.inr ⟨rfl, htk, hlt, hdead⟩) hdl hne
        | some p =>
          -- the name is taken by an unrecorded task of the Job
          have hpm := findPod_some htk
          obtain ⟨t, ht⟩ := podTask_of_noPanic (hc.pods.sane p hpm.1).1
          obtain ⟨hn, _, _⟩ := h.nextTask_adopted htk ht
          rcases apiCreatePod_taken_cases (spF e fs k rest) jo (spF e fs k rest).d
              (theReq (spF e fs k rest).d jo.job).retryIndex p (by rw [hm', ppods, pd]; exact htk)
            with ⟨hne, c, hcr⟩ | ⟨c, hcr⟩
          · have hcreate := syncCreateTasks_failed (spF e fs k rest) _ jo (foundTasks e jo) hc.spec hc' hf hlt' hduereq hcr
            obtain ⟨hpo, hdl⟩ := pass_failed h fs k rest hq' _ [] (createOutF_notApplied _ c) hcreate (by simp)
            exact finishU [] hpo (Or.inl rfl) hdl hne
          · have hcs := syncCreateTasks_existing (spF e fs k rest) _ jo (foundTasks e jo) hc.spec hc' hf hlt' hduereq p t hcr
              (by rw [hm', (notApplied_static _ c).2.2, ppc, pd, hc.fresh.podCache]; exact htk) (hc.pods.owned p hpm.1).1
              (by rw [pclk]; exact ht)
            rw [updateTaskRefStatus_snd, (armEarliest_timersOnly _ (jobKey jo) _).static.clock,
              (armEarliest_timersOnly _ (jobKey jo) _).static.d, (notApplied_static _ c).1, (notApplied_static _ c).2.1,
              pclk, pd] at hcs
            rcases pass_uniform h fs k rest hq' _ _ [] _ (foundTasks e jo ++ [t])
              ⟨createOutF_notApplied _ c, fun hfs => by show fs.tail = []; rw [hfs]; rfl,
                (armEarliest_timersOnly _ (jobKey jo) _).trans (updateTaskRefStatus_fst _ (jobKey jo) jo.job _),
                hcs, Or.inr rfl, hn.tasksOK h, by simp⟩ hclockT with ⟨hpo, _, hfe⟩ | ⟨hpo, hdl, hne⟩
            · obtain ⟨jo', haf, hres, hrs⟩ := core_adopted hok h _ (stepsW fun hfs => (hfe hfs).step) hdead p t htk ht hpo
                (armed_of hpo (Or.inl (next_ne h hn)))
              exact ⟨jo', _, haf, hres.imp (·.1) id, Or.inl ⟨hrs, fun hfs => ⟨hW (hfe hfs).step, fun _ => hvar hn haf⟩⟩⟩
            · exact finishU [] hpo (Or.inl rfl) hdl hne
      · -- the request is not due: the retry timer is armed, and survives
        have hcreate := syncCreateTasks_notdue (spF e fs k rest) jo (foundTasks e jo) hc.spec (by rw [pd, pclk]; exact hc') hf
          (by rw [pd]; exact hlt') (by rw [pd, pclk]; exact hduereq)
        rw [updateTaskRefStatus_snd, (enqueueAfter_timersOnly _ (jobKey jo) _).static.clock,
          (enqueueAfter_timersOnly _ (jobKey jo) _).static.d, pd, pclk] at hcreate
        have hunf' : (recompute e.clock e.d jo.job (foundTasks e jo)).status.condition.finished = none :=
          (recompute_condition e.clock e.d jo.job (foundTasks e jo) hc.spec (after_found h).hash).2 hnfin
        rcases pass_uniform h fs k rest hq' _ _ [] _ (foundTasks e jo) ⟨CreateOutF.refl _, fun hfs => hfs,
          (enqueueAfter_timersOnly _ (jobKey jo) _).trans (updateTaskRefStatus_fst _ (jobKey jo) jo.job (foundTasks e jo)),
          hcreate, Or.inr rfl, h.tasksOK_found, by simp⟩ hclockT
          with ⟨hpo, htm, hfe⟩ | ⟨hpo, hdl, hne⟩
        · have hdl : (dropFaults (work (withFaults e fs)).1).q.delayed ≠ [] := by
            apply htm
            obtain ⟨qq, hs'eq, _, _, _, _, _, tq6⟩ := updateTaskRefStatus_fst (enqueueAfter (spF e fs k rest) (jobKey jo)
              (theReq e.d jo.job).earliest) (jobKey jo) jo.job (foundTasks e jo)
            obtain ⟨dl, hm, _⟩ := setDelayed_self (spF e fs k rest).q.delayed (jobKey jo)
              (if (theReq e.d jo.job).earliest < (spF e fs k rest).clock + 1000000000 then (spF e fs k rest).clock + 1000000000
               else (theReq e.d jo.job).earliest)
            obtain ⟨x', hx', _⟩ := tq6 (jobKey jo, dl) hm
            rw [hs'eq]
            intro hnil
            rw [hnil] at hx'; cases hx'
          obtain ⟨jo', haf, hbusy, hrs⟩ := core_refreshed hok h _ (stepsW fun hfs => (hfe hfs).step) hshape hc' hpo (armed_of hpo (Or.inr hdl))
          refine ⟨jo', _, haf, Or.inl hbusy, Or.inl ⟨hrs, fun hfs => ⟨hW (hfe hfs).step, fun _ => ?_⟩⟩⟩
          -- without faults exactly one timer is left, the retry timer, at or after the request's earliest time
          have hwd : (ctlF fs e).q.delayed = [(jobKey jo,
              if (theReq e.d jo.job).earliest < e.clock + 1000000000 then e.clock + 1000000000
              else (theReq e.d jo.job).earliest)] := by
            unfold ctlF
            rw [(deliverAll_spec _ hpo.psync hpo.jsync).2.2.2.2.2.delayed, (hfe hfs).step,
              (hfe hfs).timers hunf' (fun t ht => Or.inl (h.found_facts t ht).2.1),
              updateTaskRefStatus_fst_unfinished (enqueueAfter (spF e fs k rest) (jobKey jo) (theReq e.d jo.job).earliest)
                (jobKey jo) jo.job (foundTasks e jo) (by rw [(enqueueAfter_timersOnly _ _ _).static.clock,
                  (enqueueAfter_timersOnly _ _ _).static.d, pclk, pd]; exact hunf')]
            show setDelayed (e.q.advance e.clock).delayed _ _ = _
            rw [hdel0]
            rfl
          have hda : dueOrArmed (ctlF fs e) (theReq (ctlF fs e).d jo'.job).earliest = true := by
            unfold dueOrArmed
            rw [hwd, earliest_same h hdead (W := ctlF fs e) haf]
            simp only [List.any_cons, List.any_nil, Bool.or_false, Bool.or_eq_true, decide_eq_true_eq]
            right
            split
            · rename_i hx; exact Int.le_of_lt hx
            · exact Int.le_refl _
          rw [mu_refreshed h (W := ctlF fs e) haf, hda, muP_dead hdead, if_neg hduereq]
          exact Nat.sub_lt_sub_left (Nat.succ_pos _) Nat.one_pos
        · exact finishU [] hpo (Or.inl rfl) hdl hne

end

section
variable {ok : Sys → Action → Prop} {j0 jo : JobObj} {F0 : Int} {s : Sys}

/-- **one fair round on an unfinished Job**: the invariant is kept (for a Job `jo'` of the same name), and either
the Job is finished and the state final, or the Job is still unfinished and the variant has gone down.  The TTL
setting and the config are unchanged (so the TTL bound of the next round is this round's).  The last four
conjuncts say how the round went, for properties carried along the rounds (`Truth`, see `rounds_converge_with`):
the pass started in `jump (envState orc s)`, a `PState` whose pods are the swept pods of `s`, and its refs and pods
became those of the round's last state by `RefsStep`. -/
theorem round_busy (hok : ∀ s a, fairEnv s a → ok s a) (orc : String → Outcome) (h : Canon ok j0 jo F0 s)
    (hb : Busy jo s) (hT : (round orc s).clock < F0 + getTTLAfterFinished jo.job s.cfg) :
    ∃ jo', jo'.name = jo.name ∧ Canon ok j0 jo' F0 (round orc s) ∧
      ((Busy jo' (round orc s) ∧ mu jo' (round orc s) < mu jo s) ∨ Done jo' (round orc s)) ∧
      jo'.job.ttlSecondsAfterFinished = jo.job.ttlSecondsAfterFinished ∧ (round orc s).cfg = s.cfg ∧
      RefsStep (jump (envState orc s)) jo jo' (round orc s) ∧
      (jump (envState orc s)).pods = s.pods.map (sweepPod orc) ∧ (jump (envState orc s)).d = s.d ∧
      PState ok j0 jo F0 (jump (envState orc s)) := by
  obtain ⟨hps, hready, hpods, hd, hcfg, hmu⟩ := round_front hok orc h hb
  obtain ⟨jo', st, haf, hres, hout⟩ := ctl_faulted hok [] (Or.inl rfl) hps hready hb.unfinished hb.shape
    (by rw [hcfg, ← round_clock]; exact hT)
  -- no fault list: the controller half is the `work` step and the deliveries, and it wrote what it computed
  rcases hout with ⟨hrs, hfe⟩ | ⟨hne, _⟩
  · obtain ⟨hW, hvar⟩ := hfe rfl
    rw [show round orc s = ctlF [] (jump (envState orc s)) from hW.symm]
    exact ⟨jo', haf.name, haf.canon, hres.imp (fun hbusy => ⟨hbusy, Nat.lt_of_lt_of_le (hvar hbusy) hmu⟩) id,
      by rw [haf.job], haf.cfg.trans hcfg, hrs, hpods, hd, hps⟩
  · exact absurd rfl hne

/-- **fair rounds converge**: from a state of the invariant with an unfinished Job, at most `mu` fair rounds
reach a final state — provided the TTL (counted from the lower bound `F0` on all finish times) has not
elapsed when a round's pass runs.  Any property `P` of (cached Job, state) that a round on an unfinished
Job preserves holds in the final state too. -/
theorem rounds_converge_with (hok : ∀ s a, fairEnv s a → ok s a) (orc : String → Outcome) (P : JobObj → Sys → Prop)
    (hP : ∀ (jo jo' : JobObj) (s : Sys), Canon ok j0 jo F0 s → Busy jo s → P jo s → jo'.name = jo.name →
      Canon ok j0 jo' F0 (round orc s) → RefsStep (jump (envState orc s)) jo jo' (round orc s) →
      (jump (envState orc s)).pods = s.pods.map (sweepPod orc) → (jump (envState orc s)).d = s.d →
      PState ok j0 jo F0 (jump (envState orc s)) → P jo' (round orc s)) :
    ∀ (fuel : Nat) (jo : JobObj) (s : Sys), Canon ok j0 jo F0 s → Busy jo s → P jo s → mu jo s ≤ fuel →
      (∀ k, k < fuel → (roundN orc (k + 1) s).clock < F0 + getTTLAfterFinished jo.job s.cfg) →
      ∃ k, k ≤ mu jo s ∧ 1 ≤ k ∧ ∃ jo', jo'.name = jo.name ∧ Canon ok j0 jo' F0 (roundN orc k s) ∧
        Done jo' (roundN orc k s) ∧ P jo' (roundN orc k s) ∧
        (roundN orc k s).clock < F0 + getTTLAfterFinished jo'.job (roundN orc k s).cfg
  | 0, jo, s, h, hb, _, hmu, hT => absurd (mu_pos jo s) (by omega)
  | fuel + 1, jo, s, h, hb, hp, hmu, hT => by
    obtain ⟨jo', hn, hcan, hres, httl, hcfg, hrs, hpods, hd, hps⟩ := round_busy hok orc h hb (hT 0 (Nat.succ_pos _))
    have hp' := hP jo jo' s h hb hp hn hcan hrs hpods hd hps
    have hTTLeq : getTTLAfterFinished jo'.job (round orc s).cfg = getTTLAfterFinished jo.job s.cfg := by
      unfold getTTLAfterFinished; rw [httl, hcfg]
    rcases hres with ⟨hbusy, hlt⟩ | hdone
    · obtain ⟨k, hk, _, jo'', hn'', hcan'', hdone'', hp'', httl''⟩ :=
        rounds_converge_with hok orc P hP fuel jo' (round orc s) hcan hbusy hp' (by omega)
        (by
          intro k hk
          rw [hTTLeq]
          exact hT (k + 1) (by omega))
      exact ⟨k + 1, by omega, by omega, jo'', hn''.trans hn, hcan'', hdone'', hp'', httl''⟩
    · exact ⟨1, mu_pos jo s, Nat.le_refl _, jo', hn, hcan, hdone, hp', hTTLeq ▸ hT 0 (Nat.succ_pos _)⟩

theorem rounds_converge (hok : ∀ s a, fairEnv s a → ok s a) (orc : String → Outcome)
    (fuel : Nat) (jo : JobObj) (s : Sys) (h : Canon ok j0 jo F0 s) (hb : Busy jo s) (hmu : mu jo s ≤ fuel)
    (hT : ∀ k, k < fuel → (roundN orc (k + 1) s).clock < F0 + getTTLAfterFinished jo.job s.cfg) :
    ∃ k, k ≤ mu jo s ∧ 1 ≤ k ∧ ∃ jo', jo'.name = jo.name ∧ Canon ok j0 jo' F0 (roundN orc k s) ∧ Done jo' (roundN orc k s) := by
  obtain ⟨k, h1, h2, jo', h3, h4, h5, _⟩ := rounds_converge_with hok orc (fun _ _ => True)
    (fun _ _ _ _ _ _ _ _ _ _ _ _ => trivial) fuel jo s h hb trivial hmu hT
  exact ⟨k, h1, h2, jo', h3, h4, h5⟩

end

end Furiko.JobCtl.Live
