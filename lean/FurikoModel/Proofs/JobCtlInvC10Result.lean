/-
Per-ref invariants along `Reconciler.sync`: a predicate on Job values that every rewrite of a pass keeps
(`PassInv`: refresh of the refs from tasks, status recomputation, deletion markers, admission-error
annotation) holds for the Job value the pass writes, provided it holds for the cached Job and the tasks
the pass works on satisfy the task predicate.  Every such task is read from a pod CONTROLLED BY THE JOB
that is in the pod cache or on the server when the pass starts, or is the pod the pass has just created
(`TaskSrc`).  `sync_passInv` is that statement; `statusInv_of_reach` lifts a pass invariant of the
status to every history.  Instances here (for `Props/C10Hist.lean`); the deletion markers are in
`JobCtlInvC12Marker`:

* `SuccJust`: a ref that carries the result `Succeeded` — in its `status` or in its `deletedStatus`, which
  `GetTaskRef` fills from the task's terminal status and `GenerateTaskRefs` turns back into the status of
  a vanished task — is justified: it carried it before the pass, or the pass read that result from a
  pod controlled by the Job (pod cache or server);
* `CountersOK`: `createdTasks = |tasks|`, `runningTasks = |{running ∧ ¬ finished}|`.
Core Lean only.
-/
import FurikoModel.Proofs.JobCtlInvC10Status

set_option linter.unusedSimpArgs false
set_option linter.unusedVariables false

namespace Furiko.JobCtl
open Furiko Furiko.WQ Furiko.JobCtlPlan

/-- a deletion-marker function: it only sets `deletedStatus`, to a `Terminated / Killed` marker or to
the marker that was there with another reason -/
def MarkFn (f : TaskRef → TaskRef) : Prop :=
  ∀ r, ∃ ds, f r = { r with deletedStatus := some ds } ∧
    ((ds.state = .terminated ∧ ds.result = .killed) ∨
     ∃ ds0, r.deletedStatus = some ds0 ∧ ds.state = ds0.state ∧ ds.result = ds0.result)

theorem markFn_const (st : TaskStatus) (h1 : st.state = .terminated) (h2 : st.result = .killed) :
    MarkFn (fun r => { r with deletedStatus := some st }) := fun r => ⟨st, rfl, Or.inl ⟨h1, h2⟩⟩

theorem markFn_force : MarkFn forceMarkRef := by
  intro r
  cases h : r.deletedStatus with
  | none =>
    refine ⟨{ state := .terminated, result := .killed, reason := "ForceDeleted" }, ?_, Or.inl ⟨rfl, rfl⟩⟩
    unfold forceMarkRef; rw [h]; rfl
  | some ds0 =>
    refine ⟨{ ds0 with reason := "ForceDeleted" }, ?_, Or.inr ⟨ds0, rfl, rfl, rfl⟩⟩
    unfold forceMarkRef; rw [h]; rfl

/-- `P` is kept by every rewrite a pass applies to the Job value; `T` is what the refresh needs of the
tasks -/
structure PassInv (P : Job → Prop) (T : Task → Prop) : Prop where
  refresh : ∀ (now : Time) (rj : Job) (tasks : List Task), P rj → (∀ t ∈ tasks, T t) →
    P (updateJobTaskRefs now rj tasks)
  status : ∀ (s : Sys) (key : String) (rj : Job), P rj → P (syncJobStatusFromTaskRefs s key rj).2
  mark : ∀ (rj : Job) (names : List String) (f : TaskRef → TaskRef), MarkFn f → P rj → P (markDeleted rj names f)
  ifNotSet : ∀ (rj : Job) (name : String) (st : TaskStatus), st.state = .terminated → st.result = .killed →
    P rj → P (updateTaskRefDeletedStatusIfNotSet rj name st)
  adm : ∀ rj, P rj → P { rj with admissionError := true }

/-- the task was read from a pod controlled by the Job: in the pod cache or on the server when the pass
starts, or the pod the pass created itself (`NewPod`: phase empty, no container status) -/
def TaskSrc (s : Sys) (jo : JobObj) (t : Task) : Prop :=
  ∃ p, podTask s.clock p = some t ∧ p.ownerUid = some jo.uid ∧
    (p ∈ s.podCache ∨ p ∈ s.pods ∨ ∃ idx retry, p = newPod jo idx retry (nowT s))

theorem tasksForRefs_src (s : Sys) (jo : JobObj) (refs : List TaskRef) :
    ∀ t ∈ tasksForRefs s jo refs, TaskSrc s jo t := by
  intro t ht
  unfold tasksForRefs at ht
  obtain ⟨r, _, hg⟩ := List.mem_filterMap.mp ht
  obtain ⟨p, hp, hpt, ho⟩ := getTaskForRef_owned hg
  refine ⟨p, hpt, ho, ?_⟩
  rcases hp with h | h
  · exact Or.inl (Furiko.JobCtl.findPod_some h).1
  · exact Or.inr (Or.inl (Furiko.JobCtl.findPod_some h).1)

theorem adopt_src (s : Sys) (jo jo' : JobObj) (hu : jo'.uid = jo.uid) (tasks : List Task)
    (ht : ∀ t ∈ tasks, TaskSrc s jo t) : ∀ t ∈ adoptUnrecordedTasks s jo' tasks, TaskSrc s jo t := by
  intro t hm
  rcases (mem_adoptUnrecordedTasks s jo' tasks t).mp hm with h | ⟨p, hp, hpt, _, ho, _⟩
  · exact ht t h
  · exact ⟨p, hpt, hu ▸ ho, Or.inl hp⟩

theorem finalizerTasks_src (s : Sys) (jo : JobObj) (rj : Job) : ∀ t ∈ finalizerTasks s jo rj, TaskSrc s jo t := by
  unfold finalizerTasks
  refine adopt_src s jo { jo with job := rj } rfl _ ?_
  intro t ht
  unfold tasksForRefsConfirmed at ht
  obtain ⟨r, _, hg⟩ := List.mem_filterMap.mp ht
  obtain ⟨p, hp, hpt, ho⟩ := getTaskForRefConfirmed_owned hg
  refine ⟨p, hpt, ho, ?_⟩
  rcases hp with h | h
  · exact Or.inl (Furiko.JobCtl.findPod_some h).1
  · exact Or.inr (Or.inl (Furiko.JobCtl.findPod_some h).1)

/-- the instance of `PassWalk` (`Proofs/JobCtlInvWalk.lean`) whose invariant does not look at the task
list beyond where its tasks come from: `P` of the Job value, `TaskSrc` of every task of the list -/
theorem PassInv.walk {P : Job → Prop} {T : Task → Prop} (hP : PassInv P T) (s : Sys) (jo : JobObj)
    (hT : ∀ t, TaskSrc s jo t → T t) (h0 : P jo.job) :
    PassWalk s jo (fun L rj => P rj ∧ ∀ t ∈ L, TaskSrc s jo t) where
  refresh := fun _ ⟨h, ht⟩ => ⟨hP.refresh _ _ _ h (fun t hm => hT t (ht t hm)), ht⟩
  status := fun now d ⟨h, ht⟩ =>
    ⟨syncJobStatusFromTaskRefs_job { s with clock := now, d := d } "" _ ▸ hP.status _ "" _ h, ht⟩
  pending := fun _ _ ⟨h, ht⟩ => ⟨hP.mark _ _ _ (markFn_const pendingStatus rfl rfl) h, ht⟩
  kill := fun ⟨h, ht⟩ => ⟨hP.mark _ _ _ (markFn_const killedStatus rfl rfl) h, ht⟩
  force := fun _ ⟨h, ht⟩ => ⟨hP.mark _ _ _ markFn_force h, ht⟩
  jobDeleted := fun _ ⟨h, ht⟩ => ⟨hP.ifNotSet _ _ _ rfl rfl h, ht⟩
  start := ⟨h0, tasksForRefs_src s jo _⟩
  adopt := fun _ _ ⟨h, ht⟩ => ⟨h, adopt_src s jo jo rfl _ ht⟩
  created := by
    intro reqs rj' new _ _ _ _ _ ha _ hn
    refine ⟨?_, fun t hm => ?_⟩
    · rcases ha with rfl | ⟨rfl, _⟩
      · exact h0
      · exact hP.adm _ h0
    · rcases List.mem_append.mp hm with h | h
      · exact tasksForRefs_src s jo _ t h
      · obtain ⟨x, hx, rfl⟩ := List.mem_map.mp h
        obtain ⟨p, hpt, _, ho, hsrc⟩ := hn x hx
        exact ⟨p, hpt, ho, hsrc.elim (fun h' => Or.inr (Or.inr ⟨_, _, h'.1⟩)) Or.inl⟩
  finalizer := fun _ ⟨h, _⟩ => ⟨h, finalizerTasks_src s jo _⟩

/-- **the generic pass invariant**: if `P` is kept by every rewrite (`PassInv`), holds of the cached Job,
and `T` holds of every task read from a pod of the Job that the pass can see (`TaskSrc`), then `P` holds
of the Job value `sync` returns — the one the two final writes use. -/
theorem sync_passInv {P : Job → Prop} {T : Task → Prop} (hP : PassInv P T) (s : Sys) (jo : JobObj)
    (hT : ∀ t, TaskSrc s jo t → T t) (h0 : P jo.job) : P (sync s jo).2.1 :=
  (hP.walk s jo hT h0).sync_inv.elim fun _ h => h.1

theorem podTask_fields {now : Time} {p : PodObj} {t : Task} (h : podTask now p = some t) :
    t.name = p.pod.name ∧ t.ref.name = p.pod.name ∧ t.ref.status.result = p.pod.result ∧
    t.ref.deletedStatus = none ∧ t.ref.creationTimestamp = p.pod.creationTimestamp ∧
    t.deletionTimestamp = p.pod.deletionTimestamp := by
  obtain ⟨fin, _, rfl⟩ := podTask_eq_some h
  exact ⟨rfl, rfl, rfl, rfl, rfl, rfl⟩

theorem newPod_result (jo : JobObj) (idx : PIndex) (retry : Int) (tm : Time) :
    (newPod jo idx retry tm).pod.result = .none := by
  unfold newPod Pod.result Pod.isOOMKilled
  simp

/-- a property of the STATUS of the authoritative Job that holds of the created Job and that every pass
keeps is an invariant of every history (all actions) -/
theorem statusInv_of_reach {ok : Sys → Action → Prop} {j0 : JobObj} {s : Sys} (hr : Reach ok j0 s) (Q : Job → Prop)
    (hcongr : ∀ x y : Job, y.status = x.status → Q x → Q y) (hinit : WF j0 → Q j0.job)
    (hsync : ∀ (jo : JobObj) (sp : Sys), Q jo.job → Q (sync sp jo).2.1) : ∀ j, s.job = some j → Q j.job := by
  induction hr with
  | init c cfg d hwf =>
    intro j hj
    unfold initSys userCreateJob at hj
    simp only [Option.some.injEq] at hj
    subst hj
    exact hinit hwf
  | @step s1 a hr' _ hal ih =>
    intro j' hj'
    have hm := job_moves (base_of_reach hr') a hal
    cases hj : s1.job with
    | none => rw [hm.none_stays hj] at hj'; cases hj'
    | some j =>
      exact jobMoves_rel (fun x y => Q x → Q y) (fun _ h => h) (fun _ _ _ h1 h2 h => h2 (h1 h))
        (fun jo sp _ _ => hsync jo sp) (fun x y z h1 e h => hcongr y z e (h1 h)) hm j j' hj hj' (ih j hj)

/-- the ref says `Succeeded`: as its status, or as the terminal status kept in `deletedStatus` -/
def SuccMark (r : TaskRef) : Prop :=
  r.status.result = .succeeded ∨ ∃ ds, r.deletedStatus = some ds ∧ ds.result = .succeeded

instance (r : TaskRef) : Decidable (SuccMark r) := by
  unfold SuccMark
  cases h : r.deletedStatus with
  | none => exact decidable_of_iff (r.status.result = .succeeded) (by simp)
  | some ds => exact decidable_of_iff (r.status.result = .succeeded ∨ ds.result = .succeeded) (by simp)

/-- every `Succeeded` mark of the Job value is justified (`J` of the ref's name) -/
def SuccJust (J : String → Prop) (rj : Job) : Prop := ∀ r ∈ rj.status.tasks, SuccMark r → J r.name

/-- what the refresh needs of a task: a pod task (`GetTaskRef().Name = GetName()`, no deleted status of its
own) whose `Succeeded` result, if it reports one, is justified -/
def SuccTask (J : String → Prop) (t : Task) : Prop :=
  t.ref.name = t.name ∧ t.ref.deletedStatus = none ∧ (t.ref.status.result = .succeeded → J t.name)

theorem getTaskRef_status_cases (ex : TaskRef) (t : Task) :
    ((getTaskRef (some ex) t).status = t.ref.status ∨ (getTaskRef (some ex) t).status = ex.status) ∧
    ((getTaskRef (some ex) t).deletedStatus = ex.deletedStatus ∨
     (getTaskRef (some ex) t).deletedStatus = some t.ref.status) := by
  rw [getTaskRef_some]
  split
  · exact ⟨Or.inr rfl, Or.inl rfl⟩
  · refine ⟨Or.inl rfl, ?_⟩
    cases t.ref.finishTimestamp with
    | none => exact Or.inl rfl
    | some v => exact Or.inr rfl

theorem getTaskRef_none_cases (t : Task) :
    (getTaskRef none t).status = t.ref.status ∧
    ((getTaskRef none t).deletedStatus = t.ref.deletedStatus ∨ (getTaskRef none t).deletedStatus = some t.ref.status) := by
  rw [getTaskRef_none]
  split
  · exact ⟨rfl, Or.inr rfl⟩
  · exact ⟨rfl, Or.inl rfl⟩

theorem getTaskRef_succMark (e : Option TaskRef) (t : Task) (hd : t.ref.deletedStatus = none)
    (h : SuccMark (getTaskRef e t)) : t.ref.status.result = .succeeded ∨ ∃ ex, e = some ex ∧ SuccMark ex := by
  cases e with
  | none =>
    obtain ⟨h1, h2⟩ := getTaskRef_none_cases t
    rcases h with h | ⟨ds, hds, hr⟩
    · rw [h1] at h; exact Or.inl h
    · rcases h2 with h2 | h2
      · rw [h2, hd] at hds; cases hds
      · rw [h2] at hds; cases hds; exact Or.inl hr
  | some ex =>
    obtain ⟨h1, h2⟩ := getTaskRef_status_cases ex t
    rcases h with h | ⟨ds, hds, hr⟩
    · rcases h1 with h1 | h1
      · rw [h1] at h; exact Or.inl h
      · rw [h1] at h; exact Or.inr ⟨ex, rfl, Or.inl h⟩
    · rcases h2 with h2 | h2
      · rw [h2] at hds; exact Or.inr ⟨ex, rfl, Or.inr ⟨ds, hds, hr⟩⟩
      · rw [h2] at hds; cases hds; exact Or.inl hr

theorem lostRef_succMark (now : Time) (ex : TaskRef) (h : SuccMark (lostRef now ex)) : SuccMark ex := by
  have hds : (lostRef now ex).deletedStatus = ex.deletedStatus := by
    unfold lostRef
    simp only
    repeat' split
    all_goals rfl
  have hnone : ex.deletedStatus = none → (lostRef now ex).status.result = ex.status.result := by
    intro hd
    unfold lostRef
    rw [hd]
    simp only
    split <;> rfl
  have hsome : ∀ ds, ex.deletedStatus = some ds → (lostRef now ex).status = ds := by
    intro ds hd
    unfold lostRef
    rw [hd]
  rcases h with h | ⟨ds, hd, hr⟩
  · cases hd : ex.deletedStatus with
    | none => rw [hnone hd] at h; exact Or.inl h
    | some ds0 => rw [hsome ds0 hd] at h; exact Or.inr ⟨ds0, hd, h⟩
  · rw [hds] at hd; exact Or.inr ⟨ds, hd, hr⟩

theorem markFn_succMark {f : TaskRef → TaskRef} (hf : MarkFn f) (r : TaskRef) :
    (f r).name = r.name ∧ (SuccMark (f r) → SuccMark r) := by
  obtain ⟨ds, he, hds⟩ := hf r
  rw [he]
  refine ⟨rfl, ?_⟩
  rintro (h | ⟨ds', hds', hr⟩)
  · exact Or.inl h
  · simp only [Option.some.injEq] at hds'
    subst hds'
    rcases hds with ⟨_, hk⟩ | ⟨ds0, h0, _, hres⟩
    · rw [hk] at hr; cases hr
    · exact Or.inr ⟨ds0, h0, by rw [← hres]; exact hr⟩

theorem succJust_passInv (J : String → Prop) : PassInv (SuccJust J) (SuccTask J) where
  refresh := by
    intro now rj tasks hp ht r hr hs
    change r ∈ generateTaskRefs now rj.status.tasks tasks at hr
    rcases mem_generateTaskRefs hr with ⟨t, htm, rfl⟩ | ⟨ex, hex, _, rfl⟩
    · obtain ⟨hn, hd, hj⟩ := ht t htm
      rw [Furiko.StatusLemmas.getTaskRef_name, hn]
      rcases getTaskRef_succMark _ t hd hs with h | ⟨ex, he, hsx⟩
      · exact hj h
      · obtain ⟨hmem, hname⟩ := lookupRef_some he
        rw [← hname]; exact hp ex hmem hsx
    · rw [(lostRef_fields now ex).1]
      exact hp ex hex (lostRef_succMark now ex hs)
  status := by
    intro s key rj hp r hr hs
    rw [JobCtlPlan.syncJobStatus_tasks] at hr
    exact hp r hr hs
  mark := by
    intro rj names f hf hp r hr hs
    unfold markDeleted at hr
    simp only at hr
    obtain ⟨r0, hr0, rfl⟩ := List.mem_map.mp hr
    split at hs
    · rename_i hc
      simp only [hc, ↓reduceIte]
      rw [(markFn_succMark hf r0).1]
      exact hp r0 hr0 ((markFn_succMark hf r0).2 hs)
    · rename_i hc
      simp only [hc]
      exact hp r0 hr0 hs
  ifNotSet := by
    intro rj name st _ h2 hp r hr hs
    unfold updateTaskRefDeletedStatusIfNotSet at hr
    simp only at hr
    obtain ⟨r0, hr0, rfl⟩ := List.mem_map.mp hr
    split at hs
    · rename_i hc
      simp only [hc, ↓reduceIte]
      refine hp r0 hr0 ?_
      rcases hs with h | ⟨ds, hds, hres⟩
      · exact Or.inl h
      · simp only [Option.some.injEq] at hds
        subst hds
        rw [h2] at hres; cases hres
    · rename_i hc
      simp only [hc]
      exact hp r0 hr0 hs
  adm := fun rj hp => hp

/-- `createdTasks` is the number of refs, `runningTasks` the number of refs that are running and not
finished (`UpdateJobTaskRefs`) -/
def CountersOK (rj : Job) : Prop :=
  rj.status.createdTasks = rj.status.tasks.length ∧
  rj.status.runningTasks = ((rj.status.tasks.filter refIsRunning).length : Nat)

theorem filter_map_length_of_eq {α : Type} (p : α → Bool) (g : α → α) (hg : ∀ x, p (g x) = p x) :
    ∀ l : List α, ((l.map g).filter p).length = (l.filter p).length := by
  intro l
  induction l with
  | nil => rfl
  | cons x rest ih =>
    simp only [List.map_cons, List.filter_cons, hg x]
    split
    · simp only [List.length_cons, ih]
    · exact ih

theorem syncJobStatus_counters (s : Sys) (key : String) (rj : Job) :
    (syncJobStatusFromTaskRefs s key rj).2.status.createdTasks = rj.status.createdTasks ∧
    (syncJobStatusFromTaskRefs s key rj).2.status.runningTasks = rj.status.runningTasks := by
  rw [syncJobStatus_snd]
  unfold updateJobStatusFromTaskRefs updateJobStatusFromTaskRefsWith
  cases rj.template with
  | none => exact ⟨rfl, rfl⟩
  | some t => exact ⟨rfl, rfl⟩

theorem countersOK_passInv : PassInv CountersOK (fun _ => True) where
  refresh := fun now rj tasks _ _ => ⟨rfl, rfl⟩
  status := by
    intro s key rj hp
    obtain ⟨h1, h2⟩ := syncJobStatus_counters s key rj
    unfold CountersOK
    rw [h1, h2, JobCtlPlan.syncJobStatus_tasks]
    exact hp
  mark := by
    intro rj names f hf hp
    unfold CountersOK markDeleted
    simp only [List.length_map]
    refine ⟨hp.1, ?_⟩
    rw [filter_map_length_of_eq refIsRunning]
    · exact hp.2
    · intro r
      split
      · obtain ⟨ds, he, _⟩ := hf r
        rw [he]; rfl
      · rfl
  ifNotSet := by
    intro rj name st _ _ hp
    unfold CountersOK updateTaskRefDeletedStatusIfNotSet
    simp only [List.length_map]
    refine ⟨hp.1, ?_⟩
    rw [filter_map_length_of_eq refIsRunning]
    · exact hp.2
    · intro r
      split <;> rfl
  adm := fun rj hp => hp

/-- `CountersOK` of the authoritative Job is an invariant of every history (all actions), for a Job
created with `runningTasks = 0` -/
theorem countersOK_of_reach {ok : Sys → Action → Prop} {j0 : JobObj} {s : Sys} (hr : Reach ok j0 s)
    (hrun : j0.job.status.runningTasks = 0) : ∀ j, s.job = some j → CountersOK j.job := by
  refine statusInv_of_reach hr CountersOK (fun x y e h => by unfold CountersOK at *; rw [e]; exact h) ?_
    (fun jo sp h => sync_passInv countersOK_passInv sp jo (fun _ _ => trivial) h)
  intro hwf
  unfold CountersOK
  simp only [hwf.noTasks, hwf.noCreated, hrun]
  exact ⟨rfl, rfl⟩

end Furiko.JobCtl
