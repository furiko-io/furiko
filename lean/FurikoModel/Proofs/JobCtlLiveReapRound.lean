/-
Liveness of the job controller: THE ROUND WITH A COOPERATIVE KUBELET, shared by the kill and the delete proofs

    roundK s  =  deliverAll ; reap ; deliverAll ; work ; deliverAll

(`reap`: the kubelet finishes terminating every pod that carries a deletion timestamp), what its two halves do
to a fresh state (`envK_fresh`, `fresh_deliverAll`, `advance_ready`, `marked_ready`: a pass that marked a pod
leaves the key ready), and the way into such rounds from the Job's creation: the invariant of the fair rounds
after any finite run (`canon_after_rounds`) and a user's update of the Job object, delivered (`mutate_stage`).
Core Lean only.
-/
import FurikoModel.Proofs.JobCtlLiveKillPass

set_option linter.unusedSimpArgs false
set_option linter.unusedVariables false

namespace Furiko.JobCtl.Live
open Furiko Furiko.JobCtl Furiko.WQ Furiko.StatusLemmas Furiko.JobCtlPlan

variable {ok : Sys → Action → Prop} {j0 jo jo' : JobObj} {kt : Time} {F0 : Int} {s w : Sys}

/-- the pod stays on the server: it carries no deletion timestamp -/
def stays (p : PodObj) : Bool := p.pod.deletionTimestamp.isNone

def reapOne (s : Sys) (n : String) : Sys :=
  match findPod s.pods n with
  | some p => if p.pod.deletionTimestamp.isSome then step s (.podGone n) else s
  | none => s

/-- the kubelet finishes terminating every pod that carries a deletion timestamp -/
def reap (s : Sys) : Sys := (podNames s.pods).foldl reapOne s

theorem podNames_filter_nodup {l : List PodObj} (f : PodObj → Bool) (h : (podNames l).Nodup) :
    (podNames (l.filter f)).Nodup := by
  unfold podNames at *
  exact List.Nodup.sublist (List.Sublist.map _ List.filter_sublist) h

theorem reapOne_spec (s : Sys) (n : String) (hnd : (podNames s.pods).Nodup) :
    (reapOne s n).pods = s.pods.filter (fun x => !(decide (x.pod.name = n) && x.pod.deletionTimestamp.isSome)) ∧
    (reapOne s n).q = s.q ∧ (reapOne s n).faults = s.faults ∧ Frame s (reapOne s n) := by
  -- the filter keeps `x` when it is not named `n` or is not being deleted
  have hkeep : ∀ l : List PodObj, (∀ x ∈ l, x.pod.name = n → x.pod.deletionTimestamp.isSome = false) →
      l = l.filter (fun x => !(decide (x.pod.name = n) && x.pod.deletionTimestamp.isSome)) := fun l hl =>
    (List.filter_eq_self.mpr (fun x hx => by
      by_cases hxn : x.pod.name = n
      · simp [hxn, hl x hx hxn]
      · simp [hxn])).symm
  unfold reapOne
  cases hf : findPod s.pods n with
  | none => exact ⟨hkeep _ (fun x hx hxn => absurd hxn (findPod_none hf x hx)), rfl, rfl, Frame.refl s⟩
  | some p =>
    have hpm := findPod_some hf
    have huniq : ∀ x ∈ s.pods, x.pod.name = n → x = p := fun x hx hxn =>
      pod_eq_of_name hnd hpm.1 hx (hxn.trans hpm.2.symm)
    dsimp only
    by_cases hd : p.pod.deletionTimestamp.isSome = true
    · rw [if_pos hd]
      have hstep : step s (.podGone n) = { s with pods := delPod s.pods n, podEvs := s.podEvs ++ [.delete p] } := by
        show removePod s n = _
        unfold removePod
        rw [hf]
      rw [hstep]
      refine ⟨?_, rfl, rfl, ⟨rfl, rfl, rfl, rfl, rfl, rfl, rfl, rfl, rfl, rfl, ?_, id⟩⟩
      · show delPod s.pods n = _
        unfold delPod
        apply List.filter_congr
        intro x hx
        by_cases hxn : x.pod.name = n
        · rw [huniq x hx hxn]
          simp [hpm.2, hd]
        · simp [hxn]
      · intro hps
        unfold PSync at *
        show (s.podEvs ++ [PEv.delete p]).foldl applyPEv s.podCache = delPod s.pods n
        rw [List.foldl_append, hps]
        show delPod s.pods p.pod.name = _
        rw [hpm.2]
    · rw [if_neg hd]
      refine ⟨hkeep _ (fun x hx hxn => ?_), rfl, rfl, Frame.refl s⟩
      rw [huniq x hx hxn]
      simpa using hd

theorem foldl_reapOne_spec : ∀ (L : List String) (s : Sys), (podNames s.pods).Nodup →
    (L.foldl reapOne s).pods = s.pods.filter (fun x => !(decide (x.pod.name ∈ L) && x.pod.deletionTimestamp.isSome)) ∧
    (L.foldl reapOne s).q = s.q ∧ (L.foldl reapOne s).faults = s.faults ∧ Frame s (L.foldl reapOne s)
  | [], s, _ => ⟨(List.filter_eq_self.mpr (fun x _ => by simp)).symm, rfl, rfl, Frame.refl s⟩
  | n :: rest, s, hnd => by
    obtain ⟨a1, a2, a3, a4⟩ := reapOne_spec s n hnd
    obtain ⟨b1, b2, b3, b4⟩ := foldl_reapOne_spec rest (reapOne s n) (by rw [a1]; exact podNames_filter_nodup _ hnd)
    simp only [List.foldl_cons]
    refine ⟨?_, b2.trans a2, b3.trans a3, a4.trans b4⟩
    rw [b1, a1, List.filter_filter]
    apply List.filter_congr
    intro x _
    by_cases hxn : x.pod.name = n
    · cases hdx : x.pod.deletionTimestamp.isSome <;> simp [hxn, hdx]
    · by_cases hxr : x.pod.name ∈ rest
      · cases hdx : x.pod.deletionTimestamp.isSome <;> simp [hxn, hxr, hdx]
      · simp [hxn, hxr]

/-- **the cooperative kubelet**: exactly the pods carrying a deletion timestamp disappear -/
theorem reap_spec (s : Sys) (hnd : (podNames s.pods).Nodup) :
    (reap s).pods = s.pods.filter stays ∧ (reap s).q = s.q ∧ (reap s).faults = s.faults ∧ Frame s (reap s) := by
  obtain ⟨b1, b2, b3, b4⟩ := foldl_reapOne_spec (podNames s.pods) s hnd
  refine ⟨?_, b2, b3, b4⟩
  show ((podNames s.pods).foldl reapOne s).pods = _
  rw [b1]
  apply List.filter_congr
  intro x hx
  have : x.pod.name ∈ podNames s.pods := List.mem_map.mpr ⟨x, hx, rfl⟩
  unfold stays
  cases hdx : x.pod.deletionTimestamp <;> simp [this, hdx]

theorem reapOne_steps (hk : ∀ s n, ok s (.podGone n))
    (n : String) (s0 s : Sys) (h : Steps ok j0 s0 s) : Steps ok j0 s0 (reapOne s n) := by
  unfold reapOne
  cases hf : findPod s.pods n with
  | none => exact h
  | some p =>
    simp only
    by_cases hd : p.pod.deletionTimestamp.isSome = true
    · rw [if_pos hd]
      refine .step _ h (hk _ _) ?_
      show OptSat (findPod s.pods n) _
      rw [hf]
      exact hd
    · rw [if_neg hd]; exact h

theorem foldl_reapOne_steps (hk : ∀ s n, ok s (.podGone n)) :
    ∀ (L : List String) (s0 s : Sys), Steps ok j0 s0 s → Steps ok j0 s0 (L.foldl reapOne s)
  | [], _, _, h => h
  | n :: rest, s0, s, h => foldl_reapOne_steps hk rest s0 _ (reapOne_steps hk n s0 s h)

theorem reap_steps (hk : ∀ s n, ok s (.podGone n))
    (s0 s : Sys) (h : Steps ok j0 s0 s) : Steps ok j0 s0 (reap s) :=
  foldl_reapOne_steps hk _ s0 s h

theorem stays_none {p : PodObj} (h : stays p = true) : p.pod.deletionTimestamp = none := by
  unfold stays at h
  cases hd : p.pod.deletionTimestamp with
  | none => rfl
  | some _ => rw [hd] at h; cases h

open Furiko.Conv

/-- delivering everything from a state whose caches are one delivery behind gives a fresh state -/
theorem fresh_deliverAll {jo : JobObj} {w : Sys} (hj : w.job = some jo) (hjs : JSync w) (hps : PSync w)
    (hflt : w.faults = []) : Fresh jo (deliverAll w) ∧ Srv w (deliverAll w) ∧ QGrow w.q (deliverAll w).q := by
  obtain ⟨d1, d2, d3, d4, d5, d6⟩ := deliverAll_spec w hps hjs
  exact ⟨⟨by rw [d3, hj], by rw [d5.job, hj], by rw [d4, d5.pods], d1, d2, by rw [d5.faults, hflt]⟩, d5, d6⟩

/-- a ready key is still ready when the pass takes the queue at time `c` -/
theorem advance_ready {q : WQ} (hwf : Retry.WF q) (hq : q.queue ≠ []) (c : Time) :
    ∃ k rest, (q.advance c).queue = k :: rest := by
  obtain ⟨_, _, _, _, a5, _, _⟩ := Retry.advance_facts q c hwf
  cases hqq : q.queue with
  | nil => exact absurd hqq hq
  | cons x r =>
    cases hqa : (q.advance c).queue with
    | nil =>
      have hx := a5 x (by rw [hqq]; exact List.mem_cons_self)
      rw [hqa] at hx; cases hx
    | cons k rest => exact ⟨k, rest, rfl⟩

/-- a pending event of a pod of the Job — an upsert, or the delete of a pod that is in the pod cache — makes the
Job's key ready once the informers have delivered (the Job is in the cache once the Job events are) -/
theorem deliverAll_ready_pod (s : Sys) (jo : JobObj) (e : PEv) (p : PodObj) (rest : List PEv) (he : s.podEvs = e :: rest)
    (hep : e = .upsert p ∨ (e = .delete p ∧ findPod s.podCache p.pod.name = some p))
    (hjs : JSync s) (hj : s.job = some jo) (hu : p.ownerUid = some jo.uid) (hn : p.ownerName = some jo.name)
    (hwf : Retry.WF s.q) : (deliverAll s).q.queue ≠ [] := by
  unfold deliverAll
  obtain ⟨a1, a2, a3, a4, a5, a6⟩ := iter_deliverJob s.jobEvs.length s rfl
  have hjc : (iter .deliverJob s.jobEvs.length s).jobCache = some jo := by
    have := a6 hjs
    unfold JSync at this
    rw [a1, a2.job, hj] at this
    exact this
  rw [he]
  show (iter .deliverPod rest.length (step (iter .deliverJob s.jobEvs.length s) .deliverPod)).q.queue ≠ []
  have hev : (iter .deliverJob s.jobEvs.length s).podEvs = e :: rest := by rw [a5, he]
  have hnote : ∀ s1 : Sys, s1.jobCache = some jo → Retry.WF s1.q → jobKey jo ∈ (podNotify s1 p).q.queue := by
    intro s1 h1 hw1
    unfold podNotify
    simp only [hu, hn, h1, and_self, decide_true, Bool.and_self, ↓reduceIte]
    exact Retry.mem_queue_add_self hw1 _
  have h1 : jobKey jo ∈ (step (iter .deliverJob s.jobEvs.length s) .deliverPod).q.queue := by
    show jobKey jo ∈ (deliverPod (iter .deliverJob s.jobEvs.length s)).q.queue
    rcases hep with rfl | ⟨rfl, hc⟩
    · rw [deliverPod_upsert _ p rest hev]
      exact hnote _ hjc (a3.wf hwf)
    · rw [deliverPod_delete_some _ p p rest hev (by rw [a4]; exact hc)]
      exact hnote _ hjc (a3.wf hwf)
  have hlen : (step (iter .deliverJob s.jobEvs.length s) .deliverPod).podEvs.length = rest.length := by
    show (deliverPod (iter .deliverJob s.jobEvs.length s)).podEvs.length = _
    rw [(deliverPod_srv _).2.2.2, hev]
    rfl
  obtain ⟨_, _, b3, _, _, _⟩ := iter_deliverPod rest.length _ hlen
  have := b3.mono _ h1
  intro hnil
  rw [hnil] at this
  cases this

theorem map_eq_self {α : Type} (f : α → α) : ∀ (l : List α), l.map f = l → ∀ a ∈ l, f a = a
  | [], _, a, ha => by cases ha
  | x :: rest, h, a, ha => by
    simp only [List.map_cons, List.cons.injEq] at h
    rcases List.mem_cons.mp ha with rfl | ha
    · exact h.1
    · exact map_eq_self f rest h.2 a ha

/-- a pass marked a pod of the Job while the pod cache still holds the pods as they were: the upsert is pending,
so the key is ready after the deliveries -/
theorem marked_ready {jo jo' : JobObj} {s w : Sys} {c : Time} {N : List String} (hkp : KPods jo s)
    (hj : w.job = some jo') (hname : jo'.name = jo.name) (huid : jo'.uid = jo.uid) (hjs : JSync w) (hps : PSync w)
    (hwf : Retry.WF w.q) (hpc : w.podCache = s.pods) (hpods : w.pods = s.pods.map (markDts c N))
    (hevs : ∀ e ∈ w.podEvs, ∃ p0 ∈ s.pods, ∃ p, e = PEv.upsert p ∧ p.ownerUid = p0.ownerUid ∧ p.ownerName = p0.ownerName)
    {p : PodObj} (hp : p ∈ s.pods) (hne : markDts c N p ≠ p) : (deliverAll w).q.queue ≠ [] := by
  cases hev : w.podEvs with
  | nil =>
    unfold PSync at hps
    rw [hev, hpc, hpods] at hps
    exact absurd (map_eq_self _ _ hps.symm p hp) hne
  | cons e rest =>
    obtain ⟨p0, hp0, pe, rfl, e2, e3⟩ := hevs e (by rw [hev]; exact List.mem_cons_self)
    have ho := hkp.owned p0 hp0
    exact deliverAll_ready_pod _ jo' _ pe rest hev (Or.inl rfl) hjs hj (by rw [e2, huid]; exact ho.1)
      (by rw [e3, hname]; exact ho.2.1) hwf

/-- the actions of a kill round: controller passes, informer deliveries, the kubelet finishing the
termination of pods that carry a deletion timestamp -/
def killEnv (_ : Sys) (a : Action) : Prop :=
  match a with
  | .work | .deliverJob | .deliverPod | .podGone _ => True
  | _ => False

instance (s : Sys) (a : Action) : Decidable (killEnv s a) := by cases a <;> unfold killEnv <;> infer_instance

/-- one round of a Job being killed, with a cooperative kubelet -/
def roundK (s : Sys) : Sys := deliverAll (step (deliverAll (reap (deliverAll s))) .work)

def roundKN : Nat → Sys → Sys
  | 0, s => s
  | n + 1, s => roundKN n (roundK s)

theorem roundK_steps (hok : ∀ s a, killEnv s a → ok s a)
    (s0 s : Sys) (h : Steps ok j0 s0 s) : Steps ok j0 s0 (roundK s) := by
  have hj : ∀ s, ok s .deliverJob := fun s => hok s _ trivial
  have hp : ∀ s, ok s .deliverPod := fun s => hok s _ trivial
  have hk : ∀ s n, ok s (.podGone n) := fun s n => hok s _ trivial
  unfold roundK
  refine deliverAll_steps hj hp s0 _ (.step .work ?_ (hok _ _ trivial) trivial)
  exact deliverAll_steps hj hp s0 _ (reap_steps hk s0 _ (deliverAll_steps hj hp s0 _ h))

theorem roundKN_steps (hok : ∀ s a, killEnv s a → ok s a) :
    ∀ (n : Nat) (s0 s : Sys), Steps ok j0 s0 s → Steps ok j0 s0 (roundKN n s)
  | 0, _, _, h => h
  | n + 1, s0, s, h => roundKN_steps hok n s0 _ (roundK_steps hok s0 s h)

/-- the environment half of a kill round -/
def envK (s : Sys) : Sys := deliverAll (reap (deliverAll s))

/-- the environment half of a kill / delete round from a fresh state: the pods that were being deleted are gone -/
theorem envK_fresh (hf : Fresh jo s) (hnd : (podNames s.pods).Nodup) (hwf : Retry.WF s.q) :
    Fresh jo (envK s) ∧ (envK s).pods = s.pods.filter stays ∧ (∀ x ∈ s.q.queue, x ∈ (envK s).q.queue) ∧
    Retry.WF (envK s).q ∧ (envK s).clock = s.clock ∧ (envK s).cfg = s.cfg := by
  have hidle : deliverAll s = s := deliverAll_idle s hf.jobEvs hf.podEvs
  have hps : PSync s := by unfold PSync; rw [hf.podEvs, hf.podCache]; rfl
  obtain ⟨w1, wq, wf, w⟩ := reap_spec s hnd
  have hjs : JSync (reap s) := by
    unfold JSync; rw [w.jobEvs, w.jobCache, w.job, hf.jobEvs, hf.jobCache, hf.job]; rfl
  obtain ⟨hfr, d5, d6⟩ := fresh_deliverAll (jo := jo) (w.job.trans hf.job) hjs (w.psync hps) (wf.trans hf.faults)
  have he : envK s = deliverAll (reap s) := by unfold envK; rw [hidle]
  rw [he]
  exact ⟨hfr, by rw [d5.pods, w1], fun x hx => d6.mono x (by rw [wq]; exact hx), d6.wf (by rw [wq]; exact hwf),
    by rw [d5.clock, w.clock], by rw [d5.cfg, w.cfg]⟩

/-- the pods the environment half leaves were there and are not being deleted; a ready key stays ready -/
theorem envK_rest {s : Sys} (hpods : (envK s).pods = s.pods.filter stays)
    (hmono : ∀ x ∈ s.q.queue, x ∈ (envK s).q.queue) (hq : s.q.queue ≠ []) :
    (∀ p ∈ (envK s).pods, p ∈ s.pods ∧ p.pod.deletionTimestamp = none) ∧ (envK s).q.queue ≠ [] := by
  refine ⟨fun p hp => ?_, fun hnil => ?_⟩
  · rw [hpods] at hp
    exact ⟨(List.mem_filter.mp hp).1, stays_none (List.mem_filter.mp hp).2⟩
  · cases hqq : s.q.queue with
    | nil => exact hq hqq
    | cons x r =>
      have := hmono x (by rw [hqq]; exact List.mem_cons_self)
      rw [hnil] at this; cases this

/-- the user's update `f` of the Job object in a fresh state, delivered (`w`): a fresh state of the updated object
`nj` with the key ready; pods, clock and configuration are as before -/
theorem mutate_stage {jo nj : JobObj} {s w : Sys} (hf : Fresh jo s) (hwf : Retry.WF s.q) (f : JobObj → JobObj)
    (hnj : nj = { (f jo) with rv := s.rv + 1 }) (hw : w = deliverAll (mutateJobObj s f)) :
    Fresh nj w ∧ w.q.queue ≠ [] ∧ Retry.WF w.q ∧ w.pods = s.pods ∧ w.clock = s.clock ∧ w.cfg = s.cfg := by
  have hstep : mutateJobObj s f = { s with rv := s.rv + 1, job := some nj, jobEvs := [.upsert nj] } := by
    unfold mutateJobObj
    rw [hf.job, hf.jobEvs, hnj]
    rfl
  rw [hw, hstep]
  obtain ⟨hfr, hsrv, hq⟩ := fresh_deliverAll (jo := nj)
    (w := { s with rv := s.rv + 1, job := some nj, jobEvs := [.upsert nj] }) rfl rfl
    (by unfold PSync; show s.podEvs.foldl applyPEv s.podCache = s.pods; rw [hf.podEvs, hf.podCache]; rfl) hf.faults
  exact ⟨hfr, deliverAll_ready _ _ [] rfl hwf, hq.wf hwf, hsrv.pods, hsrv.clock, hsrv.cfg⟩

/-- a run of one round has one non-empty prefix -/
theorem prefix_of_singleton {α : Type} {a : α} : ∀ {pre suf : List α}, [a] = pre ++ suf → pre ≠ [] → pre = [a]
  | [], _, _, hne => absurd rfl hne
  | [b], _, e, _ => by rw [(List.cons.inj e).1]
  | _ :: _ :: _, _, e, _ => by simp at e

/-- the invariant `Canon` of the fair rounds holds after any finite sequence of fair rounds of a single-task Job
under arbitrary fault lists, from the Job's creation.  Stated for the environment that allows every action:
what is built on it (`KState` by `kill_stage` in `JobCtlLiveKillRounds`, `DState` by `delete_stage` in
`JobCtlLiveDeleteRounds`) does not mention one. -/
theorem canon_after_rounds (orc : String → Outcome) (clock : Int) (cfg : ExecConfig) (d : PIndex)
    (j0 : JobObj) (hwf : WF j0) (hspec : SimpleSpec j0.job) (hn : 1 ≤ j0.job.maxAttempts)
    (hunf : j0.job.status.condition.finished = none) (hdash : '-' ∉ d.hash.toList) (F0 : Int)
    (hF0 : F0 ≤ secs (clock / 1000000000)) (fss : List (List String))
    (hTF : ∀ pre suf, fss = pre ++ suf → pre ≠ [] →
      (roundsF orc pre (startState clock cfg d j0)).clock < F0 + getTTLAfterFinished j0.job cfg) :
    ∃ jo, jo.name = j0.name ∧ Canon (fun _ _ => True) j0 jo F0 (roundsF orc fss (startState clock cfg d j0)) ∧
      getTTLAfterFinished jo.job (roundsF orc fss (startState clock cfg d j0)).cfg = getTTLAfterFinished j0.job cfg := by
  obtain ⟨hcan, hbusy⟩ := init_canon (ok := fun _ _ => True) (fun _ _ _ => trivial) clock cfg d j0 hwf hspec hn hunf hdash F0 hF0
  obtain ⟨jo, hname, hcan', _, _, httl⟩ := roundsF_keep (fun _ _ _ => trivial) (fun _ _ => trivial) orc
    (getTTLAfterFinished j0.job cfg) j0.name fss _
    ⟨{ j0 with rv := 1 }, rfl, hcan, Or.inl hbusy, truth_start orc clock cfg d j0 hwf, rfl⟩ hTF
  exact ⟨jo, hname, hcan', httl⟩

end Furiko.JobCtl.Live
