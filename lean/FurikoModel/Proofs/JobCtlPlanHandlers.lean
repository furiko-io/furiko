/-
Plan-level lemmas about the deleting handlers of `syncJobTasks`
(`handlePendingTasks`, `handleKillJob`, `handleForceDelete`), `handleTTL` and `handleFinalizer`:
which calls each appends, for which tasks, under which condition, and which timers it arms.
Core Lean only.
-/
import FurikoModel.Proofs.JobCtlPlan

namespace Furiko.JobCtlPlan
open Furiko Furiko.JobCtl Furiko.WQ

theorem markDeleted_nil (rj : Job) (f : TaskRef → TaskRef) : markDeleted rj [] f = rj := by
  unfold markDeleted
  simp

theorem markDeleted_marked (rj : Job) (names : List String) (f : TaskRef → TaskRef) :
    ∀ r' ∈ (markDeleted rj names f).status.tasks, r'.name ∈ names → ∃ r ∈ rj.status.tasks, r' = f r := by
  intro r' hr' hn
  unfold markDeleted at hr'
  obtain ⟨r, hr, he⟩ := List.mem_map.mp hr'
  by_cases hc : names.contains r.name = true
  · simp only [hc, if_true] at he
    exact ⟨r, hr, he.symm⟩
  · simp only [hc, Bool.false_eq_true, if_false] at he
    subst he
    exact absurd (by simpa using hn) hc

theorem markDeleted_names (rj : Job) (names : List String) (f : TaskRef → TaskRef)
    (hf : ∀ r, (f r).name = r.name) :
    (markDeleted rj names f).status.tasks.map (·.name) = rj.status.tasks.map (·.name) := by
  unfold markDeleted
  simp only [List.map_map]
  apply List.map_congr_left
  intro r _
  simp only [Function.comp]
  split
  · exact hf r
  · rfl

/-- the kill and pending-timeout steps skip `deleteTasks` when nothing is to be deleted; as an empty batch
issues no call and succeeds, and marking no ref changes nothing, the test makes no difference -/
theorem sweep_eq (s : Sys) (nd : List Task) (force : Bool) (rj mark : Job) (h : nd = [] → mark = rj) :
    (if nd.isEmpty = true then (s, some rj)
      else ((deleteTasks s nd force).1, if (deleteTasks s nd force).2 = true then some mark else none)) =
    ((deleteTasks s nd force).1, if (deleteTasks s nd force).2 = true then some mark else none) := by
  cases nd with
  | nil => rw [h rfl]; rfl
  | cons t r => rfl

def killTargets (tasks : List Task) : List Task :=
  tasks.filter (fun t => !isTaskFinished t && t.deletionTimestamp.isNone)

/-- the marker the kill step writes -/
def killedStatus : TaskStatus := { state := .terminated, result := .killed, reason := "" }

/-- the Job the kill step returns when its deletes succeed -/
def killMark (rj : Job) (tasks : List Task) : Job :=
  markDeleted rj ((killTargets tasks).map (·.name)) (fun r => { r with deletedStatus := some killedStatus })

theorem mem_killTargets (tasks : List Task) (t : Task) :
    t ∈ killTargets tasks ↔ t ∈ tasks ∧ isTaskFinished t = false ∧ t.deletionTimestamp = none := by
  unfold killTargets
  rw [List.mem_filter]
  cases t.deletionTimestamp <;> cases isTaskFinished t <;> simp

theorem handleKillJob_eq (s : Sys) (jo : JobObj) (rj : Job) (tasks : List Task) :
    handleKillJob s jo rj tasks =
      if shouldKillJob s.clock rj = true then
        if (killTargets tasks).isEmpty = true then (s, some rj)
        else ((deleteTasks s (killTargets tasks) false).1,
              if (deleteTasks s (killTargets tasks) false).2 = true then some (killMark rj tasks) else none)
      else match rj.killTimestamp with
        | some ts => (enqueueAfter s (jobKey jo) ts, some rj)
        | none => (s, some rj) := by
  unfold handleKillJob
  cases shouldKillJob s.clock rj <;> rfl

theorem handleKillJob_not (s : Sys) (jo : JobObj) (rj : Job) (tasks : List Task)
    (hk : shouldKillJob s.clock rj = false) :
    handleKillJob s jo rj tasks =
      (match rj.killTimestamp with
        | some ts => enqueueAfter s (jobKey jo) ts
        | none => s, some rj) := by
  rw [handleKillJob_eq, if_neg (by simp [hk])]
  cases rj.killTimestamp <;> rfl

theorem handleKillJob_ext (s : Sys) (jo : JobObj) (rj : Job) (tasks : List Task) :
    ∃ l, Ext s (handleKillJob s jo rj tasks).1 l ∧
      ((shouldKillJob s.clock rj = true ∨ rj.killTimestamp = none) → (handleKillJob s jo rj tasks).1.q = s.q) ∧
      (∀ c ∈ l, c.verb = "delete" ∧ c.res = "pods" ∧ c.force = false ∧ shouldKillJob s.clock rj = true ∧
        ∃ t ∈ tasks, t.name = c.name ∧ isTaskFinished t = false ∧ t.deletionTimestamp = none) ∧
      (shouldKillJob s.clock rj = true →
        (∀ t ∈ tasks, isTaskFinished t = false → t.deletionTimestamp = none → ∃ c ∈ l, c.name = t.name) ∧
        (∀ rj', (handleKillJob s jo rj tasks).2 = some rj' → rj' = killMark rj tasks) ∧
        (NoFault s → (handleKillJob s jo rj tasks).2 = some (killMark rj tasks) ∧
          ∀ c ∈ l, c.out = "ok" ∨ c.out = "notfound")) := by
  by_cases hk : shouldKillJob s.clock rj = true
  · rw [handleKillJob_eq, if_pos hk, sweep_eq _ _ _ _ (killMark rj tasks) fun h => by
      unfold killMark; rw [h]; exact markDeleted_nil _ _]
    obtain ⟨l, hext, hall, hcov, hq, hnf⟩ := deleteTasks_ext s (killTargets tasks) false
    refine ⟨l, hext, fun _ => hq, ?_, fun _ => ⟨?_, ?_, ?_⟩⟩
    · intro c hc
      obtain ⟨hv, hr, hf, t, ht, hn, _⟩ := hall c hc
      obtain ⟨ht1, ht2, ht3⟩ := (mem_killTargets tasks t).mp ht
      exact ⟨hv, hr, hf, hk, t, ht1, hn, ht2, ht3⟩
    · intro t ht hf hd
      refine hcov t ((mem_killTargets tasks t).mpr ⟨ht, hf, hd⟩) (Or.inr ?_)
      intro ts hts; rw [hd] at hts; cases hts
    · intro rj' h
      by_cases hok : (deleteTasks s (killTargets tasks) false).2 = true
      · rw [if_pos hok] at h; exact (Option.some.inj h).symm
      · rw [if_neg hok] at h; cases h
    · intro hno
      obtain ⟨hok, _, hout⟩ := hnf hno
      exact ⟨by rw [if_pos hok], hout⟩
  · have hk' : shouldKillJob s.clock rj = false := by simpa using hk
    rw [handleKillJob_not s jo rj tasks hk']
    cases hts : rj.killTimestamp with
    | none =>
      exact ⟨[], Ext.refl s, fun _ => rfl, by simp, fun h => absurd h hk⟩
    | some ts =>
      refine ⟨[], enqueueAfter_ext s (jobKey jo) ts, ?_, by simp, fun h => absurd h hk⟩
      rintro (h | h)
      · exact absurd h hk
      · cases h

theorem killMark_sameSpec (rj : Job) (tasks : List Task) : SameSpec rj (killMark rj tasks) :=
  markDeleted_sameSpec _ _ _

theorem killMark_killed (rj : Job) (tasks : List Task) (t : Task) (ht : t ∈ tasks)
    (hf : isTaskFinished t = false) (hd : t.deletionTimestamp = none) :
    ∀ r' ∈ (killMark rj tasks).status.tasks, r'.name = t.name → r'.deletedStatus = some killedStatus := by
  intro r' hr' hn
  unfold killMark at hr'
  obtain ⟨r, _, he⟩ := markDeleted_marked rj _ _ r' hr' (by
    rw [hn]; exact List.mem_map.mpr ⟨t, (mem_killTargets tasks t).mpr ⟨ht, hf, hd⟩, rfl⟩)
  rw [he]

/-- what a "collect overdue tasks, arm a timer for future deadlines" loop does on the tasks `ts`:
no call, pods and faults untouched, the tasks that are `due` are collected, and for every task a
timer is armed at the deadline `armAt` gives -/
structure StepSpec (key : String) (due : Int → Task → Bool) (armAt : Int → Task → Option Int)
    (s0 : Sys) (nd : List Task) (ts : List Task) (r : Sys × List Task) : Prop where
  ext : Ext s0 r.1 []
  pods : r.1.pods = s0.pods
  nofault : NoFault s0 → NoFault r.1
  acc : r.2 = nd ++ ts.filter (due s0.clock)
  timer : ∀ t ∈ ts, ∀ dl, armAt s0.clock t = some dl → TimerBy r.1.q key (dueAt s0 dl)
  quiet : (∀ t ∈ ts, armAt s0.clock t = none) → r.1.q = s0.q

section
variable {key : String} {due : Int → Task → Bool} {armAt : Int → Task → Option Int} {s0 : Sys} {nd : List Task} {t : Task}

/-- the three things one iteration does: pass the task by, collect it, or arm a timer for it -/
theorem StepSpec.skip (hd : due s0.clock t = false) (ha : armAt s0.clock t = none) :
    StepSpec key due armAt s0 nd [t] (s0, nd) :=
  ⟨Ext.refl s0, rfl, id, by simp [hd], fun _ ht _ h => (by rw [List.mem_singleton.mp ht, ha] at h; cases h),
    fun _ => rfl⟩

theorem StepSpec.take (hd : due s0.clock t = true) (ha : armAt s0.clock t = none) :
    StepSpec key due armAt s0 nd [t] (s0, nd ++ [t]) :=
  ⟨Ext.refl s0, rfl, id, by simp [hd], fun _ ht _ h => (by rw [List.mem_singleton.mp ht, ha] at h; cases h),
    fun _ => rfl⟩

theorem StepSpec.arm (dl : Int) (hd : due s0.clock t = false) (ha : armAt s0.clock t = some dl) :
    StepSpec key due armAt s0 nd [t] (enqueueAfter s0 key dl, nd) :=
  ⟨enqueueAfter_ext _ _ _, rfl, id, by simp [hd],
    fun _ ht _ h => (by rw [List.mem_singleton.mp ht, ha] at h; cases h; exact enqueueAfter_timer _ _ _),
    fun h => (by rw [h t (List.mem_singleton.mpr rfl)] at ha; cases ha)⟩
end

/-- … and so does the whole loop, iteration by iteration -/
theorem fold_spec (key : String) (due : Int → Task → Bool) (armAt : Int → Task → Option Int)
    (step : Sys × List Task → Task → Sys × List Task)
    (hstep : ∀ s0 nd t, StepSpec key due armAt s0 nd [t] (step (s0, nd) t)) :
    ∀ (tasks : List Task) (s0 : Sys) (nd : List Task),
      StepSpec key due armAt s0 nd tasks (tasks.foldl step (s0, nd))
  | [], s0, nd => ⟨Ext.refl s0, rfl, id, by simp, fun _ h => (nomatch h), fun _ => rfl⟩
  | t :: rest, s0, nd => by
    have h1 := hstep s0 nd t
    obtain ⟨e2, p2, n2, a2, t2, q2⟩ := fold_spec key due armAt step hstep rest (step (s0, nd) t).1 (step (s0, nd) t).2
    simp only [List.foldl_cons] at *
    refine ⟨h1.ext.trans e2, p2.trans h1.pods, fun h => n2 (h1.nofault h), ?_, ?_, ?_⟩
    · rw [a2, h1.acc, h1.ext.clock, List.append_assoc, ← List.filter_append]
      rfl
    · intro t' ht' dl hdl
      rcases List.mem_cons.mp ht' with rfl | hr
      · exact e2.timers _ _ (h1.timer _ (List.mem_singleton.mpr rfl) dl hdl)
      · have := t2 t' hr dl (by rw [h1.ext.clock]; exact hdl)
        rwa [dueAt_of_ext h1.ext] at this
    · intro hq
      rw [q2 (fun t' ht' => by rw [h1.ext.clock]; exact hq t' (List.mem_cons_of_mem _ ht'))]
      exact h1.quiet fun t' ht' => List.mem_singleton.mp ht' ▸ hq t List.mem_cons_self

/-- the task is still pending as far as the ref `r` says (neither running nor finished); `r` is the ref
`handlePendingTasks` judges the task by, `pendRef rj t` -/
def isPending (r : TaskRef) : Bool := r.finishTimestamp.isNone && r.runningTimestamp.isNone

def pendDeadline (T : Int) (r : TaskRef) : Int := (r.creationTimestamp.getD zeroTime : Int) + T

/-- one iteration of the loop of `handlePendingTasks` (pending timeout `T` nanoseconds) -/
def pendStep (key : String) (T : Int) (rj : Job) (acc : Sys × List Task) (t : Task) : Sys × List Task :=
  if (pendRef rj t).finishTimestamp.isSome then acc
  else if (pendRef rj t).runningTimestamp.isSome then acc
  else
    if pendDeadline T (pendRef rj t) > acc.1.clock then (enqueueAfter acc.1 key (pendDeadline T (pendRef rj t)), acc.2)
    else if t.deletionTimestamp.isSome then acc
    else (acc.1, acc.2 ++ [t])

def pendDue (rj : Job) (T : Int) (clk : Int) (t : Task) : Bool :=
  isPending (pendRef rj t) && decide (pendDeadline T (pendRef rj t) ≤ clk) && t.deletionTimestamp.isNone

def pendArm (rj : Job) (T : Int) (clk : Int) (t : Task) : Option Int :=
  if isPending (pendRef rj t) && decide (clk < pendDeadline T (pendRef rj t)) then some (pendDeadline T (pendRef rj t)) else none

theorem pendStep_spec (key : String) (T : Int) (rj : Job) (s0 : Sys) (nd : List Task) (t : Task) :
    StepSpec key (pendDue rj T) (pendArm rj T) s0 nd [t] (pendStep key T rj (s0, nd) t) := by
  unfold pendStep
  cases hf : (pendRef rj t).finishTimestamp with
  | some f => exact .skip (by simp [pendDue, isPending, hf]) (by simp [pendArm, isPending, hf])
  | none =>
    cases hr : (pendRef rj t).runningTimestamp with
    | some r => exact .skip (by simp [pendDue, isPending, hr]) (by simp [pendArm, isPending, hr])
    | none =>
      have hp : isPending (pendRef rj t) = true := by simp [isPending, hf, hr]
      by_cases hd : pendDeadline T (pendRef rj t) > s0.clock
      · simp only [Option.isSome_none, Bool.false_eq_true, if_false, hd, if_true]
        exact .arm _ (by simp [pendDue]; omega) (by simp [pendArm, hp]; omega)
      · simp only [Option.isSome_none, Bool.false_eq_true, if_false, hd]
        cases hdt : t.deletionTimestamp with
        | some dts => exact .skip (by simp [pendDue, hdt]) (by simp [pendArm]; omega)
        | none => exact .take (by simp [pendDue, hp, hdt]; omega) (by simp [pendArm]; omega)

/-- the marker the pending-timeout step writes -/
def pendingStatus : TaskStatus := { state := .terminated, result := .killed, reason := "PendingTimeout" }

theorem handlePendingTasks_eq (s : Sys) (jo : JobObj) (rj : Job) (tasks : List Task) :
    handlePendingTasks s jo rj tasks =
      match getPendingTimeout rj s.cfg with
      | none => (s, some rj)
      | some T =>
        if T ≤ 0 then (s, some rj)
        else
          let r := tasks.foldl (pendStep (jobKey jo) T rj) (s, [])
          if r.2.isEmpty = true then (r.1, some rj)
          else ((deleteTasks r.1 r.2 false).1,
                if (deleteTasks r.1 r.2 false).2 = true then
                  some (markDeleted rj (r.2.map (·.name)) (fun x => { x with deletedStatus := some pendingStatus }))
                else none) := by
  unfold handlePendingTasks
  cases getPendingTimeout rj s.cfg with
  | none => rfl
  | some T => rfl

theorem mem_filter_pendDue (rj : Job) (T clk : Int) (tasks : List Task) (t : Task) :
    t ∈ tasks.filter (pendDue rj T clk) ↔
      t ∈ tasks ∧ isPending (pendRef rj t) = true ∧ pendDeadline T (pendRef rj t) ≤ clk ∧ t.deletionTimestamp = none := by
  rw [List.mem_filter]
  unfold pendDue
  cases t.deletionTimestamp <;> simp

/-- the Job the pending-timeout step returns when its deletes succeed -/
def pendMark (rj : Job) (T clk : Int) (tasks : List Task) : Job :=
  markDeleted rj ((tasks.filter (pendDue rj T clk)).map (·.name)) (fun x => { x with deletedStatus := some pendingStatus })

theorem handlePendingTasks_ext (s : Sys) (jo : JobObj) (rj : Job) (tasks : List Task) :
    ∃ l, Ext s (handlePendingTasks s jo rj tasks).1 l ∧
      (∀ c ∈ l, c.verb = "delete" ∧ c.res = "pods" ∧ c.force = false ∧
        ∃ T, getPendingTimeout rj s.cfg = some T ∧ 0 < T ∧
          ∃ t ∈ tasks, t.name = c.name ∧ isPending (pendRef rj t) = true ∧ pendDeadline T (pendRef rj t) ≤ s.clock ∧
            t.deletionTimestamp = none) ∧
      ((getPendingTimeout rj s.cfg = none ∨ ∃ T, getPendingTimeout rj s.cfg = some T ∧ T ≤ 0) →
        handlePendingTasks s jo rj tasks = (s, some rj)) ∧
      (∀ T, getPendingTimeout rj s.cfg = some T → 0 < T →
        (∀ t ∈ tasks, isPending (pendRef rj t) = true → pendDeadline T (pendRef rj t) ≤ s.clock → t.deletionTimestamp = none →
          ∃ c ∈ l, c.name = t.name) ∧
        (∀ t ∈ tasks, isPending (pendRef rj t) = true → s.clock < pendDeadline T (pendRef rj t) →
          TimerBy (handlePendingTasks s jo rj tasks).1.q (jobKey jo) (dueAt s (pendDeadline T (pendRef rj t)))) ∧
        (∀ rj', (handlePendingTasks s jo rj tasks).2 = some rj' → rj' = pendMark rj T s.clock tasks) ∧
        (NoFault s → (handlePendingTasks s jo rj tasks).2 = some (pendMark rj T s.clock tasks))) := by
  -- the case analysis runs on the equation `hX`; the statement sees the value only at the leaves
  have hX := handlePendingTasks_eq s jo rj tasks
  generalize handlePendingTasks s jo rj tasks = X at hX ⊢
  cases hT : getPendingTimeout rj s.cfg with
  | none =>
    simp only [hT] at hX
    subst hX
    refine ⟨[], Ext.refl s, by simp, fun _ => rfl, ?_⟩
    intro T h; cases h
  | some T =>
    simp only [hT] at hX
    by_cases hle : T ≤ 0
    · rw [if_pos hle] at hX
      subst hX
      refine ⟨[], Ext.refl s, by simp, fun _ => rfl, ?_⟩
      intro T' h hpos
      cases h
      omega
    · rw [if_neg hle] at hX
      have hpos : 0 < T := by omega
      obtain ⟨e1, p1, n1, a1, t1, _⟩ := fold_spec (jobKey jo) (pendDue rj T) (pendArm rj T) (pendStep (jobKey jo) T rj)
        (pendStep_spec (jobKey jo) T rj) tasks s []
      generalize List.foldl (pendStep (jobKey jo) T rj) (s, []) tasks = r at *
      obtain ⟨s1, nd⟩ := r
      simp only [List.nil_append] at a1
      simp only at e1 p1 n1 t1 hX
      subst a1
      have htimer : ∀ s2 l2, Ext s1 s2 l2 → ∀ t ∈ tasks, isPending (pendRef rj t) = true → s.clock < pendDeadline T (pendRef rj t) →
          TimerBy s2.q (jobKey jo) (dueAt s (pendDeadline T (pendRef rj t))) := by
        intro s2 l2 e2 t ht hp hlt
        exact e2.timers _ _ (t1 t ht _ (by simp [pendArm, hp, hlt]))
      rw [sweep_eq] at hX
      case h => intro h; rw [h]; exact markDeleted_nil _ _
      subst hX
      obtain ⟨l, e2, hall, hcov, _, hnf⟩ := deleteTasks_ext s1 (tasks.filter (pendDue rj T s.clock)) false
      refine ⟨l, e1.trans e2, ?_, ?_, ?_⟩
      · intro c hc
        obtain ⟨hv, hr, hf, t, ht, hn, _⟩ := hall c hc
        obtain ⟨h1, h2, h3, h4⟩ := (mem_filter_pendDue _ _ _ _ _).mp ht
        exact ⟨hv, hr, hf, T, rfl, hpos, t, h1, hn, h2, h3, h4⟩
      · rintro (h | ⟨T', h, hle'⟩)
        · cases h
        · cases h; omega
      · intro T' h _
        cases h
        refine ⟨?_, htimer _ l e2, ?_, ?_⟩
        · intro t ht hp hd hdt
          refine hcov t ((mem_filter_pendDue _ _ _ _ _).mpr ⟨ht, hp, hd, hdt⟩) (Or.inr ?_)
          intro ts hts; rw [hdt] at hts; cases hts
        · intro rj' h
          by_cases hok : (deleteTasks s1 (tasks.filter (pendDue rj T s.clock)) false).2 = true
          · rw [if_pos hok] at h; exact (Option.some.inj h).symm
          · rw [if_neg hok] at h; cases h
        · intro hno
          rw [if_pos (hnf (n1 hno)).1]
          rfl

theorem pendMark_sameSpec (rj : Job) (T clk : Int) (tasks : List Task) : SameSpec rj (pendMark rj T clk tasks) :=
  markDeleted_sameSpec _ _ _

theorem pendMark_parallelStatus (rj : Job) (T clk : Int) (tasks : List Task) :
    (pendMark rj T clk tasks).status.parallelStatus = rj.status.parallelStatus := rfl

def forceDeadline (F : Int) (dts : Int) : Int := dts + F

/-- one iteration of the loop of `handleForceDeleteKillingTasks` (timeout `F` nanoseconds) -/
def forceStep (key : String) (F : Int) (acc : Sys × List Task) (t : Task) : Sys × List Task :=
  match t.deletionTimestamp with
  | none => acc
  | some dts =>
    if !(decide (forceDeadline F dts > acc.1.clock)) then (acc.1, acc.2 ++ [t])
    else (enqueueAfter acc.1 key (forceDeadline F dts), acc.2)

def forceDue (F : Int) (clk : Int) (t : Task) : Bool :=
  match t.deletionTimestamp with
  | none => false
  | some dts => decide (forceDeadline F dts ≤ clk)

def forceArm (F : Int) (clk : Int) (t : Task) : Option Int :=
  match t.deletionTimestamp with
  | none => none
  | some dts => if clk < forceDeadline F dts then some (forceDeadline F dts) else none

theorem forceStep_spec (key : String) (F : Int) (s0 : Sys) (nd : List Task) (t : Task) :
    StepSpec key (forceDue F) (forceArm F) s0 nd [t] (forceStep key F (s0, nd) t) := by
  unfold forceStep
  cases hdt : t.deletionTimestamp with
  | none => exact .skip (by simp [forceDue, hdt]) (by simp [forceArm, hdt])
  | some dts =>
    by_cases hd : forceDeadline F dts > s0.clock
    · simp only [hd, decide_true, Bool.not_true, Bool.false_eq_true, if_false]
      exact .arm _ (by simp [forceDue, hdt]; omega) (by simp [forceArm, hdt]; omega)
    · simp only [hd, decide_false, Bool.not_false, if_true]
      exact .take (by simp [forceDue, hdt]; omega) (by simp [forceArm, hdt]; omega)

theorem mem_filter_forceDue (F clk : Int) (tasks : List Task) (t : Task) :
    t ∈ tasks.filter (forceDue F clk) ↔
      t ∈ tasks ∧ ∃ dts : Int, t.deletionTimestamp = some dts ∧ dts + F ≤ clk := by
  rw [List.mem_filter]
  unfold forceDue forceDeadline
  cases t.deletionTimestamp <;> simp

/-- the marker function of the force-delete step -/
def forceMarkRef (r : TaskRef) : TaskRef :=
  { r with deletedStatus := some { (r.deletedStatus.getD { state := .terminated, result := .killed, reason := "" })
      with reason := "ForceDeleted" } }

/-- the Job the force-delete step returns when its deletes succeed -/
def forceMark (rj : Job) (F clk : Int) (tasks : List Task) : Job :=
  updateJobTaskRefs clk (markDeleted rj ((tasks.filter (forceDue F clk)).map (·.name)) forceMarkRef) tasks

def forbidsForce (rj : Job) : Bool := (rj.template.map (·.forbidTaskForceDeletion)).getD false

theorem handleForceDelete_eq (s : Sys) (jo : JobObj) (rj : Job) (tasks : List Task) :
    handleForceDelete s jo rj tasks =
      if getForceDeleteTimeout s.cfg ≤ 0 then (s, some rj)
      else if forbidsForce rj = true then (s, some rj)
      else
        let F := getForceDeleteTimeout s.cfg
        let r := tasks.foldl (forceStep (jobKey jo) F) (s, [])
        if r.2.isEmpty = true then (r.1, some rj)
        else ((deleteTasks r.1 r.2 true).1,
              if (deleteTasks r.1 r.2 true).2 = true then
                some (updateJobTaskRefs r.1.clock (markDeleted rj (r.2.map (·.name)) forceMarkRef) tasks)
              else none) := by
  unfold handleForceDelete
  rfl

theorem handleForceDelete_ext (s : Sys) (jo : JobObj) (rj : Job) (tasks : List Task) :
    ∃ l, Ext s (handleForceDelete s jo rj tasks).1 l ∧
      (∀ c ∈ l, c.verb = "delete" ∧ c.res = "pods" ∧ c.force = true ∧
        0 < getForceDeleteTimeout s.cfg ∧ forbidsForce rj = false ∧
        ∃ t ∈ tasks, t.name = c.name ∧
          ∃ dts : Int, t.deletionTimestamp = some dts ∧ dts + getForceDeleteTimeout s.cfg ≤ s.clock) ∧
      ((getForceDeleteTimeout s.cfg ≤ 0 ∨ forbidsForce rj = true) → handleForceDelete s jo rj tasks = (s, some rj)) ∧
      (0 < getForceDeleteTimeout s.cfg → forbidsForce rj = false →
        (∀ t ∈ tasks, ∀ dts : Int, t.deletionTimestamp = some dts → dts + getForceDeleteTimeout s.cfg ≤ s.clock →
          ∃ c ∈ l, c.name = t.name) ∧
        (∀ t ∈ tasks, ∀ dts : Int, t.deletionTimestamp = some dts → s.clock < dts + getForceDeleteTimeout s.cfg →
          TimerBy (handleForceDelete s jo rj tasks).1.q (jobKey jo) (dueAt s (dts + getForceDeleteTimeout s.cfg))) ∧
        (∀ rj', (handleForceDelete s jo rj tasks).2 = some rj' →
          rj' = rj ∨ rj' = forceMark rj (getForceDeleteTimeout s.cfg) s.clock tasks)) := by
  rw [handleForceDelete_eq]
  by_cases hle : getForceDeleteTimeout s.cfg ≤ 0
  · rw [if_pos hle]
    exact ⟨[], Ext.refl s, by simp, fun _ => rfl, fun h => by omega⟩
  · rw [if_neg hle]
    have hpos : 0 < getForceDeleteTimeout s.cfg := by omega
    by_cases hfb : forbidsForce rj = true
    · rw [if_pos hfb]
      exact ⟨[], Ext.refl s, by simp, fun _ => rfl, fun _ h => by rw [hfb] at h; cases h⟩
    · rw [if_neg hfb]
      have hfb' : forbidsForce rj = false := by simpa using hfb
      simp only
      generalize getForceDeleteTimeout s.cfg = F at *
      obtain ⟨e1, p1, n1, a1, t1, _⟩ := fold_spec (jobKey jo) (forceDue F) (forceArm F) (forceStep (jobKey jo) F)
        (forceStep_spec (jobKey jo) F) tasks s []
      generalize List.foldl (forceStep (jobKey jo) F) (s, []) tasks = r at *
      obtain ⟨s1, nd⟩ := r
      simp only [List.nil_append] at a1
      simp only at e1 p1 n1 t1
      subst a1
      have htimer : ∀ s2 l2, Ext s1 s2 l2 → ∀ t ∈ tasks, ∀ dts : Int, t.deletionTimestamp = some dts →
          s.clock < dts + F → TimerBy s2.q (jobKey jo) (dueAt s (dts + F)) := by
        intro s2 l2 e2 t ht dts hdt hlt
        exact e2.timers _ _ (t1 t ht _ (by simp [forceArm, forceDeadline, hdt, hlt]))
      have hbad : (F ≤ 0 ∨ forbidsForce rj = true) → False := by
        rintro (h | h)
        · omega
        · exact hfb h
      by_cases hemp : (tasks.filter (forceDue F s.clock)).isEmpty = true
      · rw [if_pos hemp]
        have hnil : tasks.filter (forceDue F s.clock) = [] := by simpa using hemp
        refine ⟨[], e1, by simp, fun h => (hbad h).elim, fun _ _ => ⟨?_, htimer s1 [] (Ext.refl s1), ?_⟩⟩
        · intro t ht dts hdt hd
          have : t ∈ tasks.filter (forceDue F s.clock) := (mem_filter_forceDue _ _ _ _).mpr ⟨ht, dts, hdt, hd⟩
          rw [hnil] at this; cases this
        · intro rj' h; exact Or.inl (Option.some.inj h).symm
      · rw [if_neg hemp]
        obtain ⟨l, e2, hall, hcov, _, _⟩ := deleteTasks_ext s1 (tasks.filter (forceDue F s.clock)) true
        refine ⟨l, e1.trans e2, ?_, fun h => (hbad h).elim, fun _ _ => ⟨?_, htimer _ l e2, ?_⟩⟩
        · intro c hc
          obtain ⟨hv, hr, hf, t, ht, hn, _⟩ := hall c hc
          obtain ⟨h1, dts, h2, h3⟩ := (mem_filter_forceDue _ _ _ _).mp ht
          exact ⟨hv, hr, hf, hpos, hfb', t, h1, hn, dts, h2, h3⟩
        · intro t ht dts hdt hd
          exact hcov t ((mem_filter_forceDue _ _ _ _).mpr ⟨ht, dts, hdt, hd⟩) (Or.inl rfl)
        · intro rj' h
          by_cases hok : (deleteTasks s1 (tasks.filter (forceDue F s.clock)) true).2 = true
          · rw [if_pos hok] at h
            right
            rw [← Option.some.inj h, e1.clock]
            rfl
          · rw [if_neg hok] at h; cases h

theorem forceMark_sameSpec (rj : Job) (F clk : Int) (tasks : List Task) : SameSpec rj (forceMark rj F clk tasks) :=
  (markDeleted_sameSpec _ _ _).trans (updateJobTaskRefs_sameSpec _ _ _)

/-- the expiry `handleTTL` judges and arms its timer by is the finish time plus the EFFECTIVE TTL
(`getTTLAfterFinished`: the Job's, else the configuration default) -/
theorem handleTTL_ext (s : Sys) (jo : JobObj) (rj : Job) :
    ∃ l, Ext s (handleTTL s jo rj).1 l ∧
      ((∀ fin, rj.status.condition.finished = some fin → isDeleted rj = false →
          fin.finishTimestamp.getD zeroTime + getTTLAfterFinished rj s.cfg > s.clock →
          handleTTL s jo rj =
            (enqueueAfter s (jobKey jo) (fin.finishTimestamp.getD zeroTime + getTTLAfterFinished rj s.cfg), true)) ∧
        ((isDeleted rj = true ∨ rj.status.condition.finished = none ∨
            ∃ fin, rj.status.condition.finished = some fin ∧
              ¬ (fin.finishTimestamp.getD zeroTime + getTTLAfterFinished rj s.cfg > s.clock)) →
          (handleTTL s jo rj).1.q = s.q)) ∧
      (handleTTL s jo rj).1.pods = s.pods ∧
      (∀ c ∈ l, c.verb = "delete" ∧ c.res = "jobs" ∧ c.name = jo.name ∧ isDeleted rj = false ∧
        ∃ fin, rj.status.condition.finished = some fin ∧
          ¬ (fin.finishTimestamp.getD zeroTime + getTTLAfterFinished rj s.cfg > s.clock)) := by
  unfold handleTTL
  simp only
  by_cases hd : isDeleted rj = true
  · rw [if_pos hd]
    exact ⟨[], Ext.refl s, ⟨fun _ _ h => (by rw [hd] at h; cases h), fun _ => rfl⟩, rfl, by simp⟩
  · rw [if_neg hd]
    cases hf : rj.status.condition.finished with
    | none => exact ⟨[], Ext.refl s, ⟨fun _ h => (by cases h), fun _ => rfl⟩, rfl, by simp⟩
    | some fin =>
      simp only
      by_cases ht : fin.finishTimestamp.getD zeroTime + getTTLAfterFinished rj s.cfg > s.clock
      · rw [if_pos ht]
        refine ⟨[], enqueueAfter_ext s _ _, ⟨fun fin' h _ _ => (by cases h; rfl), ?_⟩, rfl, by simp⟩
        rintro (h | h | ⟨fin', h, hn⟩)
        · exact absurd h hd
        · cases h
        · cases h; exact absurd ht hn
      · rw [if_neg ht]
        obtain ⟨c, hext, hv, hr, hn, hq, hp⟩ := apiDeleteJob_ext s jo
        refine ⟨[c], hext, ⟨fun fin' h _ h' => (by cases h; exact absurd h' ht), fun _ => hq⟩, hp, ?_⟩
        intro c' hc'
        rw [List.mem_singleton.mp hc']
        exact ⟨hv, hr, hn, by simpa using hd, fin, rfl, ht⟩

theorem handleFinalizer_ext (s : Sys) (jo : JobObj) (rj : Job) (fz : Bool) :
    ∃ l, Ext s (handleFinalizer s jo rj fz).1 l ∧
      (∀ c ∈ l, c.verb = "delete" ∧ c.res = "pods" ∧ c.force = false ∧
        rj.deletionTimestamp.isSome = true ∧ fz = true ∧
        ∃ t ∈ finalizerTasks s jo rj, t.name = c.name ∧ DelWanted s false t) ∧
      ((rj.deletionTimestamp = none ∨ fz = false) → handleFinalizer s jo rj fz = (s, some (rj, fz))) ∧
      (rj.deletionTimestamp.isSome = true → fz = true →
        (finalizerTasks s jo rj ≠ [] →
          (∀ t ∈ finalizerTasks s jo rj, DelWanted s false t → ∃ c ∈ l, c.name = t.name) ∧
          (∀ rj' f', (handleFinalizer s jo rj fz).2 = some (rj', f') → f' = true) ∧
          (NoFault s → ∃ rj', (handleFinalizer s jo rj fz).2 = some (rj', true))) ∧
        (finalizerTasks s jo rj = [] →
          l = [] ∧ ∃ rj', (handleFinalizer s jo rj fz).2 = some (rj', false))) := by
  unfold handleFinalizer
  cases hdt : rj.deletionTimestamp with
  | none =>
    simp only [Option.isNone_none, if_true]
    exact ⟨[], Ext.refl s, by simp, fun _ => trivial, fun h => by cases h⟩
  | some dts =>
    simp only [Option.isNone_some, Bool.false_eq_true, if_false]
    cases fz with
    | false =>
      simp only [Bool.not_false, if_true]
      exact ⟨[], Ext.refl s, by simp, fun _ => trivial, fun _ h => by cases h⟩
    | true =>
      simp only [Bool.not_true, Bool.false_eq_true, if_false]
      have hbad : (some dts = none ∨ true = false) → False := by rintro (h | h) <;> cases h
      generalize finalizerTasks s jo rj = ft
      by_cases hemp : ft.isEmpty = true
      · have hnil : ft = [] := by simpa using hemp
        simp only [hnil, List.isEmpty_nil, Bool.not_true, Bool.false_eq_true, if_false]
        obtain ⟨e1, _, _⟩ := updateTaskRefStatus_ext s (jobKey jo) rj []
        refine ⟨[], e1, by simp, fun h => (hbad h).elim, fun _ _ => ⟨fun h => absurd rfl h, fun _ => ⟨rfl, _, rfl⟩⟩⟩
      · simp only [hemp, Bool.not_false, if_true]
        generalize hrj1 : List.foldl (fun acc t => updateTaskRefDeletedStatusIfNotSet acc t.name
          { state := .terminated, result := .killed, reason := "JobDeleted" }) rj ft = rj1
        obtain ⟨e1, _, p1⟩ := updateTaskRefStatus_ext s (jobKey jo) rj1 ft
        have hnf1 : NoFault s → NoFault (updateTaskRefStatus s (jobKey jo) rj1 ft).1 := by
          intro h
          unfold updateTaskRefStatus syncJobStatusFromTaskRefs
          repeat' split
          all_goals first | exact h | (unfold enqueueAfter; exact h)
        obtain ⟨l, e2, hall, hcov, _, hnf⟩ := deleteTasks_ext
          (updateTaskRefStatus s (jobKey jo) rj1 ft).1 ft false
        have hw : ∀ t, DelWanted (updateTaskRefStatus s (jobKey jo) rj1 ft).1 false t ↔
            DelWanted s false t := by
          intro t; unfold DelWanted; rw [e1.clock]
        refine ⟨l, e1.trans e2, ?_, fun h => (hbad h).elim, fun _ _ => ⟨fun _ => ⟨?_, ?_, ?_⟩, ?_⟩⟩
        · intro c hc
          obtain ⟨hv, hr, hf, t, ht, hn, hwt⟩ := hall c hc
          exact ⟨hv, hr, hf, by simp, by simp, t, ht, hn, (hw t).mp hwt⟩
        · intro t ht hwt
          exact hcov t ht ((hw t).mpr hwt)
        · intro rj' f' h
          split at h
          · simp only [Option.some.injEq, Prod.mk.injEq] at h; exact h.2.symm
          · cases h
        · intro hno
          rw [if_pos (hnf (hnf1 hno)).1]
          exact ⟨_, rfl⟩
        · intro h
          exact absurd (by simp [h]) hemp

end Furiko.JobCtlPlan
