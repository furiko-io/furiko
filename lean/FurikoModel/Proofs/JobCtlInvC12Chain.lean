/-
The controller's copies of the Job lag behind the authoritative object, never run ahead of it
(history level, ALL actions).

`versList s` lists the Job versions of a state in the order in which the controller will hold them: the
cached one, the undelivered upsert events (oldest first), the authoritative object.  Every step changes
that list by dropping members, by duplicating the authoritative object (restart), or by appending a
version that one of four writes put over the authoritative object (`Wrote`: user kill, deletion mark,
the controller's `Update` / `UpdateStatus` computed from the object it overwrites).  `VersInv` abstracts
what a property of the list needs to survive that (`versInv_step`; `versList` itself is defined next to
`seenVers`).  Two instances:
* `Chain R`: a reflexive, transitive relation that every write respects holds from every earlier to
  every later member of the list (`chain_of_reach`: an invariant of every history);
* `AllVers Q`: a property that every write keeps holds of ALL members, once it holds of all
  (`allVers_versInv` with `versInv_steps`).
Used by `Props/C12Hist.lean` with "carries a kill timestamp": once ANY copy the controller holds shows a
kill timestamp, every copy it will ever hold later shows one too.  Core Lean only.
-/
import FurikoModel.Proofs.JobCtlInvJob

set_option linter.unusedSimpArgs false
set_option linter.unusedVariables false

namespace Furiko.JobCtl
open Furiko Furiko.WQ

variable {j0 : JobObj} {s s' : Sys} {ok : Sys → Action → Prop}

/-- `nj` is what a write of the transition system puts over the authoritative object `cur`: `JobMove` without
the action, the state and the side conditions.  Each of the other three views of a Job write maps into it:
`UserWrite.wrote`, `PassWrite.wrote`, `JobMove.wrote`. -/
inductive Wrote : JobObj → JobObj → Prop
  /-- user kill -/
  | kill (cur : JobObj) (t : Time) (rv : Nat) :
      Wrote cur { cur with job := { cur.job with killTimestamp := some t }, rv := rv }
  /-- deletion mark (user delete / TTL delete of a Job with the finalizer) -/
  | del (cur : JobObj) (t : Time) (rv : Nat) :
      Wrote cur { cur with job := { cur.job with deletionTimestamp := some t }, rv := rv }
  /-- the controller's `Update`, computed from the object it overwrites -/
  | spec (jo new : JobObj) (rv : Nat) : JobLe jo.job new.job → Wrote jo (specWrite jo new rv)
  /-- the controller's `UpdateStatus`, computed from the object it overwrites -/
  | status (jo new : JobObj) (rv : Nat) : JobLe jo.job new.job → Wrote jo (statusWrite jo new rv)

/-- the user's writes are among them … -/
theorem UserWrite.wrote {a : Action} {cur nj : JobObj} (hw : UserWrite s a cur nj) : Wrote cur nj := by
  cases hw with
  | kill t _ => exact .kill cur t _
  | delMark => exact .del cur _ _

/-- … and so are a pass's, once the object they overwrite is identified (`PassWrite.resolve`) -/
theorem PassWrite.wrote {jo cur nj : JobObj} {sp : Sys} (hb : Base j0 s) (hc : s.jobCache = some jo)
    (hid : CachedIsCur jo (sync sp jo).1) (hcur : s.job = some cur) (hw : PassWrite jo sp s cur nj) :
    Wrote cur nj := by
  have hle := (sync_spec sp jo sp (CreatePhase.refl _)).2
  rcases hw.resolve hb hc hid hcur with ⟨_, _, rfl⟩ | ⟨rfl, _, rfl⟩ | ⟨rfl | ⟨r0, rfl⟩, _, rfl⟩
  · exact .del cur _ _
  · exact .spec _ _ _ hle
  · exact .status _ _ _ hle
  · exact .status _ { jo with job := (sync sp jo).2.1 } _ (JobLe.of_specWrite hle _)

/-- a property of the version list that survives every step -/
structure VersInv (IL : List JobObj → Prop) : Prop where
  sub : ∀ l l' : List JobObj, l'.Sublist l → IL l → IL l'
  write : ∀ (A : List JobObj) (cur nj : JobObj), IL (A ++ [cur]) → Wrote cur nj → IL (A ++ [nj] ++ [nj])
  dup : ∀ j : JobObj, IL [j] → IL [j, j]

section generic
variable {IL : List JobObj → Prop}

theorem VersInv.of_eq (hI : VersInv IL) (h : IL (versList s)) (hjob : s'.job = s.job)
    (hseen : seenVers s' = seenVers s) : IL (versList s') := by
  unfold versList at *
  rw [hjob, hseen]; exact h

theorem VersInv.frame (hI : VersInv IL) (h : IL (versList s)) (hf : Frame s s') : IL (versList s') :=
  hI.of_eq h hf.job (seenVers_congr hf.jobCache hf.jobEvs)

theorem VersInv.podChange (hI : VersInv IL) (h : IL (versList s)) (hst : Static s s')
    (hjob : s'.job = s.job) (hevs : s'.jobEvs = s.jobEvs) : IL (versList s') :=
  hI.of_eq h hjob (seenVers_congr hst.jobCache hevs)

theorem VersInv.jobWrite (hI : VersInv IL) {cur nj : JobObj} (h : IL (versList s))
    (hcur : s.job = some cur) (hw : JobWrite s s' nj) (hrel : Wrote cur nj) : IL (versList s') := by
  have hseen := hw.seenVers
  unfold versList at *
  rw [hcur] at h
  rw [hw.job, hseen]
  exact hI.write _ cur nj h hrel

theorem VersInv.jobGone (hI : VersInv IL) (h : IL (versList s)) (hg : JobGone s s') :
    IL (versList s') := by
  have hseen := hg.seenVers
  refine hI.sub _ _ ?_ h
  unfold versList
  rw [hg.job, hseen]
  simp

theorem VersInv.quiet (hI : VersInv IL) (h : IL (versList s)) (hq : Quiet s s') : IL (versList s') := by
  rcases hq.vers with hsub | he
  · exact hI.sub _ _ hsub h
  · -- a restart: two copies of the stored object
    have h1 := hI.sub _ _ (List.sublist_append_right _ _ : (s.job.toList).Sublist (versList s)) h
    rw [he]
    cases hj : s.job with
    | none => rw [hj] at h1; exact h1
    | some j => rw [hj] at h1; exact hI.dup j h1

theorem VersInv.change (hI : VersInv IL) {A R W G} (h : IL (versList s)) (hc : Change A R W G s s')
    (hW : ∀ cur nj, W cur nj → s.job = some cur → Wrote cur nj) : IL (versList s') := by
  cases hc with
  | frame hf => exact hI.frame h hf
  | podAdd _ _ h' => exact hI.podChange h h'.static h'.job h'.jobEvs
  | podSet _ _ _ h' => exact hI.podChange h h'.static h'.job h'.jobEvs
  | podDel _ h' => exact hI.podChange h h'.static h'.job h'.jobEvs
  | jobWrite cur nj w hcur h' => exact hI.jobWrite h hcur h' (hW cur nj w hcur)
  | jobGone _ _ _ h' => exact hI.jobGone h h'

theorem VersInv.micro (hI : VersInv IL) {j0 jo : JobObj} {sp s s' : Sys}
    (hb : Base j0 s) (h : IL (versList s)) (hc : s.jobCache = some jo)
    (hid : CachedIsCur jo (sync sp jo).1) (hm : Micro jo sp s s') :
    IL (versList s') :=
  hI.change h hm.change fun _ _ w hcur => w.wrote hb hc hid hcur

theorem VersInv.micros (hI : VersInv IL) {j0 jo : JobObj} {sp s s' : Sys}
    (hb : Base j0 s) (h : IL (versList s)) (hc : s.jobCache = some jo)
    (hid : CachedIsCur jo (sync sp jo).1) (hm : Micros jo sp s s') :
    IL (versList s') := by
  induction hm with
  | refl => exact h
  | tail hms hm ih =>
    have := hb.micros hc hms
    exact hI.micro this.1 ih this.2 hid hm

theorem versInv_step (hI : VersInv IL) (hb : Base j0 s)
    (h : IL (versList s)) (a : Action) (hal : Allowed j0 s a) : IL (versList (step s a)) := by
  rcases step_change hal with rfl | hq | hch
  · show IL (versList (work s).1)
    cases hc : s.jobCache with
    | none => exact hI.frame h (work_frame s hc)
    | some jo =>
      obtain ⟨sp, hf, hm⟩ := work_micros s jo hc
      exact hI.micros (hb.frame hf) (hI.frame h hf) (hf.jobCache.trans hc)
        (cachedIsCur_sync (hb.frame hf) (hf.jobCache.trans hc)) hm
  · exact hI.quiet h hq
  · exact hI.change h hch fun _ _ w _ => w.wrote

theorem versInv_steps (hI : VersInv IL)
    (hr : Reach ok j0 s) (hs : Steps ok j0 s s') (h : IL (versList s)) : IL (versList s') := by
  induction hs with
  | refl => exact h
  | step a hs' _ hal ih => exact versInv_step hI (base_of_reach (hr.steps hs')) ih a hal

end generic

def Chain (R : JobObj → JobObj → Prop) (s : Sys) : Prop := (versList s).Pairwise R

/-- reflexive, transitive, and every write moves forward along it -/
structure WriteMono (R : JobObj → JobObj → Prop) : Prop where
  refl : ∀ x, R x x
  trans : ∀ x y z, R x y → R y z → R x z
  wrote : ∀ cur nj, Wrote cur nj → R cur nj

theorem chain_versInv {R : JobObj → JobObj → Prop} (hR : WriteMono R) : VersInv (List.Pairwise R) where
  sub := fun l l' hs h => List.Pairwise.sublist hs h
  write := by
    intro A cur nj h hw
    have hrel := hR.wrote cur nj hw
    rw [List.pairwise_append] at h
    obtain ⟨h1, _, h3⟩ := h
    rw [List.pairwise_append]
    refine ⟨?_, List.pairwise_singleton _ _, ?_⟩
    · rw [List.pairwise_append]
      refine ⟨h1, List.pairwise_singleton _ _, ?_⟩
      intro a ha b hb
      simp only [List.mem_singleton] at hb; subst hb
      exact hR.trans _ _ _ (h3 a ha cur (by simp)) hrel
    · intro a ha b hb
      simp only [List.mem_singleton] at hb; subst hb
      rcases List.mem_append.mp ha with ha | ha
      · exact hR.trans _ _ _ (h3 a ha cur (by simp)) hrel
      · simp only [List.mem_singleton] at ha; subst ha; exact hR.refl _
  dup := fun j _ => List.pairwise_pair.mpr (hR.refl j)

theorem Chain.init {R : JobObj → JobObj → Prop} (hR : WriteMono R) (j0 : JobObj) (clock : Int) (cfg : ExecConfig)
    (d : PIndex) : Chain R (initSys clock cfg d j0) := by
  unfold Chain versList initSys userCreateJob seenVers upserts
  simp only [Option.toList_none, List.nil_append, List.filterMap_cons, List.filterMap_nil, Option.toList_some,
    List.singleton_append]
  exact List.pairwise_pair.mpr (hR.refl _)

/-- **the version chain is an invariant** of every history, all actions allowed -/
theorem chain_of_reach {R : JobObj → JobObj → Prop} (hR : WriteMono R)
    (hr : Reach ok j0 s) : Chain R s := by
  induction hr with
  | init c cfg d _ => exact Chain.init hR j0 c cfg d
  | step a hr' _ hal ih => exact versInv_step (chain_versInv hR) (base_of_reach hr') ih a hal

theorem JobMove.wrote {s0 : Sys} {a : Action} {x y : JobObj} (h : JobMove s0 a (some x) (some y)) : Wrote x y := by
  cases h with
  | delMark => exact .del x _ _
  | kill => exact .kill x _ _
  | ctlSpec jo sp rv => exact .spec x _ rv (sync_spec sp x sp (CreatePhase.refl _)).2
  | ctlStatus jo sp rv => exact .status x _ rv (sync_spec sp x sp (CreatePhase.refl _)).2
  | ctlStatusOn jo sp rv0 rv =>
    exact .status _ { jo with job := (sync sp jo).2.1 } rv (JobLe.of_specWrite (sync_spec sp jo sp (CreatePhase.refl _)).2 rv0)

/-- **the authoritative object only moves forward**: along every history (all actions) the stored object
at a state and at any later state, as long as it exists, are related by every relation the writes respect -/
theorem job_steps_rel {R : JobObj → JobObj → Prop} (hR : WriteMono R)
    (hr : Reach ok j0 s) (hs : Steps ok j0 s s') (j j' : JobObj) (hj : s.job = some j)
    (hj' : s'.job = some j') : R j j' := by
  refine steps_relObj R hR.refl hR.trans (fun s1 a _ hr1 _ hal j1 j1' h1 h1' => ?_) hr hs j j' hj hj'
  have hm := job_moves (base_of_reach hr1) a hal
  rw [h1, h1'] at hm
  suffices hgen : ∀ o o', JobMoves s1 a o o' → ∀ x y, o = some x → o' = some y → R x y from hgen _ _ hm j1 j1' rfl rfl
  intro o o' hmv
  induction hmv with
  | refl => intro x y h1 h2; cases h1.symm.trans h2; exact hR.refl _
  | tail _ hmv ih =>
    intro x y hx hy
    obtain ⟨cur, rfl⟩ := hmv.src
    subst hy
    exact hR.trans _ _ _ (ih x cur hx rfl) (hR.wrote _ _ hmv.wrote)

theorem Chain.cache_job {R : JobObj → JobObj → Prop} {s : Sys} (h : Chain R s) {c j : JobObj}
    (hc : s.jobCache = some c) (hj : s.job = some j) : R c j := by
  unfold Chain versList seenVers at h
  rw [hc, hj] at h
  simp only [Option.toList_some, List.singleton_append, List.cons_append] at h
  exact (List.pairwise_cons.mp h).1 j (by simp)

theorem Chain.cache_event {R : JobObj → JobObj → Prop} {s : Sys} (h : Chain R s) {c v : JobObj}
    (hc : s.jobCache = some c) (hv : v ∈ upserts s.jobEvs) : R c v := by
  unfold Chain versList seenVers at h
  rw [hc] at h
  simp only [Option.toList_some, List.singleton_append, List.cons_append] at h
  exact (List.pairwise_cons.mp h).1 v (List.mem_append_left _ hv)

theorem Chain.seen_job {R : JobObj → JobObj → Prop} {s : Sys} (h : Chain R s) {v j : JobObj}
    (hv : v ∈ seenVers s) (hj : s.job = some j) : R v j := by
  unfold Chain versList at h
  rw [hj] at h
  exact (List.pairwise_append.mp h).2.2 v hv j (by simp)

theorem Chain.cache_all {R : JobObj → JobObj → Prop} (hR : WriteMono R) (h : Chain R s) {c : JobObj}
    (hc : s.jobCache = some c) : ∀ v ∈ versList s, R c v := by
  intro v hv
  unfold Chain at h
  unfold versList seenVers at h hv
  rw [hc] at h hv
  simp only [Option.toList_some, List.singleton_append, List.cons_append, List.mem_cons] at h hv
  rcases hv with rfl | hv
  · exact hR.refl _
  · exact (List.pairwise_cons.mp h).1 v hv

def AllVers (Q : JobObj → Prop) (l : List JobObj) : Prop := ∀ v ∈ l, Q v

theorem allVers_versInv {Q : JobObj → Prop} (hQ : ∀ cur nj, Wrote cur nj → Q cur → Q nj) : VersInv (AllVers Q) where
  sub := fun l l' hs h v hv => h v (hs.subset hv)
  write := by
    intro A cur nj h hw v hv
    have hcur : Q cur := h cur (by simp)
    simp only [List.append_assoc, List.mem_append, List.mem_singleton, List.mem_cons, List.not_mem_nil,
      or_false] at hv
    rcases hv with hv | rfl | rfl
    · exact h v (List.mem_append_left _ hv)
    · exact hQ cur _ hw hcur
    · exact hQ cur _ hw hcur
  dup := fun j h v hv => by
    simp only [List.mem_cons, List.not_mem_nil, or_false] at hv
    rcases hv with rfl | rfl <;> exact h _ (by simp)

/-- if `v` shows a kill timestamp so does `w` -/
def KillSeen (v w : JobObj) : Prop := v.job.killTimestamp.isSome = true → w.job.killTimestamp.isSome = true

theorem wrote_kill {cur nj : JobObj} (h : Wrote cur nj) : KillSeen cur nj := by
  cases h with
  | kill t rv => intro _; rfl
  | del t rv => intro h; exact h
  | spec new rv hle =>
    intro h
    show (specWrite cur new rv).job.killTimestamp.isSome = true
    unfold specWrite
    simp only
    rw [hle.kill]; exact h
  | status new rv _ => intro h; exact h

theorem killSeen_mono : WriteMono KillSeen where
  refl := fun _ h => h
  trans := fun _ _ _ h1 h2 h => h2 (h1 h)
  wrote := fun _ _ h => wrote_kill h

/-- if `v` is being deleted so is `w` -/
def DelSeen (v w : JobObj) : Prop := v.job.deletionTimestamp.isSome = true → w.job.deletionTimestamp.isSome = true

theorem wrote_del {cur nj : JobObj} (h : Wrote cur nj) : DelSeen cur nj := by
  cases h with
  | kill t rv => intro h; exact h
  | del t rv => intro _; rfl
  | spec new rv _ => intro h; exact h
  | status new rv _ => intro h; exact h

theorem delSeen_mono : WriteMono DelSeen where
  refl := fun _ h => h
  trans := fun _ _ _ h1 h2 h => h2 (h1 h)
  wrote := fun _ _ h => wrote_del h

/-- **once the cached copy shows a kill timestamp, every copy the controller holds later does**: along
every continuation of a history (all actions), every version in the system carries one -/
theorem kill_seen_all (hr : Reach ok j0 s)
    (hs : Steps ok j0 s s') {c : JobObj} (hc : s.jobCache = some c) (hk : c.job.killTimestamp.isSome = true) :
    AllVers (fun v => v.job.killTimestamp.isSome = true) (versList s') :=
  versInv_steps (allVers_versInv (fun cur nj hw h => wrote_kill hw h)) hr hs
    (fun v hv => (chain_of_reach killSeen_mono hr).cache_all killSeen_mono hc v hv hk)

end Furiko.JobCtl
