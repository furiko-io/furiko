/-
Helper lemmas for Proofs/HeapSpec.lean: the container/heap operations (`heapPush`, `heapPop`,
`heapFix`, `heapRemove`, `heapInit`) preserve `WF` and the heap order, and act on the abstract
map `search` as expected.
-/
import FurikoModel.Proofs.HeapLemmasOrd

namespace Furiko.Heap

section
variable (a : PQ) (k : String) (p : Int)

theorem pushRaw_size :
    (a.pushRaw k p).queue.size = a.queue.size + 1 := by simp [PQ.pushRaw]

theorem pushRaw_get_lt (m : Nat) (h : m < a.queue.size) :
    (a.pushRaw k p).queue[m]! = a.queue[m]! := by
  simp only [PQ.pushRaw]; grind

theorem pushRaw_get_eq :
    (a.pushRaw k p).queue[a.queue.size]! = ⟨k, p, a.queue.size⟩ := by
  simp only [PQ.pushRaw]; grind

theorem pushRaw_names (x : String) :
    (a.pushRaw k p).names x = if x = k then some a.queue.size else a.names x := rfl

theorem pushRaw_prio_lt (m : Nat) (h : m < a.queue.size) :
    prio (a.pushRaw k p) m = prio a m := by unfold prio; rw [pushRaw_get_lt a k p m h]

end

theorem pushRaw_wf {a : PQ} (h : WF a) (k : String) (p : Int) (hk : a.names k = none) :
    WF (a.pushRaw k p) := by
  apply WF.of_get
  · intro m hm
    rw [pushRaw_size] at hm
    rw [pushRaw_names]
    by_cases e : m = a.queue.size
    · subst e
      rw [pushRaw_get_eq]
      exact ⟨rfl, if_pos rfl⟩
    · have hm' : m < a.queue.size := by omega
      rw [pushRaw_get_lt a k p m hm']
      refine ⟨(h.get m hm').1, ?_⟩
      have := (h.get m hm').2
      rw [if_neg]
      · exact this
      · intro e'; rw [e', hk] at this; cases this
  · intro x m hx
    rw [pushRaw_names] at hx
    rw [pushRaw_size]
    split at hx
    · next e =>
      have : a.queue.size = m := Option.some.inj hx
      subst this
      rw [pushRaw_get_eq]
      exact ⟨by omega, e.symm⟩
    · obtain ⟨hm, hx'⟩ := h.pos x m hx
      rw [pushRaw_get_lt a k p m hm]
      exact ⟨by omega, hx'⟩

theorem pushRaw_search {a : PQ} (h : WF a) (k : String) (p : Int) (x : String) :
    search (a.pushRaw k p) x = if x = k then some p else search a x := by
  rw [search_of_names (pushRaw_names a k p)
    (fun y m _ hy => pushRaw_prio_lt a k p m (h.pos y m hy).1), Option.map_some]
  unfold prio
  rw [pushRaw_get_eq]

theorem popRaw_size (a : PQ) : a.popRaw.1.queue.size = a.queue.size - 1 := by simp [PQ.popRaw]

theorem popRaw_get_lt (a : PQ) (m : Nat) (h : m < a.queue.size - 1) :
    a.popRaw.1.queue[m]! = a.queue[m]! := by
  simp only [PQ.popRaw]; grind

theorem popRaw_names (a : PQ) (x : String) :
    a.popRaw.1.names x =
      if x = (a.queue[a.queue.size - 1]!).name then none else a.names x := rfl

theorem popRaw_item (a : PQ) :
    a.popRaw.2 = { a.queue[a.queue.size - 1]! with index := -1 } := rfl

theorem popRaw_wf {a : PQ} (h : WF a) (h0 : 0 < a.queue.size) : WF a.popRaw.1 := by
  apply WF.of_get
  · intro m hm
    rw [popRaw_size] at hm
    have hm' : m < a.queue.size := by omega
    rw [popRaw_get_lt a m hm, popRaw_names]
    refine ⟨(h.get m hm').1, ?_⟩
    rw [if_neg]
    · exact (h.get m hm').2
    · intro e
      have := h.inj hm' (by omega) e
      omega
  · intro x m hx
    rw [popRaw_names] at hx
    split at hx
    · cases hx
    · next e =>
      obtain ⟨hm, hx'⟩ := h.pos x m hx
      have : m ≠ a.queue.size - 1 := by rintro rfl; exact e hx'.symm
      have hm2 : m < a.queue.size - 1 := by omega
      rw [popRaw_size, popRaw_get_lt a m hm2]
      exact ⟨hm2, hx'⟩

theorem popRaw_search {a : PQ} (h : WF a) (x : String) :
    search a.popRaw.1 x =
      if x = (a.queue[a.queue.size - 1]!).name then none else search a x :=
  search_of_names (N := none) (popRaw_names a) (fun y m e hy => by
    obtain ⟨hm, hy'⟩ := h.pos y m hy
    have : m ≠ a.queue.size - 1 := by rintro rfl; exact e hy'.symm
    unfold prio
    rw [popRaw_get_lt a m (by omega)]) x

theorem popRaw_inv {a : PQ} (h : WF a) (h0 : 0 < a.queue.size)
    (ho : HeapFrom a 0 (a.queue.size - 1)) : Inv a.popRaw.1 := by
  refine Inv.of (popRaw_wf h h0) ?_
  intro p c hlo hc hpc
  rw [popRaw_size] at hc
  unfold prio
  rw [popRaw_get_lt a c hc, popRaw_get_lt a p (by have := hpc.lt; omega)]
  exact ho p c hlo hc hpc

theorem HeapFrom.mono {a : PQ} {n n' : Nat} (h : HeapFrom a 0 n) (hn : n' ≤ n) :
    HeapFrom a 0 n' := fun p c hlo hc => h p c hlo (by omega)

theorem HeapFrom.root_le {a : PQ} {n : Nat} (h : HeapFrom a 0 n) :
    ∀ m, m < n → prio a 0 ≤ prio a m := by
  intro m
  induction m using Nat.strongRecOn with
  | ind m ih =>
    intro hm
    by_cases e : m = 0
    · subst e; exact Int.le_refl _
    · have hc := isChild_parent (c := m) (by omega)
      have := hc.lt
      exact Int.le_trans (ih _ this (by omega)) (h _ m (Nat.zero_le _) hm hc)

theorem heapPush_spec {a : PQ} (h : Inv a) (k : String) (p : Int) (hk : a.names k = none) :
    Inv (heapPush a k p) ∧ ∀ x, search (heapPush a k p) x = if x = k then some p else search a x := by
  have hwf := pushRaw_wf h.1 k p hk
  have hsz := pushRaw_size a k p
  have e : heapPush a k p = up (a.pushRaw k p) a.queue.size (a.queue.size + 1) := by
    unfold heapPush PQ.len
    simp only [hsz]; rfl
  have hs : Step (a.queue.size + 1) (a.pushRaw k p) (heapPush a k p) := by
    rw [e]; exact up_step _ _ hwf (by omega) (by omega)
  refine ⟨Inv.of hs.wf ?_, fun x => by rw [hs.search x, pushRaw_search h.1]⟩
  rw [hs.size, hsz, e]
  -- the new last position has no children, and the links that do not touch it are the old ones
  refine up_heap _ _ (by omega) (by omega) (Nat.le_refl _)
    ⟨⟨fun q c _ hc hqc _ hne => ?_, fun g c _ hc _ hic => ?_⟩, fun c hc hic => ?_⟩
  · have := hqc.lt
    rw [pushRaw_prio_lt a k p c (by omega), pushRaw_prio_lt a k p q (by omega)]
    exact h.heapFrom q c (Nat.zero_le _) (by omega) hqc
  · have := hic.lt; omega
  · have := hic.lt; omega

theorem tail_spec {a b : PQ} {n : Nat} (hn : a.queue.size = n + 1) (hs : Step (n + 1) a b)
    (ho : HeapFrom b 0 n) :
    Inv b.popRaw.1 ∧ b.popRaw.2 = { b.queue[n]! with index := -1 } ∧
      ∀ x, search b.popRaw.1 x = if x = (b.queue[n]!).name then none else search a x := by
  have hsz : b.queue.size = n + 1 := by rw [hs.size, hn]
  have e : b.queue.size - 1 = n := by omega
  refine ⟨popRaw_inv hs.wf (by omega) (by rw [e]; exact ho), by rw [popRaw_item, e], fun x => ?_⟩
  rw [popRaw_search hs.wf, e, hs.search x]

theorem Step.mono {n n' : Nat} {a b : PQ} (h : Step n a b) (hn : n ≤ n') : Step n' a b :=
  ⟨h.wf, h.size, h.search, fun m hm => h.tail m (by omega)⟩

/-- the swap with the last position that `Pop` (`i = 0`) and `Remove` start with -/
theorem swap_last {a : PQ} (h : Inv a) {n i : Nat} (hn : a.queue.size = n + 1) (hi : i ≤ n) :
    Step (n + 1) a (a.swap i n) ∧ Hole (a.swap i n) i 0 n ∧
      (a.swap i n).queue[n]! = { a.queue[i]! with index := n } := by
  refine ⟨swap_step h.1 i n (by omega) (by omega) (by omega),
    h.heapFrom.hole (by omega) (by omega) fun m hm hmi => ?_, by rw [swap_get a i n n (by omega) (by omega), if_pos rfl]⟩
  rw [swap_prio a i n _ (by omega) (by omega), if_neg (by omega), if_neg hmi]

theorem swap_last_tail {a b : PQ} (h : Inv a) {n i : Nat} (hn : a.queue.size = n + 1)
    (hi : i ≤ n) (hs : Step n (a.swap i n) b) (ho : HeapFrom b 0 n) :
    Inv b.popRaw.1 ∧ b.popRaw.2 = { a.queue[i]! with index := -1 } ∧
      ∀ x, search b.popRaw.1 x = if x = (a.queue[i]!).name then none else search a x := by
  obtain ⟨s1, _, hlast⟩ := swap_last h hn hi
  have ht := tail_spec hn (s1.trans (hs.mono (Nat.le_succ n))) ho
  rw [hs.tail n (Nat.le_refl _), hlast] at ht
  exact ht

theorem heapPop_spec {a : PQ} (h : Inv a) (h0 : 0 < a.queue.size) :
    Inv (heapPop a).1 ∧ (heapPop a).2 = { a.queue[0]! with index := -1 } ∧
      ∀ x, search (heapPop a).1 x = if x = (a.queue[0]!).name then none else search a x := by
  obtain ⟨n, hn⟩ : ∃ n, a.queue.size = n + 1 := ⟨a.queue.size - 1, by omega⟩
  have e : heapPop a = ((down (a.swap 0 n) 0 n).1).popRaw := by
    unfold heapPop PQ.len; simp only [hn]; rfl
  obtain ⟨s1, hh, _⟩ := swap_last h hn (Nat.zero_le n)
  have hsz : n ≤ (a.swap 0 n).queue.size := by rw [swap_size]; omega
  rw [e]
  exact swap_last_tail h hn (Nat.zero_le n) (down_step 0 s1.wf hsz)
    (down_heap 0 hsz ⟨hh, fun g _ hg => absurd hg.lt (Nat.not_lt_zero _)⟩)

theorem heapRemove_spec {a : PQ} (h : Inv a) (i : Nat) (hi : i < a.queue.size) :
    Inv (heapRemove a i).1 ∧
      ∀ x, search (heapRemove a i).1 x = if x = (a.queue[i]!).name then none else search a x := by
  obtain ⟨n, hn⟩ : ∃ n, a.queue.size = n + 1 := ⟨a.queue.size - 1, by omega⟩
  have hlen : a.len - 1 = n := by unfold PQ.len; omega
  rw [heapRemove_eq, hlen]
  by_cases e : n = i
  · subst e
    rw [show (n != n) = false by simp]
    have ht := tail_spec hn (Step.refl h.1) (h.heapFrom.mono (by omega))
    exact ⟨ht.1, ht.2.2⟩
  · rw [show (n != i) = true by simp [e]]
    have hin : i < n := by omega
    obtain ⟨s1, hh, _⟩ := swap_last h hn (Nat.le_of_lt hin)
    have hsz : n ≤ (a.swap i n).queue.size := by rw [swap_size]; omega
    have ht := swap_last_tail h hn (Nat.le_of_lt hin) (fixN_step i s1.wf hin hsz)
      (fixN_heap i hsz hin hh)
    exact ⟨ht.1, ht.2.2⟩

/-- the assignment `item.priority = newPriority` of `Heap.Update`, before its `heap.Fix` -/
def setPrio (a : PQ) (idx : Nat) (p : Int) : PQ :=
  { a with queue := a.queue.setIfInBounds idx { a.queue[idx]! with prio := p } }

section
variable (a : PQ) (idx : Nat) (p : Int)

theorem setPrio_size :
    (setPrio a idx p).queue.size = a.queue.size := by simp [setPrio]

theorem setPrio_get_eq (h : idx < a.queue.size) :
    (setPrio a idx p).queue[idx]! = { a.queue[idx]! with prio := p } := by
  simp only [setPrio]; grind

theorem setPrio_get_ne (m : Nat) (h : m ≠ idx) :
    (setPrio a idx p).queue[m]! = a.queue[m]! := by
  simp only [setPrio]; grind

theorem setPrio_prio_ne (m : Nat) (h : m ≠ idx) :
    prio (setPrio a idx p) m = prio a m := by unfold prio; rw [setPrio_get_ne a idx p m h]

end

theorem setPrio_wf {a : PQ} (h : WF a) (idx : Nat) (p : Int) (hi : idx < a.queue.size) :
    WF (setPrio a idx p) :=
  h.of_perm id (setPrio_size a idx p) (fun _ hm => ⟨hm, rfl⟩)
    (fun m hm => by
      by_cases e : m = idx
      · subst e; rw [setPrio_get_eq a m p hi]; exact ⟨(h.get m hm).1, rfl⟩
      · rw [setPrio_get_ne a idx p m e]; exact ⟨(h.get m hm).1, rfl⟩)
    (fun k => by show a.names k = _; cases a.names k <;> rfl)

theorem setPrio_search {a : PQ} (h : WF a) (k : String) (idx : Nat) (p : Int)
    (hk : a.names k = some idx) (x : String) :
    search (setPrio a idx p) x = if x = k then some p else search a x := by
  obtain ⟨hi, hname⟩ := h.pos k idx hk
  rw [search_of_names (a := a) (k := k) (N := some idx)
    (fun y => by show a.names y = _; split <;> simp_all)
    (fun y m e hy => setPrio_prio_ne a idx p m fun em =>
      e ((h.pos y m hy).2.symm.trans (em ▸ hname))), Option.map_some]
  unfold prio
  rw [setPrio_get_eq a idx p hi]

theorem heapFix_setPrio_spec {a : PQ} (h : Inv a) (k : String) (idx : Nat) (p : Int)
    (hk : a.names k = some idx) :
    Inv (heapFix (setPrio a idx p) idx) ∧
      ∀ x, search (heapFix (setPrio a idx p) idx) x = if x = k then some p else search a x := by
  obtain ⟨hi, -⟩ := h.1.pos k idx hk
  have hwf := setPrio_wf h.1 idx p hi
  have hsz := setPrio_size a idx p
  rw [heapFix_eq]
  unfold PQ.len
  rw [hsz]
  have s := fixN_step (n := a.queue.size) idx hwf hi (by omega)
  refine ⟨Inv.of s.wf ?_, fun x => by rw [s.search x, setPrio_search h.1 k idx p hk]⟩
  rw [s.size, hsz]
  exact fixN_heap idx (by omega) hi
    (h.heapFrom.hole (Nat.le_refl _) hi fun m _ hmi => setPrio_prio_ne a idx p m hmi)

theorem initLoop_step {n : Nat} (k : Nat) : ∀ {a : PQ}, WF a → n ≤ a.queue.size →
    Step n a (initLoop a n k) := by
  induction k with
  | zero => intro a h _; exact Step.refl h
  | succ k ih =>
    intro a h hn
    have s1 := down_step k h hn
    exact s1.trans (ih s1.wf (by rw [s1.size]; exact hn))

theorem initLoop_heap {n : Nat} (k : Nat) : ∀ {a : PQ}, n ≤ a.queue.size → HeapFrom a k n →
    HeapFrom (initLoop a n k) 0 n := by
  induction k with
  | zero => intro a _ h; exact h
  | succ k ih =>
    intro a hn h
    refine ih (by unfold down; rw [downLoop_size]; exact hn) (down_heap k hn ?_)
    exact ⟨⟨fun p c hlo hc hpc hp _ => h p c (by omega) hc hpc,
      fun g _ hlo _ hg _ => by have := hg.lt; omega⟩, fun g hlo hg => by have := hg.lt; omega⟩

theorem heapInit_spec {a : PQ} (h : WF a) :
    Inv (heapInit a) ∧ ∀ x, search (heapInit a) x = search a x := by
  have s : Step a.queue.size a (heapInit a) := initLoop_step _ h (Nat.le_refl _)
  refine ⟨Inv.of s.wf ?_, s.search⟩
  rw [s.size]
  have e : a.len = a.queue.size := rfl
  exact initLoop_heap (a.len / 2) (Nat.le_refl _)
    (fun p c hlo hc hpc => by unfold IsChild at hpc; omega)

theorem build_nil (i : Nat) (a : PQ) : new.build [] i a = a := rfl

theorem build_cons (nm : String) (p : Int) (rest : List (String × Int)) (a : PQ) :
    new.build ((nm, p) :: rest) a.queue.size a = new.build rest (a.queue.size + 1) (a.pushRaw nm p) :=
  rfl

theorem new_eq (items : List (String × Int)) : new items = heapInit (new.build items 0 default) :=
  rfl

theorem default_wf : WF (default : PQ) := by
  apply WF.of_get
  · intro i hi; exact absurd hi (Nat.not_lt_zero _)
  · intro k i hk; cases hk

theorem default_size : (default : PQ).queue.size = 0 := rfl

theorem default_search (x : String) : search (default : PQ) x = none := rfl

end Furiko.Heap
