/-
Pure lemmas for the stability theorems (`C11Hist.finished_stays_finished_partial`,
`result_and_finishTime_stable_partial`): the semantic invariant `RS` of a recorded ref, the relation
`Froz` ("finished refs are frozen"), and their preservation by `GetTaskRef` / `lostRef` /
`GenerateTaskRefs`, under the hypothesis `Hyp` that a task found for a finished ref reports a finish
time itself.  Core Lean only.
-/
import FurikoModel.Proofs.JobCtlInvRefsInv

set_option linter.unusedSimpArgs false
set_option linter.unusedVariables false

namespace Furiko.JobCtl
open Furiko Furiko.WQ Furiko.StatusLemmas

/-- what the recorded status of a ref means -/
structure RS (r : TaskRef) : Prop where
  succFin : r.status.result = .succeeded → r.finishTimestamp.isSome = true
  finFinal : r.finishTimestamp.isSome = true → isFinalTaskState r.status.state = true
  dsIff : r.finishTimestamp.isSome = true → ∀ x, r.deletedStatus = some x →
    (x.result = .succeeded ↔ r.status.result = .succeeded)
  dsSome : r.finishTimestamp.isSome = true → r.status.result = .succeeded → r.deletedStatus.isSome = true
  dsFinal : ∀ x, r.deletedStatus = some x → isFinalTaskState x.state = true

theorem RS.congr {a b : TaskRef} (h : RS a) (h1 : b.status = a.status) (h2 : b.finishTimestamp = a.finishTimestamp)
    (h3 : b.deletedStatus = a.deletedStatus) : RS b :=
  ⟨by rw [h1, h2]; exact h.succFin, by rw [h1, h2]; exact h.finFinal, by rw [h1, h2, h3]; exact h.dsIff,
   by rw [h1, h2, h3]; exact h.dsSome, by rw [h3]; exact h.dsFinal⟩

/-- what a task read from a pod of the Job reports -/
structure TaskSem (t : Task) : Prop where
  succFin : t.ref.status.result = .succeeded → t.ref.finishTimestamp.isSome = true
  finFinal : t.ref.finishTimestamp.isSome = true → isFinalTaskState t.ref.status.state = true
  noDs : t.ref.deletedStatus = none

theorem podTask_sem {now : Time} {p : PodObj} {t : Task} (hc : p.pod.creationTimestamp.isSome = true)
    (h : podTask now p = some t) : TaskSem t := by
  unfold podTask Pod.task at h
  cases hr : p.pod.taskRef now with
  | none => simp [hr] at h
  | some r =>
    simp only [hr, Option.some.injEq] at h
    subst h
    unfold Pod.taskRef at hr
    cases hf : p.pod.finishTimestamp with
    | none => simp [hf] at hr
    | some fin =>
      simp only [hf, Option.some.injEq] at hr
      subst hr
      -- a finish time is reported exactly by finished pods
      have hfin : fin.isSome = true → p.pod.isFinished = true := by
        intro hfs
        unfold Pod.finishTimestamp at hf
        by_cases hpf : p.pod.isFinished = true
        · exact hpf
        · simp only [hpf, Bool.not_false, ↓reduceIte, Option.some.injEq] at hf
          subst hf; cases hfs
      have hfin' : p.pod.isFinished = true → fin.isSome = true := by
        intro hpf
        unfold Pod.finishTimestamp at hf
        simp only [hpf, Bool.not_true, Bool.false_eq_true, ↓reduceIte] at hf
        split at hf
        · simp only [Option.some.injEq] at hf; subst hf; rfl
        · split at hf
          · split at hf
            · simp only [Option.some.injEq] at hf; subst hf; rfl
            · cases hf
          · split at hf
            · simp only [Option.some.injEq] at hf; subst hf; rfl
            · simp only [Option.some.injEq] at hf; subst hf; exact hc
      refine ⟨?_, ?_, rfl⟩
      · intro hres
        show (Pod.recordedFinish now p.pod fin).isSome = true
        rw [Pod.recordedFinish_isSome]
        apply hfin'
        simp only at hres
        unfold Pod.result at hres
        unfold Pod.isFinished
        split at hres
        · cases hres
        · split at hres
          · rename_i hph; simp [hph]
          · cases hres
          · cases hres
      · intro hfs
        have hpf := hfin ((Pod.recordedFinish_isSome now p.pod fin) ▸ hfs)
        show isFinalTaskState p.pod.state = true
        unfold Pod.state
        simp only [hpf, Bool.not_true, Bool.and_false, Bool.false_eq_true, ↓reduceIte]
        unfold Pod.isFinished at hpf
        cases hph : p.pod.phase <;> simp_all [isFinalTaskState]

theorem getTaskRef_some_frozen (ex : TaskRef) (t : Task) (h1 : ex.finishTimestamp.isSome = true)
    (h2 : t.ref.finishTimestamp.isSome = true) (h3 : isFinalTaskState ex.status.state = true) :
    (getTaskRef (some ex) t).status = ex.status ∧ (getTaskRef (some ex) t).finishTimestamp = ex.finishTimestamp ∧
    (getTaskRef (some ex) t).deletedStatus = ex.deletedStatus :=
  Furiko.Props.C11.getTaskRef_final_kept ex t h1 h3 h2

theorem getTaskRef_some_fresh (ex : TaskRef) (t : Task) (h1 : ex.finishTimestamp.isSome = false)
    (h2 : t.ref.finishTimestamp.isSome = true) :
    (getTaskRef (some ex) t).status = t.ref.status ∧
    (getTaskRef (some ex) t).finishTimestamp = t.ref.finishTimestamp ∧
    (getTaskRef (some ex) t).deletedStatus = some t.ref.status := by
  rw [getTaskRef_some, if_neg (by simp [h1])]
  cases hf : t.ref.finishTimestamp <;> simp_all

theorem getTaskRef_some_unfinished (ex : TaskRef) (t : Task) (h2 : t.ref.finishTimestamp.isSome = false) :
    (getTaskRef (some ex) t).status = t.ref.status ∧
    (getTaskRef (some ex) t).finishTimestamp = ex.finishTimestamp ∧
    (getTaskRef (some ex) t).deletedStatus = ex.deletedStatus := by
  rw [getTaskRef_some, if_neg (by simp [h2])]
  cases hf : t.ref.finishTimestamp <;> simp_all

theorem getTaskRef_none_fields (t : Task) :
    (getTaskRef none t).status = t.ref.status ∧ (getTaskRef none t).finishTimestamp = t.ref.finishTimestamp ∧
    (getTaskRef none t).deletedStatus =
      (if t.ref.finishTimestamp.isSome = true then some t.ref.status else t.ref.deletedStatus) := by
  rw [getTaskRef_none]
  split <;> simp_all

theorem getTaskRef_rs (e : Option TaskRef) (t : Task) (ht : TaskSem t) (he : ∀ ex, e = some ex → RS ex)
    (hyp : ∀ ex, e = some ex → ex.finishTimestamp.isSome = true → t.ref.finishTimestamp.isSome = true) :
    RS (getTaskRef e t) := by
  cases e with
  | none =>
    obtain ⟨h1, h2, h3⟩ := getTaskRef_none_fields t
    refine ⟨by rw [h1, h2]; exact ht.succFin, by rw [h1, h2]; exact ht.finFinal, ?_, ?_, ?_⟩
    · intro hf x hx
      rw [h2] at hf
      rw [h3, if_pos hf] at hx
      simp only [Option.some.injEq] at hx; subst hx
      rw [h1]
    · intro hf _
      rw [h2] at hf
      rw [h3, if_pos hf]; rfl
    · intro x hx
      rw [h3] at hx
      split at hx
      · rename_i hf
        simp only [Option.some.injEq] at hx; subst hx
        exact ht.finFinal hf
      · rw [ht.noDs] at hx; cases hx
  | some ex =>
    have hex := he ex rfl
    by_cases htf : t.ref.finishTimestamp.isSome = true
    · by_cases hexf : ex.finishTimestamp.isSome = true
      · obtain ⟨h1, h2, h3⟩ := getTaskRef_some_frozen ex t hexf htf (hex.finFinal hexf)
        exact hex.congr h1 h2 h3
      · obtain ⟨h1, h2, h3⟩ := getTaskRef_some_fresh ex t (by simpa using hexf) htf
        refine ⟨by rw [h1, h2]; exact ht.succFin, by rw [h1, h2]; exact ht.finFinal, ?_, ?_, ?_⟩
        · intro _ x hx
          rw [h3] at hx; simp only [Option.some.injEq] at hx; subst hx; rw [h1]
        · intro _ _; rw [h3]; rfl
        · intro x hx
          rw [h3] at hx; simp only [Option.some.injEq] at hx; subst hx
          exact ht.finFinal htf
    · have hexf : ¬ ex.finishTimestamp.isSome = true := fun h => htf (hyp ex rfl h)
      obtain ⟨h1, h2, h3⟩ := getTaskRef_some_unfinished ex t (by simpa using htf)
      refine ⟨?_, ?_, ?_, ?_, ?_⟩
      · intro hres; rw [h1] at hres; exact absurd (ht.succFin hres) htf
      · intro hf; rw [h2] at hf; exact absurd hf hexf
      · intro hf; rw [h2] at hf; exact absurd hf hexf
      · intro hf; rw [h2] at hf; exact absurd hf hexf
      · intro x hx; rw [h3] at hx; exact hex.dsFinal x hx

/-- `r` carries the name, the finish time and the "succeeded" of `ex`; `Froz` asks it of the successor of a
finished `ex` -/
def FrozRef (ex r : TaskRef) : Prop :=
  r.name = ex.name ∧ r.finishTimestamp = ex.finishTimestamp ∧
  (r.status.result = .succeeded ↔ ex.status.result = .succeeded)

theorem getTaskRef_froz (ex : TaskRef) (t : Task) (hex : RS ex) (hn : t.ref.name = ex.name)
    (hexf : ex.finishTimestamp.isSome = true) (htf : t.ref.finishTimestamp.isSome = true) :
    FrozRef ex (getTaskRef (some ex) t) := by
  obtain ⟨h1, h2, _⟩ := getTaskRef_some_frozen ex t hexf htf (hex.finFinal hexf)
  exact ⟨by rw [getTaskRef_name]; exact hn, h2, by rw [h1]⟩

theorem lostRef_rs (now : Time) (ex : TaskRef) (hex : RS ex) : RS (lostRef now ex) := by
  unfold lostRef
  cases hd : ex.deletedStatus with
  | some ds =>
    have hdsf := hex.dsFinal ds hd
    cases hf : ex.finishTimestamp with
    | none =>
      simp only [Option.isNone_none, ↓reduceIte]
      refine ⟨fun _ => rfl, fun _ => hdsf, ?_, ?_, ?_⟩
      · intro _ x hx
        simp only [hd, Option.some.injEq] at hx; subst hx; rfl
      · intro _ _; simp [hd]
      · intro x hx; simp only [hd, Option.some.injEq] at hx; subst hx; exact hdsf
    | some f =>
      simp only [Option.isNone_some, Bool.false_eq_true, ↓reduceIte]
      refine ⟨fun _ => by simp [hf], fun _ => hdsf, ?_, ?_, ?_⟩
      · intro _ x hx
        simp only [hd, Option.some.injEq] at hx; subst hx; rfl
      · intro _ _; simp [hd]
      · intro x hx; simp only [hd, Option.some.injEq] at hx; subst hx; exact hdsf
  | none =>
    cases hf : ex.finishTimestamp with
    | none =>
      simp only [Option.isNone_none, ↓reduceIte]
      refine ⟨fun _ => rfl, fun _ => by simp [isFinalTaskState], ?_, ?_, ?_⟩
      · intro _ x hx; simp [hd] at hx
      · intro _ hres
        exfalso
        have := hex.succFin hres
        rw [hf] at this; cases this
      · intro x hx; simp [hd] at hx
    | some f =>
      simp only [Option.isNone_some, Bool.false_eq_true, ↓reduceIte]
      refine ⟨fun _ => by simp [hf], fun _ => by simp [isFinalTaskState], ?_, ?_, ?_⟩
      · intro _ x hx; simp [hd] at hx
      · intro _ hres
        have := hex.dsSome (by rw [hf]; rfl) hres
        rw [hd] at this; cases this
      · intro x hx; simp [hd] at hx

theorem lostRef_froz (now : Time) (ex : TaskRef) (hex : RS ex) (hexf : ex.finishTimestamp.isSome = true) :
    FrozRef ex (lostRef now ex) := by
  refine ⟨(lostRef_fields now ex).1, ?_, ?_⟩
  · have := (Furiko.Props.C11.lostRef_retains now ex).2.2.1
    rw [this, if_pos hexf]
  · unfold lostRef
    cases hd : ex.deletedStatus with
    | some ds =>
      simp only
      have := hex.dsIff hexf ds hd
      cases hf : ex.finishTimestamp <;> simp_all
    | none => cases hf : ex.finishTimestamp <;> simp_all

/-- a task found for a finished ref reports a finish time -/
def Hyp (tasks : List Task) (refs : List TaskRef) : Prop :=
  ∀ t ∈ tasks, ∀ ex ∈ refs, ex.name = t.name → ex.finishTimestamp.isSome = true → t.ref.finishTimestamp.isSome = true

/-- every finished ref of `a` is still in `b`, frozen -/
def Froz (a b : List TaskRef) : Prop :=
  ∀ ex ∈ a, ex.finishTimestamp.isSome = true → ∃ r ∈ b, FrozRef ex r

theorem Froz.refl (a : List TaskRef) : Froz a a := fun ex h _ => ⟨ex, h, rfl, rfl, Iff.rfl⟩

theorem Froz.trans {a b c : List TaskRef} (h1 : Froz a b) (h2 : Froz b c) : Froz a c := by
  intro ex hex hf
  obtain ⟨r, hr, k1⟩ := h1 ex hex hf
  obtain ⟨r', hr', k2⟩ := h2 r hr (by rw [k1.2.1]; exact hf)
  exact ⟨r', hr', k2.1.trans k1.1, k2.2.1.trans k1.2.1, k2.2.2.trans k1.2.2⟩

theorem Froz.of_map {a : List TaskRef} (f : TaskRef → TaskRef)
    (hf : ∀ r, (f r).name = r.name ∧ (f r).finishTimestamp = r.finishTimestamp ∧ (f r).status = r.status) :
    Froz a (a.map f) := fun ex h _ =>
  ⟨f ex, List.mem_map_of_mem h, (hf ex).1, (hf ex).2.1, by rw [(hf ex).2.2]⟩

theorem generateTaskRefs_rs (now : Time) (existing : List TaskRef) (tasks : List Task)
    (hex : ∀ r ∈ existing, RS r) (hts : ∀ t ∈ tasks, TaskSem t) (hyp : Hyp tasks existing) :
    ∀ r ∈ generateTaskRefs now existing tasks, RS r := by
  intro r hr
  rcases mem_generateTaskRefs hr with ⟨t, ht, rfl⟩ | ⟨ex, hexm, _, rfl⟩
  · refine getTaskRef_rs _ t (hts t ht) ?_ ?_
    · intro ex he; exact hex ex (Furiko.lookupRef_some he).1
    · intro ex he hf; exact hyp t ht ex (Furiko.lookupRef_some he).1 (Furiko.lookupRef_some he).2 hf
  · exact lostRef_rs now ex (hex ex hexm)

theorem generateTaskRefs_froz (now : Time) (existing : List TaskRef) (tasks : List Task)
    (hnd : (existing.map (·.name)).Nodup) (hex : ∀ r ∈ existing, RS r) (hok : ∀ t ∈ tasks, TaskOK t)
    (hyp : Hyp tasks existing) : Froz existing (generateTaskRefs now existing tasks) := by
  intro ex hexm hf
  have hm := Furiko.Props.C11.generateTaskRefs_members now existing tasks
  by_cases hin : ex.name ∈ tasks.map (·.name)
  · obtain ⟨t, ht, htn⟩ := List.mem_map.mp hin
    refine ⟨getTaskRef (lookupRef existing t.name) t, hm.2.1 t ht, ?_⟩
    rw [htn, lookupRef_of_nodup existing hnd ex hexm]
    exact getTaskRef_froz ex t (hex ex hexm) (by rw [hok t ht]; exact htn) hf (hyp t ht ex hexm htn.symm hf)
  · exact ⟨lostRef now ex, hm.1 ex hexm hin, lostRef_froz now ex (hex ex hexm) hf⟩

theorem generateTaskRefs_hyp (now : Time) (existing : List TaskRef) (tasks : List Task)
    (htn : (tasks.map (·.name)).Nodup) (hok : ∀ t ∈ tasks, TaskOK t) (hyp : Hyp tasks existing) :
    Hyp tasks (generateTaskRefs now existing tasks) := by
  intro t ht r hr hname hf
  rcases mem_generateTaskRefs hr with ⟨t', ht', rfl⟩ | ⟨ex, hexm, hnot, rfl⟩
  · -- the refreshed ref of `t'`; names are distinct, so `t' = t`
    have hn' : t'.name = t.name := by
      rw [← hname, getTaskRef_name, hok t' ht']
    have : t' = t := inj_on_of_nodup_map htn ht' ht hn'
    subst this
    by_cases htf : t'.ref.finishTimestamp.isSome = true
    · exact htf
    · exfalso
      cases hl : lookupRef existing t'.name with
      | none =>
        rw [hl, (getTaskRef_none_fields t').2.1] at hf
        exact htf hf
      | some ex =>
        rw [hl, (getTaskRef_some_unfinished ex t' (by simpa using htf)).2.1] at hf
        exact htf (hyp t' ht' ex (Furiko.lookupRef_some hl).1 (Furiko.lookupRef_some hl).2 hf)
  · exfalso
    apply hnot
    rw [(lostRef_fields now ex).1] at hname
    exact List.mem_map.mpr ⟨t, ht, hname.symm⟩

end Furiko.JobCtl
