/-
For the stability theorems: when (at the start of the pass) every pod is the Job's, a finished cached
pod implies a finished server pod (`PassCtx.lin`), and a finished recorded ref implies that its server
pod is finished or gone (`hfin`; "finished or gone" is `PodFinIn`), then the Job value `sync` computes
keeps `RS` on every ref, freezes every finished ref (`Froz`), and only finishes a ref whose server pod
is finished or gone (`sync_res`).  What one rewrite of the working Job does (`G3`); the task lists of a
pass, seen from the pods at its start (`TasksSem`, `RefsOK`); the invariant `StabInv` as an instance of
`PassWalk`.  Core Lean only.
-/
import FurikoModel.Proofs.JobCtlInvStabView
import FurikoModel.Proofs.JobCtlInvOwned

set_option linter.unusedSimpArgs false
set_option linter.unusedVariables false

namespace Furiko.JobCtl
open Furiko Furiko.WQ Furiko.StatusLemmas

/-- every pod of `P` with that name (there is at most one) is finished; true when there is none: the
pod named `n` is "finished or gone" -/
def PodFinIn (P : List PodObj) (n : String) : Prop := ∀ p ∈ P, p.pod.name = n → p.pod.isFinished = true

theorem podTask_fin_iff {now : Time} {p : PodObj} {t : Task} (hc : p.pod.creationTimestamp.isSome = true)
    (h : podTask now p = some t) : t.ref.finishTimestamp.isSome = true ↔ p.pod.isFinished = true := by
  obtain ⟨fin, hf, rfl⟩ := podTask_eq_some h
  simp only [Pod.recordedFinish_isSome]
  constructor
  · intro hfs
    unfold Pod.finishTimestamp at hf
    by_cases hpf : p.pod.isFinished = true
    · exact hpf
    · simp only [hpf, Bool.not_false, ↓reduceIte, Option.some.injEq] at hf
      subst hf; cases hfs
  · intro hpf
    unfold Pod.finishTimestamp at hf
    simp only [hpf, Bool.not_true, Bool.false_eq_true, ↓reduceIte] at hf
    split at hf
    · simp only [Option.some.injEq] at hf; subst hf; rfl
    · split at hf
      · split at hf
        · simp only [Option.some.injEq] at hf; subst hf; rfl
        · cases hf
      · split at hf
        · simp only [Option.some.injEq] at hf; subst hf; rfl
        · simp only [Option.some.injEq] at hf; subst hf; exact hc

/-- `GetTaskRef` can only panic on a finished pod -/
theorem podTask_none_finished {now : Time} {p : PodObj} (h : podTask now p = none) : p.pod.isFinished = true := by
  unfold podTask Pod.task at h
  cases hr : p.pod.taskRef now with
  | some r => simp [hr] at h
  | none =>
    unfold Pod.taskRef at hr
    cases hf : p.pod.finishTimestamp with
    | some fin => simp [hf] at hr
    | none =>
      unfold Pod.finishTimestamp at hf
      by_cases hpf : p.pod.isFinished = true
      · exact hpf
      · simp [hpf] at hf

/-- what the tasks of a pass report, relative to the server's pods `P` at its start -/
structure TasksSem (P : List PodObj) (N : List String) (T : List Task) : Prop where
  sem : ∀ t ∈ T, TaskSem t
  fin : ∀ t ∈ T, t.ref.finishTimestamp.isSome = true → PodFinIn P t.name
  /-- a task that reports a finish time has an old name (`N`: recorded before the pass, or in the pod cache) -/
  src : ∀ t ∈ T, t.ref.finishTimestamp.isSome = true → t.name ∈ N

theorem TasksSem.of_forall {P : List PodObj} {N : List String} {T : List Task}
    (h : ∀ t ∈ T, TaskSem t ∧ (t.ref.finishTimestamp.isSome = true → PodFinIn P t.name) ∧
      (t.ref.finishTimestamp.isSome = true → t.name ∈ N)) : TasksSem P N T :=
  ⟨fun t ht => (h t ht).1, fun t ht => (h t ht).2.1, fun t ht => (h t ht).2.2⟩

theorem TasksSem.elem {P : List PodObj} {N : List String} {T : List Task} (h : TasksSem P N T) {t : Task} (ht : t ∈ T) :
    TaskSem t ∧ (t.ref.finishTimestamp.isSome = true → PodFinIn P t.name) ∧
      (t.ref.finishTimestamp.isSome = true → t.name ∈ N) := ⟨h.sem t ht, h.fin t ht, h.src t ht⟩

/-- the recorded refs relative to the tasks `T` of the pass and the pods `P` at its start -/
structure RefsOK (P : List PodObj) (N : List String) (T : List Task) (R : List TaskRef) : Prop where
  rs : ∀ r ∈ R, RS r
  hyp : Hyp T R
  fin : ∀ r ∈ R, r.finishTimestamp.isSome = true → PodFinIn P r.name
  lost : ∀ r ∈ R, r.name ∉ T.map (·.name) → r.finishTimestamp.isSome = false → PodFinIn P r.name
  /-- a finished ref has an old name -/
  src : ∀ r ∈ R, r.finishTimestamp.isSome = true → r.name ∈ N
  dom : ∀ r ∈ R, r.name ∈ N ∨ r.name ∈ T.map (·.name)

theorem RefsOK.mono {P : List PodObj} {N : List String} {T T' : List Task} {R : List TaskRef} (h : RefsOK P N T R)
    (hsub : ∀ t ∈ T, t ∈ T') (hnew : ∀ t ∈ T', t ∈ T ∨ t.name ∉ R.map (·.name)) : RefsOK P N T' R := by
  refine ⟨h.rs, ?_, h.fin, ?_, h.src, ?_⟩
  · intro t ht ex hex hn hf
    rcases hnew t ht with h' | h'
    · exact h.hyp t h' ex hex hn hf
    · exact absurd (List.mem_map.mpr ⟨ex, hex, hn⟩) h'
  · intro r hr hn hf
    refine h.lost r hr ?_ hf
    intro hm
    obtain ⟨t, ht, htn⟩ := List.mem_map.mp hm
    exact hn (List.mem_map.mpr ⟨t, hsub t ht, htn⟩)
  · intro r hr
    rcases h.dom r hr with h' | h'
    · exact Or.inl h'
    · obtain ⟨t, ht, htn⟩ := List.mem_map.mp h'
      exact Or.inr (List.mem_map.mpr ⟨t, hsub t ht, htn⟩)

/-- result of one rewrite of the Job value in a pass -/
structure G3 (j0 : JobObj) (d : PIndex) (P : List PodObj) (N : List String) (T : List Task) (a b : Job) : Prop where
  good : Good j0 d b
  ok : RefsOK P N T b.status.tasks
  froz : Froz a.status.tasks b.status.tasks
  names : ∀ n ∈ refNames b, n ∈ refNames a ∨ n ∈ T.map (·.name)
  adm : b.admissionError = a.admissionError

section
variable {j0 : JobObj} {d : PIndex} {P : List PodObj} {N : List String} {T : List Task}

/-- same refs (the status recomputation) -/
theorem G3.of_tasks {a b : Job} (hg : Good j0 d a)
    (hok : RefsOK P N T a.status.tasks) (e : b.status.tasks = a.status.tasks)
    (ec : b.status.createdTasks = a.status.createdTasks) (ea : b.admissionError = a.admissionError) :
    G3 j0 d P N T a b :=
  ⟨(GK.of_tasks hg e ec).1, by rw [e]; exact hok, by rw [e]; exact Froz.refl _,
   fun n hn => Or.inl (by unfold refNames at hn ⊢; rw [e] at hn; exact hn), ea⟩

theorem updateJobTaskRefs_g3 (now : Time) (a : Job)
    (hg : Good j0 d a) (hok : RefsOK P N T a.status.tasks) (ht : TasksGood j0 d T) (hs : TasksSem P N T) :
    G3 j0 d P N T a (updateJobTaskRefs now a T) := by
  have htok : ∀ t ∈ T, TaskOK t := fun t h => (ht.ok t h).1
  have finOf : ∀ t ∈ T, (getTaskRef (lookupRef a.status.tasks t.name) t).finishTimestamp.isSome = true →
      t.ref.finishTimestamp.isSome = true := by
    intro t htm hf
    by_cases htf : t.ref.finishTimestamp.isSome = true
    · exact htf
    · exfalso
      cases hl : lookupRef a.status.tasks t.name with
      | none =>
        rw [hl, (getTaskRef_none_fields t).2.1] at hf
        exact htf hf
      | some ex =>
        rw [hl, (getTaskRef_some_unfinished ex t (by simpa using htf)).2.1] at hf
        exact htf (hok.hyp t htm ex (lookupRef_some hl).1 (lookupRef_some hl).2 hf)
  refine ⟨(updateJobTaskRefs_good now a T hg ht).1, ⟨?_, ?_, ?_, ?_, ?_, ?_⟩, ?_, ?_, rfl⟩
  · exact generateTaskRefs_rs now _ T hok.rs hs.sem hok.hyp
  · exact generateTaskRefs_hyp now _ T ht.nodup htok hok.hyp
  · intro r hr hf
    rcases mem_generateTaskRefs hr with ⟨t, htm, rfl⟩ | ⟨ex, hexm, hnot, rfl⟩
    · rw [getTaskRef_name, htok t htm]
      exact hs.fin t htm (finOf t htm hf)
    · rw [(lostRef_fields now ex).1]
      by_cases hexf : ex.finishTimestamp.isSome = true
      · exact hok.fin ex hexm hexf
      · exact hok.lost ex hexm hnot (by simpa using hexf)
  · intro r hr hn hf
    exfalso
    rcases mem_generateTaskRefs hr with ⟨t, htm, rfl⟩ | ⟨ex, hexm, hnot, rfl⟩
    · apply hn
      rw [getTaskRef_name, htok t htm]
      exact List.mem_map_of_mem htm
    · have := (Furiko.Props.C11.lostRef_retains now ex).2.2.2.1
      rw [this] at hf; cases hf
  · intro r hr hf
    rcases mem_generateTaskRefs hr with ⟨t, htm, rfl⟩ | ⟨ex, hexm, hnot, rfl⟩
    · rw [getTaskRef_name, htok t htm]
      exact hs.src t htm (finOf t htm hf)
    · rw [(lostRef_fields now ex).1]
      rcases hok.dom ex hexm with h | h
      · exact h
      · exact absurd h hnot
  · intro r hr
    rcases mem_generateTaskRefs hr with ⟨t, htm, rfl⟩ | ⟨ex, hexm, hnot, rfl⟩
    · right; rw [getTaskRef_name, htok t htm]; exact List.mem_map_of_mem htm
    · rw [(lostRef_fields now ex).1]
      rcases hok.dom ex hexm with h | h
      · exact Or.inl h
      · exact absurd h hnot
  · exact generateTaskRefs_froz now _ T hg.nodup hok.rs htok hok.hyp
  · intro n hn
    obtain ⟨r, hr, rfl⟩ := List.mem_map.mp hn
    rcases mem_generateTaskRefs hr with ⟨t, htm, rfl⟩ | ⟨ex, hexm, hnot, rfl⟩
    · right; rw [getTaskRef_name, htok t htm]; exact List.mem_map_of_mem htm
    · left; rw [(lostRef_fields now ex).1]; exact List.mem_map_of_mem hexm

theorem RS.setDs {r : TaskRef} (h : RS r) (x : TaskStatus) (hx : isFinalTaskState x.state = true)
    (hres : r.finishTimestamp.isSome = true → (x.result = .succeeded ↔ r.status.result = .succeeded)) :
    RS { r with deletedStatus := some x } :=
  ⟨h.succFin, h.finFinal, fun hf y hy => by
      simp only [Option.some.injEq] at hy; subst hy; exact hres hf,
   fun _ _ => rfl, fun y hy => by simp only [Option.some.injEq] at hy; subst hy; exact hx⟩

theorem mapDs_g3 (a : Job) (f : TaskRef → TaskRef)
    (hg : Good j0 d a) (hok : RefsOK P N T a.status.tasks)
    (hf : ∀ r, (f r).name = r.name ∧ (f r).parallelIndex = r.parallelIndex ∧ (f r).retryIndex = r.retryIndex ∧
      (f r).creationTimestamp = r.creationTimestamp ∧ (f r).finishTimestamp = r.finishTimestamp ∧
      (f r).status = r.status)
    (hrs : ∀ r ∈ a.status.tasks, RS (f r)) :
    G3 j0 d P N T a { a with status := { a.status with tasks := a.status.tasks.map f } } := by
  refine ⟨hg.map f (fun r => ⟨(hf r).1, (hf r).2.1, (hf r).2.2.1, (hf r).2.2.2.1⟩), ⟨?_, ?_, ?_, ?_, ?_, ?_⟩, ?_, ?_, rfl⟩
  · intro r hr
    obtain ⟨r0, hr0, rfl⟩ := List.mem_map.mp hr
    exact hrs r0 hr0
  · intro t ht r hr hn hfin
    obtain ⟨r0, hr0, rfl⟩ := List.mem_map.mp hr
    rw [(hf r0).1] at hn; rw [(hf r0).2.2.2.2.1] at hfin
    exact hok.hyp t ht r0 hr0 hn hfin
  · intro r hr hfin
    obtain ⟨r0, hr0, rfl⟩ := List.mem_map.mp hr
    rw [(hf r0).1]; rw [(hf r0).2.2.2.2.1] at hfin
    exact hok.fin r0 hr0 hfin
  · intro r hr hn hfin
    obtain ⟨r0, hr0, rfl⟩ := List.mem_map.mp hr
    rw [(hf r0).1] at hn ⊢; rw [(hf r0).2.2.2.2.1] at hfin
    exact hok.lost r0 hr0 hn hfin
  · intro r hr hfin
    obtain ⟨r0, hr0, rfl⟩ := List.mem_map.mp hr
    rw [(hf r0).1]; rw [(hf r0).2.2.2.2.1] at hfin
    exact hok.src r0 hr0 hfin
  · intro r hr
    obtain ⟨r0, hr0, rfl⟩ := List.mem_map.mp hr
    rw [(hf r0).1]
    exact hok.dom r0 hr0
  · exact Froz.of_map f (fun r => ⟨(hf r).1, (hf r).2.2.2.2.1, (hf r).2.2.2.2.2⟩)
  · intro n hn
    left
    unfold refNames at hn ⊢
    simp only [List.map_map] at hn
    obtain ⟨r0, hr0, rfl⟩ := List.mem_map.mp hn
    simp only [Function.comp, (hf r0).1]
    exact List.mem_map_of_mem hr0

/-- `markDeleted` with a final marker on recorded refs that are unfinished (pending timeout since the
repair of F32: the step judges a task by its RECORDED ref) -/
theorem markKilled_g3_refs (a : Job) (names : List String)
    (st : TaskStatus) (hst : isFinalTaskState st.state = true) (hg : Good j0 d a) (hok : RefsOK P N T a.status.tasks)
    (hnames : ∀ r ∈ a.status.tasks, names.contains r.name = true → r.finishTimestamp.isSome = false) :
    G3 j0 d P N T a (markDeleted a names (fun r => { r with deletedStatus := some st })) := by
  unfold markDeleted
  refine mapDs_g3 a _ hg hok ?_ ?_
  · intro r; split <;> exact ⟨rfl, rfl, rfl, rfl, rfl, rfl⟩
  · intro r hr
    split
    · rename_i hc
      have hunf : ¬ r.finishTimestamp.isSome = true := by
        intro hf
        have := hnames r hr hc
        rw [hf] at this; cases this
      exact (hok.rs r hr).setDs _ hst (fun hf => absurd hf hunf)
    · exact hok.rs r hr

/-- … on refs whose TASK is unfinished (kill) -/
theorem markKilled_g3 (a : Job) (names : List String)
    (st : TaskStatus) (hst : isFinalTaskState st.state = true) (hg : Good j0 d a) (hok : RefsOK P N T a.status.tasks)
    (hnames : ∀ n, names.contains n = true → ∃ t ∈ T, t.name = n ∧ t.ref.finishTimestamp.isSome = false) :
    G3 j0 d P N T a (markDeleted a names (fun r => { r with deletedStatus := some st })) := by
  refine markKilled_g3_refs a names st hst hg hok ?_
  intro r hr hc
  obtain ⟨t, ht, htn, htf⟩ := hnames r.name hc
  cases hf : r.finishTimestamp.isSome with
  | false => rfl
  | true => rw [hok.hyp t ht r hr htn.symm hf] at htf; cases htf

/-- `markDeleted` with the "ForceDeleted" marker (any ref) -/
theorem markForce_g3 (a : Job) (names : List String)
    (hg : Good j0 d a) (hok : RefsOK P N T a.status.tasks) :
    G3 j0 d P N T a (markDeleted a names (fun r =>
      { r with deletedStatus := some { (r.deletedStatus.getD
        { state := .terminated, result := .killed, reason := "" }) with reason := "ForceDeleted" } })) := by
  unfold markDeleted
  refine mapDs_g3 a _ hg hok ?_ ?_
  · intro r; split <;> exact ⟨rfl, rfl, rfl, rfl, rfl, rfl⟩
  · intro r hr
    have hrs := hok.rs r hr
    split
    · refine hrs.setDs _ ?_ ?_
      · cases hd : r.deletedStatus with
        | none => simp [isFinalTaskState]
        | some x => simpa using hrs.dsFinal x hd
      · intro hf
        cases hd : r.deletedStatus with
        | none =>
          simp only [Option.getD_none]
          constructor
          · intro h; cases h
          · intro hres
            have := hrs.dsSome hf hres
            rw [hd] at this; cases this
        | some x => simpa using hrs.dsIff hf x hd
    · exact hrs

/-- the finalizer's "JobDeleted" marker, set only where none is recorded -/
theorem deletedStatusIfNotSet_g3 (a : Job)
    (name : String) (hg : Good j0 d a) (hok : RefsOK P N T a.status.tasks) :
    G3 j0 d P N T a (updateTaskRefDeletedStatusIfNotSet a name
      { state := .terminated, result := .killed, reason := "JobDeleted" }) := by
  unfold updateTaskRefDeletedStatusIfNotSet
  refine mapDs_g3 a _ hg hok ?_ ?_
  · intro r; split <;> exact ⟨rfl, rfl, rfl, rfl, rfl, rfl⟩
  · intro r hr
    have hrs := hok.rs r hr
    split
    · rename_i hc
      simp only [Bool.and_eq_true, beq_iff_eq] at hc
      refine hrs.setDs _ (by simp [isFinalTaskState]) ?_
      intro hf
      constructor
      · intro h; cases h
      · intro hres
        have := hrs.dsSome hf hres
        have hn : r.deletedStatus = none := by cases hd : r.deletedStatus <;> simp_all
        rw [hn] at this; cases this
    · exact hrs

end

open Furiko.ParallelLemmas

/-- what is known about the pods when the pass starts in `sp` (histories without foreign pods: every
pod is the Job's, so the lookups are `getTaskForRef0` / `liveGetTask0`) -/
structure PassCtx (j0 : JobObj) (sp : Sys) : Prop where
  pods : PodsGood j0 sp
  owned : Owned j0 sp
  nodup : (podNames sp.pods).Nodup
  lin : ∀ c ∈ sp.podCache, c.pod.isFinished = true → PodFinIn sp.pods c.pod.name

theorem podFinIn_of_mem {P : List PodObj} (hnd : (podNames P).Nodup) {p : PodObj} (hp : p ∈ P)
    (hf : p.pod.isFinished = true) : PodFinIn P p.pod.name := by
  intro q hq hn
  have h1 := findPod_of_mem_nodup hnd hq
  have h2 := findPod_of_mem_nodup hnd hp
  rw [hn, h2] at h1
  cases h1; exact hf

theorem podFinIn_of_absent {P : List PodObj} {n : String} (h : findPod P n = none) : PodFinIn P n :=
  fun q hq hn => absurd hn (findPod_none h q hq)

theorem liveGetTask_sem {j0 : JobObj} {sp : Sys} (ctx : PassCtx j0 sp) {n : String} {t : Task}
    (h : liveGetTask0 sp n = some t) :
    TaskSem t ∧ t.name = n ∧ (t.ref.finishTimestamp.isSome = true → PodFinIn sp.pods n) ∧
    (PodFinIn sp.pods n → t.ref.finishTimestamp.isSome = true) := by
  obtain ⟨p, hp, hpt⟩ : ∃ p, findPod sp.pods n = some p ∧ podTask sp.clock p = some t := by
    unfold liveGetTask0 at h
    cases hp : findPod sp.pods n with
    | none => simp [hp] at h
    | some p => simp only [hp] at h; exact ⟨p, rfl, h⟩
  have hpm := findPod_some hp
  have hc := (ctx.pods.pods p hpm.1 (ctx.owned.pods p hpm.1)).2
  refine ⟨podTask_sem hc hpt, (podTask_ok hpt).2.trans hpm.2, ?_, ?_⟩
  · intro hf
    have := podFinIn_of_mem ctx.nodup hpm.1 ((podTask_fin_iff hc hpt).mp hf)
    rw [hpm.2] at this; exact this
  · intro hfin
    exact (podTask_fin_iff hc hpt).mpr (hfin p hpm.1 hpm.2)

theorem liveGetTask_none_lost {sp : Sys} (nodup : (podNames sp.pods).Nodup) {n : String}
    (h : liveGetTask0 sp n = none) : PodFinIn sp.pods n := by
  unfold liveGetTask0 at h
  cases hp : findPod sp.pods n with
  | none => exact podFinIn_of_absent hp
  | some p =>
    simp only [hp] at h
    have hpm := findPod_some hp
    have := podFinIn_of_mem nodup hpm.1 (podTask_none_finished h)
    rw [hpm.2] at this; exact this

theorem getTaskForRef_sem {j0 : JobObj} {sp : Sys} (ctx : PassCtx j0 sp) {ref : TaskRef} {t : Task}
    (h : getTaskForRef0 sp ref = some t)
    (hfinref : ref.finishTimestamp.isSome = true → PodFinIn sp.pods ref.name) :
    TaskSem t ∧ (t.ref.finishTimestamp.isSome = true → PodFinIn sp.pods ref.name) ∧
    (ref.finishTimestamp.isSome = true → t.ref.finishTimestamp.isSome = true) := by
  unfold getTaskForRef0 at h
  cases hc : findPod sp.podCache ref.name with
  | some c =>
    simp only [hc] at h
    have hcm := findPod_some hc
    have hcc := (ctx.pods.cache c hcm.1 (ctx.owned.cache c hcm.1)).2
    cases hpt : podTask sp.clock c with
    | none => simp [hpt] at h
    | some t0 =>
      simp only [hpt] at h
      split at h
      · rename_i hcond
        simp only [Option.some.injEq] at h; subst h
        refine ⟨podTask_sem hcc hpt, ?_, ?_⟩
        · intro hf
          have := ctx.lin c hcm.1 ((podTask_fin_iff hcc hpt).mp hf)
          rw [hcm.2] at this; exact this
        · intro hrf
          simp only [Bool.or_eq_true] at hcond
          rcases hcond with hcond | hcond
          · cases hx : ref.finishTimestamp <;> simp_all
          · exact hcond
      · obtain ⟨h1, _, h3, h4⟩ := liveGetTask_sem ctx h
        exact ⟨h1, h3, fun hrf => h4 (hfinref hrf)⟩
  | none =>
    simp only [hc] at h
    split at h
    · cases h
    · obtain ⟨h1, _, h3, h4⟩ := liveGetTask_sem ctx h
      exact ⟨h1, h3, fun hrf => h4 (hfinref hrf)⟩

theorem getTaskForRef_none_lost {j0 : JobObj} {sp : Sys} (ctx : PassCtx j0 sp) {ref : TaskRef}
    (h : getTaskForRef0 sp ref = none) (hunf : ref.finishTimestamp.isSome = false) : PodFinIn sp.pods ref.name := by
  unfold getTaskForRef0 at h
  cases hc : findPod sp.podCache ref.name with
  | some c =>
    simp only [hc] at h
    have hcm := findPod_some hc
    cases hpt : podTask sp.clock c with
    | none =>
      have := ctx.lin c hcm.1 (podTask_none_finished hpt)
      rw [hcm.2] at this; exact this
    | some t0 =>
      simp only [hpt] at h
      have : (ref.finishTimestamp.isNone || t0.ref.finishTimestamp.isSome) = true := by
        cases hx : ref.finishTimestamp <;> simp_all
      rw [if_pos this] at h; cases h
  | none =>
    simp only [hc] at h
    have : ¬ ref.finishTimestamp.isSome = true := by simp [hunf]
    rw [if_neg this] at h
    exact liveGetTask_none_lost ctx.nodup h

/-- refs with distinct names against the tasks a lookup `g` finds for them, when what it finds reports the
pod's state and what it does not find (for an unfinished ref) is gone or finished -/
theorem filterMap_refsOK {sp : Sys} (g : TaskRef → Option Task) (N : List String) (R : List TaskRef)
    (hnd : (R.map (·.name)).Nodup) (hrs : ∀ r ∈ R, RS r)
    (hfin : ∀ r ∈ R, r.finishTimestamp.isSome = true → PodFinIn sp.pods r.name) (hN : ∀ r ∈ R, r.name ∈ N)
    (hsome : ∀ r ∈ R, ∀ t, g r = some t → TaskSem t ∧ t.name = r.name ∧
      (t.ref.finishTimestamp.isSome = true → PodFinIn sp.pods r.name) ∧
      (r.finishTimestamp.isSome = true → t.ref.finishTimestamp.isSome = true))
    (hnone : ∀ r ∈ R, g r = none → r.finishTimestamp.isSome = false → PodFinIn sp.pods r.name) :
    TasksSem sp.pods N (R.filterMap g) ∧ RefsOK sp.pods N (R.filterMap g) R := by
  have key : ∀ t ∈ R.filterMap g, ∃ r ∈ R, g r = some t := fun t ht => List.mem_filterMap.mp ht
  refine ⟨⟨?_, ?_, ?_⟩, ⟨hrs, ?_, hfin, ?_, fun r hr _ => hN r hr, fun r hr => Or.inl (hN r hr)⟩⟩
  · intro t ht
    obtain ⟨r, hr, hg⟩ := key t ht
    exact (hsome r hr t hg).1
  · intro t ht hf
    obtain ⟨r, hr, hg⟩ := key t ht
    rw [(hsome r hr t hg).2.1]; exact (hsome r hr t hg).2.2.1 hf
  · intro t ht _
    obtain ⟨r, hr, hg⟩ := key t ht
    rw [(hsome r hr t hg).2.1]; exact hN r hr
  · intro t ht ex hex hn hf
    obtain ⟨r, hr, hg⟩ := key t ht
    have hs := hsome r hr t hg
    have : r = ex := inj_on_of_nodup_map hnd hr hex (hs.2.1.symm.trans hn.symm)
    subst this
    exact hs.2.2.2 hf
  · intro r hr hn hunf
    cases hg : g r with
    | none => exact hnone r hr hg hunf
    | some t =>
      exact absurd (List.mem_map.mpr ⟨t, List.mem_filterMap.mpr ⟨r, hr, hg⟩, (hsome r hr t hg).2.1⟩) hn

/-- the refs of the cached Job against the tasks found for them -/
theorem tasksForRefs_refsOK {j0 jo : JobObj} {sp : Sys} (ctx : PassCtx j0 sp) (hu : jo.uid = j0.uid)
    (N : List String) (R : List TaskRef)
    (hnd : (R.map (·.name)).Nodup) (hrs : ∀ r ∈ R, RS r)
    (hfin : ∀ r ∈ R, r.finishTimestamp.isSome = true → PodFinIn sp.pods r.name) (hN : ∀ r ∈ R, r.name ∈ N) :
    TasksSem sp.pods N (tasksForRefs sp jo R) ∧ RefsOK sp.pods N (tasksForRefs sp jo R) R := by
  refine filterMap_refsOK (getTaskForRef sp jo) N R hnd hrs hfin hN ?_ ?_
  · intro r hr t hg
    have := getTaskForRef_sem ctx (getTaskForRef_eq0 ctx.owned hu r ▸ hg) (hfin r hr)
    exact ⟨this.1, (getTaskForRef_ok hg).2, this.2.1, this.2.2⟩
  · intro r hr hg hunf
    exact getTaskForRef_none_lost ctx (getTaskForRef_eq0 ctx.owned hu r ▸ hg) hunf

/-- … and against the tasks the finalizer finds (every absence confirmed by a live GET) -/
theorem tasksForRefsConfirmed_refsOK {j0 jo : JobObj} {sp : Sys} (ctx : PassCtx j0 sp) (hu : jo.uid = j0.uid)
    (N : List String)
    (R : List TaskRef) (hnd : (R.map (·.name)).Nodup) (hrs : ∀ r ∈ R, RS r)
    (hfin : ∀ r ∈ R, r.finishTimestamp.isSome = true → PodFinIn sp.pods r.name) (hN : ∀ r ∈ R, r.name ∈ N) :
    TasksSem sp.pods N (tasksForRefsConfirmed sp jo R) ∧ RefsOK sp.pods N (tasksForRefsConfirmed sp jo R) R := by
  refine filterMap_refsOK (getTaskForRefConfirmed sp jo) N R hnd hrs hfin hN ?_ ?_
  · intro r hr t hg
    unfold getTaskForRefConfirmed at hg
    cases h0 : getTaskForRef sp jo r with
    | some t0 =>
      simp only [h0, Option.some.injEq] at hg; subst hg
      have := getTaskForRef_sem ctx (getTaskForRef_eq0 ctx.owned hu r ▸ h0) (hfin r hr)
      exact ⟨this.1, (getTaskForRef_ok h0).2, this.2.1, this.2.2⟩
    | none =>
      simp only [h0] at hg
      rw [liveGetTask_eq0 ctx.owned hu] at hg
      obtain ⟨h1, h2, h3, h4⟩ := liveGetTask_sem ctx hg
      exact ⟨h1, h2, h3, fun hrf => h4 (hfin r hr hrf)⟩
  · intro r hr hg _
    unfold getTaskForRefConfirmed at hg
    cases h0 : getTaskForRef sp jo r with
    | some t0 => simp [h0] at hg
    | none =>
      simp only [h0] at hg
      rw [liveGetTask_eq0 ctx.owned hu] at hg
      exact liveGetTask_none_lost ctx.nodup hg

theorem cacheTask_sem {j0 : JobObj} {sp : Sys} (ctx : PassCtx j0 sp) {p : PodObj} {t : Task} (hp : p ∈ sp.podCache)
    (hpt : podTask sp.clock p = some t) :
    TaskSem t ∧ (t.ref.finishTimestamp.isSome = true → PodFinIn sp.pods t.name) ∧
    (t.ref.finishTimestamp.isSome = true → t.name ∈ podNames sp.podCache) := by
  have hcc := (ctx.pods.cache p hp (ctx.owned.cache p hp)).2
  refine ⟨podTask_sem hcc hpt, ?_, ?_⟩
  · intro hf
    have := ctx.lin p hp ((podTask_fin_iff hcc hpt).mp hf)
    rw [(podTask_ok hpt).2]; exact this
  · intro _
    rw [(podTask_ok hpt).2]
    exact List.mem_map_of_mem hp

/-- the tasks the creation loop adds -/
theorem newTask_sem {j0 : JobObj} {sp : Sys} (ctx : PassCtx j0 sp) {jo : JobObj} {r : CreationRequest} {t : Task}
    (h : NewTask jo sp r t) :
    TaskSem t ∧ (t.ref.finishTimestamp.isSome = true → PodFinIn sp.pods t.name) ∧
    (t.ref.finishTimestamp.isSome = true → t.name ∈ podNames sp.podCache) := by
  obtain ⟨p, hpt, _, _, hsrc⟩ := h
  rcases hsrc with ⟨rfl, _⟩ | hc
  · have hunf : ¬ t.ref.finishTimestamp.isSome = true := by
      intro hf
      have := (podTask_fin_iff (p := newPod jo r.index r.retryIndex (nowT sp)) rfl hpt).mp hf
      -- a freshly created pod is not finished
      cases this
    exact ⟨podTask_sem rfl hpt, fun hf => absurd hf hunf, fun hf => absurd hf hunf⟩
  · exact cacheTask_sem ctx hc hpt

/-- what the stability invariants need to know about the Job value a pass computes -/
structure SyncRes (j0 : JobObj) (d : PIndex) (P : List PodObj) (N : List String) (a b : Job) : Prop where
  good : Good j0 d b
  rs : ∀ r ∈ b.status.tasks, RS r
  fin : ∀ r ∈ b.status.tasks, r.finishTimestamp.isSome = true → PodFinIn P r.name
  froz : Froz a.status.tasks b.status.tasks
  src : ∀ r ∈ b.status.tasks, r.finishTimestamp.isSome = true → r.name ∈ N
  adm : b.admissionError = a.admissionError

theorem SyncRes.trans_g3 {j0 : JobObj} {d : PIndex} {P : List PodObj} {N : List String} {T : List Task} {a b c : Job}
    (h1 : SyncRes j0 d P N a b) (h2 : G3 j0 d P N T b c) : SyncRes j0 d P N a c :=
  ⟨h2.good, h2.ok.rs, h2.ok.fin, h1.froz.trans h2.froz, h2.ok.src, h2.adm.trans h1.adm⟩

/-- the pod cache holds no UNRECORDED task of the Job: no pod labelled with and controlled by the Job
that its status does not name (with a readable task) -/
def NoUnrec (s : Sys) (jo : JobObj) : Prop :=
  ∀ p ∈ s.podCache, p.jobLabel = some jo.uid → p.ownerUid = some jo.uid →
    (∀ r ∈ jo.job.status.tasks, r.name ≠ p.pod.name) → podTask s.clock p = none

theorem adoptUnrecordedTasks_eq_of_noUnrec {s : Sys} {jo : JobObj} (h : NoUnrec s jo) (tasks : List Task) :
    adoptUnrecordedTasks s jo tasks = tasks := by
  unfold adoptUnrecordedTasks
  have : List.filterMap (podTask s.clock) ((sortPods s.podCache).filter (fun p =>
      p.jobLabel = some jo.uid && !(tasks.any (·.name = p.pod.name)) &&
      !(jo.job.status.tasks.any (·.name = p.pod.name)) && p.ownerUid = some jo.uid)) = [] := by
    rw [List.filterMap_eq_nil_iff]
    intro p hp
    obtain ⟨hm, hc⟩ := List.mem_filter.mp hp
    simp only [Bool.and_eq_true, decide_eq_true_eq, Bool.not_eq_true', List.any_eq_false] at hc
    exact h p ((JobCtlPlan.sortPods_perm s.podCache).subset hm) hc.1.1.1 hc.2 (fun r hr => by simpa using hc.1.2 r hr)
  simp only [this, List.append_nil]

/-- the task list after `adoptUnrecordedTasks`, seen from the start of the pass: the adopted tasks
come from the pod cache and are not named like a recorded ref -/
theorem adoptUnrecordedTasks_refsOK {j0 : JobObj} {sp : Sys} (ctx : PassCtx j0 sp) (N : List String) (jo : JobObj)
    (hu : jo.uid = j0.uid) (T0 : List Task) (htg0 : TasksGood j0 sp.d T0) (hs0 : TasksSem sp.pods N T0)
    (hok0 : RefsOK sp.pods N T0 jo.job.status.tasks) (hNc : ∀ n ∈ podNames sp.podCache, n ∈ N) :
    TasksGood j0 sp.d (adoptUnrecordedTasks sp jo T0) ∧ TasksSem sp.pods N (adoptUnrecordedTasks sp jo T0) ∧
    RefsOK sp.pods N (adoptUnrecordedTasks sp jo T0) jo.job.status.tasks ∧
    ∀ n ∈ (adoptUnrecordedTasks sp jo T0).map (·.name), n ∈ T0.map (·.name) ∨ n ∈ podNames sp.podCache := by
  have hmem := Furiko.JobCtlPlan.mem_adoptUnrecordedTasks sp jo T0
  refine ⟨adoptUnrecordedTasks_good sp _ _ ctx.pods hu htg0, .of_forall fun t ht => ?_, ?_, ?_⟩
  · rcases (hmem t).mp ht with h | ⟨p, hp, hpt, _⟩
    · exact hs0.elem h
    · exact (cacheTask_sem ctx hp hpt).imp_right (.imp_right fun h hf => hNc _ (h hf))
  · refine hok0.mono (fun t ht => (hmem t).mpr (Or.inl ht)) ?_
    intro t ht
    rcases (hmem t).mp ht with h | ⟨p, hp, hpt, _, _, _, hnr⟩
    · exact Or.inl h
    · right
      intro hm
      obtain ⟨r, hr, hrn⟩ := List.mem_map.mp hm
      exact hnr r hr (hrn.trans (podTask_ok hpt).2)
  · intro n hn
    obtain ⟨t, ht, rfl⟩ := List.mem_map.mp hn
    rcases (hmem t).mp ht with h | ⟨p, hp, hpt, _⟩
    · exact Or.inl (List.mem_map_of_mem h)
    · right
      rw [(podTask_ok hpt).2]
      exact List.mem_map_of_mem hp

theorem SyncRes.refl {j0 : JobObj} {d : PIndex} {P : List PodObj} {N : List String} {a : Job} (hg : Good j0 d a)
    (hrs : ∀ r ∈ a.status.tasks, RS r)
    (hfin : ∀ r ∈ a.status.tasks, r.finishTimestamp.isSome = true → PodFinIn P r.name)
    (hN : ∀ r ∈ a.status.tasks, r.name ∈ N) : SyncRes j0 d P N a a :=
  ⟨hg, hrs, hfin, Froz.refl _, fun r hr _ => hN r hr, rfl⟩

/-- the tasks the finalizer deletes and waits for, seen from the start of the pass: the listed tasks
that are found, and (repair of F-C20-1) the unrecorded tasks of the pod cache, whose names are not
recorded -/
theorem finalizerTasks_refsOK {j0 : JobObj} {sp : Sys} (ctx : PassCtx j0 sp) (N : List String) (jo : JobObj)
    (hu : jo.uid = j0.uid) (rj : Job) (hg : Good j0 sp.d rj) (hrs : ∀ r ∈ rj.status.tasks, RS r)
    (hfin : ∀ r ∈ rj.status.tasks, r.finishTimestamp.isSome = true → PodFinIn sp.pods r.name)
    (hN : ∀ r ∈ rj.status.tasks, r.name ∈ N) (hNc : ∀ n ∈ podNames sp.podCache, n ∈ N) :
    TasksGood j0 sp.d (finalizerTasks sp jo rj) ∧ TasksSem sp.pods N (finalizerTasks sp jo rj) ∧
    RefsOK sp.pods N (finalizerTasks sp jo rj) rj.status.tasks ∧
    ∀ n ∈ (finalizerTasks sp jo rj).map (·.name), n ∈ refNames rj ∨ n ∈ podNames sp.podCache := by
  have htg0 := tasksForRefsConfirmed_good (jo := jo) ctx.pods hu rj.status.tasks hg.nodup
  have hsem0 := tasksForRefsConfirmed_refsOK (jo := jo) ctx hu N rj.status.tasks hg.nodup hrs hfin hN
  obtain ⟨h1, h2, h3, h4⟩ := adoptUnrecordedTasks_refsOK ctx N { jo with job := rj } hu _ htg0 hsem0.1 hsem0.2 hNc
  refine ⟨h1, h2, h3, fun n hn => (h4 n hn).imp_left fun hm => ?_⟩
  obtain ⟨t, ht, rfl⟩ := List.mem_map.mp hm
  unfold tasksForRefsConfirmed at ht
  obtain ⟨r, hr, hg'⟩ := List.mem_filterMap.mp ht
  rw [(getTaskForRefConfirmed_ok hg').2]
  exact List.mem_map_of_mem hr

theorem coh_of_deleted {d : PIndex} {j : Job} (h : j.deletionTimestamp.isSome = true) : Coh d j := by
  intro hn; rw [hn] at h; cases h

/-- the names a finished ref of the computed Job can have: recorded before the pass, or in the pod cache -/
def passNames (sp : Sys) (jo : JobObj) : List String := refNames jo.job ++ podNames sp.podCache

/-- the refreshed refs are complete and the pod cache holds no unrecorded task of the Job, or the task
stage is skipped: then a pass adds a name only through its finalizer -/
def NoNewNames (sp : Sys) (jo : JobObj) : Prop :=
  (getParallelTaskSummary sp.d jo.job (generateTaskRefs sp.clock jo.job.status.tasks
      (tasksForRefs sp jo jo.job.status.tasks))).complete = true ∧ NoUnrec sp jo ∨
    (isStarted jo.job && !isDeleted jo.job) = false

/-- a name recorded before the pass or — for a Job that is being deleted, whose finalizer adopts the
unrecorded tasks of the pod cache — in the pod cache -/
def OldName (sp : Sys) (jo : JobObj) (n : String) : Prop :=
  n ∈ refNames jo.job ∨ (jo.job.deletionTimestamp.isSome = true ∧ n ∈ podNames sp.podCache)

/-- the invariant of the walk: the working Job against the cached one (`SyncRes`) and against the tasks
the pass works on (`RefsOK`), the tasks themselves, and where the names come from -/
structure StabInv (j0 : JobObj) (sp : Sys) (jo : JobObj) (T : List Task) (rj : Job) : Prop where
  res : SyncRes j0 sp.d sp.pods (passNames sp jo) jo.job rj
  ok : RefsOK sp.pods (passNames sp jo) T rj.status.tasks
  tasks : TasksGood j0 sp.d T
  sem : TasksSem sp.pods (passNames sp jo) T
  names : NoNewNames sp jo → (∀ n ∈ refNames rj, OldName sp jo n) ∧ ∀ n ∈ T.map (·.name), OldName sp jo n

theorem StabInv.step {j0 : JobObj} {sp : Sys} {jo : JobObj} {T : List Task} {a b : Job} (h : StabInv j0 sp jo T a)
    (hg : G3 j0 sp.d sp.pods (passNames sp jo) T a b) : StabInv j0 sp jo T b :=
  ⟨h.res.trans_g3 hg, hg.ok, h.tasks, h.sem, fun hc =>
    ⟨fun n hn => (hg.names n hn).elim ((h.names hc).1 n) ((h.names hc).2 n), (h.names hc).2⟩⟩

theorem rewrites_stab {j0 : JobObj} (sp : Sys) (jo : JobObj) : Rewrites (StabInv j0 sp jo) where
  refresh := fun _ h => h.step (updateJobTaskRefs_g3 _ _ h.res.good h.ok h.tasks h.sem)
  status := fun _ _ h => h.step (G3.of_tasks h.res.good h.ok (statusOf_tasks _ _ _).1 (statusOf_tasks _ _ _).2.1
    (statusOf_tasks _ _ _).2.2)
  pending := fun {T rj} names hn h => h.step (markKilled_g3_refs rj names _ rfl h.res.good h.ok (by
    intro r0 hr0 hc
    obtain ⟨t, ht, htn, hunf⟩ := hn _ (List.contains_iff_mem.mp hc)
    -- the refs' names are pairwise distinct: the recorded ref the step judged `t` by is `r0`
    have hfind : findTaskRef rj t.name = some r0 := by
      unfold findTaskRef
      rw [htn]
      exact find_of_nodup_names rj.status.tasks h.res.good.nodup r0 hr0
    unfold pendRef at hunf
    rw [hfind] at hunf
    exact hunf))
  kill := fun {T rj} h => h.step (markKilled_g3 rj _ _ rfl h.res.good h.ok (by
    intro n hn
    obtain ⟨t, ht, rfl⟩ := List.mem_map.mp (List.contains_iff_mem.mp hn)
    have := (JobCtlPlan.mem_killTargets T t).mp ht
    exact ⟨t, this.1, rfl, this.2.1⟩))
  force := fun names h => h.step (markForce_g3 _ names h.res.good h.ok)
  jobDeleted := fun name h => h.step (deletedStatusIfNotSet_g3 _ name h.res.good h.ok)

theorem passWalk_stab {j0 : JobObj} (sp : Sys) (jo : JobObj) (ctx : PassCtx j0 sp) (hwf : WF2 j0 sp.d)
    (hjo : VerOK j0 jo) (hg : Good j0 sp.d jo.job) (hrs : ∀ r ∈ jo.job.status.tasks, RS r)
    (hfin : ∀ r ∈ jo.job.status.tasks, r.finishTimestamp.isSome = true → PodFinIn sp.pods r.name) :
    PassWalk sp jo (StabInv j0 sp jo) := by
  have hN0 : ∀ r ∈ jo.job.status.tasks, r.name ∈ passNames sp jo :=
    fun r hr => List.mem_append_left _ (List.mem_map_of_mem hr)
  have hNc : ∀ n ∈ podNames sp.podCache, n ∈ passNames sp jo := fun n hn => List.mem_append_right _ hn
  have htf := tasksForRefs_good (jo := jo) ctx.pods hjo.uid jo.job.status.tasks hg.nodup
  have hsem := tasksForRefs_refsOK (jo := jo) ctx hjo.uid (passNames sp jo) jo.job.status.tasks hg.nodup hrs hfin hN0
  have hrefl := SyncRes.refl (P := sp.pods) hg hrs hfin hN0
  -- in the task stage `NoNewNames` means: complete and nothing to adopt
  have stage : isStarted jo.job = true → isDeleted jo.job = false → NoNewNames sp jo →
      (getParallelTaskSummary sp.d jo.job (generateTaskRefs sp.clock jo.job.status.tasks
        (tasksForRefs sp jo jo.job.status.tasks))).complete = true ∧ NoUnrec sp jo := by
    intro hst hdel hc
    rcases hc with hc | hc
    · exact hc
    · simp [hst, hdel] at hc
  refine { toRewrites := rewrites_stab sp jo, start := ?_, adopt := ?_, created := ?_, finalizer := ?_ }
  · exact ⟨hrefl, hsem.2, htf.1, hsem.1, fun _ => ⟨fun n hn => Or.inl hn, fun n hn => Or.inl (htf.2 n hn)⟩⟩
  · intro T hst hdel h
    obtain ⟨h1, h2, h3, _⟩ := adoptUnrecordedTasks_refsOK ctx _ jo hjo.uid T h.tasks h.sem h.ok hNc
    refine ⟨h.res, h3, h1, h2, fun hc => ?_⟩
    rw [adoptUnrecordedTasks_eq_of_noUnrec (stage hst hdel hc).2]
    exact h.names hc
  · intro reqs rj' new hst hdel hcan hcmp hreqs ha hsub hn
    have hrj := ha.eq_of_owned (fun p hp => by rw [hjo.uid]; exact ctx.owned.cache p hp)
    subst hrj
    have hnames := reqs_names hwf hjo hg.refs hreqs
    -- the new tasks stand for requests, whose names are not recorded
    have hnew : ∀ t ∈ tasksForRefs sp jo jo.job.status.tasks ++ new.map (·.2),
        t ∈ tasksForRefs sp jo jo.job.status.tasks ∨
        (t.name ∉ jo.job.status.tasks.map (·.name) ∧ ∃ r, NewTask jo sp r t) := by
      intro t hm
      rcases List.mem_append.mp hm with h | h
      · exact Or.inl h
      · obtain ⟨x, hx, rfl⟩ := List.mem_map.mp h
        refine Or.inr ⟨?_, x.1, hn x hx⟩
        rw [(hn x hx).ok.2]
        exact hnames.2 _ (hsub.subset (List.mem_map_of_mem hx))
    refine ⟨hrefl, hsem.2.mono (fun t ht => List.mem_append_left _ ht) (fun t ht => (hnew t ht).imp_right (·.1)),
      tasksGood_new ctx.pods hjo (fun r hr => ⟨hst, hdel, hcan, _, r.earliest, hreqs, hr⟩) hnames.1 htf.1
        (fun r hr hm => hnames.2 r hr (htf.2 _ hm)) hsub hn, .of_forall fun t ht => ?_,
      fun hc => absurd (stage hst hdel hc).1 hcmp⟩
    rcases hnew t ht with h | ⟨_, r, h⟩
    · exact hsem.1.elem h
    · exact (newTask_sem ctx h).imp_right (.imp_right fun h' hf => hNc _ (h' hf))
  · intro T rj hd h
    have hc : NoNewNames sp jo := Or.inr (by simp [hd])
    have hold : ∀ n, OldName sp jo n → n ∈ passNames sp jo :=
      fun n hn => hn.elim (List.mem_append_left _) (fun h' => hNc n h'.2)
    obtain ⟨h1, h2, h3, h4⟩ := finalizerTasks_refsOK ctx _ jo hjo.uid rj h.res.good h.res.rs h.res.fin
      (fun r hr => hold _ ((h.names hc).1 _ (List.mem_map_of_mem hr))) hNc
    exact ⟨h.res, h3, h1, h2, fun _ => ⟨(h.names hc).1, fun n hn => (h4 n hn).elim ((h.names hc).1 n)
      (fun hm => Or.inr ⟨hd, hm⟩)⟩⟩

/-- The Job value a pass computes, relative to the cached Job it started from and the server's pods at
the start: every ref satisfies `RS`; a ref is finished only if its pod is finished or gone, and only
under an old name; finished refs are frozen; the admission-error annotation is untouched; and when the
refreshed refs are complete and the pod cache holds no unrecorded task of the Job (`NoUnrec`: since
the repair of F23 a complete summary adopts them), or the Job is not started / is being deleted, every name is recorded
before the pass or — only for a Job that is being deleted, whose finalizer adopts the unrecorded
tasks of the pod cache — in the pod cache: for a Job that is not being deleted no name is added. -/
theorem sync_res {j0 : JobObj} (sp : Sys) (jo : JobObj) (ctx : PassCtx j0 sp) (hwf : WF2 j0 sp.d)
    (hjo : VerOK j0 jo) (hg : Good j0 sp.d jo.job) (hrs : ∀ r ∈ jo.job.status.tasks, RS r)
    (hfin : ∀ r ∈ jo.job.status.tasks, r.finishTimestamp.isSome = true → PodFinIn sp.pods r.name)
    (hcoh : Coh sp.d jo.job) (hadm : jo.job.admissionError = false)
    (htm : jo.job.template.isSome = true) :
    SyncRes j0 sp.d sp.pods (passNames sp jo) jo.job (sync sp jo).2.1 ∧
    (((getParallelTaskSummary sp.d jo.job (generateTaskRefs sp.clock jo.job.status.tasks
        (tasksForRefs sp jo jo.job.status.tasks))).complete = true ∧ NoUnrec sp jo ∨
      (isStarted jo.job && !isDeleted jo.job) = false) →
      (jo.job.deletionTimestamp = none → ∀ n ∈ refNames (sync sp jo).2.1, n ∈ refNames jo.job) ∧
      ∀ n ∈ refNames (sync sp jo).2.1, n ∈ passNames sp jo) ∧
    Coh sp.d (sync sp jo).2.1 ∧
    ((sync sp jo).2.1 = jo.job ∨ ((sync sp jo).2.1.deletionTimestamp = none →
      (sync sp jo).2.1.status.condition = getCondition sp.clock sp.d (sync sp jo).2.1)) := by
  have hw := passWalk_stab sp jo ctx hwf hjo hg hrs hfin
  rcases (hw.and (passWalk_le sp jo)).sync_form with h1 | ⟨T, rj, ⟨hi, hle, _⟩, h1⟩
  · rw [h1]
    exact ⟨hw.start.res, fun _ => ⟨fun _ n hn => hn, fun n hn => List.mem_append_left _ hn⟩, hcoh, Or.inl rfl⟩
  · -- the last rewrite is a status recomputation, of a Job with the cached template and annotation
    have ho := hw.status sp.clock sp.d hi
    have htm' : rj.template.isSome = true := by rw [hle.template]; exact htm
    have hadm' : rj.admissionError = false := by rw [hi.res.adm]; exact hadm
    have hj := syncJobStatusFromTaskRefs_job sp (jobKey jo) rj
    rw [h1]
    refine ⟨ho.res, fun hc => ?_, hj ▸ syncJobStatusFromTaskRefs_coh sp (jobKey jo) rj htm' hadm', Or.inr ?_⟩
    · obtain ⟨hn, _⟩ := ho.names hc
      refine ⟨fun hnd n hm => (hn n hm).elim id (fun h => ?_), fun n hm => (hn n hm).elim
        (List.mem_append_left _) (fun h => List.mem_append_right _ h.2)⟩
      rw [hnd] at h; cases h.1
    · intro hdn
      have := syncJobStatusFromTaskRefs_condEq sp (jobKey jo) rj htm' hadm' (by rw [hj]; exact hdn)
      rw [hj] at this; exact this

end Furiko.JobCtl
