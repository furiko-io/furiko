/-
Plan-level lemmas about `Model/JobCtl.lean`: which API calls each API operation and each handler
of the job controller's reconcile pass appends to `Sys.calls`, and which parts of the state a
pass never changes (clock, configuration, caches), for ALL states.  Core Lean only.

Vocabulary
* `newCalls s s'`      the calls `s'` has logged beyond those of `s`;
* `Ext s s' l`         `s'` is `s` after controller actions that logged exactly `l`: the clock,
                       the configuration, the default index and both caches are untouched, timers
                       are only added or moved earlier, and every pod of `s'` is a pod of `s` (by
                       name) or was created by a successful create call of `l`;
* `Pass P s s'`        `s'` is `s` after controller actions each of whose calls satisfies `P`; passes
                       compose (`Pass.trans`), which is how the origin of every call of a whole
                       reconcile pass is traced back to the handler that issued it;
* `JobWrite s s' c`    `s'` is `s` after a Job write that logged `c`;
* `TimerBy q k t`      the work queue holds a deferred add of key `k` at a deadline `≤ t`;
* `dueAt s t`          the deadline `AddAfter` really uses for the absolute time `t` (1 s floor).
-/
import FurikoModel.Model.JobCtl
import FurikoModel.Proofs.StatusLemmas
import FurikoModel.Proofs.QueueWQ

namespace Furiko.JobCtlPlan
open Furiko Furiko.JobCtl Furiko.WQ

def newCalls (s s' : Sys) : List Call := s'.calls.drop s.calls.length

def TimerBy (q : WQ) (k : String) (t : Int) : Prop := ∃ dl, (k, dl) ∈ q.delayed ∧ dl ≤ t

/-- the absolute deadline `enqueueAfter` arms for the time `t` (never sooner than 1 s from now) -/
def dueAt (s : Sys) (t : Int) : Int := if t < s.clock + 1000000000 then s.clock + 1000000000 else t

def PodsFrom (s s' : Sys) (l : List Call) : Prop :=
  ∀ p ∈ s'.pods, (∃ p0 ∈ s.pods, p0.pod.name = p.pod.name) ∨
    (∃ c ∈ l, c.verb = "create" ∧ c.res = "pods" ∧ c.out = "ok" ∧ c.name = p.pod.name)

structure Ext (s s' : Sys) (l : List Call) : Prop where
  calls : s'.calls = s.calls ++ l
  clock : s'.clock = s.clock
  cfg : s'.cfg = s.cfg
  d : s'.d = s.d
  podCache : s'.podCache = s.podCache
  jobCache : s'.jobCache = s.jobCache
  timers : ∀ k t, TimerBy s.q k t → TimerBy s'.q k t
  pods : PodsFrom s s' l

theorem Ext.refl (s : Sys) : Ext s s [] :=
  ⟨by simp, rfl, rfl, rfl, rfl, rfl, fun _ _ h => h, fun p hp => Or.inl ⟨p, hp, rfl⟩⟩

theorem Ext.trans {s s1 s2 : Sys} {l1 l2 : List Call} (h1 : Ext s s1 l1) (h2 : Ext s1 s2 l2) :
    Ext s s2 (l1 ++ l2) := by
  refine ⟨by rw [h2.calls, h1.calls, List.append_assoc], h2.clock.trans h1.clock, h2.cfg.trans h1.cfg,
    h2.d.trans h1.d, h2.podCache.trans h1.podCache, h2.jobCache.trans h1.jobCache,
    fun k t h => h2.timers k t (h1.timers k t h), ?_⟩
  intro p hp
  rcases h2.pods p hp with ⟨p1, hp1, hn⟩ | ⟨c, hc, h⟩
  · rcases h1.pods p1 hp1 with ⟨p0, hp0, hn0⟩ | ⟨c, hc, h⟩
    · exact Or.inl ⟨p0, hp0, hn0.trans hn⟩
    · exact Or.inr ⟨c, List.mem_append_left _ hc, h.1, h.2.1, h.2.2.1, h.2.2.2.trans hn⟩
  · exact Or.inr ⟨c, List.mem_append_right _ hc, h⟩

theorem Ext.newCalls {s s' : Sys} {l : List Call} (h : Ext s s' l) : newCalls s s' = l := by
  unfold JobCtlPlan.newCalls
  rw [h.calls, List.drop_left]

theorem Ext.cast {s s' : Sys} {l l' : List Call} (h : Ext s s' l) (e : l = l') : Ext s s' l' := e ▸ h

theorem Ext.no_new_pods {s s' : Sys} {l : List Call} (h : Ext s s' l)
    (hn : ∀ c ∈ l, ¬ (c.verb = "create" ∧ c.out = "ok")) :
    ∀ p ∈ s'.pods, ∃ p0 ∈ s.pods, p0.pod.name = p.pod.name := by
  intro p hp
  rcases h.pods p hp with h0 | ⟨c, hc, hv, _, ho, _⟩
  · exact h0
  · exact absurd ⟨hv, ho⟩ (hn c hc)

/-- an `Ext` step built from field equalities (queue and pods unchanged); an equality not given holds by
computation -/
theorem Ext.of_eq {s s' : Sys} {l : List Call} (hc : s'.calls = s.calls ++ l := by rfl)
    (h1 : s'.clock = s.clock := by rfl) (h2 : s'.cfg = s.cfg := by rfl) (h3 : s'.d = s.d := by rfl)
    (h4 : s'.podCache = s.podCache := by rfl) (h5 : s'.jobCache = s.jobCache := by rfl)
    (h6 : s'.q = s.q := by rfl) (h7 : s'.pods = s.pods := by rfl) : Ext s s' l :=
  ⟨hc, h1, h2, h3, h4, h5, fun _ _ h => h6 ▸ h, fun p hp => Or.inl ⟨p, h7 ▸ hp, rfl⟩⟩

def Pass (P : Call → Prop) (s s' : Sys) : Prop := ∃ l, Ext s s' l ∧ ∀ c ∈ l, P c

theorem Pass.refl (P : Call → Prop) (s : Sys) : Pass P s s := ⟨[], Ext.refl s, fun _ h => nomatch h⟩

theorem Pass.quiet {P : Call → Prop} {s s' : Sys} (e : Ext s s' []) : Pass P s s' := ⟨[], e, fun _ h => nomatch h⟩

theorem Pass.single {P : Call → Prop} {s s' : Sys} {c : Call} (e : Ext s s' [c]) (h : P c) : Pass P s s' :=
  ⟨[c], e, fun _ hc => List.mem_singleton.mp hc ▸ h⟩

theorem Pass.trans {P : Call → Prop} {s s1 s2 : Sys} (h1 : Pass P s s1) (h2 : Pass P s1 s2) : Pass P s s2 :=
  let ⟨_, e1, p1⟩ := h1
  let ⟨_, e2, p2⟩ := h2
  ⟨_, e1.trans e2, fun c hc => (List.mem_append.mp hc).elim (p1 c) (p2 c)⟩

theorem Pass.of_newCalls {P : Call → Prop} {s s' : Sys} {l : List Call} (e : Ext s s' l)
    (h : ∀ c ∈ newCalls s s', P c) : Pass P s s' := ⟨l, e, e.newCalls ▸ h⟩

theorem Pass.calls {P : Call → Prop} {s s' : Sys} (h : Pass P s s') :
    (∃ l, Ext s s' l) ∧ ∀ c ∈ newCalls s s', P c :=
  let ⟨l, e, p⟩ := h
  ⟨⟨l, e⟩, e.newCalls ▸ p⟩

theorem setDelayed_self (d : List (String × Int)) (k : String) (t : Int) :
    ∃ dl, (k, dl) ∈ setDelayed d k t ∧ dl ≤ t := hasDeadline_setDelayed_self d k t

theorem setDelayed_mono (d : List (String × Int)) (k : String) (t : Int) (k' : String) (dl : Int)
    (h : (k', dl) ∈ d) : ∃ dl', (k', dl') ∈ setDelayed d k t ∧ dl' ≤ dl :=
  hasDeadline_setDelayed_mono ⟨dl, h, Int.le_refl _⟩ k t

theorem TimerBy.mono {q : WQ} {k : String} {t t' : Int} (h : TimerBy q k t) (hle : t ≤ t') : TimerBy q k t' := by
  obtain ⟨dl, hm, hd⟩ := h
  exact ⟨dl, hm, by omega⟩

theorem enqueueAfter_ext (s : Sys) (key : String) (t : Int) : Ext s (enqueueAfter s key t) [] := by
  refine ⟨by simp [enqueueAfter], rfl, rfl, rfl, rfl, rfl, ?_, fun p hp => Or.inl ⟨p, hp, rfl⟩⟩
  rintro k t' ⟨dl, hm, hle⟩
  obtain ⟨dl', hm', hle'⟩ := setDelayed_mono s.q.delayed key
    (if t < s.clock + 1000000000 then s.clock + 1000000000 else t) k dl hm
  exact ⟨dl', by simpa [enqueueAfter, WQ.addAfter] using hm', by omega⟩

theorem enqueueAfter_timer (s : Sys) (key : String) (t : Int) :
    TimerBy (enqueueAfter s key t).q key (dueAt s t) := by
  obtain ⟨dl, hm, hle⟩ := setDelayed_self s.q.delayed key (dueAt s t)
  exact ⟨dl, by simpa [enqueueAfter, WQ.addAfter, dueAt] using hm, hle⟩

theorem dueAt_of_ext {s s' : Sys} {l : List Call} (h : Ext s s' l) (t : Int) : dueAt s' t = dueAt s t := by
  unfold dueAt; rw [h.clock]

theorem nextFault_eq (s : Sys) : ∃ fs, (nextFault s).2 = { s with faults := fs, delRun := none } := by
  unfold nextFault popFault
  cases h : s.faults with
  | nil => exact ⟨[], by simp [h]⟩
  | cons f rest => exact ⟨rest, rfl⟩

/-- no injected fault is pending (neither queued nor held by a running delete batch) -/
def NoFault (s : Sys) : Prop := s.faults = [] ∧ ∀ f, s.delRun = some f → f = ""

theorem nextFault_noFault (s : Sys) (h : NoFault s) : (nextFault s).1 = "" ∧ NoFault (nextFault s).2 := by
  unfold nextFault popFault NoFault
  rw [h.1]
  exact ⟨rfl, h.1, by intro f hf; cases hf⟩

theorem mem_setPod_name (l : List PodObj) (p x : PodObj) (h : x ∈ setPod l p) :
    x = p ∨ x ∈ l := by
  unfold setPod at h
  split at h
  · obtain ⟨y, hy, he⟩ := List.mem_map.mp h
    by_cases hn : y.pod.name = p.pod.name
    · left; simpa [hn] using he.symm
    · right; simp only [hn, if_false] at he; exact he ▸ hy
  · rcases List.mem_append.mp h with h | h
    · exact Or.inr h
    · exact Or.inl (by simpa using h)

theorem _root_.Furiko.JobCtl.mem_delPod {l : List PodObj} {n : String} {q : PodObj} (h : q ∈ delPod l n) :
    q ∈ l ∧ q.pod.name ≠ n := by
  unfold delPod at h
  have := List.mem_filter.mp h
  exact ⟨this.1, by simpa using this.2⟩

theorem findPod_some {l : List PodObj} {n : String} {p : PodObj} (h : findPod l n = some p) :
    p ∈ l ∧ p.pod.name = n := by
  unfold findPod at h
  exact ⟨List.mem_of_find?_eq_some h, by simpa using List.find?_some h⟩

/-- the pod object `PodTaskClient.CreateIndex` builds -/
def _root_.Furiko.JobCtl.newPod (jo : JobObj) (idx : PIndex) (retry : Int) (t : Time) : PodObj :=
  { pod := { name := taskName jo.name idx.hash retry, creationTimestamp := some t, retryIndex := some retry,
             parallelIndex := some idx },
    ownerUid := some jo.uid, ownerName := some jo.name, jobLabel := some jo.uid }

/-- `apiCreatePod`, by cases: the call is answered with an error (a fault, or the name is taken) and only
the call log and the fault oracle change; or the name is free and the pod is added (the answer may still be
lost: `applied-err`) -/
theorem apiCreatePod_cases (s : Sys) (jo : JobObj) (idx : PIndex) (retry : Int) :
    ∃ fs out res,
      (out ≠ "ok" ∧ (∀ p, res ≠ .ok p) ∧ (res = .exists → out = "exists") ∧
        apiCreatePod s jo idx retry =
          (log { s with faults := fs, delRun := none }
            ⟨"create", "pods", taskName jo.name idx.hash retry, out, false, false⟩, res)) ∨
      (out = "ok" ∧ findPod s.pods (taskName jo.name idx.hash retry) = none ∧
        (res = .ok (newPod jo idx retry (nowT s)) ∨ res = .err) ∧
        apiCreatePod s jo idx retry =
          (log { s with faults := fs, delRun := none, rv := s.rv + 1,
                        pods := s.pods ++ [newPod jo idx retry (nowT s)],
                        podEvs := s.podEvs ++ [.upsert (newPod jo idx retry (nowT s))] }
            ⟨"create", "pods", taskName jo.name idx.hash retry, "ok", false, false⟩, res)) := by
  unfold apiCreatePod
  obtain ⟨fs, hfs⟩ := nextFault_eq s
  generalize nextFault s = r at hfs
  obtain ⟨f, s0⟩ := r
  simp only at hfs
  subst hfs
  simp only
  by_cases h1 : isFailFault f = true
  · simp only [h1, if_true]
    refine ⟨fs, faultOut f, .err, Or.inl ⟨?_, fun _ => nofun, nofun, rfl⟩⟩
    unfold faultOut
    split <;> simp
  · simp only [h1, Bool.false_eq_true, if_false]
    by_cases h2 : (findPod s.pods (taskName jo.name idx.hash retry)).isSome = true
    · simp only [h2, if_true]
      exact ⟨fs, "exists", .exists, Or.inl ⟨by simp, fun _ => nofun, fun _ => rfl, rfl⟩⟩
    · simp only [h2, Bool.false_eq_true, if_false]
      refine ⟨fs, "ok", _, Or.inr ⟨rfl, by simpa using h2, ?_, rfl⟩⟩
      split
      · exact Or.inr rfl
      · exact Or.inl rfl

theorem apiCreatePod_ext (s : Sys) (jo : JobObj) (idx : PIndex) (retry : Int) :
    ∃ c, Ext s (apiCreatePod s jo idx retry).1 [c] ∧
      c.verb = "create" ∧ c.res = "pods" ∧ c.name = taskName jo.name idx.hash retry ∧ c.force = false ∧
      (apiCreatePod s jo idx retry).1.q = s.q ∧
      (∀ p, (apiCreatePod s jo idx retry).2 = .ok p → c.out = "ok") ∧
      (c.out = "ok" →
        findPod s.pods (taskName jo.name idx.hash retry) = none ∧
        ∃ p : PodObj, (apiCreatePod s jo idx retry).1.pods = s.pods ++ [p] ∧
          p.pod.name = taskName jo.name idx.hash retry ∧ p.ownerUid = some jo.uid ∧
          p.ownerName = some jo.name ∧ p.jobLabel = some jo.uid ∧
          p.pod.retryIndex = some retry ∧ p.pod.parallelIndex = some idx ∧
          p.pod.creationTimestamp = some (nowT s) ∧ p.pod.deletionTimestamp = none ∧
          (∀ q, (apiCreatePod s jo idx retry).2 = .ok q → q = p)) ∧
      (c.out ≠ "ok" → (apiCreatePod s jo idx retry).1.pods = s.pods) ∧
      ((apiCreatePod s jo idx retry).2 = .exists → c.out = "exists") := by
  obtain ⟨fs, out, res, ⟨hne, hnok, hex, he⟩ | ⟨rfl, hfree, hres, he⟩⟩ := apiCreatePod_cases s jo idx retry <;> rw [he]
  · exact ⟨_, Ext.of_eq, rfl, rfl, rfl, rfl, rfl, fun p h => absurd h (hnok p), fun h => absurd h hne,
      fun _ => rfl, hex⟩
  · refine ⟨_, ⟨rfl, rfl, rfl, rfl, rfl, rfl, fun _ _ h => h, ?_⟩, rfl, rfl, rfl, rfl, rfl, fun _ _ => rfl,
      fun _ => ⟨hfree, _, rfl, rfl, rfl, rfl, rfl, rfl, rfl, rfl, rfl, ?_⟩, fun h => absurd rfl h, ?_⟩
    · intro p hp
      rcases List.mem_append.mp hp with h | h
      · exact Or.inl ⟨p, h, rfl⟩
      · refine Or.inr ⟨_, List.mem_singleton.mpr rfl, rfl, rfl, rfl, ?_⟩
        rw [List.mem_singleton.mp h]; rfl
    · intro q hq
      rcases hres with h | h <;> rw [h] at hq <;> cases hq
      rfl
    · intro h
      rcases hres with h' | h' <;> rw [h'] at h <;> cases h

/-- the body of `apiDeletePod` once the fault `f` of the batch is known -/
def delBody (f : String) (s : Sys) (name : String) (force : Bool) : Sys × Bool :=
  if isFailFault f then (log s ⟨"delete", "pods", name, faultOut f, false, force⟩, false)
  else
    match findPod s.pods name with
    | none => (log s ⟨"delete", "pods", name, "notfound", false, force⟩, true)
    | some p =>
      let s := log s ⟨"delete", "pods", name, "ok", false, force⟩
      if force then
        ({ s with pods := delPod s.pods name, podEvs := s.podEvs ++ [.delete p] }, f ≠ "applied-err")
      else if p.pod.deletionTimestamp.isSome then (s, f ≠ "applied-err")
      else
        let p' := { p with pod := { p.pod with deletionTimestamp := some (nowT s) } }
        ({ s with rv := s.rv + 1, pods := setPod s.pods p', podEvs := s.podEvs ++ [.upsert p'] }, f ≠ "applied-err")

theorem apiDeletePod_eq (s : Sys) (name : String) (force : Bool) :
    ∃ f fs dr, apiDeletePod s name force = delBody f { s with faults := fs, delRun := dr } name force ∧
      (NoFault s → f = "" ∧ fs = [] ∧ ∀ g, dr = some g → g = "") := by
  unfold apiDeletePod popFault
  cases hd : s.delRun with
  | some f =>
    refine ⟨f, s.faults, s.delRun, rfl, ?_⟩
    intro hn
    exact ⟨hn.2 f hd, hn.1, fun g hg => hn.2 g hg⟩
  | none =>
    cases hf : s.faults with
    | nil =>
      refine ⟨"", [], some "", by simp only [hf]; rfl, ?_⟩
      intro _
      exact ⟨rfl, rfl, fun g hg => by cases hg; rfl⟩
    | cons f rest =>
      refine ⟨f, rest, some f, rfl, ?_⟩
      intro hn
      rw [hn.1] at hf; cases hf

theorem apiDeletePod_ext (s : Sys) (name : String) (force : Bool) :
    ∃ c, Ext s (apiDeletePod s name force).1 [c] ∧
      c.verb = "delete" ∧ c.res = "pods" ∧ c.name = name ∧ c.force = force ∧
      (apiDeletePod s name force).1.q = s.q ∧
      (NoFault s → (apiDeletePod s name force).2 = true ∧ NoFault (apiDeletePod s name force).1 ∧
        (c.out = "ok" ∨ c.out = "notfound")) := by
  obtain ⟨f, fs, dr, he, hnf⟩ := apiDeletePod_eq s name force
  rw [he]
  unfold delBody
  simp only
  by_cases h1 : isFailFault f = true
  · simp only [h1, if_true]
    refine ⟨_, Ext.of_eq, rfl, rfl, rfl, rfl, rfl, ?_⟩
    intro hn
    rw [(hnf hn).1] at h1
    simp [isFailFault] at h1
  · simp only [h1, Bool.false_eq_true, if_false]
    cases hp : findPod s.pods name with
    | none =>
      simp only
      refine ⟨_, Ext.of_eq, rfl, rfl, rfl, rfl, rfl, ?_⟩
      intro hn
      exact ⟨trivial, ⟨(hnf hn).2.1, (hnf hn).2.2⟩, Or.inr rfl⟩
    | some p =>
      simp only
      have hnm := findPod_some hp
      by_cases hforce : force = true
      · simp only [hforce, if_true]
        refine ⟨_, ⟨rfl, rfl, rfl, rfl, rfl, rfl, fun _ _ h => h, ?_⟩, rfl, rfl, rfl, rfl, rfl, ?_⟩
        · intro x hx
          exact Or.inl ⟨x, (mem_delPod hx).1, rfl⟩
        · intro hn
          refine ⟨?_, ⟨(hnf hn).2.1, (hnf hn).2.2⟩, Or.inl rfl⟩
          rw [(hnf hn).1]; simp
      · simp only [hforce, Bool.false_eq_true, if_false]
        by_cases hdts : p.pod.deletionTimestamp.isSome = true
        · simp only [hdts, if_true]
          refine ⟨_, Ext.of_eq, rfl, rfl, rfl, ?_, rfl, ?_⟩
          · simp
          · intro hn
            refine ⟨?_, ⟨(hnf hn).2.1, (hnf hn).2.2⟩, Or.inl rfl⟩
            rw [(hnf hn).1]; simp
        · simp only [hdts, Bool.false_eq_true, if_false]
          refine ⟨_, ⟨rfl, rfl, rfl, rfl, rfl, rfl, fun _ _ h => h, ?_⟩, rfl, rfl, rfl, ?_, rfl, ?_⟩
          · intro x hx
            rcases mem_setPod_name _ _ _ hx with h | h
            · exact Or.inl ⟨p, hnm.1, by rw [h]⟩
            · exact Or.inl ⟨x, h, rfl⟩
          · simp
          · intro hn
            refine ⟨?_, ⟨(hnf hn).2.1, (hnf hn).2.2⟩, Or.inl rfl⟩
            rw [(hnf hn).1]; simp

theorem mem_ins (n x : String) : ∀ l : List String, x ∈ deleteTasks.ins n l ↔ x = n ∨ x ∈ l
  | [] => by simp [deleteTasks.ins]
  | y :: r => by
    unfold deleteTasks.ins
    split <;> simp [mem_ins n x r, or_left_comm]

theorem mem_foldl_ins (x : String) (names acc : List String) :
    x ∈ names.foldl (fun acc n => deleteTasks.ins n acc) acc ↔ x ∈ names ∨ x ∈ acc :=
  StatusLemmas.mem_foldl_insert deleteTasks.ins mem_ins x names acc

/-- the fold of `deleteTasks` over the sorted names: one delete call per name, in order -/
theorem delFold_ext (force : Bool) (g : Sys × Bool → String → Sys × Bool)
    (hg : ∀ acc n, g acc n = ((apiDeletePod acc.1 n force).1, acc.2 && (apiDeletePod acc.1 n force).2)) :
    ∀ (names : List String) (s : Sys) (b : Bool),
      ∃ l, Ext s (names.foldl g (s, b)).1 l ∧ l.map (·.name) = names ∧
        (∀ c ∈ l, c.verb = "delete" ∧ c.res = "pods" ∧ c.force = force) ∧
        (names.foldl g (s, b)).1.q = s.q ∧
        (NoFault s → (names.foldl g (s, b)).2 = b ∧ NoFault (names.foldl g (s, b)).1 ∧
          ∀ c ∈ l, c.out = "ok" ∨ c.out = "notfound")
  | [], s, b => ⟨[], Ext.refl s, rfl, by simp, rfl, fun h => ⟨rfl, h, by simp⟩⟩
  | n :: rest, s, b => by
    obtain ⟨c, hext, hv, hr, hn, hf, hq, hnf⟩ := apiDeletePod_ext s n force
    obtain ⟨l, hext2, hnames, hall, hq2, hnf2⟩ :=
      delFold_ext force g hg rest (apiDeletePod s n force).1 (b && (apiDeletePod s n force).2)
    simp only [List.foldl_cons, hg]
    refine ⟨[c] ++ l, hext.trans hext2, by simp [hn, hnames], ?_, by rw [hq2, hq], ?_⟩
    · intro c' hc'
      rcases List.mem_append.mp hc' with h | h
      · rw [List.mem_singleton.mp h]; exact ⟨hv, hr, hf⟩
      · exact hall c' h
    · intro hno
      obtain ⟨hok, hno1, hout⟩ := hnf hno
      obtain ⟨hb, hno2, hout2⟩ := hnf2 hno1
      refine ⟨by rw [hb, hok]; simp, hno2, ?_⟩
      intro c' hc'
      rcases List.mem_append.mp hc' with h | h
      · rw [List.mem_singleton.mp h]; exact hout
      · exact hout2 c' h

def DelWanted (s : Sys) (force : Bool) (t : Task) : Prop :=
  force = true ∨ ∀ ts, t.deletionTimestamp = some ts → ¬ ts < s.clock

theorem deleteTasks_ext (s : Sys) (tasks : List Task) (force : Bool) :
    ∃ l, Ext s (deleteTasks s tasks force).1 l ∧
      (∀ c ∈ l, c.verb = "delete" ∧ c.res = "pods" ∧ c.force = force ∧
        ∃ t ∈ tasks, t.name = c.name ∧ DelWanted s force t) ∧
      (∀ t ∈ tasks, DelWanted s force t → ∃ c ∈ l, c.name = t.name) ∧
      (deleteTasks s tasks force).1.q = s.q ∧
      (NoFault s → (deleteTasks s tasks force).2 = true ∧ NoFault (deleteTasks s tasks force).1 ∧
        ∀ c ∈ l, c.out = "ok" ∨ c.out = "notfound") := by
  unfold deleteTasks
  simp only
  have hfilter : ∀ t : Task, (force || !(match t.deletionTimestamp with
      | some ts => decide (ts < s.clock) | none => false)) = true ↔ DelWanted s force t := by
    intro t
    unfold DelWanted
    cases t.deletionTimestamp <;> cases force <;> simp
  obtain ⟨l, hext, hnames, hall, hq, hnf⟩ := delFold_ext force _ (fun acc n => rfl)
    (List.foldl (fun acc n => deleteTasks.ins n acc) []
      (List.map (fun x => x.name) (List.filter (fun t => force || !(match t.deletionTimestamp with
        | some ts => decide (ts < s.clock) | none => false)) tasks))) s true
  have hmem : ∀ n, n ∈ l.map (·.name) ↔ ∃ t ∈ tasks, t.name = n ∧ DelWanted s force t := by
    intro n
    rw [hnames, mem_foldl_ins]
    simp only [List.mem_map, List.mem_filter, List.not_mem_nil, or_false]
    constructor
    · rintro ⟨t, ⟨ht, hw⟩, rfl⟩
      exact ⟨t, ht, rfl, (hfilter t).mp hw⟩
    · rintro ⟨t, ht, rfl, hw⟩
      exact ⟨t, ⟨ht, (hfilter t).mpr hw⟩, rfl⟩
  refine ⟨l, hext, ?_, ?_, hq, hnf⟩
  · intro c hc
    obtain ⟨hv, hr, hf⟩ := hall c hc
    exact ⟨hv, hr, hf, (hmem c.name).mp (List.mem_map.mpr ⟨c, hc, rfl⟩)⟩
  · intro t ht hw
    obtain ⟨c, hc, hn⟩ := List.mem_map.mp ((hmem t.name).mpr ⟨t, ht, rfl, hw⟩)
    exact ⟨c, hc, hn⟩

def JobWrite (s s' : Sys) (c : Call) : Prop :=
  ∃ rv job evs fs, s' = { s with rv := rv, job := job, jobEvs := evs, faults := fs, delRun := none,
                                 calls := s.calls ++ [c] }

theorem JobWrite.ext {s s' : Sys} {c : Call} (h : JobWrite s s' c) :
    Ext s s' [c] ∧ s'.q = s.q ∧ s'.pods = s.pods := by
  obtain ⟨_, _, _, _, rfl⟩ := h
  exact ⟨Ext.of_eq, rfl, rfl⟩

/-- a property of both branches holds of the conditional (the motive is given, nothing is searched) -/
theorem ite_ind {α : Sort _} {P : α → Prop} (c : Prop) [Decidable c] {a b : α} (ha : P a) (hb : P b) :
    P (if c then a else b) := by
  split <;> assumption

/-- every branch of a Job write logs one call (they differ in `out`) and is a `JobWrite` -/
theorem apiDeleteJob_write (s : Sys) (cached : JobObj) :
    ∃ out, JobWrite s (apiDeleteJob s cached).1 ⟨"delete", "jobs", cached.name, out, false, false⟩ := by
  unfold apiDeleteJob
  obtain ⟨fs, hfs⟩ := nextFault_eq s
  generalize nextFault s = r at hfs
  obtain ⟨f, s0⟩ := r
  subst hfs
  let P : Sys × Bool → Prop := fun x => ∃ out, JobWrite s x.1 ⟨"delete", "jobs", cached.name, out, false, false⟩
  show P _
  refine ite_ind (P := P) _ ⟨_, _, _, _, _, rfl⟩ ?_
  cases s.job with
  | none => exact ⟨_, _, _, _, _, rfl⟩
  | some cur =>
    exact ite_ind (P := P) _ (ite_ind (P := P) _ ⟨_, _, _, _, _, rfl⟩ ⟨_, _, _, _, _, rfl⟩) ⟨_, _, _, _, _, rfl⟩

theorem apiUpdateJob_write (s : Sys) (cached new : JobObj) :
    ∃ out, JobWrite s (apiUpdateJob s cached new).1 ⟨"update", "jobs", cached.name, out, false, false⟩ := by
  unfold apiUpdateJob
  obtain ⟨fs, hfs⟩ := nextFault_eq s
  generalize nextFault s = r at hfs
  obtain ⟨f, s0⟩ := r
  subst hfs
  let P : Sys × Bool → Prop := fun x => ∃ out, JobWrite s x.1 ⟨"update", "jobs", cached.name, out, false, false⟩
  show P _
  refine ite_ind (P := P) _ ⟨_, _, _, _, _, rfl⟩ ?_
  cases s.job with
  | none => exact ⟨_, _, _, _, _, rfl⟩
  | some cur =>
    exact ite_ind (P := P) _ ⟨_, _, _, _, _, rfl⟩ (ite_ind (P := P) _ ⟨_, _, _, _, _, rfl⟩
      (ite_ind (P := P) _ ⟨_, _, _, _, _, rfl⟩ ⟨_, _, _, _, _, rfl⟩))

theorem apiUpdateJobStatus_write (s : Sys) (cached new : JobObj) :
    ∃ out, JobWrite s (apiUpdateJobStatus s cached new).1 ⟨"update", "jobs", cached.name, out, true, false⟩ := by
  unfold apiUpdateJobStatus
  obtain ⟨fs, hfs⟩ := nextFault_eq s
  generalize nextFault s = r at hfs
  obtain ⟨f, s0⟩ := r
  subst hfs
  let P : Sys × Bool → Prop := fun x => ∃ out, JobWrite s x.1 ⟨"update", "jobs", cached.name, out, true, false⟩
  show P _
  refine ite_ind (P := P) _ ⟨_, _, _, _, _, rfl⟩ ?_
  cases s.job with
  | none => exact ⟨_, _, _, _, _, rfl⟩
  | some cur =>
    exact ite_ind (P := P) _ ⟨_, _, _, _, _, rfl⟩ (ite_ind (P := P) _ ⟨_, _, _, _, _, rfl⟩ ⟨_, _, _, _, _, rfl⟩)

theorem apiDeleteJob_ext (s : Sys) (cached : JobObj) :
    ∃ c, Ext s (apiDeleteJob s cached).1 [c] ∧ c.verb = "delete" ∧ c.res = "jobs" ∧ c.name = cached.name ∧
      (apiDeleteJob s cached).1.q = s.q ∧ (apiDeleteJob s cached).1.pods = s.pods := by
  obtain ⟨_, h⟩ := apiDeleteJob_write s cached
  exact ⟨_, h.ext.1, rfl, rfl, rfl, h.ext.2⟩

theorem apiUpdateJob_ext (s : Sys) (cached new : JobObj) :
    ∃ c, Ext s (apiUpdateJob s cached new).1 [c] ∧ c.verb = "update" ∧ c.res = "jobs" ∧ c.name = cached.name ∧
      c.sub = false ∧ (apiUpdateJob s cached new).1.q = s.q ∧ (apiUpdateJob s cached new).1.pods = s.pods := by
  obtain ⟨_, h⟩ := apiUpdateJob_write s cached new
  exact ⟨_, h.ext.1, rfl, rfl, rfl, rfl, h.ext.2⟩

theorem apiUpdateJobStatus_ext (s : Sys) (cached new : JobObj) :
    ∃ c, Ext s (apiUpdateJobStatus s cached new).1 [c] ∧ c.verb = "update" ∧ c.res = "jobs" ∧
      c.name = cached.name ∧ c.sub = true ∧
      (apiUpdateJobStatus s cached new).1.q = s.q ∧ (apiUpdateJobStatus s cached new).1.pods = s.pods := by
  obtain ⟨_, h⟩ := apiUpdateJobStatus_write s cached new
  exact ⟨_, h.ext.1, rfl, rfl, rfl, rfl, h.ext.2⟩

/-- two Job values with the same spec / metadata as far as the controller reads them -/
structure SameSpec (a b : Job) : Prop where
  template : b.template = a.template
  killTimestamp : b.killTimestamp = a.killTimestamp
  ttl : b.ttlSecondsAfterFinished = a.ttlSecondsAfterFinished
  startPolicy : b.startPolicy = a.startPolicy
  admissionError : b.admissionError = a.admissionError
  deletionTimestamp : b.deletionTimestamp = a.deletionTimestamp

theorem SameSpec.refl (a : Job) : SameSpec a a := ⟨rfl, rfl, rfl, rfl, rfl, rfl⟩
theorem SameSpec.trans {a b c : Job} (h1 : SameSpec a b) (h2 : SameSpec b c) : SameSpec a c :=
  ⟨h2.template.trans h1.template, h2.killTimestamp.trans h1.killTimestamp, h2.ttl.trans h1.ttl,
   h2.startPolicy.trans h1.startPolicy, h2.admissionError.trans h1.admissionError,
   h2.deletionTimestamp.trans h1.deletionTimestamp⟩

theorem updateJobTaskRefs_sameSpec (now : Time) (rj : Job) (tasks : List Task) :
    SameSpec rj (updateJobTaskRefs now rj tasks) := ⟨rfl, rfl, rfl, rfl, rfl, rfl⟩

theorem markDeleted_sameSpec (rj : Job) (names : List String) (f : TaskRef → TaskRef) :
    SameSpec rj (markDeleted rj names f) := ⟨rfl, rfl, rfl, rfl, rfl, rfl⟩

theorem markDeleted_parallelStatus (rj : Job) (names : List String) (f : TaskRef → TaskRef) :
    (markDeleted rj names f).status.parallelStatus = rj.status.parallelStatus := rfl

theorem updateStatus_some (now : Time) (d : PIndex) (rj nj : Job)
    (h : updateJobStatusFromTaskRefs now d rj = some nj) :
    SameSpec rj nj ∧ nj.status.tasks = rj.status.tasks := by
  unfold updateJobStatusFromTaskRefs updateJobStatusFromTaskRefsWith at h
  cases ht : rj.template with
  | none => rw [ht] at h; cases h
  | some t =>
    rw [ht] at h
    simp only [Option.some.injEq] at h
    subst h
    exact ⟨⟨ht.symm, rfl, rfl, rfl, rfl, rfl⟩, rfl⟩

theorem syncJobStatus_ext (s : Sys) (key : String) (rj : Job) :
    Ext s (syncJobStatusFromTaskRefs s key rj).1 [] ∧ SameSpec rj (syncJobStatusFromTaskRefs s key rj).2 ∧
      (syncJobStatusFromTaskRefs s key rj).2.status.tasks = rj.status.tasks ∧
      (syncJobStatusFromTaskRefs s key rj).1.pods = s.pods := by
  unfold syncJobStatusFromTaskRefs
  cases hu : updateJobStatusFromTaskRefs s.clock s.d rj with
  | none => exact ⟨Ext.refl s, SameSpec.refl rj, rfl, rfl⟩
  | some nj =>
    obtain ⟨hs, ht⟩ := updateStatus_some _ _ _ _ hu
    simp only
    split
    · split
      · split
        · exact ⟨enqueueAfter_ext _ _ _, hs, ht, rfl⟩
        · exact ⟨Ext.refl s, hs, ht, rfl⟩
      · exact ⟨Ext.refl s, hs, ht, rfl⟩
    · exact ⟨Ext.refl s, hs, ht, rfl⟩

/-- the exact condition under which `syncJobStatusFromTaskRefs` arms the TTL timer: the recomputed
status is finished, the Job is not being deleted, and the JOB-LEVEL `ttlSecondsAfterFinished`
is set -/
theorem syncJobStatus_armed (s : Sys) (key : String) (rj nj : Job) (fin : CondFinished) (ttl : Int)
    (hu : updateJobStatusFromTaskRefs s.clock s.d rj = some nj)
    (hf : nj.status.condition.finished = some fin) (hd : isDeleted nj = false)
    (ht : rj.ttlSecondsAfterFinished = some ttl) :
    syncJobStatusFromTaskRefs s key rj =
      (enqueueAfter s key (fin.finishTimestamp.getD zeroTime + secs ttl), nj) := by
  have hs := (updateStatus_some _ _ _ _ hu).1
  unfold syncJobStatusFromTaskRefs
  simp [hu, hf, hd, hs.ttl, ht]

/-- … and in every other case the system state is returned untouched (no timer) -/
theorem syncJobStatus_unarmed (s : Sys) (key : String) (rj : Job)
    (h : rj.ttlSecondsAfterFinished = none ∨ isDeleted rj = true ∨
      ∀ nj, updateJobStatusFromTaskRefs s.clock s.d rj = some nj → nj.status.condition.finished = none) :
    (syncJobStatusFromTaskRefs s key rj).1 = s := by
  unfold syncJobStatusFromTaskRefs
  cases hu : updateJobStatusFromTaskRefs s.clock s.d rj with
  | none => rfl
  | some nj =>
    have hs := (updateStatus_some _ _ _ _ hu).1
    simp only
    cases hf : nj.status.condition.finished with
    | none => rfl
    | some fin =>
      simp only
      rcases h with h | h | h
      · split
        · simp [hs.ttl, h]
        · rfl
      · have : isDeleted nj = true := by unfold isDeleted at *; rw [hs.deletionTimestamp]; exact h
        simp [this]
      · rw [h nj hu] at hf; cases hf

theorem updateTaskRefStatus_ext (s : Sys) (key : String) (rj : Job) (tasks : List Task) :
    Ext s (updateTaskRefStatus s key rj tasks).1 [] ∧ SameSpec rj (updateTaskRefStatus s key rj tasks).2 ∧
      (updateTaskRefStatus s key rj tasks).1.pods = s.pods := by
  unfold updateTaskRefStatus
  obtain ⟨h1, h2, _, h4⟩ := syncJobStatus_ext s key (updateJobTaskRefs s.clock rj tasks)
  exact ⟨h1, (updateJobTaskRefs_sameSpec _ _ _).trans h2, h4⟩

end Furiko.JobCtlPlan
