/-
Helper lemmas for C16 (admission defaulting): association-list maps, fixed points of the
defaulting functions, and the success characterisation of `mutateCreateJob`.
-/
import FurikoModel.Model.Mutation
import FurikoModel.Proofs.OptionsLemmas

namespace Furiko.MutationLemmas
open Furiko Furiko.Options Furiko.Mutation

/-! Facts about the regenerated constants: they break if the source makes a default empty. -/

theorem defaultJobType_ne : Facts.admDefaultJobType ≠ [] := by decide
theorem defaultRestartPolicy_ne : Facts.admDefaultRestartPolicy ≠ [] := by decide
theorem defaultCompletionStrategy_ne : Facts.admDefaultCompletionStrategy ≠ [] := by decide
theorem boolFormatDefault_ne : Facts.boolFormatDefault ≠ [] := by decide

theorem mget_nil (k : Str) : mget [] k = none := rfl

theorem mget_mset (m : SMap) (k v q : Str) :
    mget (mset m k v) q = if k = q then some v else mget m q := by
  simp [mget, mset, lookupS]

theorem mget_mmerge (lo hi : SMap) (k : Str) :
    mget (mmerge lo hi) k = (mget hi k).orElse fun _ => mget lo k := by
  simp only [mget, mmerge, OptionsLemmas.lookupS_eq_lookup, List.lookup_append]
  cases List.lookup k hi <;> rfl

theorem MapEq.refl (m : SMap) : MapEq m m := fun _ => rfl
theorem MapEq.symm {a b : SMap} (h : MapEq a b) : MapEq b a := fun k => (h k).symm
theorem MapEq.trans {a b c : SMap} (h₁ : MapEq a b) (h₂ : MapEq b c) : MapEq a c :=
  fun k => (h₁ k).trans (h₂ k)

theorem mset_same (m : SMap) (k v : Str) : MapEq (mset (mset m k v) k v) (mset m k v) := by
  intro q
  simp only [mget_mset]
  split <;> rfl

/-- merging a lower-priority map a second time under a map that already contains it -/
theorem merge_absorb (x e c : SMap) :
    MapEq (mmerge c (mmerge e (mmerge c (mmerge e x)))) (mmerge c (mmerge e x)) := by
  intro k
  simp only [mget_mmerge]
  cases mget x k <;> cases mget e k <;> cases mget c k <;> rfl

theorem contains_mergeFinalizers_left (f1 f2 : List Str) (f : Str) (h : f ∈ f1) :
    f ∈ mergeFinalizers f1 f2 := by
  simp [mergeFinalizers, h]

theorem mem_mergeFinalizers_of_right (f1 f2 : List Str) (f : Str) (h : f ∈ f2) :
    f ∈ mergeFinalizers f1 f2 := by
  by_cases h1 : f ∈ f1 <;> simp [mergeFinalizers, h, h1]

theorem containsFinalizer_iff (fs : List Str) (f : Str) : containsFinalizer fs f = true ↔ f ∈ fs := by
  simp [containsFinalizer]

/-- a template on which `MutateJobTemplateSpec` has nothing left to do -/
structure TemplateDefaulted (cfg : Cfg) (mutateTask : Bool) (t : JobTemplate) : Prop where
  maxAttempts : t.maxAttempts.isSome = true
  pending : t.pendingTimeout.isNone = true → cfg.ok = true ∧ cfg.defaultPendingTimeout = none
  parallelism : ∀ p, t.parallelism = some p → p.completionStrategy ≠ []
  pod : mutateTask = true → ∀ p, t.pod = some p → p.restartPolicy ≠ []

theorem mutateParallelism_ne (p : Parallelism) : (mutateParallelism p).completionStrategy ≠ [] := by
  unfold mutateParallelism
  split
  · exact defaultCompletionStrategy_ne
  · assumption

theorem mutatePod_ne (p : PodTemplate) : (mutatePod p).restartPolicy ≠ [] := by
  unfold mutatePod
  split
  · exact defaultRestartPolicy_ne
  · assumption

theorem mutateParallelism_fixed (p : Parallelism) (h : p.completionStrategy ≠ []) : mutateParallelism p = p := by
  simp [mutateParallelism, h]

theorem mutatePod_fixed (p : PodTemplate) (h : p.restartPolicy ≠ []) : mutatePod p = p := by
  simp [mutatePod, h]

/-- `MutateJobTemplateSpec` field by field: given values survive, absent ones get the documented
default; the only error is a missing pending timeout under a configuration that failed to load -/
theorem mutateJobTemplateSpec_eq (cfg : Cfg) (t : JobTemplate) (b : Bool) :
    mutateJobTemplateSpec cfg t b =
      ({ t with
          pod := if b then t.pod.map mutatePod else t.pod
          parallelism := t.parallelism.map mutateParallelism
          maxAttempts := some (t.maxAttempts.getD Facts.admDefaultMaxAttempts)
          pendingTimeout :=
            if t.pendingTimeout.isNone && cfg.ok then cfg.defaultPendingTimeout else t.pendingTimeout },
       if t.pendingTimeout.isNone && !cfg.ok then [.internal] else []) := by
  obtain ⟨pod, par, ma, rd, pt, fb⟩ := t
  obtain ⟨ok, ttl, dpt⟩ := cfg
  cases ma <;> cases pt <;> cases par <;> cases pod <;> cases b <;> cases ok <;> rfl

theorem Option.map_fixed {α : Type} {f : α → α} {o : Option α} (h : ∀ p, o = some p → f p = p) :
    o.map f = o := by
  cases o with
  | none => rfl
  | some p => exact congrArg some (h p rfl)

theorem mutateJobTemplateSpec_fixed (cfg : Cfg) (b : Bool) (t : JobTemplate)
    (h : TemplateDefaulted cfg b t) : mutateJobTemplateSpec cfg t b = (t, []) := by
  obtain ⟨hm, hp, hpar, hpod⟩ := h
  have hpar' := Option.map_fixed fun p hp' => mutateParallelism_fixed p (hpar p hp')
  have hpod' : (if b then t.pod.map mutatePod else t.pod) = t.pod := by
    split
    · exact Option.map_fixed fun p hp' => mutatePod_fixed p (hpod ‹_› p hp')
    · rfl
  rw [mutateJobTemplateSpec_eq, hpar', hpod']
  obtain ⟨pod, par, ma, rd, pt, fb⟩ := t
  cases ma <;> cases pt <;> simp_all

theorem mutateJobTemplateSpec_defaulted (cfg : Cfg) (b : Bool) (t : JobTemplate)
    (h : (mutateJobTemplateSpec cfg t b).2 = []) :
    TemplateDefaulted cfg b (mutateJobTemplateSpec cfg t b).1 := by
  rw [mutateJobTemplateSpec_eq] at h ⊢
  refine ⟨rfl, ?_, ?_, ?_⟩
  · cases hpt : t.pendingTimeout <;> cases hok : cfg.ok <;> simp_all
  · intro p hp
    obtain ⟨q, _, rfl⟩ := Option.map_eq_some_iff.1 hp
    exact mutateParallelism_ne q
  · rintro rfl p hp
    obtain ⟨q, _, rfl⟩ := Option.map_eq_some_iff.1 hp
    exact mutatePod_ne q

/-- a Job on which `MutateJob` has nothing left to do -/
structure JobDefaulted (env : Env) (j : Job) : Prop where
  cfgOk : env.cfg.ok = true
  type_ : j.type_ ≠ []
  ttl : j.ttl.isNone = true → env.cfg.defaultTTL = none
  template : ∃ t, j.template = some t ∧ TemplateDefaulted env.cfg Facts.admJobMutatesTaskTemplate t

/-- `MutateJob` under a configuration that loaded, field by field: it touches `type`,
`ttlSecondsAfterFinished` and `template` only -/
theorem mutateJob_eq (env : Env) (j : Job) (hok : env.cfg.ok = true) :
    mutateJob env j =
      { obj := { j with
          type_ := if j.type_ = [] then Facts.admDefaultJobType else j.type_,
          ttl := if j.ttl.isNone then env.cfg.defaultTTL else j.ttl,
          template := some (mutateJobTemplateSpec env.cfg (j.template.getD {}) Facts.admJobMutatesTaskTemplate).1 },
        errors := (mutateJobTemplateSpec env.cfg (j.template.getD {}) Facts.admJobMutatesTaskTemplate).2 } := by
  unfold mutateJob
  simp only [hok, Bool.not_true, Bool.false_eq_true, if_false]
  by_cases h1 : j.type_ = [] <;> by_cases h2 : j.ttl.isNone = true <;> simp [h1, h2]

/-- `MutateJob` fails outright when the configuration did not load -/
theorem cfgOk_of_mutateJob (env : Env) (j : Job) (h : (mutateJob env j).errors = []) : env.cfg.ok = true := by
  cases hok : env.cfg.ok with
  | true => rfl
  | false => simp [mutateJob, hok] at h

theorem mutateJob_defaulted (env : Env) (j : Job) (h : (mutateJob env j).errors = []) :
    JobDefaulted env (mutateJob env j).obj := by
  have hok := cfgOk_of_mutateJob env j h
  rw [mutateJob_eq env j hok] at h ⊢
  refine ⟨hok, ?_, ?_, _, rfl, mutateJobTemplateSpec_defaulted _ _ _ h⟩
  · simp only; split
    · exact defaultJobType_ne
    · assumption
  · cases httl : j.ttl <;> simp

theorem mutateJob_fixed (env : Env) (j : Job) (h : JobDefaulted env j) :
    mutateJob env j = { obj := j, errors := [], warnings := [] } := by
  obtain ⟨hok, hty, httl, t, ht, htd⟩ := h
  rw [mutateJob_eq env j hok, ht, Option.getD_some, mutateJobTemplateSpec_fixed _ _ _ htd, if_neg hty]
  obtain ⟨ns, ct, fins, labels, anns, owners, cn, ty, sp, tmpl, ov, subs, ttl, rest⟩ := j
  cases ttl <;> simp_all

theorem JobDefaulted.congr {env : Env} {j j' : Job} (h : JobDefaulted env j)
    (h1 : j'.type_ = j.type_) (h2 : j'.ttl = j.ttl) (h3 : j'.template = j.template) : JobDefaulted env j' :=
  ⟨h.cfgOk, h1 ▸ h.type_, h2 ▸ h.ttl, h3 ▸ h.template⟩

/-- the finalizer phase of `MutateCreateJob` -/
def addFinalizer (j : Job) : Job :=
  if !containsFinalizer j.finalizers Facts.admFinalizer then
    { j with finalizers := mergeFinalizers j.finalizers [Facts.admFinalizer] }
  else j

/-- the context-variable phase of `MutateCreateJob` -/
def mergeCtx (rjc : Option JobConfig) (j : Job) : Job :=
  match rjc with
  | some c => { j with substitutions := mmerge (jobConfigVars c) j.substitutions }
  | none => j

theorem createStep_addFinalizer (env : Env) (j : Job) :
    createStep env { job := j } .addFinalizer = { job := addFinalizer j } := by
  simp only [createStep, addFinalizer]; split <;> rfl

/-- `MutateCreateJob` as the composition of its five phases in source order; a failed owner
lookup returns early -/
theorem mutateCreateJob_eq (env : Env) (j : Job) :
    mutateCreateJob env j =
      let r1 := evaluateConfigName env (addFinalizer j)
      match validateLookupJobOwner env.store r1.obj with
      | .error e => { obj := r1.obj, errors := r1.errors ++ [e], warnings := r1.warnings }
      | .ok rjc =>
        let r2 := evaluateOptionValues env r1.obj rjc
        { obj := mergeCtx rjc r2.obj, errors := r1.errors ++ r2.errors, warnings := r1.warnings ++ r2.warnings } := by
  simp only [mutateCreateJob, Facts.admCreateJobSteps, List.foldl, Bool.false_eq_true, if_false,
    createStep_addFinalizer]
  simp only [createStep, CreateSt.merge, Bool.false_eq_true, if_false, List.nil_append]
  cases validateLookupJobOwner env.store (evaluateConfigName env (addFinalizer j)).obj with
  | error e => rfl
  | ok rjc => cases rjc <;> rfl

theorem admitted_some {α : Type} (r : Result α) (x : α) : admitted r = some x ↔ r.errors = [] ∧ r.obj = x := by
  unfold admitted
  split <;> simp_all

/-! The four patchers run their mutators in sequence (`Facts.adm…Patch…`); a request is admitted when none
of them reports an error, and the object is what the last one returns. -/

theorem admitted_patchCreateJob {env : Env} {j j' : Job} :
    admitted (patchCreateJob env j) = some j' ↔
      (mutateCreateJob env j).errors ++ (mutateJob env (mutateCreateJob env j).obj).errors = [] ∧
      (mutateJob env (mutateCreateJob env j).obj).obj = j' := by
  simp [admitted_some, patchCreateJob, Facts.admJobPatchCreate, Result.andThen, runJobCall]

theorem admitted_patchUpdateJob {env : Env} {j j' : Job} :
    admitted (patchUpdateJob env j) = some j' ↔ (mutateJob env j).errors = [] ∧ (mutateJob env j).obj = j' := by
  simp [admitted_some, patchUpdateJob, Facts.admJobPatchUpdate, Result.andThen, runJobCall]

theorem admitted_patchCreateJobConfig {env : Env} {c c' : JobConfig} :
    admitted (patchCreateJobConfig env c) = some c' ↔
      (mutateCreateJobConfig env c).errors ++ (mutateJobConfig env (mutateCreateJobConfig env c).obj).errors = [] ∧
      (mutateJobConfig env (mutateCreateJobConfig env c).obj).obj = c' := by
  simp [admitted_some, patchCreateJobConfig, Facts.admJobConfigPatchCreate, Result.andThen, runJobConfigCall]

theorem admitted_patchUpdateJobConfig {env : Env} {old c c' : JobConfig} :
    admitted (patchUpdateJobConfig env old c) = some c' ↔
      (mutateJobConfig env c).errors ++ (mutateUpdateJobConfig env old (mutateJobConfig env c).obj).errors = [] ∧
      (mutateUpdateJobConfig env old (mutateJobConfig env c).obj).obj = c' := by
  simp [admitted_some, patchUpdateJobConfig, Facts.admJobConfigPatchUpdate, Result.andThen, runJobConfigCall]

theorem defaultingOption_idem (o : Opt) : defaultingOption (defaultingOption o) = defaultingOption o := by
  unfold defaultingOption
  cases ht : o.type <;> simp only [ht]
  -- Bool
  cases hb : o.bool with
  | none => simp [boolFormatDefault_ne]
  | some b =>
    by_cases hf : b.format.isEmpty = true
    · simp [hf, boolFormatDefault_ne]
    · simp [hf]

theorem map_defaultingOption_idem (os : List Opt) :
    (os.map defaultingOption).map defaultingOption = os.map defaultingOption := by
  simp [List.map_map, Function.comp_def, defaultingOption_idem]

theorem mutateCreateJobConfig_eq (env : Env) (c : JobConfig) :
    mutateCreateJobConfig env c = { obj := { c with schedule := c.schedule.map (stamp env) } } := by
  unfold mutateCreateJobConfig
  cases hs : c.schedule <;> simp
  cases c; simp_all

/-- what `MutateUpdateJobConfig` does to the schedule -/
def updateSchedule (env : Env) (old : Option Schedule) (s : Schedule) : Schedule :=
  if scheduleChanged old s then stamp env s else s

theorem mutateUpdateJobConfig_eq (env : Env) (old c : JobConfig) :
    mutateUpdateJobConfig env old c =
      { obj := { c with schedule := c.schedule.map (updateSchedule env old.schedule) } } := by
  unfold mutateUpdateJobConfig updateSchedule
  cases hs : c.schedule with
  | none => simp; cases c; simp_all
  | some s =>
    by_cases hc : scheduleChanged old.schedule s = true
    · simp [hc]
    · simp [hc]; cases c; simp_all

theorem mutateJobConfig_obj (env : Env) (c : JobConfig) :
    (mutateJobConfig env c).obj =
      { c with option := c.option.map (fun os => os.map defaultingOption),
               template := (mutateJobTemplateSpec env.cfg c.template Facts.admJobConfigMutatesTaskTemplate).1 } := by
  obtain ⟨ns, name, uid, tl, ta, tmpl, pol, sched, opt, hash, rest⟩ := c
  cases opt <;> rfl

theorem mutateJobConfig_errors (env : Env) (c : JobConfig) :
    (mutateJobConfig env c).errors = (mutateJobTemplateSpec env.cfg c.template Facts.admJobConfigMutatesTaskTemplate).2 := by
  obtain ⟨ns, name, uid, tl, ta, tmpl, pol, sched, opt, hash, rest⟩ := c
  cases opt <;> rfl

theorem mutateJobConfig_warnings (env : Env) (c : JobConfig) : (mutateJobConfig env c).warnings = [] := by
  obtain ⟨ns, name, uid, tl, ta, tmpl, pol, sched, opt, hash, rest⟩ := c
  cases opt <;> rfl

theorem mutateJobConfig_idem (env : Env) (c : JobConfig) (h : (mutateJobConfig env c).errors = []) (s : Option Schedule) :
    (mutateJobConfig env { (mutateJobConfig env c).obj with schedule := s }).errors = [] ∧
    (mutateJobConfig env { (mutateJobConfig env c).obj with schedule := s }).obj =
      { (mutateJobConfig env c).obj with schedule := s } := by
  rw [mutateJobConfig_errors] at h
  have hd := mutateJobTemplateSpec_defaulted _ _ _ h
  have hfix := mutateJobTemplateSpec_fixed _ _ _ hd
  simp only [mutateJobConfig_errors, mutateJobConfig_obj, hfix, true_and]
  cases hopt : c.option with
  | none => simp
  | some os =>
    simp
    intro a _
    exact defaultingOption_idem a

theorem floorSec_not_later (now : Int) : isTimeSetAndLaterThan (some (floorSec now)) now = false := by
  unfold isTimeSetAndLaterThan floorSec
  simp only [Bool.and_eq_false_imp, bne_iff_ne, ne_eq, decide_eq_false_iff_not]
  intro _
  omega

theorem stamp_idem (env : Env) (s : Schedule) : stamp env (stamp env s) = stamp env s := by
  unfold stamp
  by_cases h : isTimeSetAndLaterThan s.lastUpdated env.nowNs = true
  · simp [h]
  · simp only [Bool.not_eq_true] at h
    simp [h, floorSec_not_later]

theorem stamp_fields (env : Env) (s : Schedule) (lu : Option Int) :
    { stamp env s with lastUpdated := lu } = { s with lastUpdated := lu } := by
  unfold stamp
  split <;> rfl

theorem scheduleChanged_stamp (env : Env) (old : Option Schedule) (s : Schedule) :
    scheduleChanged old (stamp env s) = scheduleChanged old s := by
  unfold scheduleChanged
  cases old with
  | none => rfl
  | some os => simp only [stamp_fields]

theorem updateSchedule_idem (env : Env) (old : Option Schedule) (s : Schedule) :
    updateSchedule env old (updateSchedule env old s) = updateSchedule env old s := by
  unfold updateSchedule
  by_cases hc : scheduleChanged old s = true
  · simp [hc, scheduleChanged_stamp, stamp_idem]
  · simp [hc]

/-- the JSON / YAML library contract the idempotence of Job creation rests on: normalised
option values are non-empty text and parse to themselves (sampled by the harness on every
string it sends) -/
structure ParseStable (parseOV : Str → Option OVParse) : Prop where
  nonempty : ∀ s p, parseOV s = some p → p.normalised ≠ []
  stable : ∀ s p, parseOV s = some p →
    ∃ p', parseOV p.normalised = some p' ∧ p'.normalised = p.normalised ∧ p'.values = p.values

theorem addFinalizer_frame (j : Job) :
    addFinalizer j = { j with finalizers := (addFinalizer j).finalizers } := by
  unfold addFinalizer
  split
  · rfl
  · cases j; rfl

theorem addFinalizer_mem (j : Job) : Facts.admFinalizer ∈ (addFinalizer j).finalizers := by
  unfold addFinalizer
  split
  · exact mem_mergeFinalizers_of_right _ _ _ (by simp)
  · next h => exact (containsFinalizer_iff _ _).1 (by simpa using h)

theorem addFinalizer_fixed (j : Job) (h : Facts.admFinalizer ∈ j.finalizers) : addFinalizer j = j := by
  unfold addFinalizer
  simp [(containsFinalizer_iff _ _).2 h]

/-- a successful `evaluateConfigName` either did nothing (no configName) or expanded -/
theorem evaluateConfigName_ok (env : Env) (j : Job) (h : (evaluateConfigName env j).errors = []) :
    (j.configName = [] ∧ evaluateConfigName env j = { obj := j }) ∨
    (j.configName ≠ [] ∧ ∃ c base, lookupJobConfig env.store j.namespace_ j.configName = some c ∧
      newJobFromJobConfig c j.type_ j.createTime = some base ∧
      (evaluateConfigName env j).obj =
        { j with
          labels := mset (mmerge base.labels j.labels) Facts.admLabelUID ((mget base.labels Facts.admLabelUID).getD []),
          annotations := mmerge base.annotations j.annotations,
          finalizers := mergeFinalizers base.finalizers j.finalizers,
          owners := base.owners,
          template := some base.template,
          startPolicy := some (if (j.startPolicy.getD {}).concurrencyPolicy = [] then
              { (j.startPolicy.getD {}) with concurrencyPolicy := c.policy } else j.startPolicy.getD {}),
          configName := [] }) := by
  unfold evaluateConfigName at h ⊢
  by_cases hc : j.configName = []
  · left; simp [hc]
  · right
    refine ⟨hc, ?_⟩
    simp only [hc, if_false] at h ⊢
    cases hl : lookupJobConfig env.store j.namespace_ j.configName with
    | none => simp [hl] at h
    | some c =>
      simp only [hl] at h ⊢
      cases hn : newJobFromJobConfig c j.type_ j.createTime with
      | none => simp [hn] at h
      | some base => exact ⟨c, base, rfl, hn, rfl⟩

theorem evaluateConfigName_configName (env : Env) (j : Job) (h : (evaluateConfigName env j).errors = []) :
    (evaluateConfigName env j).obj.configName = [] := by
  rcases evaluateConfigName_ok env j h with ⟨hc, he⟩ | ⟨_, c, base, _, _, he⟩
  · rw [he]; exact hc
  · rw [he]

theorem evaluateConfigName_finalizer (env : Env) (j : Job) (h : (evaluateConfigName env j).errors = [])
    (hf : Facts.admFinalizer ∈ j.finalizers) : Facts.admFinalizer ∈ (evaluateConfigName env j).obj.finalizers := by
  rcases evaluateConfigName_ok env j h with ⟨_, he⟩ | ⟨_, c, base, _, _, he⟩
  · rw [he]; exact hf
  · rw [he]; exact mem_mergeFinalizers_of_right _ _ _ hf

/-- the first two phases of `MutateCreateJob` leave `type`, `ttl`, `optionValues`, `substitutions` alone -/
theorem evaluateConfigName_keeps (env : Env) (j : Job) (h : (evaluateConfigName env (addFinalizer j)).errors = []) :
    (evaluateConfigName env (addFinalizer j)).obj.type_ = j.type_ ∧
    (evaluateConfigName env (addFinalizer j)).obj.ttl = j.ttl ∧
    (evaluateConfigName env (addFinalizer j)).obj.optionValues = j.optionValues ∧
    (evaluateConfigName env (addFinalizer j)).obj.substitutions = j.substitutions := by
  rcases evaluateConfigName_ok env _ h with ⟨_, he⟩ | ⟨_, c, base, _, _, he⟩ <;>
    (rw [he, addFinalizer_frame]; exact ⟨rfl, rfl, rfl, rfl⟩)

theorem evaluateConfigName_nil (env : Env) (j : Job) (h : j.configName = []) :
    evaluateConfigName env j = { obj := j } := by
  simp [evaluateConfigName, h]

theorem validateLookupJobOwner_congr (store : List JobConfig) (a b : Job) (h1 : a.owners = b.owners)
    (h2 : a.namespace_ = b.namespace_) (h3 : a.labels = b.labels) :
    validateLookupJobOwner store a = validateLookupJobOwner store b := by
  unfold validateLookupJobOwner
  rw [h1, h2, h3]

theorem evaluateOptionValues_none (env : Env) (j : Job) : (evaluateOptionValues env j none).obj = j := rfl

/-- the option values a Job submits, as the evaluators see them -/
def submittedValues (env : Env) (j : Job) : List (Str × Value) :=
  if j.optionValues = [] then [] else
  match env.parseOV j.optionValues with
  | some p => p.values
  | none => []

/-- `evaluateOptionValues` under a parent JobConfig when no option values are submitted and the
defaults evaluate -/
theorem evaluateOptionValues_some_nil {env : Env} {j : Job} {c : JobConfig} (hov : j.optionValues = [])
    (hev : (evaluateOptions env.date [] c.option).2 = []) :
    evaluateOptionValues env j (some c) =
      { obj := { j with substitutions := mmerge (evaluateOptions env.date [] c.option).1 j.substitutions } } := by
  simp [evaluateOptionValues, hov, hev]

/-- … and when the submitted values parse and evaluate -/
theorem evaluateOptionValues_some_parsed {env : Env} {j : Job} {c : JobConfig} {p : OVParse}
    (hov : j.optionValues ≠ []) (hp : env.parseOV j.optionValues = some p)
    (hev : (evaluateOptions env.date p.values c.option).2 = []) :
    evaluateOptionValues env j (some c) =
      { obj := { j with optionValues := p.normalised,
                        annotations := mset j.annotations Facts.admAnnOptionSpecHash c.optionHash,
                        substitutions := mmerge (evaluateOptions env.date p.values c.option).1 j.substitutions } } := by
  simp [evaluateOptionValues, hov, hp, hev]

/-- these are the only ways for it to succeed -/
theorem evaluateOptionValues_some_ok (env : Env) (j : Job) (c : JobConfig)
    (h : (evaluateOptionValues env j (some c)).errors = []) :
    (j.optionValues = [] ∧ (evaluateOptions env.date [] c.option).2 = []) ∨
    (j.optionValues ≠ [] ∧ ∃ p, env.parseOV j.optionValues = some p ∧
      (evaluateOptions env.date p.values c.option).2 = []) := by
  by_cases hov : j.optionValues = []
  · refine .inl ⟨hov, Decidable.byContradiction fun he => ?_⟩
    simp [evaluateOptionValues, hov, he] at h
  · refine .inr ⟨hov, ?_⟩
    cases hp : env.parseOV j.optionValues with
    | none => simp [evaluateOptionValues, hov, hp] at h
    | some p =>
      refine ⟨p, rfl, Decidable.byContradiction fun he => ?_⟩
      simp [evaluateOptionValues, hov, hp, he] at h

/-- a successful `evaluateOptionValues` writes `optionValues`, `annotations`, `substitutions` only -/
theorem evaluateOptionValues_frame (env : Env) (j : Job) (rjc : Option JobConfig)
    (h : (evaluateOptionValues env j rjc).errors = []) :
    (evaluateOptionValues env j rjc).obj =
      { j with optionValues := (evaluateOptionValues env j rjc).obj.optionValues,
               annotations := (evaluateOptionValues env j rjc).obj.annotations,
               substitutions := (evaluateOptionValues env j rjc).obj.substitutions } := by
  cases rjc with
  | none => cases j; rfl
  | some c =>
    rcases evaluateOptionValues_some_ok env j c h with ⟨h0, he⟩ | ⟨hne, p, hp, he⟩
    · rw [evaluateOptionValues_some_nil h0 he]
    · rw [evaluateOptionValues_some_parsed hne hp he]

/-- … and the hash annotation is the only annotation it writes -/
theorem evaluateOptionValues_annotations (env : Env) (j : Job) (rjc : Option JobConfig) (k : Str)
    (hk : k ≠ Facts.admAnnOptionSpecHash) (h : (evaluateOptionValues env j rjc).errors = []) :
    mget (evaluateOptionValues env j rjc).obj.annotations k = mget j.annotations k := by
  cases rjc with
  | none => rfl
  | some c =>
    rcases evaluateOptionValues_some_ok env j c h with ⟨h0, he⟩ | ⟨hne, p, hp, he⟩
    · rw [evaluateOptionValues_some_nil h0 he]
    · rw [evaluateOptionValues_some_parsed hne hp he]
      simp [mget_mset, Ne.symm hk]

theorem addFinalizer_keeps (j : Job) (f : Str) (h : f ∈ j.finalizers) : f ∈ (addFinalizer j).finalizers := by
  unfold addFinalizer
  split
  · exact contains_mergeFinalizers_left _ _ _ h
  · exact h

/-- annotations of the base Job built by `NewJobFromJobConfig` -/
def baseAnnotations (c : JobConfig) (jobType : Str) (createTime : Int) : SMap :=
  if jobType = Facts.admJobTypeScheduled then
    mset c.tmplAnnotations Facts.admAnnScheduleTime (Subst.itoa createTime)
  else c.tmplAnnotations

theorem newJobFromJobConfig_some (c : JobConfig) (ty : Str) (ct : Int) (base : BaseJob)
    (h : newJobFromJobConfig c ty ct = some base) :
    base.labels = mset c.tmplLabels Facts.admLabelUID c.uid ∧
    base.annotations = baseAnnotations c ty ct ∧
    base.finalizers = [Facts.admFinalizer] ∧ base.owners = [controllerRef c] ∧ base.template = c.template := by
  unfold newJobFromJobConfig at h
  cases hm : makeDefaultOptions c.option with
  | none => simp [hm] at h
  | some d =>
    simp only [hm, Option.some.injEq] at h
    subst h
    exact ⟨rfl, rfl, rfl, rfl, rfl⟩

/-- an accepted Job creation ends with `MutateJob`, so its result is defaulted -/
theorem patchCreateJob_defaulted (env : Env) (j j' : Job) (h : admitted (patchCreateJob env j) = some j') :
    JobDefaulted env j' := by
  rw [admitted_patchCreateJob] at h
  exact h.2 ▸ mutateJob_defaulted env _ (List.append_eq_nil_iff.1 h.1).2

/-- shape of an accepted Job creation: the phases of `MutateCreateJob`, then `MutateJob`.  After
`evaluateConfigName` (result `j2`) only `optionValues`, `annotations`, `substitutions` (by
`evaluateOptionValues`, result `j3`, and the context merge) and `type`, `ttl`, `template` (by `MutateJob`)
are written. -/
theorem patchCreateJob_ok (env : Env) (j j' : Job) (h : admitted (patchCreateJob env j) = some j') :
    ∃ rjc j2 j3,
      (evaluateConfigName env (addFinalizer j)).errors = [] ∧
      (evaluateConfigName env (addFinalizer j)).obj = j2 ∧
      validateLookupJobOwner env.store j2 = .ok rjc ∧
      (evaluateOptionValues env j2 rjc).errors = [] ∧
      (evaluateOptionValues env j2 rjc).obj = j3 ∧
      env.cfg.ok = true ∧
      j' = { j2 with
             optionValues := j3.optionValues, annotations := j3.annotations,
             substitutions := (mergeCtx rjc j3).substitutions,
             type_ := if j2.type_ = [] then Facts.admDefaultJobType else j2.type_,
             ttl := if j2.ttl.isNone then env.cfg.defaultTTL else j2.ttl,
             template := some (mutateJobTemplateSpec env.cfg (j2.template.getD {}) Facts.admJobMutatesTaskTemplate).1 } ∧
      validateLookupJobOwner env.store j' = .ok rjc := by
  rw [admitted_patchCreateJob, mutateCreateJob_eq] at h
  cases hown : validateLookupJobOwner env.store (evaluateConfigName env (addFinalizer j)).obj with
  | error e => simp [hown] at h
  | ok rjc =>
    simp only [hown, List.append_eq_nil_iff] at h
    obtain ⟨⟨⟨hcn, hov⟩, he2⟩, ho⟩ := h
    have hok := cfgOk_of_mutateJob env _ he2
    refine ⟨rjc, _, _, hcn, rfl, hown, hov, rfl, hok, (and_iff_left_of_imp fun hj' => ?_).2 ?_⟩
    · -- the owner lookup reads `owners`, `namespace` and `labels`, which are those of `j2`
      rw [validateLookupJobOwner_congr env.store j' _ (by rw [hj']) (by rw [hj']) (by rw [hj'])]
      exact hown
    · rw [← ho, mutateJob_eq env _ hok, evaluateOptionValues_frame env _ rjc hov]
      cases rjc <;> rfl

end Furiko.MutationLemmas
