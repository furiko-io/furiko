/-
Liveness of the job controller: FAIR ROUNDS UNDER FAULTS KEEP THE INVARIANT, AND THEN THE FAIR ROUNDS CONVERGE.
`roundF orc fs` is the fair round whose pass runs under the fault list `fs`
(`deliverAll ; sweep ; deliverAll ; jump ; setFaults fs ; work ; setFaults [] ; deliverAll`).
* `roundF_keeps`, `roundF_done`, `roundsF_keep`: whatever `fs`, the invariant, "unfinished and armed, or final" and
  the agreement with the oracle are kept (by `ctl_faulted`, the controller half under any fault list);
  `faulty_then_fair`: after ANY finite sequence of faulted rounds at most `3·maxAttempts + 3` fault-free rounds
  reach a final state with the oracle's verdict — the same as without any fault.
* `Sound`: the invariant of these runs (round invariant, "unfinished and armed, or final", agreement with the
  oracle); it holds at the start (`sound_start`), fair rounds keep it too (`roundN_keep`), and a run that has
  finished the Job stays where it is (`run_final`) — what the statements and examples of `Props/C20Live` use.
Core Lean only.
-/
import FurikoModel.Proofs.JobCtlLiveVerdict

set_option linter.unusedSimpArgs false
set_option linter.unusedVariables false

namespace Furiko.JobCtl.Live
open Furiko Furiko.JobCtl Furiko.WQ Furiko.StatusLemmas Furiko.JobCtlPlan Furiko.Conv Furiko.ParallelLemmas

theorem job_eta (j : Job) : ({ j with status := j.status } : Job) = j := by cases j; rfl

section
variable {ok : Sys → Action → Prop} {j0 jo : JobObj} {F0 : Int} {s : Sys}

/-- a pass that wrote nothing (a pod of the next attempt possibly created) keeps the agreement with the oracle -/
theorem truth_unwritten (orc : String → Outcome) {s0 e w : Sys} {jo' : JobObj} (ht : Truth orc jo s0)
    (hpods : e.pods = s0.pods.map (sweepPod orc)) (hjob : jo'.job = jo.job) (m : Int) (c : Time)
    (hw : w.pods = e.pods ∨ w.pods = e.pods ++ [newPod jo e.d m c]) : Truth orc jo' w := by
  obtain ⟨hpodsW, hsub⟩ := truth_pods orc ht hpods m c hw
  refine ⟨hpodsW, fun r hr => ?_, by rw [hjob]; exact ht.failed, by rw [hjob]; exact ht.succ, by rw [hjob]; exact ht.live⟩
  rw [hjob] at hr
  obtain ⟨p0, hp0, hn0⟩ := List.mem_map.mp (ht.noLoss r hr)
  exact List.mem_map.mpr ⟨_, hsub _ (hpods ▸ List.mem_map_of_mem hp0), by rw [sweepPod_name]; exact hn0⟩

end

/-- the fair round whose pass runs under the fault list `fs` -/
def roundF (orc : String → Outcome) (fs : List String) (s : Sys) : Sys := ctlF fs (jump (envState orc s))

/-- one faulted round per fault list -/
def roundsF (orc : String → Outcome) : List (List String) → Sys → Sys
  | [], s => s
  | fs :: rest, s => roundsF orc rest (roundF orc fs s)

/-- the actions of a round under faults -/
def faultEnv (s : Sys) (a : Action) : Prop :=
  match a with
  | .setFaults _ => True
  | a => fairEnv s a

section
variable {ok : Sys → Action → Prop} {j0 jo : JobObj} {F0 : Int} {s : Sys}
variable (hok : ∀ s a, fairEnv s a → ok s a) (hokF : ∀ s fs, ok s (.setFaults fs)) (orc : String → Outcome)
include hok hokF

theorem roundF_steps (fs : List String) (s0 s : Sys) (h : Steps ok j0 s0 s) : Steps ok j0 s0 (roundF orc fs s) := by
  have hj : ∀ s, ok s .deliverJob := fun s => hok s _ trivial
  have hp : ∀ s, ok s .deliverPod := fun s => hok s _ trivial
  have ha : ∀ s d, ok s (.advance d) := fun s d => hok s _ trivial
  unfold roundF ctlF
  have h1 : Steps ok j0 s0 (jump (envState orc s)) := by
    unfold envState
    exact jump_steps ha s0 _ (env_steps hok orc s0 s h)
  have h2 : Steps ok j0 s0 (withFaults (jump (envState orc s)) fs) := .step (.setFaults fs) h1 (hokF _ _) trivial
  have h3 : Steps ok j0 s0 (work (withFaults (jump (envState orc s)) fs)).1 := .step .work h2 (hok _ _ trivial) trivial
  have h4 : Steps ok j0 s0 (dropFaults (work (withFaults (jump (envState orc s)) fs)).1) :=
    .step (.setFaults []) h3 (hokF _ _) trivial
  exact deliverAll_steps hj hp s0 _ h4
/-- **one fair round under any fault list on an unfinished Job** -/
theorem roundF_keeps (fs : List String) (h : Canon ok j0 jo F0 s) (hb : Busy jo s)
    (hT : (roundF orc fs s).clock < F0 + getTTLAfterFinished jo.job s.cfg) :
    ∃ jo', jo'.name = jo.name ∧ Canon ok j0 jo' F0 (roundF orc fs s) ∧
      (Busy jo' (roundF orc fs s) ∨ Done jo' (roundF orc fs s)) ∧
      getTTLAfterFinished jo'.job (roundF orc fs s).cfg = getTTLAfterFinished jo.job s.cfg ∧
      (Truth orc jo s → Truth orc jo' (roundF orc fs s)) := by
  obtain ⟨hps, hready, hpods, hd, hcfg, _⟩ := round_front hok orc h hb
  obtain ⟨jo', st, haf, hres, hout⟩ := ctl_faulted hok fs (Or.inr hokF) hps hready hb.unfinished hb.shape
    (by rw [hcfg, ← ctlF_clock fs]; exact hT)
  refine ⟨jo', haf.name, haf.canon, hres, ?_, fun ht => ?_⟩
  · unfold getTTLAfterFinished
    rw [show jo'.job.ttlSecondsAfterFinished = jo.job.ttlSecondsAfterFinished by rw [haf.job],
      show (roundF orc fs s).cfg = s.cfg from haf.cfg.trans hcfg]
  · rcases hout with ⟨hrs, _⟩ | ⟨_, hjob, hw⟩
    · exact truth_round orc hb ht hps hpods haf.canon haf.name haf.d hrs
    · exact truth_unwritten orc ht hpods hjob _ _ hw

/-- **final states are fixpoints of the round under faults too**: the pass of a final state issues no API
call, so it consumes no fault -/
theorem roundF_done (fs : List String) (h : Canon ok j0 jo F0 s) (hd : Done jo s)
    (hT : s.clock < F0 + getTTLAfterFinished jo.job s.cfg) :
    ∃ jo', jo'.name = jo.name ∧ jo'.job = jo.job ∧ Canon ok j0 jo' F0 (roundF orc fs s) ∧ Done jo' (roundF orc fs s) ∧
      (roundF orc fs s).pods = s.pods ∧ (roundF orc fs s).clock = s.clock ∧ (roundF orc fs s).cfg = s.cfg := by
  have hround : roundF orc fs s = ctlF fs s := by unfold roundF; rw [hd.env_idle hok h orc]
  have hps : PState ok j0 jo F0 s := ⟨h, hd.podsFin⟩
  have hsteps := ctlF_steps (j0 := j0) (e := s) hok hokF fs
  rw [hround]
  unfold ctlF
  cases hqq : (s.q.advance s.clock).queue with
  | nil =>
    have hg : ((withFaults s fs).q.advance (withFaults s fs).clock).get = none := by
      show (s.q.advance s.clock).get = none
      unfold WQ.get; rw [hqq]
    have hw : dropFaults (work (withFaults s fs)).1 = { s with q := s.q.advance s.clock, calls := [], delRun := none } := by
      rw [work_none _ hg]
      have hfa := h.fresh.faults
      unfold dropFaults withFaults
      cases s
      simp_all
    have hdl : deliverAll (dropFaults (work (withFaults s fs)).1) = dropFaults (work (withFaults s fs)).1 := by
      apply deliverAll_idle
      · rw [hw]; exact h.fresh.jobEvs
      · rw [hw]; exact h.fresh.podEvs
    have hreach := h.reach.steps hsteps
    rw [hdl, hw] at *
    exact ⟨jo, rfl, rfl, h.idle hreach, hd.congr rfl rfl rfl, rfl, rfl, rfl⟩
  | cons k rest =>
    -- the pass recomputes the recorded status: written or not, the server carries it
    obtain ⟨hstab, hcomp⟩ := hd.pass_facts h
    have hpo : PassOut jo s (dropFaults (work (withFaults s fs)).1)
        (recompute s.clock s.d jo.job (foundTasks s jo)).status [] := by
      rcases pass_uniform hps fs k rest hqq _ _ [] jo.job (foundTasks s jo) ⟨CreateOutF.refl _, fun hfs => hfs, TimersOnly.refl _ _,
        create_complete hps (spF s fs k rest) h.fresh.podCache rfl rfl hcomp, Or.inl rfl, hps.tasksOK_found, by simp⟩ hT
        with ⟨hpo, _⟩ | ⟨hpo, _⟩
      · exact hpo
      · rw [hstab]; exact hpo
    obtain ⟨jo', haf, hdone, _, hpods⟩ := core_complete hok hps _ hsteps hcomp hpo
    exact ⟨jo', haf.name, by rw [haf.job, hstab], haf.canon, hdone, hpods, haf.clock, haf.cfg⟩

end

section
variable {ok : Sys → Action → Prop} {j0 : JobObj} {F0 : Int}

/-- the invariant of runs under faults: the round invariant, the Job unfinished and its key armed or the
state final (with the TTL not elapsed), the state agreeing with the oracle -/
def Sound (ok : Sys → Action → Prop) (j0 : JobObj) (F0 : Int) (orc : String → Outcome) (T : Int) (name : String)
    (s : Sys) : Prop :=
  ∃ jo, jo.name = name ∧ Canon ok j0 jo F0 s ∧ (Busy jo s ∨ (Done jo s ∧ s.clock < F0 + T)) ∧ Truth orc jo s ∧
    getTTLAfterFinished jo.job s.cfg = T

theorem roundN_add (orc : String → Outcome) : ∀ (m n : Nat) (s : Sys), roundN orc (m + n) s = roundN orc n (roundN orc m s)
  | 0, n, s => by rw [Nat.zero_add]; rfl
  | m + 1, n, s => by rw [Nat.add_right_comm]; exact roundN_add orc m n (round orc s)

section
variable (hok : ∀ s a, fairEnv s a → ok s a) (orc : String → Outcome)
include hok

/-- the invariant of runs under faults holds right after the creation event of a simple Job was delivered -/
theorem sound_start (clock : Int) (cfg : ExecConfig)
    (d : PIndex) (j0 : JobObj) (hwf : WF j0) (hspec : SimpleSpec j0.job) (hn : 1 ≤ j0.job.maxAttempts)
    (hunf : j0.job.status.condition.finished = none) (hdash : '-' ∉ d.hash.toList) (F0 : Int)
    (hF0 : F0 ≤ secs (clock / 1000000000)) :
    Sound ok j0 F0 orc (getTTLAfterFinished j0.job cfg) j0.name (startState clock cfg d j0) :=
  have ⟨hcan, hbusy⟩ := init_canon hok clock cfg d j0 hwf hspec hn hunf hdash F0 hF0
  ⟨{ j0 with rv := 1 }, rfl, hcan, Or.inl hbusy, truth_start orc clock cfg d j0 hwf, rfl⟩

/-- fair rounds keep the invariant of runs under faults too, while the TTL has not elapsed -/
theorem roundN_keep (T : Int) (name : String) :
    ∀ (n : Nat) (s : Sys), Sound ok j0 F0 orc T name s →
      (∀ k, k < n → (roundN orc (k + 1) s).clock < F0 + T) → Sound ok j0 F0 orc T name (roundN orc n s)
  | 0, _, h, _ => h
  | n + 1, s, ⟨jo, hn, hcan, hstate, htruth, httl⟩, hT => by
    apply roundN_keep T name n (round orc s) _ (fun k hk => hT (k + 1) (by omega))
    have hT1 : (round orc s).clock < F0 + T := hT 0 (Nat.succ_pos _)
    rcases hstate with hb | ⟨hd, hclk⟩
    · obtain ⟨jo', hn', hcan', hres, httl', hcfg, hrs, hpods, hd, hps⟩ := round_busy hok orc hcan hb (by rw [httl]; exact hT1)
      refine ⟨jo', hn'.trans hn, hcan', ?_, truth_preserved hok orc jo jo' s hcan hb htruth hn' hcan' hrs hpods hd hps, ?_⟩
      · exact (hres.imp (·.1) (⟨·, hT1⟩))
      · unfold getTTLAfterFinished at httl ⊢; rw [httl', hcfg]; exact httl
    · obtain ⟨hcan', hd', hjob, hpods, _, hclk', hcfg, _⟩ := round_done hok orc hcan hd (by rw [httl]; exact hclk)
      refine ⟨jo, hn, hcan', Or.inr ⟨hd', hT1⟩, ⟨by rw [hpods]; exact htruth.pods, by rw [hpods]; exact htruth.noLoss,
        htruth.failed, htruth.succ, htruth.live⟩, ?_⟩
      unfold getTTLAfterFinished at httl ⊢; rw [hcfg]; exact httl

/-- a run of fair rounds that has finished the Job after `m` rounds, the TTL not elapsed, stays where it is: the
clock never passes the TTL bound, further rounds leave the Job as it is, and the next pass issues no call -/
theorem run_final (T : Int) (name : String) (s : Sys)
    (h : Sound ok j0 F0 orc T name s) (m : Nat) (hclk : ∀ k, k ≤ m → (roundN orc k s).clock < F0 + T)
    (hfin : ((roundN orc m s).job.bind (·.job.status.condition.finished)).isSome = true) :
    (∀ k, (roundN orc k s).clock < F0 + T) ∧ (∀ n, (roundN orc (m + n) s).job = (roundN orc m s).job) ∧
    (work (roundN orc m s)).1.calls = [] := by
  obtain ⟨jo, _, hcan, hstate, _, httl⟩ := roundN_keep hok orc T name m s h (fun k hk => hclk (k + 1) (by omega))
  have hd : Done jo (roundN orc m s) := by
    rcases hstate with hb | ⟨hd, _⟩
    · rw [hcan.fresh.job, Option.bind_some, hb.unfinished] at hfin; cases hfin
    · exact hd
  have hT := hclk m (Nat.le_refl _)
  rw [← httl] at hT
  refine ⟨fun k => ?_, fun n => ?_, (round_done hok orc hcan hd hT).2.2.2.2.2.2.2.1⟩
  · by_cases hk : k ≤ m
    · exact hclk k hk
    · obtain ⟨n, rfl⟩ : ∃ n, k = m + n := ⟨k - m, by omega⟩
      rw [roundN_add, (done_forever hok orc jo n _ hcan hd hT).2.2.2.2.2, ← httl]; exact hT
  · rw [roundN_add]; exact (done_forever hok orc jo n _ hcan hd hT).2.2.1

end

section
variable (hok : ∀ s a, fairEnv s a → ok s a) (hokF : ∀ s fs, ok s (.setFaults fs)) (orc : String → Outcome)
include hok hokF

theorem roundsF_steps :
    ∀ (fss : List (List String)) (s0 s : Sys), Steps ok j0 s0 s → Steps ok j0 s0 (roundsF orc fss s)
  | [], _, _, h => h
  | fs :: rest, s0, s, h => roundsF_steps rest s0 _ (roundF_steps hok hokF orc fs s0 s h)

/-- **any finite sequence of faulted rounds keeps the invariant** -/
theorem roundsF_keep (T : Int) (name : String) : ∀ (fss : List (List String)) (s : Sys), Sound ok j0 F0 orc T name s →
      (∀ pre suf, fss = pre ++ suf → pre ≠ [] → (roundsF orc pre s).clock < F0 + T) →
      Sound ok j0 F0 orc T name (roundsF orc fss s)
  | [], s, h, _ => h
  | fs :: rest, s, ⟨jo, hn, hcan, hstate, htruth, httl⟩, hT => by
    have hT1 : (roundF orc fs s).clock < F0 + T := hT [fs] rest rfl (by simp)
    have hrest : ∀ pre suf, rest = pre ++ suf → pre ≠ [] → (roundsF orc pre (roundF orc fs s)).clock < F0 + T := by
      intro pre suf e hne
      exact hT (fs :: pre) suf (by rw [e]; rfl) (by simp)
    apply roundsF_keep T name rest (roundF orc fs s) _ hrest
    rcases hstate with hb | ⟨hd, hclk⟩
    · obtain ⟨jo', hn', hcan', hres, httl', htr⟩ := roundF_keeps hok hokF orc fs hcan hb (by rw [httl]; exact hT1)
      refine ⟨jo', hn'.trans hn, hcan', ?_, htr htruth, httl'.trans httl⟩
      rcases hres with hb' | hd'
      · exact Or.inl hb'
      · exact Or.inr ⟨hd', hT1⟩
    · obtain ⟨jo', hn', hjob, hcan', hd', hpods, hclk', hcfg⟩ := roundF_done hok hokF orc fs hcan hd (by rw [httl]; exact hclk)
      refine ⟨jo', hn'.trans hn, hcan', Or.inr ⟨hd', by rw [hclk']; exact hclk⟩, ?_, ?_⟩
      · -- the Job value and the pods are unchanged
        refine ⟨by rw [hpods]; exact htruth.pods, by rw [hjob, hpods]; exact htruth.noLoss, by rw [hjob]; exact htruth.failed,
          by rw [hjob]; exact htruth.succ, by rw [hjob]; exact htruth.live⟩
      · unfold getTTLAfterFinished at httl ⊢
        rw [hjob, hcfg]; exact httl

/-- **any finite pattern of faults, then convergence to the oracle's verdict** -/
theorem faulty_then_fair (T : Int) (name : String) (fss : List (List String)) (s : Sys) (h : Sound ok j0 F0 orc T name s)
    (hTF : ∀ pre suf, fss = pre ++ suf → pre ≠ [] → (roundsF orc pre s).clock < F0 + T)
    (hT : ∀ k, k < 3 * j0.job.maxAttempts.toNat + 3 → (roundN orc (k + 1) (roundsF orc fss s)).clock < F0 + T) :
    ∃ k, k ≤ 3 * j0.job.maxAttempts.toNat + 3 ∧ Steps ok j0 s (roundN orc k (roundsF orc fss s)) ∧
      ∃ jo', jo'.name = name ∧ Canon ok j0 jo' F0 (roundN orc k (roundsF orc fss s)) ∧
        Done jo' (roundN orc k (roundsF orc fss s)) ∧ Truth orc jo' (roundN orc k (roundsF orc fss s)) := by
  obtain ⟨jo, hn, hcan, hstate, htruth, httl⟩ := roundsF_keep hok hokF orc T name fss s h hTF
  have hstepsF := roundsF_steps (j0 := j0) hok hokF orc fss s s (.refl s)
  rcases hstate with hb | ⟨hd, _⟩
  · have hmax : jo.job.maxAttempts = j0.job.maxAttempts := maxAttempts_of_template hcan.ver.template
    have hmu : mu jo (roundsF orc fss s) ≤ 3 * j0.job.maxAttempts.toNat + 3 := by rw [← hmax]; exact mu_le jo _
    obtain ⟨k, hk, _, jo', hn', hcan', hdone, htr, _⟩ := rounds_converge_with hok orc (Truth orc)
      (fun jo jo' s h hb ht hn hcw hrs hpods hd hps => truth_preserved hok orc jo jo' s h hb ht hn hcw hrs hpods hd hps)
      (3 * j0.job.maxAttempts.toNat + 3) jo _ hcan hb htruth hmu (by rw [httl]; exact hT)
    exact ⟨k, Nat.le_trans hk hmu, roundN_steps hok orc k s _ hstepsF, jo', hn'.trans hn, hcan', hdone, htr⟩
  · exact ⟨0, Nat.zero_le _, hstepsF, jo, hn, hcan, hd, htruth⟩

end

end

end Furiko.JobCtl.Live
