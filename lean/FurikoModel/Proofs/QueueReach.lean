/-
Reachable-state consequences of the invariant, and helpers to exhibit concrete reachable states.
-/
import FurikoModel.Proofs.QueueInvPass

set_option linter.unusedSimpArgs false
set_option linter.unusedVariables false

namespace Furiko.Queue
open Furiko.WQ

def runActs (s : Sys) (acts : List Act) : Sys := acts.foldl step s

def AllowedAll (s : Sys) : List Act → Prop
  | [] => True
  | a :: rest => Allowed s a ∧ AllowedAll (step s a) rest

theorem reachable_run {s : Sys} (h : Reachable s) (acts : List Act) (ha : AllowedAll s acts) :
    Reachable (runActs s acts) := by
  induction acts generalizing s with
  | nil => exact h
  | cons a rest ih => exact ih (Reachable.step s a h ha.1) ha.2

/-- all Job versions present in the system, as a list (decidable form of `Ver`) -/
def allVers (s : Sys) : List JobV :=
  s.jobs ++ s.jobCache ++ s.jobEvs.map Ev.job ++ s.storeQ.flatMap Note.jobs ++ s.ctrlQ.flatMap Note.jobs

theorem ver_iff (s : Sys) (j : JobV) : Ver s j ↔ j ∈ allVers s := by
  unfold Ver allVers
  simp only [List.mem_append, List.mem_map, List.mem_flatMap, or_assoc]

/-- decidable form of E-FreshName -/
def freshNameB (s : Sys) (n : String) : Bool :=
  (allVers s).all (fun j => decide (j.name ≠ n)) && s.indQ.keys.all (fun k => decide (keyName k ≠ n))

theorem freshName_of_b {s : Sys} {n : String} (h : freshNameB s n = true) : FreshName s n := by
  unfold freshNameB at h
  simp only [Bool.and_eq_true, List.all_eq_true, decide_eq_true_eq] at h
  exact ⟨fun j hj => h.1 j ((ver_iff s j).mp hj), h.2⟩

/-- decidable form of E-OwnerLabel -/
def ownerLabelOKB (jcs : List JCV) (j : JobV) : Bool :=
  match j.label with
  | some u =>
    decide (j.ownerUid = some u) &&
      jcs.any (fun jc => decide (jc.uid = u) && decide (j.ownerName = some jc.name))
  | none =>
    match j.ownerUid with
    | none => true
    | some u => !(jcs.any (fun jc => decide (jc.uid = u) && decide (j.ownerName = some jc.name)))

theorem ownerLabelOK_of_b {jcs : List JCV} {j : JobV} (h : ownerLabelOKB jcs j = true) :
    OwnerLabelOK jcs j := by
  intro uid
  unfold ownerLabelOKB at h
  cases hl : j.label with
  | some u =>
    simp only [hl, Bool.and_eq_true, decide_eq_true_eq, List.any_eq_true] at h
    obtain ⟨hu, jc, hjc, hjcu, hon⟩ := h
    constructor
    · intro he
      simp only [Option.some.injEq] at he; subst he
      exact ⟨hu, jc, hjc, hjcu, hon⟩
    · intro ⟨he, _⟩
      rw [hu] at he; exact he
  | none =>
    simp only [hl] at h
    constructor
    · intro he; simp at he
    · intro ⟨he, jc, hjc, hjcu, hon⟩
      rw [he] at h
      simp only [Bool.not_eq_true', List.any_eq_false, Bool.and_eq_true, decide_eq_true_eq,
        not_and] at h
      exact absurd hon (h jc hjc hjcu)

/-- decidable form of `Allowed` -/
def allowedB (s : Sys) : Act → Bool
  | .addJC jc => !(s.jcs.any (fun x => decide (x.name = jc.name)))
  | .addJob j =>
      freshNameB s j.name && j.startTime.isNone && !j.terminal && !j.admErr &&
        ownerLabelOKB s.jcs j && (j.hasPolicy || j.startAfter.isNone)
  | .markRejected n => match findJob s.jobs n with | some j => j.admErr | none => false
  | .tick d => decide (0 ≤ d)
  | .fault f => decide (f = "err" ∨ f = "conflict" ∨ f = "timeout")
  | _ => true

theorem allowed_of_b {s : Sys} {a : Act} (h : allowedB s a = true) : Allowed s a := by
  cases a with
  | addJC jc =>
    simp only [allowedB, Bool.not_eq_true', List.any_eq_false, decide_eq_true_eq] at h
    intro ⟨x, hx, hn⟩; exact h x hx hn
  | addJob j =>
    simp only [allowedB, Bool.and_eq_true, Bool.not_eq_true', Bool.or_eq_true,
      Option.isNone_iff_eq_none] at h
    obtain ⟨⟨⟨⟨⟨h1, h2⟩, h3⟩, h4⟩, h5⟩, h6⟩ := h
    refine ⟨freshName_of_b h1, h2, h3, h4, ownerLabelOK_of_b h5, ?_⟩
    intro hp; rcases h6 with h6 | h6
    · rw [hp] at h6; simp at h6
    · exact h6
  | markRejected n =>
    simp only [allowedB] at h
    split at h
    · rename_i j hj; exact ⟨j, hj, h⟩
    · simp at h
  | tick d =>
    simp only [allowedB, decide_eq_true_eq] at h; exact h
  | fault f =>
    simp only [allowedB, decide_eq_true_eq] at h; exact h
  | _ => trivial

def allowedAllB (s : Sys) : List Act → Bool
  | [] => true
  | a :: rest => allowedB s a && allowedAllB (step s a) rest

theorem allowedAll_of_b {s : Sys} {acts : List Act} (h : allowedAllB s acts = true) :
    AllowedAll s acts := by
  induction acts generalizing s with
  | nil => trivial
  | cons a rest ih =>
    simp only [allowedAllB, Bool.and_eq_true] at h
    exact ⟨allowed_of_b h.1, ih h.2⟩

theorem Reachable.counter_upper {s : Sys} (h : Reachable s) (uid : String) :
    (trueActive s uid : Int) ≤ getCtr s.counter uid := h.inv.counter_upper uid

theorem Reachable.quiescent_exact {s : Sys} (h : Reachable s) (hev : s.jobEvs = [])
    (hsq : s.storeQ = []) (uid : String) : getCtr s.counter uid = trueActive s uid :=
  h.inv.quiescent_exact hev hsq uid

theorem Reachable.never_over_limit {s : Sys} (h : Reachable s) :
    ∀ o ∈ (workConfigObs s).2, o.job.hasPolicy = true → (o.job.policy = 1 ∨ o.job.policy = 2) →
      (o.activeBefore : Int) + 1 ≤ o.maxConc :=
  fun o ho => ((workConfigObs_inv s h.inv).2 o ho).2

/-- `restart_recounts`, first half: from ANY state the recount is exact -/
theorem restart_recounts (s : Sys) (uid : String) :
    getCtr (restart s).counter uid = trueActive s uid ∧
    trueActive (restart s) uid = trueActive s uid :=
  ⟨recover_counts s.jobs uid, rfl⟩

/-- second half: from ANY state whose API part is sane (caches, queues, counter arbitrarily
corrupted) `restart` re-establishes the invariant and the state is reachable again -/
theorem restart_reestablishes {s : Sys} (h : ApiOK s) : Inv (restart s) ∧ Reachable (restart s) :=
  ⟨Inv_restart h, Reachable.boot s h⟩


/-- a history checked by evaluation is a reachable state -/
theorem reachable_runB (acts : List Act) (h : allowedAllB {} acts = true) :
    Reachable (runActs {} acts) :=
  reachable_run reachable_init acts (allowedAll_of_b h)

end Furiko.Queue
