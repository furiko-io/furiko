/-
Plan-level lemmas: consequences of the call-origin theorems for a whole pass —
what justifies a create call and what justifies a delete call of `syncJobTasks` / `sync` /
`syncOne`, in terms of the ORIGINAL state and cached Job.  Core Lean only.
-/
import FurikoModel.Proofs.JobCtlPlanSync
import FurikoModel.Proofs.StatusLemmas

namespace Furiko.JobCtlPlan
open Furiko Furiko.JobCtl Furiko.WQ

theorem getPendingTimeout_congr {a b : Job} (h : b.template = a.template) (cfg : ExecConfig) :
    getPendingTimeout b cfg = getPendingTimeout a cfg := by
  unfold getPendingTimeout; rw [h]

theorem forbidsForce_congr {a b : Job} (h : b.template = a.template) : forbidsForce b = forbidsForce a := by
  unfold forbidsForce; rw [h]

def KillPassed (clk : Int) (rj : Job) : Prop := ∃ k : Int, rj.killTimestamp = some k ∧ k ≤ clk

theorem killPassed_iff (clk : Int) (rj : Job) :
    isTimeSetAndEarlierOrEqual clk rj.killTimestamp = true ↔ KillPassed clk rj := by
  unfold isTimeSetAndEarlierOrEqual KillPassed
  cases rj.killTimestamp with
  | none => simp
  | some t =>
    simp only [Bool.or_eq_true, decide_eq_true_eq, Option.some.injEq, exists_eq_left']
    exact Int.le_iff_lt_or_eq.symm

theorem shouldKillJob_iff (clk : Int) (rj : Job) :
    shouldKillJob clk rj = true ↔
      KillPassed clk rj ∨ shouldKillJobForParallel rj = true ∨ rj.admissionError = true := by
  unfold shouldKillJob
  rw [← killPassed_iff]
  cases isTimeSetAndEarlierOrEqual clk rj.killTimestamp <;> cases shouldKillJobForParallel rj <;>
    cases rj.admissionError <;> simp

/-- why a delete call of a `syncJobTasks` pass was issued, in terms of the original state `s`,
the cached Job `rj`, and a task `t` of the task list after the creation step -/
inductive DeleteReason (s : Sys) (rj rj1 : Job) (tasks1 : List Task) (c : Call) (t : Task) : Prop
  | pendingTimeout (T : Int) (rj2 : Job) : c.force = false → getPendingTimeout rj s.cfg = some T → 0 < T →
      -- `rj2`: the Job after the status refresh that precedes the step; the task is judged by the ref
      -- recorded there under its name (`pendRef`), the task's own ref only when none is recorded
      rj2.status.tasks = generateTaskRefs s.clock rj1.status.tasks tasks1 →
      isPending (pendRef rj2 t) = true → pendDeadline T (pendRef rj2 t) ≤ s.clock → t.deletionTimestamp = none →
      DeleteReason s rj rj1 tasks1 c t
  | kill (rj' : Job) : c.force = false → isTaskFinished t = false → t.deletionTimestamp = none →
      SameSpec rj1 rj' → shouldKillJob s.clock rj' = true → DeleteReason s rj rj1 tasks1 c t
  | forceDelete (dts : Int) : c.force = true → 0 < getForceDeleteTimeout s.cfg → forbidsForce rj = false →
      t.deletionTimestamp = some dts → dts + getForceDeleteTimeout s.cfg ≤ s.clock → DeleteReason s rj rj1 tasks1 c t

theorem getTaskRef_sub (e : Option TaskRef) (t : Task) :
    ((getTaskRef e t).finishTimestamp = none →
      t.ref.finishTimestamp = none ∧ ∀ ex, e = some ex → ex.finishTimestamp = none) ∧
    ((getTaskRef e t).runningTimestamp = none →
      t.ref.runningTimestamp = none ∧ ∀ ex, e = some ex → ex.runningTimestamp = none) :=
  ⟨(StatusLemmas.getTaskRef_finish_none e t).mp, (StatusLemmas.getTaskRef_running_none e t).mp⟩

/-- what a pending verdict on the RECORDED ref says (repair of F32).  `rj2` is the Job after the status
refresh over the task list `tasks` (refs before: `ex`), `t` a listed task the step judged pending.  Then the
ref it was judged by is the `GetTaskRef` of a listed task `t'` of the same name — so `t'` itself, as read from
its pod in this pass, reports neither a running nor a finish timestamp — and the ref that was recorded under
that name BEFORE the refresh (if any) shows neither. -/
theorem pending_judged (now : Time) (ex : List TaskRef) (tasks : List Task) (rj2 : Job) (t : Task)
    (hok : ∀ x ∈ tasks, x.ref.name = x.name) (hts : rj2.status.tasks = generateTaskRefs now ex tasks)
    (ht : t ∈ tasks) (hp : isPending (pendRef rj2 t) = true) :
    ∃ t' ∈ tasks, t'.name = t.name ∧ t'.ref.runningTimestamp = none ∧ t'.ref.finishTimestamp = none ∧
      (pendRef rj2 t).creationTimestamp = t'.ref.creationTimestamp ∧
      ∀ e, lookupRef ex t.name = some e → e.runningTimestamp = none ∧ e.finishTimestamp = none := by
  unfold isPending at hp
  simp only [Bool.and_eq_true, Option.isNone_iff_eq_none] at hp
  have hmem : getTaskRef (lookupRef ex t.name) t ∈ rj2.status.tasks := by
    rw [hts]; unfold generateTaskRefs
    rw [StatusLemmas.mem_sortTaskRefs]
    exact List.mem_append_left _ (List.mem_map.mpr ⟨t, ht, rfl⟩)
  unfold pendRef findTaskRef at hp ⊢
  cases hfind : rj2.status.tasks.find? (fun r => r.name == t.name) with
  | none =>
    exfalso
    have := List.find?_eq_none.mp hfind _ hmem
    simp only [StatusLemmas.getTaskRef_name, hok t ht, beq_self_eq_true, not_true_eq_false] at this
  | some r =>
    simp only [hfind, Option.getD_some] at hp ⊢
    have hr : r ∈ rj2.status.tasks := List.mem_of_find?_eq_some hfind
    have hn : r.name = t.name := by simpa using List.find?_some hfind
    rw [hts] at hr
    unfold generateTaskRefs at hr
    rw [StatusLemmas.mem_sortTaskRefs] at hr
    rcases List.mem_append.mp hr with h | h
    · obtain ⟨t', ht', rfl⟩ := List.mem_map.mp h
      rw [StatusLemmas.getTaskRef_name, hok t' ht'] at hn
      obtain ⟨s1, s2⟩ := getTaskRef_sub (lookupRef ex t'.name) t'
      obtain ⟨f1, f2⟩ := s1 hp.1
      obtain ⟨r1, r2⟩ := s2 hp.2
      refine ⟨t', ht', hn, r1, f1, StatusLemmas.getTaskRef_creationTimestamp _ _, fun e he => ?_⟩
      rw [← hn] at he
      exact ⟨r2 e he, f2 e he⟩
    · exfalso
      obtain ⟨e, he, rfl⟩ := List.mem_map.mp h
      have hnot := (List.mem_filter.mp he).2
      have hname : (lostRef now e).name = e.name := by
        unfold lostRef
        cases e.finishTimestamp <;> cases e.deletedStatus <;> rfl
      rw [hname] at hn
      simp only [Bool.not_eq_true', ← Bool.not_eq_true] at hnot
      rw [List.contains_iff_mem] at hnot
      exact hnot (List.mem_map.mpr ⟨t, ht, hn.symm⟩)

theorem taskOrigin_cases (s : Sys) (jo : JobObj) (rj : Job) (c : Call) (ho : TaskCallOrigin s jo rj c) :
    c.res = "pods" ∧
    ((c.verb = "create" ∧ canCreateTask rj = true ∧ (refreshedSummary s rj (tasks0 s jo rj)).complete = false ∧
        ∃ reqs, computeMissingIndexesForCreation s.d rj (rj.indexes s.d) = some reqs ∧
          ∃ r ∈ reqs, c.name = taskName jo.name r.index.hash r.retryIndex ∧ reqDueNow s.clock r) ∨
     (c.verb = "delete" ∧ ∃ s1 rj1 tasks1, syncCreateTasks s jo rj (tasks0 s jo rj) = (s1, some (rj1, tasks1)) ∧
        SpecLe rj rj1 ∧ ∃ t ∈ tasks1, t.name = c.name ∧ DeleteReason s rj rj1 tasks1 c t)) := by
  cases ho with
  | create h =>
    obtain ⟨l, e, _, _, hall, _⟩ := syncCreateTasks_ext s jo rj (tasks0 s jo rj)
    rw [e.newCalls] at h
    obtain ⟨hv, hr, _, hrest⟩ := hall c h
    exact ⟨hr, Or.inl ⟨hv, hrest⟩⟩
  | pending s1 rj1 tasks1 s' rj' l hcr hext hle hss hts h =>
    obtain ⟨l', e, hall, _⟩ := handlePendingTasks_ext s' jo rj' tasks1
    rw [e.newCalls] at h
    obtain ⟨hv, hr, hf, T, hT, hpos, t, ht, hn, hp, hd, hdt⟩ := hall c h
    refine ⟨hr, Or.inr ⟨hv, s1, rj1, tasks1, hcr, hle, t, ht, hn, .pendingTimeout T rj' hf ?_ hpos hts hp ?_ hdt⟩⟩
    · rw [← hT, hext.cfg]
      exact (getPendingTimeout_congr (hss.template.trans hle.template) _).symm
    · rw [← hext.clock]; exact hd
  | kill s1 rj1 tasks1 s' rj' l hcr hext hle hss h =>
    obtain ⟨l', e, _, hall, _⟩ := handleKillJob_ext s' jo rj' tasks1
    rw [e.newCalls] at h
    obtain ⟨hv, hr, hf, hk, t, ht, hn, hfin, hdt⟩ := hall c h
    exact ⟨hr, Or.inr ⟨hv, s1, rj1, tasks1, hcr, hle, t, ht, hn,
      .kill rj' hf hfin hdt hss (by rw [← hext.clock]; exact hk)⟩⟩
  | force s1 rj1 tasks1 s' rj' l hcr hext hle hss h =>
    obtain ⟨l', e, hall, _⟩ := handleForceDelete_ext s' jo rj' tasks1
    rw [e.newCalls] at h
    obtain ⟨hv, hr, hf, hpos, hfb, t, ht, hn, dts, hdt, hd⟩ := hall c h
    refine ⟨hr, Or.inr ⟨hv, s1, rj1, tasks1, hcr, hle, t, ht, hn, .forceDelete dts hf ?_ ?_ hdt ?_⟩⟩
    · rw [← hext.cfg]; exact hpos
    · rw [← hfb]; exact (forbidsForce_congr (hss.template.trans hle.template)).symm
    · rw [← hext.cfg, ← hext.clock]; exact hd

theorem taskOrigin_create (s : Sys) (jo : JobObj) (rj : Job) (c : Call) (ho : TaskCallOrigin s jo rj c)
    (hv : c.verb = "create") :
    c.res = "pods" ∧ canCreateTask rj = true ∧ (refreshedSummary s rj (tasks0 s jo rj)).complete = false ∧
      ∃ reqs, computeMissingIndexesForCreation s.d rj (rj.indexes s.d) = some reqs ∧
        ∃ r ∈ reqs, c.name = taskName jo.name r.index.hash r.retryIndex ∧ reqDueNow s.clock r := by
  obtain ⟨hr, ⟨_, h⟩ | ⟨hd, _⟩⟩ := taskOrigin_cases s jo rj c ho
  · exact ⟨hr, h⟩
  · rw [hd] at hv; simp at hv

theorem taskOrigin_verb (s : Sys) (jo : JobObj) (rj : Job) (c : Call) (ho : TaskCallOrigin s jo rj c) :
    c.res = "pods" ∧ (c.verb = "create" ∨ c.verb = "delete") :=
  let ⟨hr, h⟩ := taskOrigin_cases s jo rj c ho
  ⟨hr, h.imp (·.1) (·.1)⟩

theorem taskOrigin_delete (s : Sys) (jo : JobObj) (rj : Job) (c : Call) (ho : TaskCallOrigin s jo rj c)
    (hv : c.verb = "delete") :
    c.res = "pods" ∧ ∃ s1 rj1 tasks1, syncCreateTasks s jo rj (tasks0 s jo rj) = (s1, some (rj1, tasks1)) ∧
      SpecLe rj rj1 ∧ ∃ t ∈ tasks1, t.name = c.name ∧ DeleteReason s rj rj1 tasks1 c t := by
  obtain ⟨hr, ⟨hc, _⟩ | ⟨_, h⟩⟩ := taskOrigin_cases s jo rj c ho
  · rw [hc] at hv; simp at hv
  · exact ⟨hr, h⟩

theorem syncOrigin_create (s : Sys) (jo : JobObj) (c : Call) (ho : SyncCallOrigin s jo c) (hv : c.verb = "create") :
    isStarted jo.job = true ∧ isDeleted jo.job = false ∧ TaskCallOrigin s jo jo.job c := by
  cases ho with
  | tasks h1 h2 h3 => exact ⟨h1, h2, h3⟩
  | ttl s' rj' l _ _ h =>
    obtain ⟨l', e, _, _, hall⟩ := handleTTL_ext s' jo rj'
    rw [e.newCalls] at h
    rw [(hall c h).1] at hv; simp at hv
  | finalizer s' rj' l _ _ h =>
    obtain ⟨l', e, hall, _⟩ := handleFinalizer_ext s' jo rj' jo.finalizer
    rw [e.newCalls] at h
    rw [(hall c h).1] at hv; simp at hv

theorem syncJobStatus_snd (s : Sys) (key : String) (rj : Job) :
    (syncJobStatusFromTaskRefs s key rj).2 = (updateJobStatusFromTaskRefs s.clock s.d rj).getD rj := by
  unfold syncJobStatusFromTaskRefs
  cases updateJobStatusFromTaskRefs s.clock s.d rj with
  | none => rfl
  | some nj =>
    simp only [Option.getD_some]
    repeat' split
    all_goals rfl

theorem shouldKillJobForParallel_congr {a b : Job} (h1 : b.template = a.template)
    (h2 : b.status.parallelStatus = a.status.parallelStatus) :
    shouldKillJobForParallel b = shouldKillJobForParallel a := by
  unfold shouldKillJobForParallel; rw [h1, h2]

end Furiko.JobCtlPlan
