/-
Helper lemmas for Proofs/HeapSpec.lean: the min-heap order is restored by `up` / `down`, and by
`fixN`, the common body of container/heap `Fix` and `Remove`.
Only priorities matter for the order, so the order lemmas have no `WF` hypotheses.
-/
import FurikoModel.Proofs.HeapLemmas

namespace Furiko.Heap

def HeapFrom (pq : PQ) (lo n : Nat) : Prop :=
  ∀ p c, lo ≤ p → c < n → IsChild p c → prio pq p ≤ prio pq c

def HeapOrd (pq : PQ) : Prop :=
  ∀ i, (h : i < pq.queue.size) → 0 < i →
    (pq.queue[(i - 1) / 2]'(by omega)).prio ≤ (pq.queue[i]).prio

def Inv (pq : PQ) : Prop := WF pq ∧ HeapOrd pq

theorem heapOrd_iff (pq : PQ) : HeapOrd pq ↔ HeapFrom pq 0 pq.queue.size := by
  constructor
  · intro h p c _ hc hpc
    have hp : (c - 1) / 2 = p := (isChild_parent (by have := hpc.lt; omega)).unique hpc
    have := h c hc (by have := hpc.lt; omega)
    unfold prio
    rw [getElem!_pos pq.queue c hc, ← hp, getElem!_pos pq.queue ((c - 1) / 2) (by omega)]
    exact this
  · intro h m hm hm0
    have := h _ m (Nat.zero_le _) hm (isChild_parent hm0)
    unfold prio at this
    rw [getElem!_pos pq.queue m hm, getElem!_pos pq.queue ((m - 1) / 2) (by omega)] at this
    exact this

theorem Inv.heapFrom {pq : PQ} (h : Inv pq) : HeapFrom pq 0 pq.queue.size :=
  (heapOrd_iff pq).1 h.2

theorem Inv.of {pq : PQ} (hw : WF pq) (ho : HeapFrom pq 0 pq.queue.size) : Inv pq :=
  ⟨hw, (heapOrd_iff pq).2 ho⟩

/-- heap order (parents `≥ lo`) except for the links that touch `i`; and the parent of `i` is
`≤` the children of `i`, so that taking the element at `i` out would leave a heap. -/
def Hole (pq : PQ) (i lo n : Nat) : Prop :=
  (∀ p c, lo ≤ p → c < n → IsChild p c → p ≠ i → c ≠ i → prio pq p ≤ prio pq c) ∧
  (∀ g c, lo ≤ g → c < n → IsChild g i → IsChild i c → prio pq g ≤ prio pq c)

/-- invariant of `down`: only the links from `i` to its children may be violated -/
def DownInv (pq : PQ) (i lo n : Nat) : Prop :=
  Hole pq i lo n ∧ ∀ g, lo ≤ g → IsChild g i → prio pq g ≤ prio pq i

/-- invariant of `up`: only the link from `j` to its parent may be violated -/
def UpInv (pq : PQ) (j n : Nat) : Prop :=
  Hole pq j 0 n ∧ ∀ c, c < n → IsChild j c → prio pq j ≤ prio pq c

theorem DownInv.done {pq : PQ} {i lo n : Nat} (h : DownInv pq i lo n)
    (hc : ∀ c, c < n → IsChild i c → prio pq i ≤ prio pq c) : HeapFrom pq lo n := by
  intro p c hlo hcn hpc
  by_cases e1 : p = i
  · subst e1; exact hc c hcn hpc
  · by_cases e2 : c = i
    · subst e2; exact h.2 p hlo hpc
    · exact h.1.1 p c hlo hcn hpc e1 e2

theorem UpInv.done {pq : PQ} {j n : Nat} (h : UpInv pq j n)
    (hc : ∀ g, IsChild g j → prio pq g ≤ prio pq j) : HeapFrom pq 0 n :=
  DownInv.done ⟨h.1, fun g _ => hc g⟩ h.2

theorem HeapFrom.hole {a b : PQ} {n n' i : Nat} (h : HeapFrom a 0 n') (hn : n ≤ n') (hi : i < n')
    (hp : ∀ m, m < n → m ≠ i → prio b m = prio a m) : Hole b i 0 n := by
  refine ⟨fun q c _ hc hqc hqi hci => ?_, fun g c _ hc hgi hic => ?_⟩
  · rw [hp c hc hci, hp q (by have := hqc.lt; omega) hqi]
    exact h q c (Nat.zero_le _) (by omega) hqc
  · have := hgi.lt
    have := hic.lt
    rw [hp c hc (by omega), hp g (by omega) (by omega)]
    exact Int.le_trans (h g i (Nat.zero_le _) hi hgi) (h i c (Nat.zero_le _) (by omega) hic)

theorem Hole.swap_down {pq : PQ} {i j lo n : Nat} (h : Hole pq i lo n) (hn : n ≤ pq.queue.size)
    (hjn : j < n) (hij : IsChild i j) (hmin : ∀ c, c < n → IsChild i c → prio pq j ≤ prio pq c) :
    Hole (pq.swap i j) j lo n := by
  have hlt := hij.lt
  have hp := fun m => swap_prio pq i j m (by omega) (by omega)
  constructor
  · intro p c hlo hcn hpc hpj hcj
    rw [hp p, hp c, if_neg hpj, if_neg hcj]
    by_cases e1 : c = i
    · subst e1
      rw [if_pos rfl, if_neg (Nat.ne_of_lt hpc.lt)]
      exact h.2 p j hlo hjn hpc hij
    · rw [if_neg e1]
      by_cases e2 : p = i
      · subst e2; rw [if_pos rfl]; exact hmin c hcn hpc
      · rw [if_neg e2]; exact h.1 p c hlo hcn hpc e2 e1
  · intro g c hlo hcn hgj hjc
    have hg := hgj.unique hij
    subst hg
    have := hjc.lt
    rw [hp g, hp c, if_neg (by omega), if_pos rfl, if_neg (by omega), if_neg (by omega)]
    exact h.1 j c (by omega) hcn hjc (by omega) (by omega)

theorem Hole.swap_up {pq : PQ} {i j n : Nat} (h : Hole pq j 0 n) (hn : n ≤ pq.queue.size)
    (hjn : j < n) (hij : IsChild i j) : Hole (pq.swap i j) i 0 n := by
  have hlt := hij.lt
  have hp := fun m => swap_prio pq i j m (by omega) (by omega)
  constructor
  · intro p c hlo hcn hpc hpi hci
    have hcj : c ≠ j := fun e => hpi ((e ▸ hpc).unique hij)
    rw [hp p, hp c, if_neg hcj, if_neg hci, if_neg hpi]
    by_cases e : p = j
    · subst e; rw [if_pos rfl]; exact h.2 i c (Nat.zero_le _) hcn hij hpc
    · rw [if_neg e]; exact h.1 p c hlo hcn hpc e hcj
  · intro g c hlo hcn hgi hic
    have := hgi.lt
    have hgi' := h.1 g i hlo (by omega) hgi (by omega) (by omega)
    rw [hp g, hp c, if_neg (by omega), if_neg (by omega)]
    by_cases e : c = j
    · rw [if_pos e]; exact hgi'
    · rw [if_neg e, if_neg (Nat.ne_of_gt hic.lt)]
      exact Int.le_trans hgi' (h.1 i c (Nat.zero_le _) hcn hic (by omega) e)

theorem DownInv.swap {pq : PQ} {i j lo n : Nat} (h : DownInv pq i lo n) (hn : n ≤ pq.queue.size)
    (hjn : j < n) (hij : IsChild i j) (hlt : prio pq j < prio pq i)
    (hmin : ∀ c, c < n → IsChild i c → prio pq j ≤ prio pq c) : DownInv (pq.swap i j) j lo n := by
  refine ⟨h.1.swap_down hn hjn hij hmin, fun g _ hgj => ?_⟩
  have := hij.lt
  rw [hgj.unique hij, swap_prio pq i j i (by omega) (by omega),
    swap_prio pq i j j (by omega) (by omega), if_neg (by omega), if_pos rfl, if_pos rfl]
  exact Int.le_of_lt hlt

theorem UpInv.swap {pq : PQ} {i j n : Nat} (h : UpInv pq j n) (hn : n ≤ pq.queue.size)
    (hjn : j < n) (hij : IsChild i j) (hlt : prio pq j < prio pq i) :
    UpInv (pq.swap i j) i n := by
  refine ⟨h.1.swap_up hn hjn hij, fun c hcn hic => ?_⟩
  have := hij.lt
  rw [swap_prio pq i j i (by omega) (by omega), swap_prio pq i j c (by omega) (by omega),
    if_neg (by omega), if_pos rfl]
  by_cases e : c = j
  · rw [if_pos e]; exact Int.le_of_lt hlt
  · rw [if_neg e, if_neg (Nat.ne_of_gt hic.lt)]
    exact Int.le_trans (Int.le_of_lt hlt) (h.1.1 i c (Nat.zero_le _) hcn hic (by omega) e)

theorem downLoop_heap {lo n : Nat} (fuel : Nat) : ∀ {pq : PQ} (i : Nat), n ≤ pq.queue.size →
    n ≤ fuel + i → DownInv pq i lo n → HeapFrom (downLoop pq i n fuel).1 lo n := by
  induction fuel with
  | zero =>
    intro pq i _ hf h
    exact h.done (fun c hcn hic => by have := hic.lt; omega)
  | succ fuel ih =>
    intro pq i hn hf h
    rw [downLoop_succ]
    split
    · exact h.done (fun c hcn hic => by unfold IsChild at hic; omega)
    · next hj1 =>
      obtain ⟨hc, hcn, hmin⟩ := child_spec pq i n (by omega)
      generalize child pq i n = j at *
      have := hc.lt
      split
      · next hl =>
        simp only [less_eq, Bool.not_eq_eq_eq_not, Bool.not_true, decide_eq_false_iff_not,
          Int.not_lt] at hl
        exact h.done (fun c hcn hic => Int.le_trans hl (hmin c hcn hic))
      · next hl =>
        simp only [less_eq, Bool.not_eq_eq_eq_not, Bool.not_true, decide_eq_false_iff_not,
          Int.not_lt, Int.not_le] at hl
        exact ih j (by rw [swap_size]; exact hn) (by omega) (h.swap hn hcn hc hl hmin)

theorem down_heap {lo n : Nat} {pq : PQ} (i : Nat) (hn : n ≤ pq.queue.size)
    (h : DownInv pq i lo n) : HeapFrom (down pq i n).1 lo n :=
  downLoop_heap n i hn (by omega) h

theorem downLoop_noop {pq : PQ} {i n : Nat} (fuel : Nat)
    (hc : ∀ c, c < n → IsChild i c → prio pq i ≤ prio pq c) :
    downLoop pq i n fuel = (pq, i) := by
  cases fuel with
  | zero => rfl
  | succ fuel =>
    rw [downLoop_succ]
    split
    · rfl
    · next hj1 =>
      obtain ⟨hj, hjn, -⟩ := child_spec pq i n (by omega)
      have hl : pq.less (child pq i n) i = false := by
        rw [less_eq]; simp only [decide_eq_false_iff_not, Int.not_lt]; exact hc _ hjn hj
      rw [hl]; rfl

theorem up_heap {n : Nat} (fuel : Nat) : ∀ {pq : PQ} (j : Nat), n ≤ pq.queue.size → j < n →
    j + 1 ≤ fuel → UpInv pq j n → HeapFrom (up pq j fuel) 0 n := by
  induction fuel with
  | zero => intro pq j _ _ hf _; omega
  | succ fuel ih =>
    intro pq j hn hjn hf h
    unfold up
    simp only
    have hpar : (j = 0 ∧ (j - 1) / 2 = j) ∨ IsChild ((j - 1) / 2) j :=
      (Nat.eq_zero_or_pos j).imp (fun h => by subst h; exact ⟨rfl, rfl⟩) isChild_parent
    generalize (j - 1) / 2 = i at *
    split
    · next c =>
      simp only [less_eq, Bool.or_eq_true, beq_iff_eq, Bool.not_eq_eq_eq_not, Bool.not_true,
        decide_eq_false_iff_not, Int.not_lt] at c
      refine h.done (fun g hgj => ?_)
      have := hgj.lt
      rcases hpar with h0 | hij
      · omega
      · rw [hgj.unique hij]
        exact c.resolve_left (Nat.ne_of_lt hij.lt)
    · next c =>
      simp only [less_eq, Bool.or_eq_true, beq_iff_eq, Bool.not_eq_eq_eq_not, Bool.not_true,
        decide_eq_false_iff_not, Int.not_lt, not_or, Int.not_le] at c
      have hij := hpar.resolve_left (fun h0 => c.1 h0.2)
      have := hij.lt
      exact ih _ (by rw [swap_size]; exact hn) (by omega) (by omega) (h.swap hn hjn hij c.2)

/-- the common body of container/heap `Fix` and `Remove` (`heapFix_eq`, `heapRemove_eq`) -/
def fixN (pq : PQ) (i n : Nat) : PQ :=
  let r := down pq i n
  if !r.2 then up r.1 i (i + 1) else r.1

theorem heapFix_eq (pq : PQ) (i : Nat) : heapFix pq i = fixN pq i pq.len := rfl

theorem heapRemove_eq (pq : PQ) (i : Nat) :
    heapRemove pq i =
      (if pq.len - 1 != i then fixN (pq.swap i (pq.len - 1)) i (pq.len - 1) else pq).popRaw := rfl

theorem fixN_step {n : Nat} {a : PQ} (i : Nat) (h : WF a) (hi : i < n) (hn : n ≤ a.queue.size) :
    Step n a (fixN a i n) := by
  have s1 := down_step i h hn
  unfold fixN
  simp only
  split
  · exact s1.trans (up_step _ i s1.wf hi (by rw [s1.size]; exact hn))
  · exact s1

theorem downLoop_size (n fuel : Nat) : ∀ (pq : PQ) (i : Nat),
    (downLoop pq i n fuel).1.queue.size = pq.queue.size := by
  induction fuel with
  | zero => intro pq i; rfl
  | succ fuel ih =>
    intro pq i
    rw [downLoop_succ]
    split
    · rfl
    · split
      · rfl
      · rw [ih, swap_size]

theorem fixN_heap {n : Nat} {pq : PQ} (i : Nat) (hn : n ≤ pq.queue.size) (hi : i < n)
    (h : Hole pq i 0 n) : HeapFrom (fixN pq i n) 0 n := by
  by_cases hc : ∀ g, IsChild g i → prio pq g ≤ prio pq i
  · have hh := down_heap i hn ⟨h, fun g _ => hc g⟩
    unfold fixN
    simp only
    split
    · exact up_heap _ i (by unfold down; rw [downLoop_size]; exact hn) hi (Nat.le_refl _)
        ⟨hh.hole (Nat.le_refl _) hi (fun _ _ _ => rfl), fun c hcn hic => hh i c (Nat.zero_le _) hcn hic⟩
    · exact hh
  · -- `i` is below its parent, hence below its children: `down` does nothing
    have hch : ∀ c, c < n → IsChild i c → prio pq i ≤ prio pq c := fun c hcn hic =>
      Classical.byContradiction fun hlt => hc fun g hgi =>
        Int.le_trans (h.2 g c (Nat.zero_le _) hcn hgi hic) (Int.le_of_lt (Int.not_le.1 hlt))
    have e : fixN pq i n = up pq i (i + 1) := by
      unfold fixN down
      rw [downLoop_noop n hch]
      simp
    rw [e]
    exact up_heap _ i hn hi (Nat.le_refl _) ⟨h, hch⟩

end Furiko.Heap
