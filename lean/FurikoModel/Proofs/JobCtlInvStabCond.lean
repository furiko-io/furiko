/-
`GetCondition` reads the recorded refs only through, per index hash, "how many refs, are all of them
finished, did one succeed", and through the latest finish time: two Jobs that agree on these (and on
the spec fields read) get the same result and finish time of a `Finished` condition
(`getCondition_finKey_congr`).  `Coh`: the stored `Finished` condition of a Job that is not being
deleted is the one `GetCondition` computes from the stored refs; every status recomputation
establishes it.  Core Lean only.
-/
import FurikoModel.Proofs.JobCtlInvStabPure

set_option linter.unusedSimpArgs false
set_option linter.unusedVariables false

namespace Furiko.JobCtl
open Furiko Furiko.WQ Furiko.StatusLemmas

/-! ### the latest finish time is the maximum of a set -/

/-- `none` (unset) is below everything -/
def optLe : Option Time → Option Time → Prop
  | none, _ => True
  | some _, none => False
  | some a, some b => a ≤ b

theorem optLe_refl (a : Option Time) : optLe a a := by
  cases a with
  | none => trivial
  | some x => exact Int.le_refl x

theorem optLe_trans {a b c : Option Time} (h1 : optLe a b) (h2 : optLe b c) : optLe a c := by
  cases a with
  | none => trivial
  | some x =>
    cases b with
    | none => exact absurd h1 (by intro h; exact h)
    | some y =>
      cases c with
      | none => exact absurd h2 (by intro h; exact h)
      | some z => exact Int.le_trans (show x ≤ y from h1) (show y ≤ z from h2)

theorem optLe_antisymm {a b : Option Time} (h1 : optLe a b) (h2 : optLe b a) : a = b := by
  cases a with
  | none =>
    cases b with
    | none => rfl
    | some y => exact absurd h2 (by intro h; exact h)
  | some x =>
    cases b with
    | none => exact absurd h1 (by intro h; exact h)
    | some y => exact congrArg some (Int.le_antisymm (show x ≤ y from h1) (show y ≤ x from h2))

theorem timeMax_spec (a b : Option Time) :
    optLe a (timeMax a b) ∧ optLe b (timeMax a b) ∧ (timeMax a b = a ∨ timeMax a b = b) := by
  cases a with
  | none =>
    cases b with
    | none => exact ⟨trivial, trivial, Or.inl rfl⟩
    | some y => exact ⟨trivial, Int.le_refl y, Or.inr rfl⟩
  | some x =>
    cases b with
    | none => exact ⟨Int.le_refl x, trivial, Or.inl rfl⟩
    | some y =>
      by_cases h : x < y
      · have e : timeMax (some x) (some y) = some y := by unfold timeMax; simp [h]
        rw [e]
        exact ⟨show x ≤ y from Int.le_of_lt h, Int.le_refl y, Or.inr rfl⟩
      · have e : timeMax (some x) (some y) = some x := by unfold timeMax; simp [h]
        rw [e]
        exact ⟨Int.le_refl x, show y ≤ x from Int.not_lt.mp h, Or.inl rfl⟩

theorem foldl_timeMax_spec : ∀ (l : List (Option Time)) (acc : Option Time),
    optLe acc (l.foldl timeMax acc) ∧ (∀ x ∈ l, optLe x (l.foldl timeMax acc)) ∧
    (l.foldl timeMax acc = acc ∨ l.foldl timeMax acc ∈ l)
  | [], acc => ⟨optLe_refl _, ⟨fun x hx => (nomatch hx), Or.inl rfl⟩⟩
  | y :: rest, acc => by
    simp only [List.foldl_cons, List.mem_cons]
    obtain ⟨h1, h2, h3⟩ := foldl_timeMax_spec rest (timeMax acc y)
    obtain ⟨k1, k2, k3⟩ := timeMax_spec acc y
    refine ⟨optLe_trans k1 h1, ?_, ?_⟩
    · intro x hx
      rcases hx with rfl | hx
      · exact optLe_trans k2 h1
      · exact h2 x hx
    · rcases h3 with h3 | h3
      · rcases k3 with k3 | k3
        · left; rw [h3, k3]
        · right; left; rw [h3, k3]
      · right; right; exact h3

theorem latestFinished_eq_fold (l : List TaskRef) :
    latestFinished l = (l.map (·.finishTimestamp)).foldl timeMax none := by
  unfold latestFinished
  rw [List.foldl_map]

theorem latestFinished_congr (a b : List TaskRef)
    (h1 : ∀ x ∈ a.map (·.finishTimestamp), x ∈ b.map (·.finishTimestamp))
    (h2 : ∀ x ∈ b.map (·.finishTimestamp), x ∈ a.map (·.finishTimestamp)) :
    latestFinished a = latestFinished b := by
  rw [latestFinished_eq_fold, latestFinished_eq_fold]
  obtain ⟨_, a2, a3⟩ := foldl_timeMax_spec (a.map (·.finishTimestamp)) none
  obtain ⟨_, b2, b3⟩ := foldl_timeMax_spec (b.map (·.finishTimestamp)) none
  apply optLe_antisymm
  · rcases a3 with h | h
    · rw [h]; trivial
    · exact b2 _ (h1 _ h)
  · rcases b3 with h | h
    · rw [h]; trivial
    · exact a2 _ (h2 _ h)

theorem getIndexStatus_congr (i : PIndex) (h : String) (a b : List TaskRef) (m : Int)
    (ha : ∀ r ∈ a, r.finishTimestamp.isSome = true) (hb : ∀ r ∈ b, r.finishTimestamp.isSome = true)
    (hlen : a.length = b.length) (hsucc : a.any refSucceeded = b.any refSucceeded) :
    getIndexStatus i h a m = getIndexStatus i h b m := by
  have key : ∀ l : List TaskRef, (∀ r ∈ l, r.finishTimestamp.isSome = true) →
      l.countP refTerminal = l.length ∧ l.countP refRunningNow = 0 ∧ l.countP refStartingNow = 0 := by
    intro l hl
    refine ⟨List.countP_eq_length.mpr hl, List.countP_eq_zero.mpr ?_, List.countP_eq_zero.mpr ?_⟩ <;>
    · intro r hr
      obtain ⟨f, hf⟩ := Option.isSome_iff_exists.mp (hl r hr)
      simp only [refRunningNow, refStartingNow, hf, Option.isNone_some, Bool.false_and, Bool.false_eq_true,
        not_false_eq_true]
  obtain ⟨t1, r1, s1⟩ := key a ha
  obtain ⟨t2, r2, s2⟩ := key b hb
  simp only [getIndexStatus, t1, t2, r1, r2, s1, s2, hlen, hsucc]

/-- the branches of `GetCondition` after "not yet started" -/
def condTail (now : Time) (rj : Job) (numIndexes : Int) (ps : ParallelStatus) (lc lr lf : Option Time) : Condition :=
  let counters := getParallelStatusCounters ps.indexes
  if isTimeSetAndEarlierOrEqual now rj.killTimestamp then
    if counters.terminated ≥ numIndexes then
      { finished := some {
          latestCreationTimestamp := lc
          latestRunningTimestamp := lr
          finishTimestamp := if lf.isSome then lf else rj.killTimestamp
          result := .killed } }
    else
      { waiting := some .deletingTasks }
  else if !ps.summary.complete then
    if counters.created < numIndexes then { waiting := some .pendingCreation }
    else if counters.retryBackoff > 0 then { waiting := some .retryBackoff }
    else if counters.starting > 0 then { waiting := some .waitingForTasks }
    else { running := some { latestCreationTimestamp := lc, latestRunningTimestamp := lr } }
  else if counters.terminated < numIndexes then
    { running := some { latestCreationTimestamp := lc, latestRunningTimestamp := lr,
                        terminatingTasks := numIndexes - counters.terminated } }
  else
    { finished := some {
        latestCreationTimestamp := lc
        latestRunningTimestamp := lr
        finishTimestamp := lf
        result := finishedResult rj ps.summary } }

theorem getCondition_eq_tail (now : Time) (d : PIndex) (rj : Job) (ha : rj.admissionError = false)
    (hs : rj.status.startTime.isSome = true) :
    getCondition now d rj = condTail now rj ((rj.indexes d).length : Int) (getParallelStatus d rj rj.status.tasks)
      (latestCreated rj.status.tasks) (latestRunning rj.status.tasks) (latestFinished rj.status.tasks) := by
  unfold getCondition condTail
  have hn : ¬ rj.status.startTime.isNone = true := by
    cases h : rj.status.startTime <;> simp_all
  simp only [ha, Bool.false_eq_true, ↓reduceIte, hn]

/-- what the stability clauses read off a condition -/
def finKey (c : Condition) : Option (JobResult × Option Time) := c.finished.map (fun f => (f.result, f.finishTimestamp))

theorem condTail_finKey (now : Time) (rj : Job) (n : Int) (ps : ParallelStatus) (lc lr lc' lr' lf : Option Time) :
    finKey (condTail now rj n ps lc lr lf) = finKey (condTail now rj n ps lc' lr' lf) := by
  simp only [condTail, finKey, apply_ite Condition.finished, apply_ite (Option.map _), Option.map_some,
    Option.map_none]

theorem getCondition_finKey_congr (now : Time) (d : PIndex) (a b : Job) (hadm : a.admissionError = false)
    (hadm' : b.admissionError = false) (hstart : a.status.startTime.isSome = true)
    (hstart' : b.status.startTime = a.status.startTime) (hkill : b.killTimestamp = a.killTimestamp)
    (htmpl : b.template = a.template)
    (hidx : ∀ i ∈ a.indexes d, getIndexStatus i i.hash (tasksOfHash d b.status.tasks i.hash) a.maxAttempts =
      getIndexStatus i i.hash (tasksOfHash d a.status.tasks i.hash) a.maxAttempts)
    (hlf : latestFinished b.status.tasks = latestFinished a.status.tasks) :
    finKey (getCondition now d b) = finKey (getCondition now d a) := by
  rw [getCondition_eq_tail now d a hadm hstart, getCondition_eq_tail now d b hadm' (by rw [hstart']; exact hstart)]
  have hi : b.indexes d = a.indexes d := indexes_of_template htmpl d
  have hm : b.maxAttempts = a.maxAttempts := maxAttempts_of_template htmpl
  have hstat : indexStatuses d b b.status.tasks = indexStatuses d a a.status.tasks := by
    unfold indexStatuses
    rw [hi, hm]
    apply List.map_congr_left
    intro i hi'
    exact hidx i hi'
  have hstrat : b.strategy = a.strategy := by
    unfold Job.strategy Job.parallelism; rw [htmpl]
  have hps : getParallelStatus d b b.status.tasks = getParallelStatus d a a.status.tasks := by
    unfold getParallelStatus getParallelTaskSummary
    rw [hstat, hi, hstrat]
  rw [hps, hi, hlf]
  have : condTail now b ((a.indexes d).length : Int) (getParallelStatus d a a.status.tasks)
      (latestCreated b.status.tasks) (latestRunning b.status.tasks) (latestFinished a.status.tasks) =
      condTail now a ((a.indexes d).length : Int) (getParallelStatus d a a.status.tasks)
      (latestCreated b.status.tasks) (latestRunning b.status.tasks) (latestFinished a.status.tasks) := by
    unfold condTail finishedResult
    rw [hkill]
  rw [this]
  exact condTail_finKey now a _ _ _ _ _ _ _

/-- `GetCondition` reads, besides the refs: admission error, start time, kill timestamp, template,
start policy (and the old finish time only under an admission error) -/
theorem getCondition_congr_fields (now : Time) (d : PIndex) (a b : Job) (ha : a.admissionError = false)
    (hadm : b.admissionError = a.admissionError) (hstart : b.status.startTime = a.status.startTime)
    (htasks : b.status.tasks = a.status.tasks) (hkill : b.killTimestamp = a.killTimestamp)
    (htmpl : b.template = a.template) (hsp : b.startPolicy = a.startPolicy) :
    getCondition now d b = getCondition now d a := by
  have hi : b.indexes d = a.indexes d := indexes_of_template htmpl d
  have hm : b.maxAttempts = a.maxAttempts := maxAttempts_of_template htmpl
  have hstrat : b.strategy = a.strategy := by unfold Job.strategy Job.parallelism; rw [htmpl]
  have hps : ∀ ts, getParallelStatus d b ts = getParallelStatus d a ts := by
    intro ts
    unfold getParallelStatus getParallelTaskSummary indexStatuses
    rw [hi, hm, hstrat]
  have hq : queueReason b = queueReason a := by unfold queueReason; rw [hsp]
  unfold getCondition
  simp only [hadm, ha, hstart, hkill, hps, hi, htasks, hq, Bool.false_eq_true, ↓reduceIte]
  unfold finishedResult
  rw [hkill]

/-- the stored `Finished` condition of a Job that is not being deleted is what `GetCondition` computes
from the stored refs (for some clock reading) -/
def Coh (d : PIndex) (j : Job) : Prop :=
  j.deletionTimestamp = none → ∀ f, j.status.condition.finished = some f →
    j.status.startTime.isSome = true ∧ ∃ t, finKey (getCondition t d j) = some (f.result, f.finishTimestamp)

/-- For a Job that is not being deleted (and carries no admission error) the stored condition is `GetCondition`
of the input Job at the clock of the pass — which is also `GetCondition` of the stored Job. -/
theorem updateJobStatusFromTaskRefs_cond {now : Time} {d : PIndex} {rj nj : Job}
    (h : updateJobStatusFromTaskRefs now d rj = some nj) (hadm : rj.admissionError = false)
    (hdel : nj.deletionTimestamp = none) :
    nj.status.condition = getCondition now d rj ∧ getCondition now d nj = getCondition now d rj ∧
    nj.status.startTime = rj.status.startTime := by
  unfold updateJobStatusFromTaskRefs updateJobStatusFromTaskRefsWith at h
  cases ht : rj.template with
  | none => simp [ht] at h
  | some tm =>
    simp only [ht, Option.some.injEq] at h
    subst h
    have hdel' : rj.deletionTimestamp = none := hdel
    refine ⟨?_, ?_, rfl⟩
    · -- not being deleted: no deletion override
      show (statusBeforePhase false now d rj tm).condition = _
      unfold statusBeforePhase deletionOverrides
      simp [hdel']
    · refine getCondition_congr_fields now d rj _ hadm ?_ ?_ ?_ ?_ ?_ ?_
      all_goals first | rfl | exact ht.symm

theorem updateJobStatusFromTaskRefs_condEq {now : Time} {d : PIndex} {rj nj : Job}
    (h : updateJobStatusFromTaskRefs now d rj = some nj) (hadm : rj.admissionError = false)
    (hdel : nj.deletionTimestamp = none) : nj.status.condition = getCondition now d nj := by
  obtain ⟨h1, h2, _⟩ := updateJobStatusFromTaskRefs_cond h hadm hdel
  exact h1.trans h2.symm

theorem updateJobStatusFromTaskRefs_coh {now : Time} {d : PIndex} {rj nj : Job}
    (h : updateJobStatusFromTaskRefs now d rj = some nj) (hadm : rj.admissionError = false) : Coh d nj := by
  intro hdel f hf
  obtain ⟨h1, h2, h3⟩ := updateJobStatusFromTaskRefs_cond h hadm hdel
  rw [h1] at hf
  refine ⟨?_, now, by rw [h2]; unfold finKey; rw [hf]; rfl⟩
  rw [h3]
  rcases ConditionLemmas.getCondition_finished now d rj f hf with h' | h'
  · rw [hadm] at h'; cases h'.1
  · exact h'.2.1

theorem syncJobStatusFromTaskRefs_snd {s : Sys} {key : String} {rj newRj : Job}
    (hu : updateJobStatusFromTaskRefs s.clock s.d rj = some newRj) :
    (syncJobStatusFromTaskRefs s key rj).2 = newRj := by
  unfold syncJobStatusFromTaskRefs
  simp only [hu]
  split
  · split
    · split <;> rfl
    · rfl
  · rfl

theorem syncJobStatusFromTaskRefs_condEq (s : Sys) (key : String) (rj : Job) (htm : rj.template.isSome = true)
    (hadm : rj.admissionError = false) (hdel : (syncJobStatusFromTaskRefs s key rj).2.deletionTimestamp = none) :
    (syncJobStatusFromTaskRefs s key rj).2.status.condition =
      getCondition s.clock s.d (syncJobStatusFromTaskRefs s key rj).2 := by
  obtain ⟨newRj, hu⟩ := updateJobStatusFromTaskRefs_isSome (now := s.clock) (d := s.d) htm
  rw [syncJobStatusFromTaskRefs_snd hu] at hdel ⊢
  exact updateJobStatusFromTaskRefs_condEq hu hadm hdel

theorem syncJobStatusFromTaskRefs_coh (s : Sys) (key : String) (rj : Job) (htm : rj.template.isSome = true)
    (hadm : rj.admissionError = false) : Coh s.d (syncJobStatusFromTaskRefs s key rj).2 := by
  obtain ⟨newRj, hu⟩ := updateJobStatusFromTaskRefs_isSome (now := s.clock) (d := s.d) htm
  rw [syncJobStatusFromTaskRefs_snd hu]
  exact updateJobStatusFromTaskRefs_coh hu hadm

end Furiko.JobCtl
