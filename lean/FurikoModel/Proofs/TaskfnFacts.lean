/-
Interpreters for the tables regenerated from the Go source (`Generated/Facts.lean`): each reads a
table as the switch it was extracted from, so that a hand-written `match` of the taskfn model can be
shown equal to it for every input (`Props/C10.counters_match_source`, `pod_mapping_matches_source`,
`Props/C11.state_case_order_matches_source`, `phase_tables_match_source`).  If the source's case
order / increments / mapping change, those stop compiling (a broken tie, handled like a broken
proof).  Core Lean only.
-/
import FurikoModel.Model.JobStatus
namespace Furiko.TaskfnFacts
open Furiko

-- ---------------------------------------------------------------- getJobStateFromCondition

def memberSet (c : Condition) (m : String) : Bool :=
  if m = "Queueing" then c.queueing.isSome
  else if m = "Waiting" then c.waiting.isSome
  else if m = "Running" then c.running.isSome
  else if m = "Finished" then c.finished.isSome
  else false

def jobStateOfStr (s : String) : JobState :=
  if s = "Queued" then .queued else if s = "Waiting" then .waiting
  else if s = "Running" then .running else if s = "Finished" then .finished else .empty

/-- a tagless switch read as data: first case whose member is set, else the default -/
def evalStateCases (cases : List (String × String)) (dflt : String) (c : Condition) : JobState :=
  match cases.find? (fun p => memberSet c p.1) with
  | some p => jobStateOfStr p.2
  | none => jobStateOfStr dflt

-- ---------------------------------------------------------------- GetParallelStatusCounters

def incrField (c : Counters) (f : String) : Counters :=
  if f = "Created" then { c with created := c.created + 1 }
  else if f = "Starting" then { c with starting := c.starting + 1 }
  else if f = "Running" then { c with running := c.running + 1 }
  else if f = "RetryBackoff" then { c with retryBackoff := c.retryBackoff + 1 }
  else if f = "Terminated" then { c with terminated := c.terminated + 1 }
  else if f = "Succeeded" then { c with succeeded := c.succeeded + 1 }
  else if f = "Failed" then { c with failed := c.failed + 1 }
  else c

def indexStateStr : IndexState → String
  | .empty => "" | .notCreated => "NotCreated" | .retryBackoff => "RetryBackoff"
  | .starting => "Starting" | .running => "Running" | .terminated => "Terminated"
def taskResultStr : TaskResult → String
  | .none => "" | .succeeded => "Succeeded" | .failed => "Failed" | .killed => "Killed"

def evalIncr (table : List (String × List String)) (key : String) (c : Counters) : Counters :=
  ((table.lookup key).getD []).foldl incrField c

-- ---------------------------------------------------------------- PodTask.GetState / GetResult

def podPhaseStr : PodPhase → String
  | .pending => "Pending" | .running => "Running" | .succeeded => "Succeeded" | .failed => "Failed"
  | .unknown => "Unknown" | .other => ""
def taskStateOfStr (s : String) : TaskState :=
  if s = "Starting" then .starting else if s = "Running" then .running else if s = "Killing" then .killing
  else if s = "Terminated" then .terminated else if s = "DeletedFinalStateUnknown" then .deletedFinalStateUnknown else .empty
def taskResultOfStr (s : String) : TaskResult :=
  if s = "Succeeded" then .succeeded else if s = "Failed" then .failed else if s = "Killed" then .killed else .none

end Furiko.TaskfnFacts
