/-
Token view of templates and the lemmas that connect it to the string-level model of
`Model/Subst.lean`.  A *tame* template is `render T` for a token list `T` with `wfToks T` — its literal characters
are not `$` and its variable names contain none of `$ { }`: every `$` of the string starts a
well-formed `${name}` reference.  On tame templates, with keys free of `$ { }` and values free of
`$`, the sequential `strings.ReplaceAll` fold equals a simultaneous token substitution.
Also: lookups in a permuted map and in `mergeSubstitutions`, whose keys are distinct, and that `sortByKey`
does not depend on the order in which a map was enumerated.
-/
import FurikoModel.Model.Subst
import FurikoModel.Proofs.OptionsLemmas

namespace Furiko.SubstTokens
open Furiko.Options Furiko.Subst Furiko.OptionsLemmas

inductive Tok where
  | lit (c : Char)
  | var (n : Str)
deriving DecidableEq, Repr

def Tok.render : Tok → Str
  | .lit c => [c]
  | .var n => mkPattern n

def render (T : List Tok) : Str := T.flatMap Tok.render

def cleanName (n : Str) : Bool := n.all fun c => c != '$' && c != '{' && c != '}'
def dollarFree (s : Str) : Bool := s.all fun c => c != '$'

def Tok.wf : Tok → Bool
  | .lit c => c != '$'
  | .var n => cleanName n

def wfToks (T : List Tok) : Bool := T.all Tok.wf

def lits (s : Str) : List Tok := s.map Tok.lit

@[simp] theorem render_nil : render [] = [] := rfl
@[simp] theorem render_cons (t : Tok) (T : List Tok) : render (t :: T) = t.render ++ render T := by
  simp [render]
@[simp] theorem render_append (A B : List Tok) : render (A ++ B) = render A ++ render B := by
  simp [render]
@[simp] theorem render_lits (s : Str) : render (lits s) = s := by
  induction s with
  | nil => rfl
  | cons c cs ih => simp [lits, Tok.render] at *; exact ih

theorem mkPattern_append (n rest : Str) : mkPattern n ++ rest = '$' :: '{' :: (n ++ '}' :: rest) := by
  simp [mkPattern]

theorem wfToks_cons {t : Tok} {T : List Tok} : wfToks (t :: T) = true ↔ t.wf = true ∧ wfToks T = true := by
  simp [wfToks]

theorem wfToks_append (A B : List Tok) : wfToks (A ++ B) = (wfToks A && wfToks B) := by
  simp [wfToks]

theorem wfToks_lits (s : Str) (h : dollarFree s = true) : wfToks (lits s) = true := by
  induction s with
  | nil => rfl
  | cons c cs ih =>
    simp [dollarFree, lits, wfToks, Tok.wf] at *
    exact ⟨h.1, fun a ha => by simpa using h.2 a ha⟩

theorem cleanName_cons (c : Char) (cs : Str) :
    cleanName (c :: cs) = true ↔ (c ≠ '$' ∧ c ≠ '{' ∧ c ≠ '}' ∧ cleanName cs = true) := by
  simp [cleanName, and_assoc]

theorem dollarFree_cons (c : Char) (cs : Str) :
    dollarFree (c :: cs) = true ↔ (c ≠ '$' ∧ dollarFree cs = true) := by
  simp [dollarFree]

theorem cleanName_dollarFree {n : Str} (h : cleanName n = true) : dollarFree n = true := by
  induction n with
  | nil => rfl
  | cons c cs ih =>
    rw [cleanName_cons] at h
    rw [dollarFree_cons]
    exact ⟨h.1, ih h.2.2.2⟩

theorem dollarFree_append (a b : Str) : dollarFree (a ++ b) = (dollarFree a && dollarFree b) := by
  simp [dollarFree]

/-- the text of `${n}` behind its `$` -/
theorem dollarFree_braces {n : Str} (hn : cleanName n = true) : dollarFree ('{' :: (n ++ ['}'])) = true := by
  rw [dollarFree_cons, dollarFree_append, cleanName_dollarFree hn]
  simp [dollarFree]

theorem replaceGo_skip (old new : Str) (xs rest : Str) :
    replaceGo old new xs.length (xs ++ rest) = replaceGo old new 0 rest := by
  induction xs with
  | nil => rfl
  | cons x xs ih => simpa [replaceGo] using ih

/-- an occurrence at the head is replaced and the scan continues behind it -/
theorem replaceGo_match (o : Char) (os new rest : Str) :
    replaceGo (o :: os) new 0 ((o :: os) ++ rest) = new ++ replaceGo (o :: os) new 0 rest := by
  have h : (o :: os).isPrefixOf (o :: (os ++ rest)) = true := by simp [List.isPrefixOf_iff_prefix]
  show replaceGo (o :: os) new 0 (o :: (os ++ rest)) = _
  rw [replaceGo, if_pos h]
  simp only [List.length_cons, Nat.add_sub_cancel]
  rw [replaceGo_skip]

/-- text without `$` in front of the scan position is copied when the pattern starts with `$` -/
theorem replaceGo_nodollar (q new pre rest : Str) (h : dollarFree pre = true) :
    replaceGo ('$' :: q) new 0 (pre ++ rest) = pre ++ replaceGo ('$' :: q) new 0 rest := by
  induction pre with
  | nil => rfl
  | cons c cs ih =>
    rw [dollarFree_cons] at h
    have hc : ('$' == c) = false := by
      simp; intro e; exact h.1 e.symm
    show replaceGo ('$' :: q) new 0 (c :: (cs ++ rest)) = _
    rw [replaceGo]
    simp only [List.isPrefixOf, hc, Bool.false_and]
    simp
    exact ih h.2

/-- `k}` is a prefix of `k'}…` only if `k = k'`, for names without `}` -/
theorem clean_prefix_eq (k k' rest : Str) (hk : cleanName k = true) (hk' : cleanName k' = true)
    (h : (k ++ ['}']).isPrefixOf (k' ++ '}' :: rest) = true) : k = k' := by
  induction k generalizing k' with
  | nil =>
    cases k' with
    | nil => rfl
    | cons c cs =>
      rw [cleanName_cons] at hk'
      simp [List.isPrefixOf] at h
      exact absurd h.symm hk'.2.2.1
  | cons a as ih =>
    rw [cleanName_cons] at hk
    cases k' with
    | nil =>
      simp [List.isPrefixOf] at h
      exact absurd h.1 hk.2.2.1
    | cons c cs =>
      rw [cleanName_cons] at hk'
      simp [List.isPrefixOf] at h
      rw [h.1, ih cs hk.2.2.2 hk'.2.2.2 (by simpa using h.2)]

/-- substitution of variables by a lookup function: a bound variable becomes its value, as literal
text; everything else stays -/
def subst (f : Str → Option Str) : Tok → List Tok
  | .var n =>
    match f n with
    | some v => lits v
    | none => [.var n]
  | t => [t]

/-- the effect of one map entry on a token -/
abbrev sigma (k v : Str) : Tok → List Tok := subst fun n => if n = k then some v else none

theorem flatMap_subst_none (T : List Tok) : T.flatMap (subst fun _ => none) = T := by
  induction T with
  | nil => rfl
  | cons t T ih => cases t <;> simp [subst, ih]

theorem lits_flatMap_subst (f : Str → Option Str) (v : Str) : (lits v).flatMap (subst f) = lits v := by
  induction v with
  | nil => rfl
  | cons c cs ih => simp [lits, subst] at *; exact ih

/-- two substitutions in a row are one, in which the first wins: the values it puts in are literal text -/
theorem flatMap_subst_subst (f g : Str → Option Str) (T : List Tok) :
    (T.flatMap (subst f)).flatMap (subst g) = T.flatMap (subst fun n => (f n).orElse fun _ => g n) := by
  induction T with
  | nil => rfl
  | cons t T ih =>
    rw [List.flatMap_cons, List.flatMap_append, ih, List.flatMap_cons]
    congr 1
    cases t with
    | lit c => simp [subst]
    | var n => cases h : f n <;> simp [subst, h, lits_flatMap_subst]

theorem wfToks_subst (f : Str → Option Str) (hf : ∀ n v, f n = some v → dollarFree v = true)
    (T : List Tok) (hT : wfToks T = true) : wfToks (T.flatMap (subst f)) = true := by
  induction T with
  | nil => rfl
  | cons t T ih =>
    obtain ⟨ht, hT'⟩ := wfToks_cons.1 hT
    rw [List.flatMap_cons, wfToks_append, ih hT', Bool.and_true]
    cases t with
    | lit c => simpa [subst, wfToks] using ht
    | var n =>
      cases h : f n with
      | some v => simpa [subst, h] using wfToks_lits v (hf n v h)
      | none => simpa [subst, h, wfToks] using ht

theorem replaceGo_pattern_nodollar (k v pre rest : Str) (h : dollarFree pre = true) :
    replaceGo (mkPattern k) v 0 (pre ++ rest) = pre ++ replaceGo (mkPattern k) v 0 rest :=
  replaceGo_nodollar _ v pre rest h

theorem replaceGo_render (k v : Str) (hk : cleanName k = true) (T : List Tok) (hT : wfToks T = true) :
    replaceGo (mkPattern k) v 0 (render T) = render (T.flatMap (sigma k v)) := by
  -- token by token: the pattern starts with `$`, so the scan copies a literal (`replaceGo_nodollar`), replaces
  -- `${k}` (`replaceGo_match`), and on `${n}`, `n ≠ k`, finds no match at the `$` (`clean_prefix_eq`) nor inside
  induction T with
  | nil => rfl
  | cons t T ih =>
    obtain ⟨ht, hT'⟩ := wfToks_cons.1 hT
    rw [render_cons, List.flatMap_cons, render_append, ← ih hT']
    cases t with
    | lit c => exact replaceGo_pattern_nodollar k v [c] _ (by simpa [dollarFree, Tok.wf] using ht)
    | var n =>
      have hn : cleanName n = true := by simpa [Tok.wf] using ht
      by_cases e : n = k
      · subst e
        simp only [subst, if_pos, render_lits]
        exact replaceGo_match '$' ('{' :: (n ++ ['}'])) v (render T)
      · have hpre : (mkPattern k).isPrefixOf ('$' :: '{' :: (n ++ '}' :: render T)) = false := by
          cases hp : (mkPattern k).isPrefixOf ('$' :: '{' :: (n ++ '}' :: render T)) with
          | false => rfl
          | true =>
            simp [mkPattern, List.isPrefixOf] at hp
            exact absurd (clean_prefix_eq k n (render T) hk hn (by simpa using hp)).symm e
        simp only [subst, if_neg e, render_cons, Tok.render, render_nil, List.append_nil]
        rw [mkPattern_append, replaceGo, hpre]
        have h2 := replaceGo_pattern_nodollar k v ('{' :: (n ++ ['}'])) (render T) (dollarFree_braces hn)
        simp only [List.cons_append, List.append_assoc, List.nil_append] at h2
        rw [h2, mkPattern_append]
        rfl

theorem mkPattern_ne_nil (k : Str) : (mkPattern k).isEmpty = false := rfl

theorem replaceAll_render (k v : Str) (hk : cleanName k = true) (T : List Tok) (hT : wfToks T = true) :
    replaceAll (render T) (mkPattern k) v = render (T.flatMap (sigma k v)) := by
  simp only [replaceAll, mkPattern_ne_nil, Bool.false_eq_true, if_false]
  exact replaceGo_render k v hk T hT

/-- simultaneous substitution of one map on a token -/
abbrev rho (es : List (Str × Str)) : Tok → List Tok := subst fun n => lookupS n es

def keysClean (es : List (Str × Str)) : Bool := es.all fun e => cleanName e.1
def valuesDollarFree (es : List (Str × Str)) : Bool := es.all fun e => dollarFree e.2

theorem flatMap_sigma_rho (k v : Str) (es : List (Str × Str)) (T : List Tok) :
    (T.flatMap (sigma k v)).flatMap (rho es) = T.flatMap (rho ((k, v) :: es)) := by
  rw [flatMap_subst_subst]
  congr 2
  funext n
  by_cases e : n = k
  · simp [lookupS, e]
  · simp [lookupS, e, Ne.symm e]

theorem substFold_cons (k v : Str) (es : List (Str × Str)) (t : Str) :
    substFold ((k, v) :: es) t = substFold es (replaceAll t (mkPattern k) v) := by
  simp [substFold]

/-- the sequential fold over the entries, in the order given, is the simultaneous substitution -/
theorem substFold_render (es : List (Str × Str)) (hk : keysClean es = true)
    (hv : valuesDollarFree es = true) (T : List Tok) (hT : wfToks T = true) :
    substFold es (render T) = render (T.flatMap (rho es)) := by
  induction es generalizing T with
  | nil => exact congrArg render (flatMap_subst_none T).symm
  | cons e es ih =>
    obtain ⟨k, v⟩ := e
    have hk1 : cleanName k = true := by simp [keysClean] at hk; exact hk.1
    have hk2 : keysClean es = true := by simp [keysClean] at hk ⊢; exact hk.2
    have hv1 : dollarFree v = true := by simp [valuesDollarFree] at hv; exact hv.1
    have hv2 : valuesDollarFree es = true := by simp [valuesDollarFree] at hv ⊢; exact hv.2
    -- one entry keeps the template tame: its value is literal text
    have hT' : wfToks (T.flatMap (sigma k v)) = true :=
      wfToks_subst _ (fun n w h => by split at h <;> simp_all) T hT
    rw [substFold_cons, replaceAll_render k v hk1 T hT, ih hk2 hv2 _ hT', flatMap_sigma_rho]

def keys (es : List (Str × Str)) : List Str := es.map Prod.fst

theorem lookupS_some_of_mem {es : List (Str × Str)} (hnd : (keys es).Nodup) {n v : Str}
    (h : (n, v) ∈ es) : lookupS n es = some v :=
  lookupS_eq_lookup n es ▸ List.lookup_eq_some_of_mem hnd h

theorem mem_of_lookupS_some {es : List (Str × Str)} {n v : Str} (h : lookupS n es = some v) :
    (n, v) ∈ es :=
  List.mem_of_lookup_eq_some (lookupS_eq_lookup n es ▸ h)

theorem wfToks_rho (es : List (Str × Str)) (hv : valuesDollarFree es = true) (T : List Tok)
    (hT : wfToks T = true) : wfToks (T.flatMap (rho es)) = true :=
  wfToks_subst _ (fun _ _ h => List.all_eq_true.1 hv _ (mem_of_lookupS_some h)) T hT

theorem lookupS_perm {es es' : List (Str × Str)} (hp : es.Perm es') (hnd : (keys es).Nodup) (n : Str) :
    lookupS n es = lookupS n es' := by
  rw [lookupS_eq_lookup, lookupS_eq_lookup, hp.lookup_eq hnd]

theorem rho_perm {es es' : List (Str × Str)} (hp : es.Perm es') (hnd : (keys es).Nodup) :
    rho es = rho es' :=
  congrArg subst (funext (lookupS_perm hp hnd))

theorem keysClean_perm {es es' : List (Str × Str)} (hp : es.Perm es') :
    keysClean es = keysClean es' := hp.all_eq

theorem valuesDollarFree_perm {es es' : List (Str × Str)} (hp : es.Perm es') :
    valuesDollarFree es = valuesDollarFree es' := hp.all_eq

def firstBinding (n : Str) : List (List (Str × Str)) → Option Str
  | [] => none
  | m :: ms =>
    match lookupS n m with
    | some v => some v
    | none => firstBinding n ms

abbrev resolveVars (maps : List (List (Str × Str))) : Tok → List Tok := subst fun n => firstBinding n maps

theorem flatMap_rho_resolveVars (m : List (Str × Str)) (ms : List (List (Str × Str))) (T : List Tok) :
    (T.flatMap (rho m)).flatMap (resolveVars ms) = T.flatMap (resolveVars (m :: ms)) := by
  rw [flatMap_subst_subst]
  congr 2
  funext n
  simp only [firstBinding]
  cases lookupS n m <;> rfl

def mapsOk (maps : List (List (Str × Str))) : Prop :=
  ∀ m ∈ maps, keysClean m = true ∧ valuesDollarFree m = true ∧ (keys m).Nodup

theorem leStr_refl (a : Str) : leStr a a = true := by
  induction a with
  | nil => rfl
  | cons c cs ih => simp [leStr, ih]

theorem sortByKey_perm (es : List (Str × Str)) : (sortByKey es).Perm es :=
  List.mergeSort_perm es _

/-- one `SubstituteVariables` call (either variant) on a tame template -/
theorem substituteVariables_render (sorted : Bool) (m : List (Str × Str)) (hk : keysClean m = true)
    (hv : valuesDollarFree m = true) (hnd : (keys m).Nodup) (T : List Tok) (hT : wfToks T = true) :
    substituteVariables sorted (render T) m = render (T.flatMap (rho m)) := by
  cases sorted with
  | false => exact substFold_render m hk hv T hT
  | true =>
    have hp := sortByKey_perm m
    simp only [substituteVariables, if_true]
    rw [substFold_render (sortByKey m) (by rw [keysClean_perm hp]; exact hk)
      (by rw [valuesDollarFree_perm hp]; exact hv) T hT]
    rw [rho_perm hp ((hp.map Prod.fst).nodup_iff.mpr hnd)]

theorem foldMaps_render (sorted : Bool) (maps : List (List (Str × Str))) (hm : mapsOk maps)
    (T : List Tok) (hT : wfToks T = true) :
    maps.foldl (fun t m => substituteVariables sorted t m) (render T) =
      render (T.flatMap (resolveVars maps)) ∧ wfToks (T.flatMap (resolveVars maps)) = true := by
  induction maps generalizing T with
  | nil => exact (flatMap_subst_none T).symm ▸ ⟨rfl, hT⟩
  | cons m ms ih =>
    obtain ⟨hk, hv, hnd⟩ := hm m List.mem_cons_self
    have hms : mapsOk ms := fun x hx => hm x (List.mem_cons_of_mem _ hx)
    rw [List.foldl_cons, substituteVariables_render sorted m hk hv hnd T hT]
    have := ih hms _ (wfToks_rho m hv T hT)
    rw [flatMap_rho_resolveVars] at this
    exact this

/-- a prefix (after `TrimSuffix(".")`) whose characters are all literal in the regexp and cannot
occur next to a variable's braces -/
def plainPrefix (p : Str) : Bool := p.all fun c => c != '.' && c != '$' && c != '{' && c != '}'

/-- `${n}` is a variable of prefix `p`: `p`, a dot, and a non-empty rest -/
def reservedBy (p n : Str) : Bool := (p ++ ['.']).isPrefixOf n && decide (p.length + 1 < n.length)

def keepTok (p : Str) : Tok → Bool
  | .var n => !reservedBy p n
  | .lit _ => true

theorem removeGo_skip (p xs rest : Str) : removeGo p xs.length (xs ++ rest) = removeGo p 0 rest := by
  induction xs with
  | nil => rfl
  | cons x xs ih => simpa [removeGo] using ih

theorem matchReserved_nodollar (p : Str) (c : Char) (s : Str) (h : c ≠ '$') :
    matchReserved p (c :: s) = none := by
  unfold matchReserved
  split
  · next heq => cases heq; exact absurd rfl h
  · rfl

theorem removeGo_nodollar (p pre rest : Str) (h : dollarFree pre = true) :
    removeGo p 0 (pre ++ rest) = pre ++ removeGo p 0 rest := by
  induction pre with
  | nil => rfl
  | cons c cs ih =>
    rw [dollarFree_cons] at h
    show removeGo p 0 (c :: (cs ++ rest)) = _
    rw [removeGo, matchReserved_nodollar p c _ h.1]
    simp [ih h.2]

theorem plainPrefix_cons (a : Char) (as : Str) :
    plainPrefix (a :: as) = true ↔ (a ≠ '.' ∧ a ≠ '$' ∧ a ≠ '{' ∧ a ≠ '}' ∧ plainPrefix as = true) := by
  simp [plainPrefix, and_assoc]

theorem matchAtoms_self (p x : Str) (hp : plainPrefix p = true) : matchAtoms p (p ++ x) = some x := by
  induction p with
  | nil => cases x <;> rfl
  | cons a as ih =>
    rw [plainPrefix_cons] at hp
    show matchAtoms (a :: as) (a :: (as ++ x)) = _
    rw [matchAtoms]
    simp [atomMatches, hp.1, ih hp.2.2.2.2]

/-- if the atoms of a plain prefix match at `n}…` and a dot follows, then `p.` is a prefix of `n` -/
theorem matchAtoms_dot (p n rest s2 : Str) (hp : plainPrefix p = true)
    (h : matchAtoms p (n ++ '}' :: rest) = some ('.' :: s2)) : (p ++ ['.']).isPrefixOf n = true := by
  induction p generalizing n with
  | nil =>
    cases n with
    | nil => simp [matchAtoms] at h
    | cons c cs =>
      simp [matchAtoms] at h
      simp [List.isPrefixOf, h.1]
  | cons a as ih =>
    rw [plainPrefix_cons] at hp
    cases n with
    | nil =>
      simp [matchAtoms, atomMatches, hp.1] at h
      exact absurd h.1 hp.2.2.2.1
    | cons c cs =>
      simp only [List.cons_append, matchAtoms, atomMatches, if_neg hp.1] at h
      split at h
      · next hac =>
        simp at hac
        simp [hac]
        exact List.isPrefixOf_iff_prefix.mp (ih cs hp.2.2.2.2 h)
      · cases h

theorem takeWhile_clean (r rest : Str) (hr : cleanName r = true) :
    (r ++ '}' :: rest).takeWhile (· != '}') = r := by
  induction r with
  | nil => simp
  | cons c cs ih =>
    rw [cleanName_cons] at hr
    simp [hr.2.2.1, ih hr.2.2.2]

theorem cleanName_append (a b : Str) : cleanName (a ++ b) = (cleanName a && cleanName b) := by
  simp [cleanName]

/-- the regexp at a variable token: it matches exactly the reserved names, and then the whole token -/
theorem matchReserved_var (p n rest : Str) (hp : plainPrefix p = true) (hn : cleanName n = true) :
    matchReserved p (mkPattern n ++ rest) = if reservedBy p n then some (n.length + 3) else none := by
  rw [mkPattern_append]
  by_cases hpre : (p ++ ['.']).isPrefixOf n = true
  · obtain ⟨r, hr⟩ := List.isPrefixOf_iff_prefix.mp hpre
    subst hr
    have hrc : cleanName r = true := by
      rw [cleanName_append] at hn; simp at hn; exact hn.2
    have h1 : (p ++ ['.'] ++ r) ++ '}' :: rest = p ++ ('.' :: (r ++ '}' :: rest)) := by simp
    unfold matchReserved
    simp only [h1, matchAtoms_self p _ hp, takeWhile_clean r rest hrc]
    cases r with
    | nil => simp [reservedBy]
    | cons c cs =>
      simp [reservedBy]
      omega
  · have hres : reservedBy p n = false := by simp [reservedBy, hpre]
    rw [hres]
    unfold matchReserved
    simp only
    split
    · next s2 heq => exact absurd (matchAtoms_dot p n rest s2 hp heq) hpre
    · rfl

theorem removeGo_render (p : Str) (hp : plainPrefix p = true) (T : List Tok) (hT : wfToks T = true) :
    removeGo p 0 (render T) = render (T.filter (keepTok p)) := by
  induction T with
  | nil => rfl
  | cons t T ih =>
    obtain ⟨ht, hT'⟩ := wfToks_cons.1 hT
    rw [render_cons, List.filter_cons]
    cases t with
    | lit c =>
      rw [show keepTok p (.lit c) = true from rfl, if_pos rfl, render_cons, ← ih hT']
      exact removeGo_nodollar p [c] _ (by simpa [dollarFree, Tok.wf] using ht)
    | var n =>
      have hn : cleanName n = true := by simpa [Tok.wf] using ht
      have hm := matchReserved_var p n (render T) hp hn
      have hshape : mkPattern n ++ render T = '$' :: ('{' :: (n ++ ['}']) ++ render T) := by
        simp [mkPattern]
      rw [hshape] at hm
      rw [Tok.render, hshape]
      rw [removeGo, hm]
      cases hr : reservedBy p n
      · -- not reserved: the token is copied
        simp only [keepTok, hr, Bool.not_false, if_true, render_cons, Tok.render, Bool.false_eq_true, if_false]
        rw [removeGo_nodollar p _ _ (dollarFree_braces hn), ih hT']
        simp [mkPattern]
      · -- reserved: the match is skipped
        simp only [keepTok, hr, Bool.not_true, Bool.false_eq_true, if_false, if_true]
        rw [show n.length + 3 - 1 = ('{' :: (n ++ ['}'])).length by simp, removeGo_skip, ih hT']

theorem wfToks_filter (f : Tok → Bool) (T : List Tok) (hT : wfToks T = true) :
    wfToks (T.filter f) = true := by
  simp [wfToks] at *
  intro t ht; exact Or.inr (hT t ht)

/-- a token survives the cleanup of all prefixes -/
def keepAll (ps : List Str) (t : Tok) : Bool := ps.all fun p => keepTok (trimSuffixDot p) t

theorem removePrefixes_render (ps : List Str) (hps : ∀ p ∈ ps, plainPrefix (trimSuffixDot p) = true)
    (T : List Tok) (hT : wfToks T = true) :
    substituteEmptyStringForPrefixes (render T) ps = render (T.filter (keepAll ps)) := by
  induction ps generalizing T with
  | nil =>
    have : T.filter (keepAll []) = T := List.filter_eq_self.mpr (fun t _ => by simp [keepAll])
    rw [this]; rfl
  | cons p ps ih =>
    have hp := hps p List.mem_cons_self
    have hps' : ∀ q ∈ ps, plainPrefix (trimSuffixDot q) = true := fun q hq => hps q (List.mem_cons_of_mem _ hq)
    have h1 : substituteEmptyStringForPrefixes (render T) (p :: ps) =
        substituteEmptyStringForPrefixes (removeGo (trimSuffixDot p) 0 (render T)) ps := by
      simp [substituteEmptyStringForPrefixes, removeForPrefix]
    rw [h1, removeGo_render _ hp T hT, ih hps' _ (wfToks_filter _ T hT), List.filter_filter]
    congr 1
    apply List.filter_congr
    intro t _
    simp [keepAll, Bool.and_comm]

/-- the result of the whole pipeline on one token -/
def resolveTok (maps : List (List (Str × Str))) (prefixes : List Str) : Tok → List Tok
  | .lit c => [.lit c]
  | .var n =>
    match firstBinding n maps with
    | some v => lits v
    | none => if prefixes.any (fun p => reservedBy (trimSuffixDot p) n) then [] else [.var n]

theorem filter_keepAll_lits (ps : List Str) (v : Str) : (lits v).filter (keepAll ps) = lits v := by
  induction v with
  | nil => rfl
  | cons c cs ih =>
    have : keepAll ps (Tok.lit c) = true := by simp [keepAll, keepTok]
    simp only [lits, List.map_cons, List.filter_cons, this, if_true] at *
    rw [ih]

theorem filter_resolveVars (maps : List (List (Str × Str))) (ps : List Str) (T : List Tok) :
    (T.flatMap (resolveVars maps)).filter (keepAll ps) = T.flatMap (resolveTok maps ps) := by
  induction T with
  | nil => rfl
  | cons t T ih =>
    rw [List.flatMap_cons, List.filter_append, ih, List.flatMap_cons]
    congr 1
    cases t with
    | lit c => simp [subst, resolveTok, keepAll, keepTok]
    | var n =>
      cases h : firstBinding n maps with
      | some v => simp [subst, resolveTok, h, filter_keepAll_lits]
      | none =>
        have hk : keepAll ps (Tok.var n) = !ps.any fun p => reservedBy (trimSuffixDot p) n := by
          simp [keepAll, keepTok, List.all_eq_not_any_not]
        simp only [subst, resolveTok, h, List.filter_cons, List.filter_nil, hk]
        cases ps.any fun p => reservedBy (trimSuffixDot p) n <;> rfl

/-- `leStr` is the lexicographic order of the code points -/
theorem leStr_iff (a b : Str) : leStr a b = true ↔ a.map Char.toNat ≤ b.map Char.toNat := by
  induction a generalizing b with
  | nil => simp [leStr]
  | cons x xs ih =>
    cases b with
    | nil => simp [leStr]
    | cons y ys =>
      simp only [leStr, List.map_cons, List.cons_le_cons_iff, ← ih]
      by_cases h1 : x.toNat < y.toNat
      · simp [h1]
      · by_cases h2 : y.toNat < x.toNat
        · simp [h1, h2]; omega
        · simp [h1, h2]; omega

theorem leStr_total (a b : Str) : (leStr a b || leStr b a) = true := by
  simpa [leStr_iff] using List.le_total (a.map Char.toNat) (b.map Char.toNat)

theorem leStr_trans (a b c : Str) (h1 : leStr a b = true) (h2 : leStr b c = true) : leStr a c = true :=
  (leStr_iff a c).2 (List.le_trans ((leStr_iff a b).1 h1) ((leStr_iff b c).1 h2))

theorem leStr_antisymm (a b : Str) (h1 : leStr a b = true) (h2 : leStr b a = true) : a = b :=
  (List.map_inj_right fun _ _ => Char.toNat_inj.1).1
    (List.le_antisymm ((leStr_iff a b).1 h1) ((leStr_iff b a).1 h2))

theorem sortByKey_perm_eq {es es' : List (Str × Str)} (hp : es.Perm es') (hnd : (keys es).Nodup) :
    sortByKey es = sortByKey es' := by
  have p1 : (sortByKey es).Perm (sortByKey es') :=
    (sortByKey_perm es).trans (hp.trans (sortByKey_perm es').symm)
  have sorted := List.pairwise_mergeSort (le := fun (a b : Str × Str) => leStr a.1 b.1)
    (fun a b c => leStr_trans a.1 b.1 c.1) (fun a b => leStr_total a.1 b.1)
  refine List.Perm.eq_of_pairwise ?_ (sorted es) (sorted es') p1
  intro a b ha hb hab hba
  have hk : a.1 = b.1 := leStr_antisymm _ _ hab hba
  have ha' : a ∈ es := (sortByKey_perm es).mem_iff.mp ha
  have hb' : b ∈ es := hp.mem_iff.mpr ((sortByKey_perm es').mem_iff.mp hb)
  obtain ⟨ak, av⟩ := a
  obtain ⟨bk, bv⟩ := b
  simp only at hk; subst hk
  have := lookupS_some_of_mem hnd ha'
  rw [lookupS_some_of_mem hnd hb'] at this
  cases this; rfl

theorem lookupS_none_of_not_mem {es : List (Str × Str)} {n : Str} (h : n ∉ keys es) :
    lookupS n es = none := by
  rw [lookupS_eq_lookup, List.lookup_eq_none_iff]
  intro e he
  exact bne_iff_ne.2 fun hn => h (List.mem_map.2 ⟨e, he, hn.symm⟩)

/-- pouring map `e` over `acc` (the inner loop of `MergeSubstitutions`): `e` wins -/
theorem lookupS_pour (e acc : List (Str × Str)) (hnd : (keys e).Nodup) (n : Str) :
    lookupS n (e.foldl (fun acc x => mapInsert acc x.1 x.2) acc) =
      (lookupS n e).orElse fun _ => lookupS n acc := by
  induction e generalizing acc with
  | nil => simp [lookupS]
  | cons x es ih =>
    obtain ⟨k, v⟩ := x
    simp only [keys, List.map_cons, List.nodup_cons] at hnd
    rw [List.foldl_cons, ih _ hnd.2, lookupS_mapInsert]
    by_cases h : k = n
    · subst h
      have : lookupS k es = none := lookupS_none_of_not_mem hnd.1
      simp [lookupS, this]
    · simp [lookupS, h]

theorem lookupS_merge_two (lo hi : List (Str × Str)) (hl : (keys lo).Nodup) (hh : (keys hi).Nodup) (n : Str) :
    lookupS n (mergeSubstitutions [lo, hi]) = (lookupS n hi).orElse fun _ => lookupS n lo := by
  simp only [mergeSubstitutions, List.foldl_cons, List.foldl_nil]
  rw [lookupS_pour hi _ hh, lookupS_pour lo [] hl]
  cases lookupS n lo <;> simp [lookupS]

theorem keys_mapInsert_nodup (m : List (Str × Str)) (k v : Str) (h : (keys m).Nodup) :
    (keys (mapInsert m k v)).Nodup := by
  rw [keys, map_fst_mapInsert]
  split
  · exact h
  · next hk =>
    rw [List.nodup_append]
    refine ⟨h, by simp, ?_⟩
    intro a ha b hb
    simp at hb; subst hb
    intro e; subst e; exact hk ha

theorem keys_pour_nodup (e acc : List (Str × Str)) (h : (keys acc).Nodup) :
    (keys (e.foldl (fun acc x => mapInsert acc x.1 x.2) acc)).Nodup := by
  induction e generalizing acc with
  | nil => exact h
  | cons x es ih => exact ih _ (keys_mapInsert_nodup acc x.1 x.2 h)

theorem keys_merge_nodup (maps : List (List (Str × Str))) : (keys (mergeSubstitutions maps)).Nodup := by
  unfold mergeSubstitutions
  suffices ∀ acc : List (Str × Str), (keys acc).Nodup →
      (keys (maps.foldl (fun acc m => m.foldl (fun acc e => mapInsert acc e.1 e.2) acc) acc)).Nodup from
    this [] (by simp [keys])
  induction maps with
  | nil => intro acc h; exact h
  | cons m ms ih => intro acc h; exact ih _ (keys_pour_nodup m acc h)

end Furiko.SubstTokens
