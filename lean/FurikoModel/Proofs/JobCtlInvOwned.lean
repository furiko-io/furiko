/-
Histories WITHOUT foreign pods (`noForeign`): every pod object anywhere (server, pod cache, undelivered
upserts) is controlled by the Job (`Owned`).  Then the ownership tests of the lookups (repair of F22)
always pass, and `getTaskForRef` / `liveGetTask` coincide with the lookups without the test
(`getTaskForRef0` / `liveGetTask0`, proof-internal).  Used by the walks behind the stability theorems,
whose envelope excludes foreign pods.  Core Lean only.
-/
import FurikoModel.Proofs.JobCtlInvRefsInv

set_option linter.unusedSimpArgs false
set_option linter.unusedVariables false

namespace Furiko.JobCtl
open Furiko Furiko.WQ

variable {j0 : JobObj} {s s' : Sys}

structure Owned (j0 : JobObj) (s : Sys) : Prop where
  pods : ∀ p ∈ s.pods, p.ownerUid = some j0.uid
  cache : ∀ p ∈ s.podCache, p.ownerUid = some j0.uid
  evs : ∀ p, PEv.upsert p ∈ s.podEvs → p.ownerUid = some j0.uid

theorem Owned.frame (h : Owned j0 s) (hf : Frame s s') : Owned j0 s' :=
  ⟨by rw [hf.pods]; exact h.pods, by rw [hf.podCache]; exact h.cache, by rw [hf.podEvs]; exact h.evs⟩

theorem Owned.anywhere (h : Owned j0 s) : ∀ q, Anywhere s q → q.ownerUid = some j0.uid :=
  fun q hq => hq.elim (h.pods q) (·.elim (h.cache q) (h.evs q))

theorem Owned.of_anywhere (h : ∀ q, Anywhere s q → q.ownerUid = some j0.uid) : Owned j0 s :=
  ⟨fun p hp => h p (.inl hp), fun p hp => h p (.inr (.inl hp)), fun p hp => h p (.inr (.inr hp))⟩

theorem Owned.change {A W G} (h : Owned j0 s) (hc : Change A PodKeeps W G s s')
    (hA : ∀ p, A p → p.ownerUid = some j0.uid) : Owned j0 s' := by
  refine .of_anywhere fun q hq => ?_
  rcases hc.anywhere q hq with h' | ⟨o, ho, k⟩ | a
  · exact h.anywhere q h'
  · exact k.ownerUid.trans (h.pods o ho)
  · exact hA q a

theorem Owned.micro {j0 jo : JobObj} {sp s s' : Sys} (h : Owned j0 s) (hu : jo.uid = j0.uid)
    (hm : Micro jo sp s s') : Owned j0 s' := by
  refine h.change hm.change ?_
  rintro _ ⟨idx, retry, _, _, rfl⟩
  show some jo.uid = _
  rw [hu]

theorem Owned.micros {j0 jo : JobObj} {sp s s' : Sys} (h : Owned j0 s) (hu : jo.uid = j0.uid)
    (hm : Micros jo sp s s') : Owned j0 s' := by
  induction hm with
  | refl => exact h
  | tail _ hm ih => exact ih.micro hu hm

theorem Owned.step (hb : Base j0 s) (h : Owned j0 s) (a : Action)
    (hnf : noForeign s a) (hal : Allowed j0 s a) : Owned j0 (step s a) := by
  rcases step_change hal with rfl | hq | hch
  · show Owned j0 (work s).1
    cases hc : s.jobCache with
    | none => exact h.frame (work_frame s hc)
    | some jo =>
      obtain ⟨sp, hf, hm⟩ := work_micros s jo hc
      exact (h.frame hf).micros (hb.seenOK jo (mem_seenVers_cache hc)).1.uid hm
  · exact .of_anywhere fun q hq' => h.anywhere q (hq.anywhere q hq')
  · exact h.change hch (fun p hp => (hp.1 ▸ hnf : noForeign s (.createForeign p)).elim)

theorem owned_of_reach {ok : Sys → Action → Prop} (hok : ∀ s a, ok s a → noForeign s a)
    (hr : Reach ok j0 s) : Owned j0 s := by
  induction hr with
  | init c cfg d hw =>
    unfold initSys userCreateJob
    refine ⟨?_, ?_, ?_⟩
    · intro p hp; cases hp
    · intro p hp; cases hp
    · intro p hp; simp at hp
  | step a hr' hoka hal ih => exact ih.step (base_of_reach hr') a (hok _ a hoka) hal

/-- `liveGetTask` without the ownership test -/
def liveGetTask0 (s : Sys) (name : String) : Option Task :=
  match findPod s.pods name with
  | some p => podTask s.clock p
  | none => none

/-- `getTaskForRef` without the ownership tests -/
def getTaskForRef0 (s : Sys) (ref : TaskRef) : Option Task :=
  match findPod s.podCache ref.name with
  | some p =>
    match podTask s.clock p with
    | none => none
    | some t =>
      if ref.finishTimestamp.isNone || t.ref.finishTimestamp.isSome then some t
      else liveGetTask0 s ref.name
  | none =>
    if ref.finishTimestamp.isSome then none
    else liveGetTask0 s ref.name

theorem liveGetTask_eq0 {j0 jo : JobObj} (ho : Owned j0 s) (hu : jo.uid = j0.uid) (n : String) :
    liveGetTask s jo n = liveGetTask0 s n := by
  unfold liveGetTask liveGetTask0 isControlledByJob
  cases hp : findPod s.pods n with
  | none => rfl
  | some p =>
    have := ho.pods p (findPod_some hp).1
    simp [this, hu]

theorem getTaskForRef_eq0 {j0 jo : JobObj} (ho : Owned j0 s) (hu : jo.uid = j0.uid) (ref : TaskRef) :
    getTaskForRef s jo ref = getTaskForRef0 s ref := by
  unfold getTaskForRef getTaskForRef0 isControlledByJob
  cases hp : findPod s.podCache ref.name with
  | none => simp only [liveGetTask_eq0 ho hu]
  | some p =>
    have := ho.cache p (findPod_some hp).1
    simp only [this, hu, decide_true, Bool.not_true, Bool.false_eq_true, ↓reduceIte, liveGetTask_eq0 ho hu]
    cases podTask s.clock p <;> rfl

end Furiko.JobCtl
