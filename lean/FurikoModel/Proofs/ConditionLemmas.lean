/- Helper lemmas about `getCondition` / `getPhase` / `updateJobStatusFromTaskRefs`. Core Lean only. -/
import FurikoModel.Proofs.StatusLemmas
namespace Furiko.ConditionLemmas
open Furiko Furiko.StatusLemmas

/-- shape of every `Finished` condition that `GetCondition` returns -/
theorem getCondition_finished (now : Time) (d : PIndex) (rj : Job) (f : CondFinished)
    (h : (getCondition now d rj).finished = some f) :
    (rj.admissionError = true ∧ f.result = .admissionError) ∨
    (rj.admissionError = false ∧ rj.status.startTime.isSome = true ∧
      (getParallelStatusCounters (getParallelStatus d rj rj.status.tasks).indexes).terminated ≥ ((rj.indexes d).length : Int) ∧
      ((isTimeSetAndEarlierOrEqual now rj.killTimestamp = true ∧ f.result = .killed) ∨
       (isTimeSetAndEarlierOrEqual now rj.killTimestamp = false ∧
        (getParallelStatus d rj rj.status.tasks).summary.complete = true ∧
        f.result = finishedResult rj (getParallelStatus d rj rj.status.tasks).summary))) := by
  -- only the result is asked for: project it out before unfolding, so that the case analysis runs on a small term
  replace h : (getCondition now d rj).finished.map (·.result) = some f.result := by rw [h]; rfl
  unfold getCondition at h
  simp only [apply_ite Condition.finished, apply_ite (Option.map CondFinished.result), Option.map_some, Option.map_none,
    ite_self] at h
  by_cases ha : rj.admissionError = true
  · rw [if_pos ha] at h; exact Or.inl ⟨ha, (Option.some.inj h).symm⟩
  rw [if_neg ha] at h
  by_cases hs : rj.status.startTime.isNone = true
  · rw [if_pos hs] at h; cases h
  rw [if_neg hs] at h
  refine Or.inr ⟨by simpa using ha, Option.isSome_iff_ne_none.mpr fun e => hs (by rw [e]; rfl), ?_⟩
  by_cases hk : isTimeSetAndEarlierOrEqual now rj.killTimestamp = true
  · rw [if_pos hk] at h
    split at h
    · next ht => exact ⟨ht, Or.inl ⟨hk, (Option.some.inj h).symm⟩⟩
    · cases h
  rw [if_neg hk] at h
  split at h
  · cases h
  next hc =>
  split at h
  · cases h
  next ht => exact ⟨by omega, Or.inr ⟨by simpa using hk, by simpa using hc, (Option.some.inj h).symm⟩⟩

/-- each branch of `GetCondition` sets exactly one member -/
theorem getCondition_count (now : Time) (d : PIndex) (rj : Job) : (getCondition now d rj).count = 1 := by
  have q : ∀ x, ({ queueing := some x } : Condition).count = 1 := fun _ => rfl
  have w : ∀ x, ({ waiting := some x } : Condition).count = 1 := fun _ => rfl
  have r : ∀ x, ({ running := some x } : Condition).count = 1 := fun _ => rfl
  have f : ∀ x, ({ finished := some x } : Condition).count = 1 := fun _ => rfl
  unfold getCondition
  simp only [apply_ite Condition.count, q, w, r, f, ite_self]

theorem deletionOverride_count (now : Time) (c : Condition) : (deletionOverride now c).count = 1 := by
  unfold deletionOverride
  cases c.running <;> rfl

/-- the coarse state names the one condition member that is set -/
def StateMatches (s : JobState) (c : Condition) : Prop :=
  (s = .queued ↔ c.queueing.isSome = true) ∧ (s = .waiting ↔ c.waiting.isSome = true) ∧
  (s = .running ↔ c.running.isSome = true) ∧ (s = .finished ↔ c.finished.isSome = true)

instance (s : JobState) (c : Condition) : Decidable (StateMatches s c) := by
  unfold StateMatches; infer_instance

theorem stateMatches_of_count_one (c : Condition) (h : c.count = 1) :
    StateMatches (getJobStateFromCondition c) c := by
  obtain ⟨q, w, r, f⟩ := c
  unfold Condition.count at h
  unfold StateMatches getJobStateFromCondition
  cases q <;> cases w <;> cases r <;> cases f <;> simp_all [Bool.toNat]

theorem sbp_condition (preFix : Bool) (now : Time) (d : PIndex) (rj : Job) (t : Template) :
    (statusBeforePhase preFix now d rj t).condition =
      if deletionOverrides rj (getCondition now d rj) then deletionOverride now (getCondition now d rj)
      else getCondition now d rj := rfl

theorem sbp_state (preFix : Bool) (now : Time) (d : PIndex) (rj : Job) (t : Template) :
    (statusBeforePhase preFix now d rj t).state =
      if preFix then getJobStateFromCondition (getCondition now d rj)
      else getJobStateFromCondition (statusBeforePhase preFix now d rj t).condition := rfl

theorem sbp_tasks (preFix : Bool) (now : Time) (d : PIndex) (rj : Job) (t : Template) :
    (statusBeforePhase preFix now d rj t).tasks = rj.status.tasks := rfl

theorem update_some (preFix : Bool) (now : Time) (d : PIndex) (rj nj : Job)
    (h : updateJobStatusFromTaskRefsWith preFix now d rj = some nj) :
    ∃ t, rj.template = some t ∧
      nj.status.condition = (statusBeforePhase preFix now d rj t).condition ∧
      nj.status.state = (statusBeforePhase preFix now d rj t).state ∧
      nj.status.phase = getPhase now { rj with status := statusBeforePhase preFix now d rj t } ∧
      nj.status.tasks = rj.status.tasks ∧
      nj.killTimestamp = rj.killTimestamp := by
  unfold updateJobStatusFromTaskRefsWith at h
  cases ht : rj.template with
  | none => rw [ht] at h; cases h
  | some t =>
    rw [ht] at h
    simp only [Option.some.injEq] at h
    subst h
    exact ⟨t, rfl, rfl, rfl, rfl, rfl, rfl⟩

theorem sbp_condition_count (preFix : Bool) (now : Time) (d : PIndex) (rj : Job) (t : Template) :
    (statusBeforePhase preFix now d rj t).condition.count = 1 := by
  rw [sbp_condition]
  split
  · exact deletionOverride_count now _
  · exact getCondition_count now d rj

theorem lookup_getD_mem (l : List (String × String)) (k dflt : String) :
    (l.lookup k).getD dflt ∈ l.map (·.2) ++ [dflt] := by
  induction l with
  | nil => simp [List.lookup]
  | cons a as ih =>
    obtain ⟨k', v⟩ := a
    rw [List.lookup_cons]
    cases hk : (k == k')
    · simp only [List.map_cons, List.cons_append, List.mem_cons]
      exact Or.inr ih
    · simp

/-- every phase the head switch of `GetPhase` can return is terminal — by `decide` over the
regenerated tables `Facts.resultToPhase`, `Facts.resultDefaultPhase`, `Facts.terminalPhases` -/
theorem result_phases_terminal :
    ∀ p ∈ Facts.resultToPhase.map (·.2) ++ [Facts.resultDefaultPhase], phaseIsTerminal p = true := by
  decide

theorem phaseOfResult_terminal (r : JobResult) : phaseIsTerminal (phaseOfResult r) = true :=
  result_phases_terminal _ (lookup_getD_mem _ _ _)

/-- none of the phases `GetPhase` returns below the head switch is terminal — by `decide` over
`Facts.terminalPhases` -/
theorem nonfinished_phases_not_terminal :
    ∀ p ∈ [phaseKilling, phaseTerminating, phaseRunning, phaseStarting, phaseRetryBackoff, phaseRetrying,
            phasePending, phaseQueued], phaseIsTerminal p = false := by
  decide

theorem getPhase_terminal_iff (now : Time) (rj : Job) :
    phaseIsTerminal (getPhase now rj) = rj.status.condition.finished.isSome := by
  have hn := nonfinished_phases_not_terminal
  simp only [List.mem_cons, List.mem_nil_iff, or_false, forall_eq_or_imp, forall_eq] at hn
  obtain ⟨h1, h2, h3, h4, h5, h6, h7, h8⟩ := hn
  unfold getPhase
  cases rj.status.condition.finished with
  | some f => exact phaseOfResult_terminal f.result
  | none =>
    -- below the head switch: whichever members are set, every branch returns one of the eight names
    cases rj.status.condition.running <;> cases rj.status.condition.waiting <;>
      cases rj.status.tasks.getLast? <;> cases rj.status.parallelStatus <;>
      simp only [waitingPhaseParallel, apply_ite phaseIsTerminal, h1, h2, h3, h4, h5, h6, h7, h8, ite_self,
        Option.isSome_none]

end Furiko.ConditionLemmas
