/- Lemmas about `Model/Options.lean`: its association lists (`lookupS`, `mapInsert`; used also by the
substitution and admission lemmas), trimming, the evaluators and `EvaluateOptions` as a fold. -/
import FurikoModel.Model.Options
import FurikoModel.Proofs.LookupLemmas

namespace Furiko.OptionsLemmas
open Furiko.Options

/-! ### association lists: `lookupS`, `mapInsert` -/

theorem lookupS_eq_lookup {β : Type} (n : Str) (es : List (Str × β)) : lookupS n es = es.lookup n := by
  induction es with
  | nil => rfl
  | cons e es ih =>
    obtain ⟨k, v⟩ := e
    rw [lookupS, List.lookup_cons, ih]
    by_cases h : k = n
    · simp [h]
    · have : (n == k) = false := beq_eq_false_iff_ne.2 (Ne.symm h)
      simp [h, this]

theorem lookupS_mapInsert (m : List (Str × Str)) (k v n : Str) :
    lookupS n (mapInsert m k v) = if k = n then some v else lookupS n m := by
  induction m with
  | nil => simp [mapInsert, lookupS]
  | cons e m ih =>
    obtain ⟨k', v'⟩ := e
    simp only [mapInsert]
    by_cases h : k' = k
    · subst h
      by_cases h2 : k' = n <;> simp [lookupS, h2]
    · simp only [if_neg h, lookupS, ih]
      by_cases h2 : k' = n
      · have : ¬ k = n := fun e => h (h2.trans e.symm)
        simp [h2, this]
      · simp [h2]

theorem map_fst_mapInsert (m : List (Str × Str)) (k v : Str) :
    (mapInsert m k v).map Prod.fst = if k ∈ m.map Prod.fst then m.map Prod.fst else m.map Prod.fst ++ [k] := by
  induction m with
  | nil => simp [mapInsert]
  | cons e m ih =>
    obtain ⟨k', v'⟩ := e
    simp only [mapInsert]
    by_cases hk : k' = k
    · subst hk; simp
    · have hk' : ¬ k = k' := fun e => hk e.symm
      simp only [if_neg hk, List.map_cons, List.mem_cons, hk', false_or, ih]
      split <;> simp


theorem trimRight_idem (s : Str) : trimRight (trimRight s) = trimRight s := by
  induction s with
  | nil => rfl
  | cons c cs ih =>
    rw [trimRight]
    cases h : trimRight cs with
    | nil => by_cases hc : isSpace c = true <;> simp [hc, trimRight]
    | cons r rs => rw [h] at ih; rw [trimRight, ih]

theorem trimRight_head (c : Char) (cs : Str) (hc : isSpace c = false) :
    ∃ r, trimRight (c :: cs) = c :: r := by
  simp only [trimRight]
  cases trimRight cs with
  | nil => exact ⟨[], by simp [hc]⟩
  | cons r rs => exact ⟨r :: rs, rfl⟩

theorem dropWhile_head_not (s : Str) : s.dropWhile isSpace = [] ∨
    ∃ c cs, s.dropWhile isSpace = c :: cs ∧ isSpace c = false := by
  induction s with
  | nil => exact Or.inl rfl
  | cons c cs ih =>
    by_cases hc : isSpace c = true
    · simpa [List.dropWhile, hc] using ih
    · exact Or.inr ⟨c, cs, by simp [List.dropWhile, hc], by simpa using hc⟩

theorem trimSpace_idem (s : Str) : trimSpace (trimSpace s) = trimSpace s := by
  unfold trimSpace
  cases dropWhile_head_not s with
  | inl h => rw [h]; rfl
  | inr h =>
    obtain ⟨c, cs, h, hc⟩ := h
    rw [h]
    obtain ⟨r, hr⟩ := trimRight_head c cs hc
    have : (trimRight (c :: cs)).dropWhile isSpace = trimRight (c :: cs) := by
      rw [hr]; simp [List.dropWhile, hc]
    rw [this, trimRight_idem]

theorem join_ne_nil (sep : Str) (x : Str) (xs : List Str) (hx : x ≠ []) : join sep (x :: xs) ≠ [] := by
  cases xs with
  | nil => simpa [join] using hx
  | cons y ys =>
    simp only [join]
    intro h
    cases x with
    | nil => exact hx rfl
    | cons a as => simp at h

theorem containsString_iff (xs : List Str) (x : Str) : containsString xs x = true ↔ x ∈ xs := by
  simp [containsString]

theorem multiCheck_none (cfg : MultiCfg) (v : List Str) (h : multiCheck cfg v = none) :
    ∀ x ∈ v, x ≠ [] ∧ (cfg.allowCustom = true ∨ x ∈ cfg.values) := by
  induction v with
  | nil => intro x hx; cases hx
  | cons a as ih =>
    simp only [multiCheck] at h
    split at h
    · cases h
    · next h1 =>
      split at h
      · cases h
      · next h2 =>
        intro x hx
        cases List.mem_cons.mp hx with
        | inl e =>
          subst e
          rw [← containsString_iff]
          cases x <;> cases hc : cfg.allowCustom <;> simp_all
        | inr hm => exact ih h x hm

theorem multiCheck_of_all (cfg : MultiCfg) (v : List Str)
    (h : ∀ x ∈ v, x ≠ [] ∧ x ∈ cfg.values) : multiCheck cfg v = none := by
  induction v with
  | nil => rfl
  | cons a as ih =>
    have ha := h a List.mem_cons_self
    have hc : containsString cfg.values a = true := (containsString_iff _ _).mpr ha.2
    have he : a.isEmpty = false := by
      cases a with
      | nil => exact absurd rfl ha.1
      | cons _ _ => rfl
    simp only [multiCheck, hc, he]
    simp
    exact ih (fun x hx => h x (List.mem_cons_of_mem _ hx))

def evalStep (D : DateOracle) (vals : List (Str × Value)) (acc : List (Str × Str) × List EvalErr) (o : Opt) :
    List (Str × Str) × List EvalErr :=
  let optionValue := (lookupS o.name vals).getD Value.null
  match evaluateOption D optionValue o with
  | .error e => (acc.1, acc.2 ++ [e])
  | .ok s => (mapInsert acc.1 (optionVariableName o) s, acc.2)

theorem evaluateOptions_eq (D : DateOracle) (vals : List (Str × Value)) (opts : List Opt) :
    evaluateOptions D vals (some opts) = opts.foldl (evalStep D vals) ([], []) := rfl

theorem nodup_variableNames (opts : List Opt) (hnd : (opts.map (·.name)).Nodup) :
    (opts.map optionVariableName).Nodup := by
  have := hnd.map_of_inj (f := ("option.".toList ++ ·)) fun a _ b _ e => List.append_cancel_left e
  rwa [List.map_map] at this

/-- if the fold ends without errors, it started without errors, every option evaluated to a
value, and (for fresh, pairwise distinct names) the map grew by exactly one entry per option -/
theorem fold_ok (D : DateOracle) (vals : List (Str × Value)) (opts : List Opt)
    (m0 : List (Str × Str)) (e0 : List EvalErr) (m : List (Str × Str))
    (hnd : (opts.map (·.name)).Nodup)
    (hfresh : ∀ o ∈ opts, optionVariableName o ∉ m0.map Prod.fst)
    (h : opts.foldl (evalStep D vals) (m0, e0) = (m, [])) :
    e0 = [] ∧ m.map Prod.fst = m0.map Prod.fst ++ opts.map optionVariableName ∧
    (∀ k, k ∉ opts.map optionVariableName → lookupS k m = lookupS k m0) ∧
    ∀ o ∈ opts, ∃ s, evaluateOption D ((lookupS o.name vals).getD Value.null) o = .ok s ∧
      lookupS (optionVariableName o) m = some s := by
  induction opts generalizing m0 e0 with
  | nil =>
    simp only [List.foldl_nil, Prod.mk.injEq] at h
    obtain ⟨rfl, rfl⟩ := h
    simp
  | cons o opts ih =>
    have hnew : optionVariableName o ∉ opts.map optionVariableName :=
      (List.nodup_cons.1 (nodup_variableNames (o :: opts) hnd)).1
    simp only [List.map_cons, List.nodup_cons] at hnd
    rw [List.foldl_cons] at h
    have hof : optionVariableName o ∉ m0.map Prod.fst := hfresh o List.mem_cons_self
    cases hev : evaluateOption D ((lookupS o.name vals).getD Value.null) o with
    | error e =>
      have hstep : evalStep D vals (m0, e0) o = (m0, e0 ++ [e]) := by simp [evalStep, hev]
      rw [hstep] at h
      have := (ih m0 (e0 ++ [e]) hnd.2 (fun x hx => hfresh x (List.mem_cons_of_mem _ hx)) h).1
      simp at this
    | ok s =>
      have hstep : evalStep D vals (m0, e0) o = (mapInsert m0 (optionVariableName o) s, e0) := by
        simp [evalStep, hev]
      rw [hstep] at h
      have hkeys0 := map_fst_mapInsert m0 (optionVariableName o) s
      rw [if_neg hof] at hkeys0
      have hfresh' : ∀ x ∈ opts, optionVariableName x ∉ (mapInsert m0 (optionVariableName o) s).map Prod.fst := by
        intro x hx hmem
        rw [hkeys0, List.mem_append, List.mem_singleton] at hmem
        cases hmem with
        | inl h1 => exact hfresh x (List.mem_cons_of_mem _ hx) h1
        | inr h2 => exact hnew (h2 ▸ List.mem_map_of_mem hx)
      obtain ⟨he, hkeys, hother, hall⟩ := ih _ e0 hnd.2 hfresh' h
      refine ⟨he, ?_, ?_, ?_⟩
      · rw [hkeys, hkeys0]; simp
      · intro k hk
        simp only [List.map_cons, List.mem_cons, not_or] at hk
        rw [hother k hk.2, lookupS_mapInsert, if_neg fun e => hk.1 e.symm]
      · intro x hx
        cases List.mem_cons.mp hx with
        | inl e =>
          subst e
          refine ⟨s, hev, ?_⟩
          rw [hother _ hnew, lookupS_mapInsert, if_pos rfl]
        | inr hm => exact hall x hm

theorem multi_finish_respects (o : Opt) (cfg : MultiCfg) (v : List Str) (s : Str)
    (h : evaluateMulti.finish o cfg v = .ok s) :
    ∃ vs, s = join cfg.delimiter vs ∧ (o.required = true → vs ≠ [] ∧ s ≠ []) ∧
      ∀ x ∈ vs, x ≠ [] ∧ (cfg.allowCustom = true ∨ x ∈ cfg.values) := by
  simp only [evaluateMulti.finish] at h
  generalize (if v.isEmpty = true then cfg.default else v) = vs at h
  split at h
  · cases h
  · next hreq =>
    split at h
    · cases h
    · next hmc =>
      cases h
      refine ⟨_, rfl, ?_, multiCheck_none cfg _ hmc⟩
      intro hr
      have hne : vs ≠ [] := by
        intro he
        apply hreq
        simp [he, hr]
      refine ⟨hne, ?_⟩
      cases vs with
      | nil => exact absurd rfl hne
      | cons x xs =>
        have := multiCheck_none cfg _ hmc x List.mem_cons_self
        exact join_ne_nil _ x xs this.1

theorem formatValue_of_valid (cfg : BoolCfg) (b : Bool)
    (h : Facts.boolFormatsAll.contains cfg.format = true) : ∃ s, formatValue cfg b = some s := by
  have hm : cfg.format ∈ Facts.boolFormatsAll := by simpa using h
  simp only [Facts.boolFormatsAll, List.mem_cons, List.not_mem_nil, or_false] at hm
  apply Option.isSome_iff_exists.mp
  rcases hm with h1 | h1 | h1 | h1 <;>
    simp [formatValue, h1, Facts.boolFormatCustom, Facts.boolFormatStrings]

theorem b2n_eq_zero {b : Bool} : b2n b = 0 ↔ b = false := by cases b <;> simp [b2n]

/-- an option accepted by `ValidateOption` has a default, and evaluating an absent value gives it — unless
the option is required and the default is empty -/
theorem evaluate_absent (D : DateOracle) (o : Opt) (hv : validateOption o = 0) :
    ∃ d, evaluateOptionDefault o = some d ∧
      evaluateOption D Value.null o = (if o.required && d.isEmpty then .error .required else .ok d) := by
  unfold validateOption at hv
  unfold evaluateOptionDefault evaluateOption
  -- `hv` becomes the conjunction of the checks of the option's type
  cases ht : o.type with
  | bool =>
    simp only [ht, validateBoolCfg, Nat.add_eq_zero_iff, b2n_eq_zero] at hv ⊢
    obtain ⟨-, ⟨-, hb⟩, hreq⟩ := hv
    split at hb
    · cases hb
    split at hb
    · cases hb
    next h2 =>
    obtain ⟨d, hd⟩ := formatValue_of_valid (o.bool.getD {}) (o.bool.getD {}).default (by simpa using h2)
    exact ⟨d, by simp [evaluateDefaultBool, hd], by simp [evaluateBool, hd, hreq]⟩
  | string =>
    refine ⟨_, rfl, ?_⟩
    simp only [evaluateString, defaultStringValue]
    by_cases htrim : (o.string.getD {}).trimSpaces = true
    · simp only [htrim, if_true, trimSpace_idem]
    · simp only [htrim, Bool.false_eq_true, if_false]
  | select =>
    simp only [ht, validateSelectCfg, Nat.add_eq_zero_iff, b2n_eq_zero] at hv ⊢
    refine ⟨_, rfl, ?_⟩
    simp only [evaluateSelect]
    generalize o.select.getD {} = cfg at hv ⊢
    rw [Bool.and_right_comm, hv.2.2.1.2, Bool.false_and, Bool.and_comm]
    rfl
  | multi =>
    simp only [ht, validateMultiCfg, Nat.add_eq_zero_iff, b2n_eq_zero, List.length_eq_zero_iff,
      List.filter_eq_nil_iff] at hv ⊢
    refine ⟨_, rfl, ?_⟩
    simp only [evaluateMulti, evaluateMulti.finish, List.isEmpty_nil, if_true]
    generalize o.multi.getD {} = cfg at hv ⊢
    have hall : ∀ x ∈ cfg.default, x ≠ [] ∧ x ∈ cfg.values := fun x hx =>
      ⟨fun he => hv.2.2.2 x hx (by simp [he]), (containsString_iff _ _).1 (by simpa using hv.2.2.1.1.2 x hx)⟩
    have : (join cfg.delimiter cfg.default).isEmpty = cfg.default.isEmpty := by
      cases hd : cfg.default with
      | nil => rfl
      | cons x xs => simpa using join_ne_nil cfg.delimiter x xs (hall x (hd ▸ List.mem_cons_self)).1
    rw [multiCheck_of_all cfg _ hall, this, Bool.and_comm]
  | date =>
    refine ⟨[], rfl, ?_⟩
    simp only [evaluateDate, TimeV.zeroTime]
    cases o.required <;> simp
  | unknown b =>
    simp only [ht] at hv
    cases b <;> simp [validateOptionType] at hv

end Furiko.OptionsLemmas
