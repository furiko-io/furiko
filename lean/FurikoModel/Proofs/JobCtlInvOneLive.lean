/-
One live task per index (histories inside the envelope `stabEnv`): when a controller pass creates a pod
for an index, every pod of that index on the server is finished; hence at most one unfinished pod per
index exists at any time.  Core Lean only.
-/
import FurikoModel.Proofs.JobCtlInvContigStep
import FurikoModel.Proofs.JobCtlInvStabThm
import FurikoModel.Proofs.JobCtlInvCreate

set_option linter.unusedSimpArgs false
set_option linter.unusedVariables false

namespace Furiko.JobCtl
open Furiko Furiko.WQ Furiko.StatusLemmas Furiko.ParallelLemmas

variable {j0 : JobObj} {s s' : Sys}

/-- the index hash a pod is labelled with -/
def podHash (p : PodObj) : Option String := p.pod.parallelIndex.map (·.hash)

/-- The creation guard, on the server's pods: if a creation request `(idx, retry)` of the cached Job
names a pod that is not on the server, then (inside the envelope) every pod of index `idx` that IS on the
server is finished.
Such a pod `q` is the Job's and well-named (`Owned`, `Inv2`), so it is `(idx, qr)` for some retry number `qr`.
`qr = retry` is excluded by `hnew`; `qr > retry` by `Inv4.down` (then `retry` would be recorded in the stored
status) against `NoStale` (the requested name is not recorded there).  So `qr < retry`: by `Inv4.contig` the
cached status records `(idx, qr)`, a request is only made when every recorded ref of the index is finished
(`createReq_sound`), and the pod of a finished ref is finished (`Inv3.fin`). -/
theorem create_guard {j0 jo : JobObj} (hb : Base j0 s) (h2 : Inv2 j0 s) (ho : Owned j0 s) (h3 : Inv3 s) (h4 : Inv4 j0 s)
    (hwf : WF2 j0 s.d) (hc : s.jobCache = some jo) (j : JobObj) (hj : s.job = some j)
    (henv : NoStale s) (idx : PIndex) (retry : Int) (hreq : CreateReq s.d jo idx retry)
    (hnew : taskName jo.name idx.hash retry ∉ podNames s.pods) :
    ∀ q ∈ s.pods, podHash q = some idx.hash → q.pod.isFinished = true := by
  intro q hq hqh
  have hseen := mem_seenVers_cache hc
  have hjo := (hb.seenOK jo hseen).1
  obtain ⟨_, _, _, _, hallfin, hretry, hretry0, _⟩ :=
    createReq_sound hreq (by rw [indexes_of_template hjo.template]; exact hwf.noCollision)
  -- the new name is fresh: in particular not recorded in the authoritative status
  have hfresh := henv jo idx retry hc hreq hnew
  -- the pod `q`
  obtain ⟨⟨qi, qr, hqi, hq0, _, hqname, hqpi, hqri⟩, _⟩ := h2.pods.pods q hq (ho.pods q hq)
  have hqhash : qi.hash = idx.hash := by
    unfold podHash at hqh
    rw [hqpi] at hqh
    simpa using hqh
  have hdown := h4.down j hj q (Or.inl hq) (ho.pods q hq) qi qr hqpi hqri
  -- its retry number is below the requested one
  have hlt : qr < retry := by
    by_cases hle : qr < retry
    · exact hle
    · exfalso
      by_cases heq : qr = retry
      · apply hnew
        rw [hjo.name, ← hqhash, ← heq, ← hqname]
        exact List.mem_map_of_mem hq
      · have hx := hdown retry hretry0 (by omega)
        obtain ⟨r, hr, hrh, hrr⟩ := hx
        obtain ⟨⟨ri, hri, hrpi, hrname⟩, _⟩ := (h2.job j hj).refs r hr
        have : ri.hash = qi.hash := by
          unfold TaskRef.hash TaskRef.index at hrh; rw [hrpi] at hrh; exact hrh
        apply hfresh.1 j hj
        refine List.mem_map.mpr ⟨r, hr, ?_⟩
        rw [hrname, hjo.name, this, hqhash, hrr]
  -- so it is recorded in the cached status, where every ref of the index is finished
  have hcontig := h4.contig jo (Or.inr hseen)
  have hx := attempts_below_next hcontig idx.hash qr hq0 (by rw [← hretry]; exact hlt)
  obtain ⟨ex, hex, hexh, hexr⟩ := hx
  have hexfin := (hallfin ex hex hexh).1
  obtain ⟨⟨ei, hei, hepi, hename⟩, _⟩ := (h2.seen jo hseen).refs ex hex
  have heh : ei.hash = idx.hash := by
    unfold TaskRef.hash TaskRef.index at hexh; rw [hepi] at hexh; exact hexh
  have hnameq : q.pod.name = ex.name := by rw [hqname, hename, heh, hqhash, hexr]
  exact h3.fin jo (List.mem_append_right _ hseen) ex hex hexfin q hq hnameq

/-- two unfinished pods of the same index on the server are the same pod -/
def OneLive (s : Sys) : Prop :=
  ∀ p ∈ s.pods, ∀ q ∈ s.pods, p.pod.isFinished = false → q.pod.isFinished = false →
    podHash p = podHash q → podHash p ≠ none → p.pod.name = q.pod.name

/-- … hence so are two unfinished pods that stand for pods of `s` (same name and index, finished if those are) -/
theorem OneLive.of_old (h : OneLive s) {p q p0 q0 : PodObj} (hp0 : p0 ∈ s.pods) (hq0 : q0 ∈ s.pods)
    (hp : p0.pod.name = p.pod.name ∧ p0.pod.parallelIndex = p.pod.parallelIndex ∧
      (p0.pod.isFinished = true → p.pod.isFinished = true))
    (hq : q0.pod.name = q.pod.name ∧ q0.pod.parallelIndex = q.pod.parallelIndex ∧
      (q0.pod.isFinished = true → q.pod.isFinished = true))
    (hpf : p.pod.isFinished = false) (hqf : q.pod.isFinished = false) (hh : podHash p = podHash q)
    (hne : podHash p ≠ none) : p.pod.name = q.pod.name := by
  have hp0u : p0.pod.isFinished = false := by
    cases hx : p0.pod.isFinished with
    | false => rfl
    | true => rw [hp.2.2 hx] at hpf; cases hpf
  have hq0u : q0.pod.isFinished = false := by
    cases hx : q0.pod.isFinished with
    | false => rfl
    | true => rw [hq.2.2 hx] at hqf; cases hqf
  rw [← hp.1, ← hq.1]
  refine h p0 hp0 q0 hq0 hp0u hq0u ?_ ?_
  · unfold podHash at hh ⊢; rw [hp.2.1, hq.2.1]; exact hh
  · unfold podHash at hne ⊢; rw [hp.2.1]; exact hne

theorem OneLive.work (hb : Base j0 s) (h2 : Inv2 j0 s) (ho : Owned j0 s) (h3 : Inv3 s) (h4 : Inv4 j0 s)
    (hwf : WF2 j0 s.d) (j : JobObj) (hj : s.job = some j) (henv : NoStale s) (h : OneLive s) :
    OneLive (work s).1 := by
  cases hc : s.jobCache with
  | none => intro p hp q hq; rw [(work_frame s hc).pods] at hp hq; exact h p hp q hq
  | some jo =>
    have hfrom := podsFrom_work s jo hc
    -- a created pod excludes any other unfinished pod of its index among the old ones
    have guard : ∀ idx retry, CreateReq s.d jo idx retry → taskName jo.name idx.hash retry ∉ podNames s.pods →
        ∀ q ∈ s.pods, podHash q = some idx.hash → q.pod.isFinished = true :=
      fun idx retry hreq hnew => create_guard hb h2 ho h3 h4 hwf hc j hj henv idx retry hreq hnew
    have newOld : ∀ p q : PodObj, p.pod.isFinished = false → q.pod.isFinished = false → podHash p = podHash q →
        (p.pod.name ∉ podNames s.pods ∧ ∃ idx retry, CreateReq s.d jo idx retry ∧
          p.pod.name = taskName jo.name idx.hash retry ∧ p.pod.parallelIndex = some idx) →
        (∃ q0 ∈ s.pods, q0.pod.name = q.pod.name ∧ q0.pod.parallelIndex = q.pod.parallelIndex ∧
          (q0.pod.isFinished = true → q.pod.isFinished = true)) → False := by
      intro p q hpf hqf hh ⟨hpn, idx, retry, hreq, hpname, hppi⟩ ⟨q0, hq0, _, hq0pi, hq0f⟩
      have hq0h : podHash q0 = some idx.hash := by
        unfold podHash at hh ⊢
        rw [hq0pi, ← hh, hppi]; rfl
      have := hq0f (guard idx retry hreq (hpname ▸ hpn) q0 hq0 hq0h)
      rw [hqf] at this; cases this
    intro p hp q hq hpf hqf hh hne
    rcases hfrom p hp with ⟨p0, hp0, hp0n, hp0pi, hp0f⟩ | hpnew
    · rcases hfrom q hq with ⟨q0, hq0, hq0n, hq0pi, hq0f⟩ | hqnew
      · exact h.of_old hp0 hq0 ⟨hp0n, hp0pi, hp0f⟩ ⟨hq0n, hq0pi, hq0f⟩ hpf hqf hh hne
      · exact (newOld q p hqf hpf hh.symm hqnew ⟨p0, hp0, hp0n, hp0pi, hp0f⟩).elim
    · rcases hfrom q hq with hqold | hqnew
      · exact (newOld p q hpf hqf hh hpnew hqold).elim
      · obtain ⟨_, i1, r1, hreq1, hn1, hpi1⟩ := hpnew
        obtain ⟨_, i2, r2, hreq2, hn2, hpi2⟩ := hqnew
        have hheq : i1.hash = i2.hash := by
          unfold podHash at hh
          rw [hpi1, hpi2] at hh
          simpa using hh
        have e1 := (createReq_facts hreq1).2.1
        have e2 := (createReq_facts hreq2).2.1
        rw [hn1, hn2, e1, e2, hheq]

/-- `OneLive` as long as the Job object exists (the form that is invariant inside the envelope) -/
def OneLiveG (s : Sys) : Prop := s.job.isSome = true → OneLive s

theorem OneLive.of_pods (h : OneLive s)
    (hsub : ∀ q' ∈ s'.pods, ∃ q ∈ s.pods, q.pod.name = q'.pod.name ∧ q.pod.parallelIndex = q'.pod.parallelIndex ∧
      (q.pod.isFinished = true → q'.pod.isFinished = true)) : OneLive s' := by
  intro p hp q hq hpf hqf hh hne
  obtain ⟨p0, hp0, hp0'⟩ := hsub p hp
  obtain ⟨q0, hq0, hq0'⟩ := hsub q hq
  exact h.of_old hp0 hq0 hp0' hq0' hpf hqf hh hne

theorem OneLiveG.step (hb : Base j0 s) (h2 : Inv2 j0 s) (ho : Owned j0 s) (h3 : Inv3G s) (h4 : Inv4 j0 s)
    (hwf : WF2 j0 s.d) (h : OneLiveG s) (a : Action) (henv : stabEnv s a) (hal : Allowed j0 s a) :
    OneLiveG (JobCtl.step s a) := by
  intro hj'
  have hj : s.job.isSome = true := by
    cases hjs : s.job with
    | none =>
      have := (job_moves hb a hal).none_stays hjs
      rw [this] at hj'; cases hj'
    | some j => rfl
  have h' := h hj
  obtain ⟨j, hjj⟩ := Option.isSome_iff_exists.mp hj
  have same : ∀ {t : Sys}, t.pods = s.pods → OneLive t := by
    intro t ht p hp q hq
    rw [ht] at hp hq
    exact h' p hp q hq
  rcases step_change hal with rfl | hq | hch
  · cases hget : (s.q.advance s.clock).get with
    | none => exact same (work_idle s hget).pods
    | some kq => exact OneLive.work hb h2 ho (h3 hj) h4 hwf j hjj (henv.2.2 rfl hj (by rw [hget]; rfl)) h'
  · exact same hq.pods
  · refine h'.of_pods fun q' hq' => ?_
    rcases hch.pods_from q' hq' with h | ⟨q, hq, hn, k⟩ | ⟨ha, _⟩
    · exact ⟨q', h, rfl, rfl, id⟩
    · exact ⟨q, hq, hn, k.parallelIndex.symm, k.fin⟩
    · exact (ha.1 ▸ henv.1 : noForeign s (.createForeign q')).elim

/-- at most one unfinished pod per index, in every state reachable inside the envelope `stabEnv` in which the
Job object exists (`C08Hist.one_live_per_index_partial`) -/
theorem oneLive_of_reach {ok : Sys → Action → Prop} (hok : ∀ s a, ok s a → stabEnv s a)
    (hr : Reach ok j0 s) (hwf : WF2 j0 s.d) (hwf3 : WF3 j0) : OneLiveG s := by
  induction hr with
  | init c cfg d hw => intro _ p hp; cases hp
  | step a hr' hoka hal ih =>
    rw [step_d] at hwf
    have hnf : ∀ s a, ok s a → noForeign s a := fun s a h => (hok s a h).1
    exact OneLiveG.step (base_of_reach hr') (inv2_of_reach hr' hwf) (owned_of_reach hnf hr')
      (inv3_of_reach hok hr' hwf hwf3) (inv4_of_reach hr' hwf) hwf (ih hwf) a (hok _ a hoka) hal

end Furiko.JobCtl
