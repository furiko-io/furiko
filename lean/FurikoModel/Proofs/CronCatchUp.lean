/-
Restart catch-up: `initialTime`, `newItem`, `newItems`, `schedNew`; the heap built from the
JobConfigs at start-up maps every key to its `newItem` entry; composition with the per-key tick
theorem for the first tick and with the run invariant for all later ones.
-/
import FurikoModel.Proofs.CronRunWork

namespace Furiko.Cron
open Furiko

/-- maximum downtime that is caught up, in nanoseconds -/
def downtimeNs (cfgDowntime defaultDowntime : Int) : Int :=
  (if cfgDowntime > 0 then cfgDowntime else defaultDowntime) * 1000000000

/-- exclusive lower bound (ns) of what is scheduled after a restart:
`max (ls*10^9) (now - D)` (or `now` if never scheduled), raised to `lu*10^9` if set. -/
def lowerNs (jc : JC) (cfgDowntime defaultDowntime now : Int) : Int :=
  let base : Int :=
    match jc.lastScheduled with
    | some ls => max (ls * 1000000000) (now - downtimeNs cfgDowntime defaultDowntime)
    | none => now
  match jc.sched.lastUpdated with
  | some lu => max base (lu * 1000000000)
  | none => base

theorem initialTime_eq (jc : JC) (cfg dflt now : Int) :
    initialTime jc cfg dflt now = applyNotBefore jc.sched.notBefore (lowerNs jc cfg dflt now) := by
  have h0 (x d : Int) : (if now - x > d then now - d else x) = max x (now - d) := by omega
  have h1 (y f : Int) : (if y > f then y else f) = max f y := by omega
  unfold initialTime lowerNs downtimeNs
  simp only [h0, h1]
  rfl

theorem lowerNs_ge_ls {jc : JC} {ls : Int} (hls : jc.lastScheduled = some ls)
    (cfg dflt now : Int) : ls * 1000000000 ≤ lowerNs jc cfg dflt now := by
  unfold lowerNs
  rw [hls]
  cases jc.sched.lastUpdated <;> simp only [] <;> omega

/-- the entry `newItem` computes for a well-formed JobConfig -/
def newEntry (jc : JC) (cfg dflt now : Int) : Option Int :=
  getNext jc.nxt jc.sched.notBefore jc.sched.notAfter (initialTime jc cfg dflt now)

theorem newItem_active {jc : JC} (hen : jc.sched.enabled = true) (hpe : jc.sched.parseErr = false)
    (cfg dflt now : Int) :
    newItem jc cfg dflt now = .ok ((newEntry jc cfg dflt now).map (fun n => (jc.key, n))) := by
  unfold newItem newEntry
  simp only [hen, hpe, Bool.not_true, Bool.false_eq_true, if_false]
  cases getNext jc.nxt jc.sched.notBefore jc.sched.notAfter (initialTime jc cfg dflt now) <;> rfl

theorem newItem_disabled {jc : JC} (hen : jc.sched.enabled = false) (cfg dflt now : Int) :
    newItem jc cfg dflt now = .ok none := by
  unfold newItem; simp [hen]

theorem newItem_error_iff (jc : JC) (cfg dflt now : Int) :
    newItem jc cfg dflt now = .error () ↔ jc.sched.enabled = true ∧ jc.sched.parseErr = true := by
  unfold newItem
  cases h1 : jc.sched.enabled <;> cases h2 : jc.sched.parseErr <;> simp
  all_goals
    cases getNext jc.nxt jc.sched.notBefore jc.sched.notAfter (initialTime jc cfg dflt now) <;> simp

theorem newItem_some {jc : JC} {cfg dflt now : Int} {p : String × Int}
    (h : newItem jc cfg dflt now = .ok (some p)) :
    jc.sched.enabled = true ∧ jc.sched.parseErr = false ∧ p.1 = jc.key ∧
      newEntry jc cfg dflt now = some p.2 := by
  cases hen : jc.sched.enabled with
  | false => rw [newItem_disabled hen] at h; cases h
  | true =>
    cases hpe : jc.sched.parseErr with
    | true => rw [(newItem_error_iff jc cfg dflt now).2 ⟨hen, hpe⟩] at h; cases h
    | false =>
      rw [newItem_active hen hpe] at h
      cases hr : newEntry jc cfg dflt now with
      | none => rw [hr] at h; cases h
      | some n => rw [hr] at h; cases h; exact ⟨rfl, rfl, rfl, rfl⟩

/-- "the least time satisfying `P`, or `none` if no time does" -/
def LeastSat (P : Int → Prop) (r : Option Int) : Prop :=
  (∀ m, r = some m → P m ∧ ∀ u, P u → m ≤ u) ∧ (r = none → ∀ u, ¬ P u)

/-- what may be scheduled first after a restart: matches, inside `notAfter`, strictly after
`lowerNs` as an instant, and not before `notBefore` -/
def Eligible (jc : JC) (cfg dflt now : Int) (m : Int) : Prop :=
  jc.M' m ∧ lowerNs jc cfg dflt now < m * 1000000000 ∧
  ∀ nbf, jc.sched.notBefore = some nbf → nbf ≤ m

theorem newEntry_spec {jc : JC} (hs : jc.SortedOK) (cfg dflt now : Int) :
    LeastSat (Eligible jc cfg dflt now) (newEntry jc cfg dflt now) := by
  unfold newEntry
  rw [getNext_eq_nextAfter]
  have hN := JC.nextAfter_spec hs (floorSec (initialTime jc cfg dflt now))
  -- eligibility is exactly "M' and strictly after floorSec (initialTime)"
  have hiff : ∀ m, Eligible jc cfg dflt now m ↔
      (jc.M' m ∧ floorSec (initialTime jc cfg dflt now) < m) := fun m => by
    rw [initialTime_eq, floorSec_applyNotBefore, lowered_lt_iff, floorSec_lt_iff]
    exact Iff.rfl
  refine ⟨fun m hm => ?_, fun hn u hu => ?_⟩
  · have a := hN.1 m hm
    refine ⟨(hiff m).2 ⟨a.2.1, a.1⟩, fun u hu => ?_⟩
    have := (hiff u).1 hu
    exact a.2.2 u this.1 this.2
  · have := (hiff u).1 hu
    have := hN.2 hn u this.1
    omega

theorem newItems_none_iff (jcs : List JC) (cfg dflt now : Int) :
    newItems jcs cfg dflt now = none ↔
      ∃ jc ∈ jcs, jc.sched.enabled = true ∧ jc.sched.parseErr = true := by
  induction jcs with
  | nil => simp [newItems]
  | cons jc rest ih =>
    -- the first JobConfig does not parse, or one of the others aborts the load
    simp only [List.mem_cons, exists_eq_or_imp, ← ih, ← newItem_error_iff jc cfg dflt now]
    rw [newItems]
    cases newItem jc cfg dflt now with
    | error u => cases u; simp
    | ok it => cases newItems rest cfg dflt now <;> simp

theorem schedNew_none_iff (jcs : List JC) (cfg dflt now : Int) :
    schedNew jcs cfg dflt now = none ↔
      ∃ jc ∈ jcs, jc.sched.enabled = true ∧ jc.sched.parseErr = true := by
  unfold schedNew
  rw [Option.map_eq_none_iff]
  exact newItems_none_iff jcs cfg dflt now

theorem newItems_spec (cfg dflt now : Int) :
    ∀ (jcs : List JC) (its : List (String × Int)), (jcs.map (fun jc => jc.key)).Nodup →
      newItems jcs cfg dflt now = some its →
      (∀ k ∈ its.map Prod.fst, k ∈ jcs.map (fun jc => jc.key)) ∧ (its.map Prod.fst).Nodup ∧
      ∀ jc ∈ jcs, ∃ it, newItem jc cfg dflt now = .ok it ∧
        Heap.lookupItems its jc.key = it.map (·.2) := by
  intro jcs
  induction jcs with
  | nil =>
    intro its _ h
    cases h
    exact ⟨fun k hk => (by cases hk), List.Pairwise.nil, fun jc hjc => (by cases hjc)⟩
  | cons jc0 rest ih =>
    intro its hnd h
    obtain ⟨hk0', hnd'⟩ := List.nodup_cons.1 hnd
    rw [newItems] at h
    cases hni : newItem jc0 cfg dflt now with
    | error u => rw [hni] at h; cases h
    | ok it =>
      cases hr : newItems rest cfg dflt now with
      | none => rw [hni, hr] at h; cases h
      | some its' =>
        rw [hni, hr] at h
        obtain ⟨hsub, hnd2, hlook⟩ := ih its' hnd' hr
        have hk0 : jc0.key ∉ its'.map Prod.fst := fun hm => hk0' (hsub _ hm)
        have hne : ∀ jc ∈ rest, jc.key ≠ jc0.key := fun jc hjc he =>
          hk0' (List.mem_map.2 ⟨jc, hjc, he⟩)
        cases it with
        | none =>
          cases h
          refine ⟨fun k hk => List.mem_cons_of_mem _ (hsub k hk), hnd2, fun jc hjc => ?_⟩
          rcases List.mem_cons.1 hjc with rfl | hjc
          · exact ⟨none, hni, Heap.lookupItems_not_mem _ _ hk0⟩
          · exact hlook jc hjc
        | some p =>
          cases h
          obtain ⟨pk, pv⟩ := p
          obtain rfl : pk = jc0.key := (newItem_some hni).2.2.1
          refine ⟨fun k hk => ?_, List.nodup_cons.2 ⟨hk0, hnd2⟩, fun jc hjc => ?_⟩
          · rcases List.mem_cons.1 hk with rfl | hk
            · exact List.mem_cons_self ..
            · exact List.mem_cons_of_mem _ (hsub k hk)
          · rcases List.mem_cons.1 hjc with rfl | hjc
            · exact ⟨_, hni, by simp [Heap.lookupItems]⟩
            · obtain ⟨it', h1, h2⟩ := hlook jc hjc
              exact ⟨it', h1, by simp only [Heap.lookupItems, hne jc hjc, if_false]; exact h2⟩

/-- the lister holding exactly the loaded JobConfigs -/
def listerOf (jcs : List JC) : List (String × JC) := jcs.map (fun jc => (jc.key, jc))

theorem lookup_listerOf : ∀ (jcs : List JC), (jcs.map (fun jc => jc.key)).Nodup →
    ∀ jc ∈ jcs, lookup (listerOf jcs) jc.key = some jc := by
  intro jcs
  induction jcs with
  | nil => intro _ jc hjc; cases hjc
  | cons jc0 rest ih =>
    intro hnd jc hjc
    have hnd' := List.nodup_cons.1 hnd
    simp only [listerOf, List.map_cons, lookup]
    rcases List.mem_cons.1 hjc with rfl | hjc
    · simp
    · have hne : jc0.key ≠ jc.key := by
        intro he
        exact hnd'.1 (List.mem_map.2 ⟨jc, hjc, he.symm⟩)
      simp only [hne, if_false]
      exact ih hnd'.2 jc hjc

theorem listerOf_ok {jcs : List JC} (hnd : (jcs.map (fun jc => jc.key)).Nodup)
    (hs : ∀ jc ∈ jcs, jc.SortedOK) : ListerOK (listerOf jcs) := by
  refine ⟨fun p hp => ?_, ?_⟩
  · obtain ⟨jc, hjc, rfl⟩ := List.mem_map.1 hp
    exact ⟨rfl, hs jc hjc⟩
  · unfold listerOf
    rw [List.map_map]
    exact hnd

section restart
variable {jcs : List JC} {cfg dflt now : Int} {pq : Heap.PQ}
  (hnd : (jcs.map (fun jc => jc.key)).Nodup)
include hnd

theorem schedNew_spec (h : schedNew jcs cfg dflt now = some pq) :
    Heap.Inv pq ∧ ∀ jc ∈ jcs, ∃ it, newItem jc cfg dflt now = .ok it ∧
      Heap.search pq jc.key = it.map (·.2) := by
  unfold schedNew at h
  cases hr : newItems jcs cfg dflt now with
  | none => rw [hr] at h; cases h
  | some its =>
    rw [hr] at h
    simp only [Option.map_some, Option.some.injEq] at h
    subst h
    obtain ⟨_, hnd2, hlook⟩ := newItems_spec cfg dflt now jcs its hnd hr
    exact ⟨(Heap.new_spec its hnd2).1,
      fun jc hjc => by rw [(Heap.new_spec its hnd2).2]; exact hlook jc hjc⟩

theorem schedNew_entry (h : schedNew jcs cfg dflt now = some pq)
    {jc : JC} (hjc : jc ∈ jcs) :
    Heap.search pq jc.key = none ∨
    ∃ e, jc.Active ∧ newEntry jc cfg dflt now = some e ∧ Heap.search pq jc.key = some e := by
  obtain ⟨it, hit, hent⟩ := (schedNew_spec hnd h).2 jc hjc
  cases it with
  | none => exact Or.inl hent
  | some p =>
    obtain ⟨hen, hpe, -, hne⟩ := newItem_some hit
    exact Or.inr ⟨p.2, ⟨hen, hpe⟩, hne, hent⟩

/-- First tick after start-up, key-wise: the requests are the first `cap` elements of the
strictly increasing list `D` of all eligible times that have arrived. -/
theorem catch_up_lemma (hs : ∀ jc ∈ jcs, jc.SortedOK)
    (h : schedNew jcs cfg dflt now = some pq) {n1 cap : Int} {flushLimit fuel : Nat}
    (hdone : (work ⟨pq, listerOf jcs, []⟩ n1 cap flushLimit fuel).2.2 = true)
    {jc : JC} (hjc : jc ∈ jcs) (hact : jc.Active) :
    ∃ D : List Int, SortedStrict D ∧
      (∀ m, m ∈ D ↔ Eligible jc cfg dflt now m ∧ m ≤ floorSec n1) ∧
      outk (work ⟨pq, listerOf jcs, []⟩ n1 cap flushLimit fuel).2.1 jc.key
        = D.take cap.toNat := by
  obtain ⟨hInv, hsearch⟩ := schedNew_spec hnd h
  have hL := listerOf_ok hnd hs
  have hlk := lookup_listerOf jcs hnd jc hjc
  obtain ⟨it, hit, hent⟩ := hsearch jc hjc
  rw [newItem_active hact.1 hact.2] at hit
  cases hit
  rw [Option.map_map] at hent
  have hspec := newEntry_spec (hs jc hjc) cfg dflt now
  have hsp := JC.nextAfter_spec (hs jc hjc)
  cases hne : newEntry jc cfg dflt now with
  | none =>
    rw [hne] at hent
    have := work_key_absent (w := ⟨pq, listerOf jcs, []⟩) (now := n1) (cap := cap) flushLimit fuel
      hInv hL rfl hent
    refine ⟨[], List.Pairwise.nil, fun m => ?_, by rw [this.1]; simp⟩
    constructor
    · intro hm; cases hm
    · intro hm; exact absurd hm.1 (hspec.2 hne m)
  | some e =>
    rw [hne] at hent
    have hl := (work_key_stream_lemma (w := ⟨pq, listerOf jcs, []⟩) (now := n1) (cap := cap)
      flushLimit fuel hInv hL rfl hdone hlk hact hent).1
    have hd := dueList_spec hsp (floorSec n1) e
    have he := hspec.1 e hne
    refine ⟨dueList jc.nextAfter (floorSec n1) e, hd.1, fun m => ?_, hl⟩
    rw [hd.2 m]
    constructor
    · rintro ⟨h1, h2, h3⟩
      refine ⟨?_, h2⟩
      rcases h3 with rfl | h3
      · exact he.1
      · have := he.1
        exact ⟨h3, by have := this.2.1; omega, fun nbf hn => by have := this.2.2 nbf hn; omega⟩
    · rintro ⟨h1, h2⟩
      exact ⟨he.2 m h1, h2, Or.inr h1.1⟩

theorem never_rerequest_run_lemma (hs : ∀ jc ∈ jcs, jc.SortedOK)
    (h : schedNew jcs cfg dflt now = some pq) {cap : Int} {flushLimit fuel : Nat}
    (ts : List Int) (hts : List.Pairwise (· ≤ ·) ts)
    (hdone : (runTicks cap flushLimit fuel ⟨pq, listerOf jcs, []⟩ ts).2.2 = true)
    {jc : JC} (hjc : jc ∈ jcs) {ls : Int} (hls : jc.lastScheduled = some ls) :
    ∀ t, (jc.key, t) ∈ (runTicks cap flushLimit fuel ⟨pq, listerOf jcs, []⟩ ts).2.1.flatten →
      ls < t := by
  intro t ht
  have hInv := (schedNew_spec hnd h).1
  have hL := listerOf_ok hnd hs
  rcases schedNew_entry hnd h hjc with hent | ⟨e, hact, hne, hent⟩
  · obtain ⟨l, hl, hlt⟩ := List.mem_flatten.1 ht
    have := (runTicks_absent cap flushLimit fuel jc.key ts ⟨pq, listerOf jcs, []⟩ hInv hL
      (fun _ h => by cases h) hent).1 l hl
    have hm : t ∈ outk l jc.key := mem_outk.2 hlt
    rw [this] at hm; cases hm
  · have hr := (run_stream_inv cap flushLimit fuel (w := ⟨pq, listerOf jcs, []⟩) hInv hL rfl
      (lookup_listerOf jcs hnd jc hjc) hact hent ts hts hdone).2.1
    have hge := (hr.sound t (mem_outk.2 ht)).1
    have hel := ((newEntry_spec (hs jc hjc) cfg dflt now).1 _ hne).1.2.1
    have := lowerNs_ge_ls hls cfg dflt now
    omega

end restart

end Furiko.Cron
