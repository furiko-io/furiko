/-
Liveness of the job controller: the FAIR ENVIRONMENT as compositions of existing `Action`s of
`Proofs/JobCtlSys.lean` (every phase is a `Steps` path), and the fair round

    round orc s  =  deliverAll ; sweep orc ; deliverAll ; jump ; work ; deliverAll

* `deliverAll`  — the informers deliver every pending watch event (Jobs first, then Pods);
* `sweep orc`   — the kubelet finishes every pod that is not finished yet, with the outcome the oracle
                  `orc : pod name → Outcome` dictates (Succeeded / Failed);
* `jump`        — while the Job is not finished, time passes until every armed timer of the work queue
                  has fired (`advance` to the latest deadline).
The caches follow the server: `PSync` / `JSync` ("cache + undelivered events = server") are kept by every
delivery, so after `deliverAll` both caches equal the server.  `Steps ok j0 s (round orc s)` for every
filter `ok` that admits controller passes, informer deliveries, kubelet status writes and clock
advances.  Core Lean only.
-/
import FurikoModel.Proofs.JobCtlLiveSimplePass
import FurikoModel.Proofs.RetryLemmas

set_option linter.unusedSimpArgs false
set_option linter.unusedVariables false

namespace Furiko.JobCtl.Live
open Furiko Furiko.JobCtl Furiko.WQ Furiko.StatusLemmas Furiko.JobCtlPlan

def iter (a : Action) : Nat → Sys → Sys
  | 0, s => s
  | n + 1, s => iter a n (step s a)

variable {ok : Sys → Action → Prop} {j0 : JobObj}

theorem steps_iter (a : Action) (hok : ∀ s, ok s a)
    (hal : ∀ s, Allowed j0 s a) : ∀ (n : Nat) (s0 s : Sys), Steps ok j0 s0 s → Steps ok j0 s0 (iter a n s)
  | 0, _, _, h => h
  | n + 1, s0, s, h => steps_iter a hok hal n s0 (step s a) (.step a h (hok s) (hal s))

def applyPEv (c : List PodObj) : PEv → List PodObj
  | .upsert p => setPod c p
  | .delete p => delPod c p.pod.name

def applyJEv (c : Option JobObj) : JEv → Option JobObj
  | .upsert j => some j
  | .delete _ => none

/-- pod cache + undelivered pod events = the pods on the server -/
def PSync (s : Sys) : Prop := s.podEvs.foldl applyPEv s.podCache = s.pods
/-- Job cache + undelivered Job events = the Job on the server -/
def JSync (s : Sys) : Prop := s.jobEvs.foldl applyJEv s.jobCache = s.job

theorem delPod_absent {l : List PodObj} {n : String} (h : findPod l n = none) : delPod l n = l := by
  unfold delPod
  apply List.filter_eq_self.mpr
  intro p hp
  have := findPod_none h p hp
  simpa using this

/-- the queue only grew by ready keys: well-formedness, timers and requeue counters are kept -/
structure QGrow (q q' : WQ) : Prop where
  wf : Retry.WF q → Retry.WF q'
  delayed : q'.delayed = q.delayed
  requeues : q'.requeues = q.requeues
  mono : ∀ x ∈ q.queue, x ∈ q'.queue

theorem QGrow.refl (q : WQ) : QGrow q q := ⟨id, rfl, rfl, fun _ h => h⟩
theorem QGrow.trans {a b c : WQ} (h1 : QGrow a b) (h2 : QGrow b c) : QGrow a c :=
  ⟨fun h => h2.wf (h1.wf h), h2.delayed.trans h1.delayed, h2.requeues.trans h1.requeues,
   fun x hx => h2.mono x (h1.mono x hx)⟩

theorem QGrow.add (q : WQ) (k : String) : QGrow q (q.add k) :=
  ⟨fun h => h.add k, Retry.add_delayed q k, Retry.add_requeues q k, fun x hx => Retry.mem_queue_add_mono hx⟩

/-- the server side, the clock, the configuration and the fault oracle are untouched -/
structure Srv (s s' : Sys) : Prop where
  job : s'.job = s.job
  pods : s'.pods = s.pods
  rv : s'.rv = s.rv
  clock : s'.clock = s.clock
  d : s'.d = s.d
  cfg : s'.cfg = s.cfg
  faults : s'.faults = s.faults

theorem Srv.refl (s : Sys) : Srv s s := ⟨rfl, rfl, rfl, rfl, rfl, rfl, rfl⟩
theorem Srv.trans {a b c : Sys} (h1 : Srv a b) (h2 : Srv b c) : Srv a c :=
  ⟨h2.job.trans h1.job, h2.pods.trans h1.pods, h2.rv.trans h1.rv, h2.clock.trans h1.clock, h2.d.trans h1.d,
   h2.cfg.trans h1.cfg, h2.faults.trans h1.faults⟩

/-- `handlePod` changes the work queue only, by a ready key at most -/
theorem podNotify_eq (s : Sys) (p : PodObj) : ∃ q', podNotify s p = { s with q := q' } ∧ QGrow s.q q' := by
  unfold podNotify
  repeat' split
  all_goals first | exact ⟨_, rfl, QGrow.add _ _⟩ | exact ⟨s.q, rfl, QGrow.refl _⟩

theorem deliverPod_nil (s : Sys) (h : s.podEvs = []) : deliverPod s = s := by
  unfold deliverPod; rw [h]

theorem deliverPod_upsert (s : Sys) (p : PodObj) (rest : List PEv) (h : s.podEvs = .upsert p :: rest) :
    deliverPod s = podNotify { s with podEvs := rest, podCache := setPod s.podCache p } p := by
  unfold deliverPod; rw [h]

theorem deliverPod_delete_none (s : Sys) (p : PodObj) (rest : List PEv) (h : s.podEvs = .delete p :: rest)
    (hf : findPod s.podCache p.pod.name = none) : deliverPod s = { s with podEvs := rest } := by
  unfold deliverPod; rw [h]; simp only [hf]

theorem deliverPod_delete_some (s : Sys) (p old : PodObj) (rest : List PEv) (h : s.podEvs = .delete p :: rest)
    (hf : findPod s.podCache p.pod.name = some old) :
    deliverPod s = podNotify { s with podEvs := rest, podCache := delPod s.podCache p.pod.name } old := by
  unfold deliverPod; rw [h]; simp only [hf]

/-- one pod delivery: the first undelivered event moves into the cache, so that the remaining events
lead from the new cache where all of them led from the old one; the queue grows by a ready key at most -/
theorem deliverPod_eq (s : Sys) :
    ∃ c' q', deliverPod s = { s with podEvs := s.podEvs.tail, podCache := c', q := q' } ∧ QGrow s.q q' ∧
      s.podEvs.tail.foldl applyPEv c' = s.podEvs.foldl applyPEv s.podCache := by
  cases he : s.podEvs with
  | nil => exact ⟨s.podCache, s.q, by rw [deliverPod_nil s he, List.tail_nil, ← he], .refl _, rfl⟩
  | cons e rest =>
    cases e with
    | upsert p =>
      obtain ⟨q', e, hq⟩ := podNotify_eq { s with podEvs := rest, podCache := setPod s.podCache p } p
      exact ⟨_, q', by rw [deliverPod_upsert s p rest he, e]; rfl, hq, rfl⟩
    | delete p =>
      cases hf : findPod s.podCache p.pod.name with
      | none =>
        exact ⟨s.podCache, s.q, by rw [deliverPod_delete_none s p rest he hf]; rfl, .refl _,
          by simp only [List.tail_cons, List.foldl_cons, applyPEv, delPod_absent hf]⟩
      | some old =>
        obtain ⟨q', e, hq⟩ := podNotify_eq { s with podEvs := rest, podCache := delPod s.podCache p.pod.name } old
        exact ⟨_, q', by rw [deliverPod_delete_some s p old rest he hf, e]; rfl, hq, rfl⟩

theorem deliverPod_psync (s : Sys) (h : PSync s) : PSync (deliverPod s) := by
  obtain ⟨c', q', e, _, hf⟩ := deliverPod_eq s
  rw [e]
  exact hf.trans h

theorem deliverPod_q (s : Sys) : QGrow s.q (deliverPod s).q := by
  obtain ⟨c', q', e, hq, _⟩ := deliverPod_eq s
  rw [e]
  exact hq

theorem deliverPod_srv (s : Sys) : Srv s (deliverPod s) ∧ (deliverPod s).jobCache = s.jobCache ∧
    (deliverPod s).jobEvs = s.jobEvs ∧ (deliverPod s).podEvs = s.podEvs.tail := by
  obtain ⟨c', q', e, _, _⟩ := deliverPod_eq s
  rw [e]
  exact ⟨⟨rfl, rfl, rfl, rfl, rfl, rfl, rfl⟩, rfl, rfl, rfl⟩

theorem deliverJob_nil (s : Sys) (h : s.jobEvs = []) : deliverJob s = s := by
  unfold deliverJob; rw [h]

theorem deliverJob_upsert (s : Sys) (j : JobObj) (rest : List JEv) (h : s.jobEvs = .upsert j :: rest) :
    deliverJob s = { s with jobEvs := rest, jobCache := some j, q := s.q.add (jobKey j) } := by
  unfold deliverJob; rw [h]

/-- one Job delivery, like `deliverPod_eq` -/
theorem deliverJob_eq (s : Sys) :
    ∃ c' q', deliverJob s = { s with jobEvs := s.jobEvs.tail, jobCache := c', q := q' } ∧ QGrow s.q q' ∧
      s.jobEvs.tail.foldl applyJEv c' = s.jobEvs.foldl applyJEv s.jobCache := by
  cases he : s.jobEvs with
  | nil => exact ⟨s.jobCache, s.q, by rw [deliverJob_nil s he, List.tail_nil, ← he], .refl _, rfl⟩
  | cons e rest =>
    cases e with
    | upsert j => exact ⟨_, _, by rw [deliverJob_upsert s j rest he]; rfl, .add _ _, rfl⟩
    | delete j =>
      unfold deliverJob
      rw [he]
      cases hc : s.jobCache with
      | none => exact ⟨none, s.q, rfl, .refl _, rfl⟩
      | some old => exact ⟨none, _, rfl, .add _ _, rfl⟩

theorem deliverJob_jsync (s : Sys) (h : JSync s) : JSync (deliverJob s) := by
  obtain ⟨c', q', e, _, hf⟩ := deliverJob_eq s
  rw [e]
  exact hf.trans h

theorem deliverJob_q (s : Sys) : QGrow s.q (deliverJob s).q := by
  obtain ⟨c', q', e, hq, _⟩ := deliverJob_eq s
  rw [e]
  exact hq

theorem deliverJob_srv (s : Sys) : Srv s (deliverJob s) ∧ (deliverJob s).podCache = s.podCache ∧
    (deliverJob s).podEvs = s.podEvs ∧ (deliverJob s).jobEvs = s.jobEvs.tail := by
  obtain ⟨c', q', e, _, _⟩ := deliverJob_eq s
  rw [e]
  exact ⟨⟨rfl, rfl, rfl, rfl, rfl, rfl, rfl⟩, rfl, rfl, rfl⟩

/-- the informers deliver every pending watch event: Job events first, then Pod events -/
def deliverAll (s : Sys) : Sys := iter .deliverPod s.podEvs.length (iter .deliverJob s.jobEvs.length s)

theorem iter_deliverJob (n : Nat) : ∀ (s : Sys), s.jobEvs.length = n →
    (iter .deliverJob n s).jobEvs = [] ∧ Srv s (iter .deliverJob n s) ∧ QGrow s.q (iter .deliverJob n s).q ∧
    (iter .deliverJob n s).podCache = s.podCache ∧ (iter .deliverJob n s).podEvs = s.podEvs ∧
    (JSync s → JSync (iter .deliverJob n s)) := by
  induction n with
  | zero => exact fun s h => ⟨List.eq_nil_of_length_eq_zero h, Srv.refl s, QGrow.refl _, rfl, rfl, id⟩
  | succ n ih =>
    intro s h
    obtain ⟨h1, h2, h3, h4⟩ := deliverJob_srv s
    have hl : (step s .deliverJob).jobEvs.length = n := by
      show (deliverJob s).jobEvs.length = n
      rw [h4, List.length_tail]; omega
    obtain ⟨i1, i2, i3, i4, i5, i6⟩ := ih (step s .deliverJob) hl
    exact ⟨i1, h1.trans i2, (deliverJob_q s).trans i3, i4.trans h2, i5.trans h3,
      fun hj => i6 (deliverJob_jsync s hj)⟩

theorem iter_deliverPod (n : Nat) : ∀ (s : Sys), s.podEvs.length = n →
    (iter .deliverPod n s).podEvs = [] ∧ Srv s (iter .deliverPod n s) ∧ QGrow s.q (iter .deliverPod n s).q ∧
    (iter .deliverPod n s).jobCache = s.jobCache ∧ (iter .deliverPod n s).jobEvs = s.jobEvs ∧
    (PSync s → PSync (iter .deliverPod n s)) := by
  induction n with
  | zero => exact fun s h => ⟨List.eq_nil_of_length_eq_zero h, Srv.refl s, QGrow.refl _, rfl, rfl, id⟩
  | succ n ih =>
    intro s h
    obtain ⟨h1, h2, h3, h4⟩ := deliverPod_srv s
    have hl : (step s .deliverPod).podEvs.length = n := by
      show (deliverPod s).podEvs.length = n
      rw [h4, List.length_tail]; omega
    obtain ⟨i1, i2, i3, i4, i5, i6⟩ := ih (step s .deliverPod) hl
    exact ⟨i1, h1.trans i2, (deliverPod_q s).trans i3, i4.trans h2, i5.trans h3,
      fun hj => i6 (deliverPod_psync s hj)⟩

theorem deliverAll_spec (s : Sys) (hp : PSync s) (hj : JSync s) :
    (deliverAll s).jobEvs = [] ∧ (deliverAll s).podEvs = [] ∧ (deliverAll s).jobCache = s.job ∧
    (deliverAll s).podCache = s.pods ∧ Srv s (deliverAll s) ∧ QGrow s.q (deliverAll s).q := by
  unfold deliverAll
  obtain ⟨a1, a2, a3, a4, a5, a6⟩ := iter_deliverJob s.jobEvs.length s rfl
  obtain ⟨b1, b2, b3, b4, b5, b6⟩ := iter_deliverPod s.podEvs.length (iter .deliverJob s.jobEvs.length s)
    (by rw [a5])
  have hj' : _ = _ := a6 hj
  have hp' : _ = _ := b6 (show PSync _ by unfold PSync at *; rw [a5, a4, a2.pods]; exact hp)
  rw [a1] at hj'
  rw [b1] at hp'
  exact ⟨b5.trans a1, b1, by rw [b4]; exact hj'.trans a2.job, hp'.trans (b2.pods.trans a2.pods), a2.trans b2,
    a3.trans b3⟩

theorem deliverAll_steps (hj : ∀ s, ok s .deliverJob)
    (hp : ∀ s, ok s .deliverPod) (s0 s : Sys) (h : Steps ok j0 s0 s) : Steps ok j0 s0 (deliverAll s) := by
  unfold deliverAll
  exact steps_iter .deliverPod hp (fun _ => trivial) _ s0 _
    (steps_iter .deliverJob hj (fun _ => trivial) _ s0 _ h)

theorem deliverAll_idle (s : Sys) (h1 : s.jobEvs = []) (h2 : s.podEvs = []) : deliverAll s = s := by
  unfold deliverAll
  rw [h1, h2]
  rfl

/-- what the kubelet makes of a pod that runs to completion -/
inductive Outcome where
  | succeed | fail
  deriving DecidableEq, Repr, Inhabited

def Outcome.phase : Outcome → PodPhase
  | .succeed => .succeeded
  | .fail => .failed

/-- the kubelet's terminal status write: only the phase changes -/
def finishPod (o : Outcome) (p : PodObj) : PodObj := { p with pod := { p.pod with phase := o.phase } }

/-- a finished pod is left alone; a live pod is finished as the oracle says -/
def sweepPod (orc : String → Outcome) (p : PodObj) : PodObj :=
  if p.pod.isFinished then p else finishPod (orc p.pod.name) p

def sweepOne (orc : String → Outcome) (s : Sys) (n : String) : Sys :=
  match findPod s.pods n with
  | some p => if p.pod.isFinished then s else step s (.kubelet (finishPod (orc n) p))
  | none => s

/-- the kubelet finishes every pod of the server that is not finished yet -/
def sweep (orc : String → Outcome) (s : Sys) : Sys := (podNames s.pods).foldl (sweepOne orc) s

theorem finishPod_finished (o : Outcome) (p : PodObj) : (finishPod o p).pod.isFinished = true := by
  cases o <;> simp [finishPod, Outcome.phase, Pod.isFinished]

theorem sweepPod_finished (orc : String → Outcome) (p : PodObj) : (sweepPod orc p).pod.isFinished = true := by
  unfold sweepPod
  split
  · assumption
  · exact finishPod_finished _ _

theorem sweepPod_name (orc : String → Outcome) (p : PodObj) : (sweepPod orc p).pod.name = p.pod.name := by
  unfold sweepPod finishPod; split <;> rfl

theorem sweepPod_idem (orc : String → Outcome) (p : PodObj) : sweepPod orc (sweepPod orc p) = sweepPod orc p := by
  have := sweepPod_finished orc p
  show (if (sweepPod orc p).pod.isFinished then sweepPod orc p else _) = _
  rw [if_pos this]

theorem findPod_finishPod {l : List PodObj} {n : String} {p : PodObj} (hf : findPod l n = some p) {o : Outcome} :
    findPod l (finishPod o p).pod.name = some p := by
  show findPod l p.pod.name = some p
  rw [(findPod_some hf).2]; exact hf

theorem kubeletOK_finish (o : Outcome) (p : PodObj) (h : p.pod.isFinished = false) : KubeletOK p (finishPod o p) := by
  refine ⟨rfl, rfl, rfl, rfl, rfl, rfl, rfl, rfl, ?_, ?_⟩
  · -- every phase ranks at most as high as a terminal one
    have h3 : ∀ ph, phaseRank ph ≤ 3 := fun ph => by cases ph <;> decide
    cases o <;> exact h3 _
  · intro hf; rw [h] at hf; cases hf

/-- the pods `l` with those named in `L` finished by the kubelet -/
def sweepIn (orc : String → Outcome) (L : List String) (l : List PodObj) : List PodObj :=
  l.map fun x => if x.pod.name ∈ L then sweepPod orc x else x

theorem podNames_map {f : PodObj → PodObj} (hf : ∀ x, (f x).pod.name = x.pod.name) (l : List PodObj) :
    podNames (l.map f) = podNames l := by
  unfold podNames
  rw [List.map_map]
  exact List.map_congr_left fun x _ => hf x

theorem podNames_sweepIn (orc : String → Outcome) (L : List String) (l : List PodObj) :
    podNames (sweepIn orc L l) = podNames l :=
  podNames_map (fun x => by
    split
    · exact sweepPod_name orc x
    · rfl) l

theorem sweepIn_cons (orc : String → Outcome) (n : String) (rest : List String) (l : List PodObj) :
    sweepIn orc rest (sweepIn orc [n] l) = sweepIn orc (n :: rest) l := by
  unfold sweepIn
  rw [List.map_map]
  refine List.map_congr_left fun x _ => ?_
  simp only [Function.comp, List.mem_cons, List.mem_singleton, List.not_mem_nil, or_false]
  by_cases hxn : x.pod.name = n
  · simp only [hxn, ↓reduceIte, true_or, sweepPod_name, sweepPod_idem, ite_self]
  · simp only [hxn, ↓reduceIte, false_or]

/-- `w` is `s` after kubelet writes: only the pods, the version counter and the undelivered pod events
changed, and the new events take the old pods to the new ones -/
def Swept (s w : Sys) : Prop :=
  ∃ rv' evs, w = { s with pods := w.pods, rv := rv', podEvs := s.podEvs ++ evs } ∧
    evs.foldl applyPEv s.pods = w.pods

theorem Swept.refl (s : Sys) : Swept s s := ⟨s.rv, [], by rw [List.append_nil], rfl⟩

theorem Swept.trans {s w u : Sys} (h1 : Swept s w) (h2 : Swept w u) : Swept s u := by
  obtain ⟨r1, e1, h1, f1⟩ := h1
  obtain ⟨r2, e2, h2, f2⟩ := h2
  refine ⟨r2, e1 ++ e2, h2.trans ?_, by rw [List.foldl_append, f1, f2]⟩
  rw [h1]
  simp only [List.append_assoc]

/-- one step of the sweep: the pod of that name is replaced by its finished version, by one kubelet
write at most -/
theorem sweepOne_eq (orc : String → Outcome) (s : Sys) (n : String) (hnd : (podNames s.pods).Nodup) :
    Swept s (sweepOne orc s n) ∧ (sweepOne orc s n).pods = sweepIn orc [n] s.pods := by
  have huniq : ∀ p, findPod s.pods n = some p → ∀ x ∈ s.pods, x.pod.name = n → x = p := fun p hf x hx hxn => by
    have h1 := findPod_of_mem_nodup hnd hx
    rw [hxn, hf] at h1
    exact (Option.some.inj h1).symm
  -- no live pod of that name: nothing changes
  have hid : (∀ x ∈ s.pods, x.pod.name = n → x.pod.isFinished = true) → sweepIn orc [n] s.pods = s.pods := fun h => by
    conv => rhs; rw [← List.map_id s.pods]
    refine List.map_congr_left fun x hx => ?_
    by_cases hxn : x.pod.name = n
    · simp only [List.mem_singleton, hxn, ↓reduceIte, sweepPod, h x hx hxn, id]
    · simp only [List.mem_singleton, hxn, ↓reduceIte, id]
  unfold sweepOne
  cases hf : findPod s.pods n with
  | none => exact ⟨.refl s, (hid fun x hx hxn => absurd hxn (findPod_none hf x hx)).symm⟩
  | some p =>
    have hpm := findPod_some hf
    dsimp only
    by_cases hfin : p.pod.isFinished = true
    · rw [if_pos hfin]
      exact ⟨.refl s, (hid fun x hx hxn => huniq p hf x hx hxn ▸ hfin).symm⟩
    · rw [if_neg hfin]
      show Swept s (setPodState s _) ∧ (setPodState s _).pods = _
      unfold setPodState
      rw [findPod_finishPod hf]
      refine ⟨⟨s.rv + 1, [.upsert (finishPod (orc n) p)], rfl, rfl⟩, ?_⟩
      show setPod s.pods (finishPod (orc n) p) = _
      unfold setPod sweepIn
      rw [if_pos (List.any_eq_true.mpr ⟨p, hpm.1, by simp [finishPod]⟩)]
      refine List.map_congr_left fun x hx => ?_
      show (if x.pod.name = p.pod.name then finishPod (orc n) p else x) = _
      rw [hpm.2]
      by_cases hxn : x.pod.name = n
      · obtain rfl := huniq p hf x hx hxn
        simp only [List.mem_singleton, hxn, ↓reduceIte, sweepPod, hfin, Bool.false_eq_true]
      · simp only [List.mem_singleton, hxn, ↓reduceIte]

theorem sweepOne_steps (hk : ∀ s p, ok s (.kubelet p))
    (orc : String → Outcome) (n : String) (s0 s : Sys) (h : Steps ok j0 s0 s) : Steps ok j0 s0 (sweepOne orc s n) := by
  unfold sweepOne
  cases hf : findPod s.pods n with
  | none => exact h
  | some p =>
    simp only
    by_cases hfin : p.pod.isFinished = true
    · rw [if_pos hfin]; exact h
    · rw [if_neg hfin]
      refine .step _ h (hk _ _) ?_
      show OptSat (findPod s.pods (finishPod (orc n) p).pod.name) _
      rw [findPod_finishPod hf]
      exact kubeletOK_finish _ p (by simpa using hfin)

theorem foldl_sweepOne_steps (hk : ∀ s p, ok s (.kubelet p))
    (orc : String → Outcome) : ∀ (L : List String) (s0 s : Sys), Steps ok j0 s0 s →
      Steps ok j0 s0 (L.foldl (sweepOne orc) s)
  | [], _, _, h => h
  | n :: rest, s0, s, h => foldl_sweepOne_steps hk orc rest s0 _ (sweepOne_steps hk orc n s0 s h)

theorem sweep_steps (hk : ∀ s p, ok s (.kubelet p))
    (orc : String → Outcome) (s0 s : Sys) (h : Steps ok j0 s0 s) : Steps ok j0 s0 (sweep orc s) :=
  foldl_sweepOne_steps hk orc _ s0 s h

theorem foldl_sweepOne_eq (orc : String → Outcome) (L : List String) : ∀ (s : Sys), (podNames s.pods).Nodup →
    Swept s (L.foldl (sweepOne orc) s) ∧ (L.foldl (sweepOne orc) s).pods = sweepIn orc L s.pods := by
  induction L with
  | nil => exact fun s _ => ⟨.refl s, by simp [sweepIn]⟩
  | cons n rest ih =>
    intro s hnd
    obtain ⟨h1, p1⟩ := sweepOne_eq orc s n hnd
    obtain ⟨h2, p2⟩ := ih (sweepOne orc s n) (by rw [p1, podNames_sweepIn]; exact hnd)
    exact ⟨h1.trans h2, by rw [List.foldl_cons, p2, p1, sweepIn_cons]⟩

/-- **the sweep**: every pod is replaced by its finished version, by kubelet writes whose events take the
server's pods where they are now; nothing else changes -/
theorem sweep_swept (orc : String → Outcome) (s : Sys) (hnd : (podNames s.pods).Nodup) :
    Swept s (sweep orc s) ∧ (sweep orc s).pods = s.pods.map (sweepPod orc) := by
  obtain ⟨h, hp⟩ := foldl_sweepOne_eq orc (podNames s.pods) s hnd
  exact ⟨h, hp.trans (List.map_congr_left fun x hx => if_pos (List.mem_map.mpr ⟨x, hx, rfl⟩))⟩

/-- the latest of a base time and the deadlines of the work queue -/
def maxDl : List (String × Int) → Int → Int
  | [], m => m
  | e :: rest, m => maxDl rest (if m < e.2 then e.2 else m)

theorem maxDl_ge (l : List (String × Int)) : ∀ (m : Int), m ≤ maxDl l m ∧ ∀ e ∈ l, e.2 ≤ maxDl l m := by
  induction l with
  | nil => exact fun m => ⟨Int.le_refl _, fun e he => by cases he⟩
  | cons x rest ih =>
    intro m
    obtain ⟨h1, h2⟩ := ih (if m < x.2 then x.2 else m)
    have hm : m ≤ (if m < x.2 then x.2 else m) ∧ x.2 ≤ (if m < x.2 then x.2 else m) := by split <;> omega
    refine ⟨Int.le_trans hm.1 h1, fun e he => ?_⟩
    rcases List.mem_cons.mp he with rfl | he
    · exact Int.le_trans hm.2 h1
    · exact h2 e he

def jobUnfinished (s : Sys) : Bool :=
  match s.job with
  | some j => j.job.status.condition.finished.isNone
  | none => false

/-- while the Job is not finished, the clock moves to the latest armed deadline -/
def jump (s : Sys) : Sys :=
  if jobUnfinished s then step s (.advance (maxDl s.q.delayed s.clock - s.clock).toNat) else s

theorem jump_eq (s : Sys) : jump s = if jobUnfinished s then { s with clock := maxDl s.q.delayed s.clock } else s := by
  unfold jump
  split
  · show ({ s with clock := s.clock + ((maxDl s.q.delayed s.clock - s.clock).toNat : Int) } : Sys) = _
    have := (maxDl_ge s.q.delayed s.clock).1
    have h : s.clock + ((maxDl s.q.delayed s.clock - s.clock).toNat : Int) = maxDl s.q.delayed s.clock := by omega
    rw [h]
  · rfl

theorem jump_steps (ha : ∀ s d, ok s (.advance d))
    (s0 s : Sys) (h : Steps ok j0 s0 s) : Steps ok j0 s0 (jump s) := by
  unfold jump
  split
  · exact .step _ h (ha _ _) trivial
  · exact h

/-- the actions of a fair round: controller passes, informer deliveries, kubelet status writes, clock -/
def fairEnv (_ : Sys) (a : Action) : Prop :=
  match a with
  | .work | .deliverJob | .deliverPod | .advance _ | .kubelet _ => True
  | _ => False

instance (s : Sys) (a : Action) : Decidable (fairEnv s a) := by cases a <;> unfold fairEnv <;> infer_instance

/-- one fair round of environment and controller -/
def round (orc : String → Outcome) (s : Sys) : Sys :=
  deliverAll (step (jump (deliverAll (sweep orc (deliverAll s)))) .work)

def roundN (orc : String → Outcome) : Nat → Sys → Sys
  | 0, s => s
  | n + 1, s => roundN orc n (round orc s)

theorem env_steps (hok : ∀ s a, fairEnv s a → ok s a) (orc : String → Outcome) (s0 s : Sys) (h : Steps ok j0 s0 s) :
    Steps ok j0 s0 (deliverAll (sweep orc (deliverAll s))) :=
  have hj : ∀ s, ok s .deliverJob := fun s => hok s _ trivial
  have hp : ∀ s, ok s .deliverPod := fun s => hok s _ trivial
  deliverAll_steps hj hp s0 _ (sweep_steps (fun s p => hok s _ trivial) orc s0 _ (deliverAll_steps hj hp s0 _ h))

theorem round_steps (hok : ∀ s a, fairEnv s a → ok s a)
    (orc : String → Outcome) (s0 s : Sys) (h : Steps ok j0 s0 s) : Steps ok j0 s0 (round orc s) := by
  unfold round
  refine deliverAll_steps (fun s => hok s _ trivial) (fun s => hok s _ trivial) s0 _
    (.step .work ?_ (hok _ _ trivial) trivial)
  exact jump_steps (fun s d => hok s _ trivial) s0 _ (env_steps hok orc s0 s h)

theorem roundN_steps (hok : ∀ s a, fairEnv s a → ok s a)
    (orc : String → Outcome) : ∀ (n : Nat) (s0 s : Sys), Steps ok j0 s0 s → Steps ok j0 s0 (roundN orc n s)
  | 0, _, _, h => h
  | n + 1, s0, s, h => roundN_steps hok orc n s0 _ (round_steps hok orc s0 s h)

end Furiko.JobCtl.Live
