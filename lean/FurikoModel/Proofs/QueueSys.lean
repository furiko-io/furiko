/-
System-level facts about the per-config pass in states satisfying the invariant: every write
logged "ok" hit the authoritative version that equals the cached one; the counter stays exact
when it was exact; a Job changes only through such a write (`PassEffect`).
-/
import FurikoModel.Proofs.QueueCor
import FurikoModel.Proofs.QueueReach

set_option linter.unusedSimpArgs false
set_option linter.unusedVariables false

namespace Furiko.Queue
open Furiko.WQ

def Exact (s : Sys) : Prop := ∀ uid, getCtr s.counter uid = trueActive s uid

/-- what `syncConfig` guarantees about the list it iterates over -/
def QueuedIn (s : Sys) (jc : JCV) (rjs : List JobV) : Prop :=
  ∀ j ∈ rjs, j ∈ s.jobCache ∧ j.label = some jc.uid ∧ j.isQueued = true

/-- what an "ok" call did to the authoritative Job -/
def CallEffect (clock : Int) (c : Call) (j a : JobV) : Prop :=
  sameSpec j a ∧ a.terminal = false ∧
  ((c.verb = "start" ∧ due j clock ∧ a.startTime = some (clock / 1000000000) ∧ a.admErr = j.admErr) ∨
   (c.verb = "reject" ∧ j.hasPolicy = true ∧ j.policy = 1 ∧ due j clock ∧ a.admErr = true ∧
      a.startTime = none))

/-- The effect of a pass over `rjs` on the authoritative Jobs, call by call: a Job changes only
through a call logged "ok"; such a call was for a Job of the list that was the authoritative
version, and its effect is in the final list. -/
def PassEffect (clock : Int) (rjs jobs jobs' : List JobV) (cs : List Call) : Prop :=
  (∀ n, findJob jobs' n = findJob jobs n ∨ ∃ c ∈ cs, c.res = "ok" ∧ c.job = n) ∧
  (∀ c ∈ cs, c.res = "ok" → ∃ j ∈ rjs, j.name = c.job ∧ findJob jobs j.name = some j ∧
      ∃ a, findJob jobs' j.name = some a ∧ CallEffect clock c j a)

theorem PassEffect.none {clock : Int} {rjs jobs : List JobV} {cs : List Call}
    (h : ∀ c ∈ cs, c.res ≠ "ok") : PassEffect clock rjs jobs jobs cs :=
  ⟨fun _ => .inl rfl, fun c hc hok => absurd hok (h c hc)⟩

theorem PassEffect.skip {clock : Int} {j : JobV} {rest jobs jobs' : List JobV} {cs : List Call}
    (h : PassEffect clock rest jobs jobs' cs) : PassEffect clock (j :: rest) jobs jobs' cs :=
  ⟨h.1, fun c hc hok => (h.2 c hc hok).imp fun _ hx => ⟨List.mem_cons_of_mem _ hx.1, hx.2⟩⟩

/-- the head Job `j`, the authoritative version, gets the call `c` logged "ok", which turns it
into `a` and touches no other name; then the rest of the list is processed -/
theorem PassEffect.cons {clock : Int} {j a : JobV} {rest jobs jobs1 jobs' : List JobV} {c : Call}
    {cs : List Call} (hnd : (names (j :: rest)).Nodup) (hc : c.job = j.name) (hok : c.res = "ok")
    (hfr : ∀ n, n ≠ j.name → findJob jobs1 n = findJob jobs n)
    (hj : findJob jobs j.name = some j) (ha : findJob jobs1 j.name = some a)
    (he : CallEffect clock c j a) (h : PassEffect clock rest jobs1 jobs' cs) :
    PassEffect clock (j :: rest) jobs jobs' (c :: cs) := by
  simp only [names, List.map_cons, List.nodup_cons, List.mem_map, not_exists, not_and] at hnd
  -- the rest of the pass has no "ok" call for `j.name`: its calls are for Jobs of `rest`
  have hkeep : findJob jobs' j.name = some a := by
    rcases h.1 j.name with e | ⟨c', hc', hok', hn⟩
    · rw [e, ha]
    · obtain ⟨x, hx, hxn, _⟩ := h.2 c' hc' hok'
      exact absurd (hxn.trans hn) (hnd.1 x hx)
  refine ⟨fun n => ?_, fun c' hc' hok' => ?_⟩
  · by_cases hn : n = j.name
    · exact .inr ⟨c, List.mem_cons_self, hok, hc.trans hn.symm⟩
    · exact (h.1 n).elim (fun e => .inl (e.trans (hfr n hn)))
        (fun ⟨c', hc', h'⟩ => .inr ⟨c', List.mem_cons_of_mem _ hc', h'⟩)
  · rcases List.mem_cons.mp hc' with rfl | hc'
    · exact ⟨j, List.mem_cons_self, hc.symm, hj, a, hkeep, he⟩
    · obtain ⟨x, hx, hxn, hxf, r⟩ := h.2 c' hc' hok'
      exact ⟨x, List.mem_cons_of_mem _ hx, hxn, hfr x.name (hnd.1 x hx) ▸ hxf, r⟩

theorem Exact_applyReject {s : Sys} (h : Inv s) (he : Exact s) {j : JobV} (m : String × Int)
    (hf : findJob s.jobs j.name = some j) :
    Exact (applyWrite s "reject" j.name (rejectedJob s m j j)) := by
  intro uid
  have h1 := actCount_setJob (j := rejectedJob s m j j) uid h.jobsNodup hf
  have h2 : actInd (rejectedJob s m j j) uid = actInd j uid := rfl
  have := he uid
  simp only [trueActive_eq, applyWrite] at this ⊢
  omega

theorem Exact_applyStart {s : Sys} (h : Inv s) (he : Exact s) {jc : JCV} {j : JobV} {ac : Int}
    (hq : j.isQueued = true) (hl : j.label = some jc.uid)
    (hf : findJob s.jobs j.name = some j) (hcas : getCtr s.counter jc.uid = ac) :
    Exact { applyWrite s "start" j.name (startedJob s j j) with
              counter := setCtr s.counter jc.uid (ac + 1) } := by
  intro uid
  obtain ⟨hst, hterm⟩ := (isQueued_iff j).mp hq
  have h1 := actCount_setJob (j := startedJob s j j) uid h.jobsNodup hf
  have h2 : actInd j uid = 0 := by
    simp only [actInd, JobV.isActive, hst]; simp
  have h3 : actInd (startedJob s j j) uid = if jc.uid = uid then 1 else 0 := by
    simp only [actInd, startedJob, startF, JobV.isActive, JobV.isStarted, hl, hterm]
    by_cases hu : jc.uid = uid <;> simp [hu]
  have h4 := he uid
  have h5 := he jc.uid
  simp only [trueActive_eq] at h4 h5
  simp only [trueActive_eq, applyWrite, getCtr_setCtr]
  split
  · subst_vars; simp only [if_true] at h3; omega
  · rename_i hne; simp only [hne, if_false] at h3; omega

/-- a per-config pass from a state satisfying the invariant, over cached queued Jobs with distinct
names: the invariant holds afterwards, an exact counter stays exact, and every write that was
applied hit the authoritative version, which was the cached one -/
theorem Pass.sys {jc : JCV} {rjs : List JobV} {s : Sys} {ac : Int} {cs : List Call} {s' : Sys}
    {ok : Bool} (h : Pass jc rjs s ac cs s' ok) (hinv : Inv s) (hq : QueuedIn s jc rjs)
    (hnd : (names rjs).Nodup) :
    Inv s' ∧ (Exact s → Exact s') ∧ PassEffect s.clock rjs s.jobs s'.jobs cs := by
  have hrest : ∀ {j : JobV} {rest : List JobV} {s s1 : Sys}, s1.jobCache = s.jobCache →
      QueuedIn s jc (j :: rest) → QueuedIn s1 jc rest :=
    fun e hq x hx => e ▸ hq x (List.mem_cons_of_mem _ hx)
  induction h with
  | nil | casFail => exact ⟨hinv, id, .none (by simp)⟩
  | @defer j rest s ac cs s' ok hp hl hpass ih =>
    obtain ⟨i1, i2, i3⟩ := ih (Inv_congr hinv rfl hinv.ind) (hrest rfl hq) (List.nodup_cons.mp hnd).2
    exact ⟨i1, i2, i3.skip⟩
  | wait _ _ _ _ _ ih =>
    obtain ⟨i1, i2, i3⟩ := ih hinv (hrest rfl hq) (List.nodup_cons.mp hnd).2
    exact ⟨i1, i2, i3.skip⟩
  | @rejectFail j rest s ac res hp hl hpol hlim hres hwhy =>
    exact ⟨Inv_failWrite hinv "reject" j.name res s.counter (fun _ => rfl), id,
      .none (by simpa using hres)⟩
  | @startFail j rest s ac res hv hcas hres hwhy =>
    refine ⟨Inv_failWrite hinv "start" j.name res _ (getCtr_rollback hcas), fun he uid => ?_,
      .none (by simpa using hres)⟩
    simp only [failWrite, getCtr_rollback hcas]; exact he uid
  | @rejectOk j rest s ac cs s' ok cur hp hl hpol hlim hf hrv hnb hna hpass ih =>
    obtain ⟨hjc, hjl, hjq⟩ := hq j (by simp)
    obtain ⟨rfl, hinv1⟩ := Inv_applyReject hinv (rejMsg jc ac) hjc hjq hf hrv
    obtain ⟨hst, hterm⟩ := (isQueued_iff cur).mp hjq
    obtain ⟨i1, i2, i3⟩ := ih hinv1 (hrest rfl hq) (List.nodup_cons.mp hnd).2
    refine ⟨i1, fun he => i2 (Exact_applyReject hinv he _ hf), i3.cons hnd rfl rfl
      (fun _ => findJob_applyWrite_other s "reject" (nj := rejectedJob s (rejMsg jc ac) cur cur) hf rfl)
      hf (findJob_applyWrite_self s _ hf rfl) ⟨?_, hterm, .inr ⟨rfl, hp, hpol, fun hx => by simp [hl] at hx, rfl, ?_⟩⟩⟩
    · simp [sameSpec, rejectedJob, rejectF]
    · simpa [rejectedJob, rejectF, JobV.isStarted] using hst
  | @rejectNoop j rest s ac cs s' ok cur hp hl hpol hlim hf hrv hnb hna hnoop hpass ih =>
    obtain ⟨hjc, hjl, hjq⟩ := hq j (by simp)
    obtain rfl : cur = j := hinv.cached_eq_cur hjc hf hrv
    obtain ⟨hst, hterm⟩ := (isQueued_iff cur).mp hjq
    obtain ⟨i1, i2, i3⟩ := ih (Inv_failWrite hinv "reject" cur.name "ok" s.counter (fun _ => rfl))
      (hrest rfl hq) (List.nodup_cons.mp hnd).2
    refine ⟨i1, i2, i3.cons hnd rfl rfl (fun _ _ => rfl) hf hf
      ⟨sameSpec_refl _, hterm, .inr ⟨rfl, hp, hpol, fun hx => by simp [hl] at hx,
        rejectF_fix_admErr hnoop, by simpa [JobV.isStarted] using hst⟩⟩⟩
  | @startOk j rest s ac cs s' ok cur hv hcas hf hrv hnb hna hpass ih =>
    obtain ⟨hjc, hjl, hjq⟩ := hq j (by simp)
    obtain ⟨rfl, hinv1⟩ := Inv_applyStart hinv hjc hjq hf hrv _
      (fun uid => getCtr_setCtr_succ hcas uid _ hjl)
    obtain ⟨_, hterm⟩ := (isQueued_iff cur).mp hjq
    obtain ⟨i1, i2, i3⟩ := ih hinv1 (hrest rfl hq) (List.nodup_cons.mp hnd).2
    refine ⟨i1, fun he => i2 (Exact_applyStart hinv he hjq hjl hf hcas), i3.cons hnd rfl rfl
      (fun _ => findJob_applyWrite_other s "start" (nj := startedJob s cur cur) hf rfl)
      hf (findJob_applyWrite_self s _ hf rfl) ⟨?_, hterm, .inl ⟨rfl, hv.1, rfl, rfl⟩⟩⟩
    simp [sameSpec, startedJob, startF]
  -- a lost answer is outside the faults the invariant admits
  | rejectLost _ _ _ _ _ _ _ _ hna | rejectNoopLost _ _ _ _ _ _ _ _ hna _ | startLost _ _ _ _ _ _ hna =>
    exact absurd hna hinv.nextFault_ne_applied


theorem Inv_cfgPre {s : Sys} (h : Inv s) (q1 : WQ) : Inv (cfgPre s q1) := Inv_congr h rfl h.ind

theorem queuedIn_listQueued (s : Sys) (jc : JCV) : QueuedIn s jc (listQueued s.jobCache jc) :=
  fun j hj => listQueued_mem_props hj

/-- every call of a per-config worker step that was logged "ok" hit the authoritative Job, which
was identical to the cached queued version; its effect is in the final authoritative state -/
theorem Inv.workConfig_ok_calls {s : Sys} (h : Inv s) :
    ∀ c ∈ (workConfig s).1.calls, c.res = "ok" →
      ∃ j, findJob s.jobs c.job = some j ∧ j ∈ s.jobCache ∧ j.isQueued = true ∧
        ∃ a, findJob (workConfig s).1.jobs c.job = some a ∧ CallEffect s.clock c j a := by
  intro c hc hok
  rcases workConfig_cases s with ⟨h0, _⟩ | ⟨k, q1, jc, hg, hjc⟩
  · rw [h0] at hc; simp at hc
  · obtain ⟨s1, ok, hp, hw⟩ := workConfig_Pass hg hjc
    rw [hw] at hc ⊢
    have hq : QueuedIn (cfgPre s q1) jc (listQueued s.jobCache jc) := queuedIn_listQueued s jc
    obtain ⟨_, _, _, h4⟩ := hp.sys (Inv_cfgPre h q1) hq (nodup_names_listQueued jc h.cacheNodup)
    obtain ⟨j, hj, hn, hf, a, ha, hce⟩ := h4 c hc hok
    obtain ⟨hjc', _, hjq⟩ := hq j hj
    rw [hn] at hf ha
    exact ⟨j, hf, hjc', hjq, a, ha, hce⟩

/-- a quiet state: nothing undelivered, nothing pending for the store, no faults -/
structure Quiet (s : Sys) : Prop where
  evs : s.jobEvs = []
  storeQ : s.storeQ = []
  faults : s.faults = []

theorem Inv.cache_eq_jobs {s : Sys} (h : Inv s) (hev : s.jobEvs = []) : s.jobCache = s.jobs := by
  have := h.pipe; rw [hev] at this; exact this

/-- in a quiet state satisfying the invariant the pass of a per-config worker step succeeds and
keeps the counter exact -/
theorem Inv.quiet_workConfig {s : Sys} (h : Inv s) (hq : Quiet s) {k : String} (q1 : WQ) {jc : JCV}
    (hjc : findJC s.jcCache (keyName k) = some jc) :
    (syncConfig (cfgPre s q1) (keyName k)).2 = true ∧
    Exact (syncConfig (cfgPre s q1) (keyName k)).1 := by
  refine ⟨syncConfig_quiet (cfgPre s q1) (keyName k) hq.faults (h.cache_eq_jobs hq.evs)
    h.cacheNodup, ?_⟩
  obtain ⟨cs, hp⟩ := syncConfig_Pass (s := cfgPre s q1) (name := keyName k) hjc
  exact (hp.sys (Inv_cfgPre h q1) (queuedIn_listQueued (cfgPre s q1) jc)
    (nodup_names_listQueued jc h.cacheNodup)).2.1 (fun uid => h.quiescent_exact hq.evs hq.storeQ uid)


theorem Inv.due_startAfter {s : Sys} (h : Inv s) {j : JobV} (hj : j ∈ s.jobCache) {clock : Int}
    (hd : due j clock) : ∀ t, j.startAfter = some t → t * 1000000000 ≤ clock :=
  Furiko.Queue.due_startAfter hd (h.verWf j (Ver.cache hj)).2

theorem Reachable.reject_ok_sound {s : Sys} (h : Reachable s) (n : String)
    (hc : ⟨"reject", n, "ok"⟩ ∈ (workConfig s).1.calls) :
    ∃ j, findJob s.jobs n = some j ∧ j.isQueued = true ∧ j.hasPolicy = true ∧ j.policy = 1 ∧
      due j s.clock ∧
      ∃ a, findJob (workConfig s).1.jobs n = some a ∧ sameSpec j a ∧ a.admErr = true ∧
        a.isQueued = true := by
  obtain ⟨j, hf, hjc, hjq, a, ha, hspec, hterm, hce⟩ := h.inv.workConfig_ok_calls _ hc rfl
  rcases hce with ⟨hv, _⟩ | ⟨_, hp, hpol, hd, hadm, hst⟩
  · exact absurd (show "reject" = "start" from hv) (by decide)
  · exact ⟨j, hf, hjq, hp, hpol, hd, a, ha, hspec, hadm,
      by simp [JobV.isQueued, JobV.isStarted, hst, hterm]⟩

theorem Reachable.not_queued_never_started {s : Sys} (h : Reachable s) {n : String} {cur : JobV}
    (hcur : findJob s.jobs n = some cur) (hnq : cur.isQueued = false) :
    ⟨"start", n, "ok"⟩ ∉ (workConfig s).1.calls ∧
    ⟨"start", n, "ok"⟩ ∉ (workIndependent s).1.calls := by
  constructor
  · intro hc
    obtain ⟨j, hf, _, hjq, _⟩ := h.inv.workConfig_ok_calls _ hc rfl
    rw [show findJob s.jobs n = some j from hf] at hcur; cases hcur; rw [hnq] at hjq; cases hjq
  · intro hc
    rcases h.inv.workIndependent_step.2 with ⟨_, hno⟩ | ⟨j, _, hq, _, _, hf, _, hcalls⟩
    · exact hno _ hc rfl
    · rw [hcalls, List.mem_singleton] at hc
      injection hc with _ hn
      rw [hn, hf] at hcur; cases hcur; rw [hnq] at hq; cases hq

end Furiko.Queue
