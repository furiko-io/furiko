/-
How the authoritative Job object can disappear: for a Job that carries the delete-dependents
finalizer only through the `Update` of a pass that found no task (`goneSpec`), taken as the first and
only change of that pass.  Core Lean only.
-/
import FurikoModel.Proofs.JobCtlInvJob

set_option linter.unusedSimpArgs false
set_option linter.unusedVariables false

namespace Furiko.JobCtl
open Furiko Furiko.WQ

variable {j0 : JobObj} {s s' : Sys}

/-- why the object went -/
def GoneCause (s : Sys) (a : Action) (j : JobObj) : Prop :=
  a = .work ∧ s.jobCache = some j ∧ j.job.deletionTimestamp.isSome = true ∧
  ∃ sp, Frame s sp ∧ (sync sp j).2.2.1 = false

/-- one move away from a version that carries the finalizer: to a newer version that carries it, or the
object goes — and then it was the stored object of `s`, removed by the `Update` of a pass -/
theorem JobMove.from_finalized {a : Action} {cur : JobObj} {o : Option JobObj} (h : JobMove s a (some cur) o)
    (hfin : cur.finalizer = true) :
    (∃ x, o = some x ∧ s.rv < x.rv ∧ x.finalizer = true) ∨ (o = none ∧ s.job = some cur ∧ GoneCause s a cur) := by
  cases h with
  | goneUser _ _ hf => rw [hf] at hfin; cases hfin
  | goneTTL _ _ hf => rw [hf] at hfin; cases hfin
  | goneSpec _ sp ha hc hf hj0 hd hfz => exact .inr ⟨rfl, hj0, ha, hc, hd, sp, hf, hfz⟩
  | delMark _ t rv _ _ _ hrv => exact .inl ⟨_, rfl, hrv, hfin⟩
  | kill _ t rv _ hrv => exact .inl ⟨_, rfl, hrv, hfin⟩
  | ctlSpec _ sp rv _ _ _ hrv hnot =>
    refine .inl ⟨_, rfl, hrv, ?_⟩
    show (sync sp cur).2.2.1 = true
    cases hd : cur.job.deletionTimestamp with
    | none => rw [sync_fin_not_deleted sp cur hd]; exact hfin
    | some t =>
      cases hz : (sync sp cur).2.2.1 with
      | true => rfl
      | false => exact absurd ⟨by rw [hd]; rfl, hz⟩ hnot
  | ctlStatus _ sp rv _ _ _ hrv => exact .inl ⟨_, rfl, hrv, hfin⟩
  | ctlStatusOn jo sp rv0 rv _ _ _ hrv => exact .inl ⟨_, rfl, hrv, hfin⟩

theorem jobMoves_from_finalized {a : Action} {j : JobObj} (hb : Base j0 s)
    (hj : s.job = some j) (hfin : j.finalizer = true) {o : Option JobObj} (hm : JobMoves s a (some j) o) :
    o = some j ∨ (∃ x, o = some x ∧ s.rv < x.rv ∧ x.finalizer = true) ∨ (o = none ∧ GoneCause s a j) := by
  have hjrv : j.rv ≤ s.rv := (hb.jobOK j hj).2
  suffices hgen : ∀ src o, JobMoves s a src o → src = some j →
      (o = some j ∨ (∃ x, o = some x ∧ s.rv < x.rv ∧ x.finalizer = true) ∨ (o = none ∧ GoneCause s a j)) from
    hgen _ _ hm rfl
  intro src o hm
  induction hm with
  | refl => intro hsrc; exact Or.inl hsrc
  | tail hms hmv ih =>
    intro hsrc
    rcases ih hsrc with rfl | ⟨x, rfl, hxrv, hxf⟩ | ⟨rfl, _⟩
    · rcases hmv.from_finalized hfin with h | ⟨h, _, hc⟩
      · exact .inr (.inl h)
      · exact .inr (.inr ⟨h, hc⟩)
    · -- a later move, from a version written during this step: that is not the stored object of `s`
      rcases hmv.from_finalized hxf with h | ⟨_, hx, _⟩
      · exact .inr (.inl h)
      · cases hj.symm.trans hx
        omega
    · cases hmv

theorem apiUpdateJob_pods (s : Sys) (c n : JobObj) : (apiUpdateJob s c n).1.pods = s.pods := by
  rcases apiUpdateJob_spec s c n with h | ⟨_, _, _, h | h⟩
  · exact h.pods
  · exact h.1.pods
  · exact h.1.pods

theorem apiUpdateJobStatus_pods (s : Sys) (c n : JobObj) : (apiUpdateJobStatus s c n).1.pods = s.pods := by
  rcases apiUpdateJobStatus_spec s c n with h | ⟨_, _, _, h⟩
  · exact h.pods
  · exact h.pods

/-- after `sync`, a pass issues no pod call -/
theorem syncOne_pods_eq (s : Sys) (jo : JobObj) (hc : s.jobCache = some jo) :
    (syncOne s).1.pods = (sync s jo).1.pods := by
  unfold syncOne
  simp only [hc]
  generalize sync s jo = r1
  obtain ⟨s1, newJob, newFin, syncOk, nullTime⟩ := r1
  simp only
  have h2 : (if (newJob.admissionError ≠ jo.job.admissionError || newFin ≠ jo.finalizer) = true then
        apiUpdateJob s1 jo { jo with job := newJob, finalizer := newFin } else (s1, true)).1.pods = s1.pods := by
    split
    · rw [apiUpdateJob_pods]
    · rfl
  generalize (if (newJob.admissionError ≠ jo.job.admissionError || newFin ≠ jo.finalizer) = true then
        apiUpdateJob s1 jo { jo with job := newJob, finalizer := newFin } else (s1, true)) = r2 at h2 ⊢
  obtain ⟨s2, ok1⟩ := r2
  simp only at h2 ⊢
  cases ok1 with
  | false => simp only [Bool.not_false, ↓reduceIte]; exact h2
  | true =>
    simp only [Bool.not_true, Bool.false_eq_true, ↓reduceIte]
    have h3 : (if (decide (newJob.status ≠ jo.job.status) || nullTime) = true then
        apiUpdateJobStatus s2 (statusBase s2 jo (newJob.admissionError ≠ jo.job.admissionError || newFin ≠ jo.finalizer))
          { jo with job := newJob } else (s2, true)).1.pods = s1.pods := by
      split
      · rw [apiUpdateJobStatus_pods]; exact h2
      · exact h2
    generalize (if (decide (newJob.status ≠ jo.job.status) || nullTime) = true then
        apiUpdateJobStatus s2 (statusBase s2 jo (newJob.admissionError ≠ jo.job.admissionError || newFin ≠ jo.finalizer))
          { jo with job := newJob } else (s2, true)) = r3 at h3 ⊢
    obtain ⟨s3, ok2⟩ := r3
    simp only at h3 ⊢
    cases ok2 <;> exact h3

theorem work_pods (s : Sys) (jo : JobObj) (hc : s.jobCache = some jo)
    (hfr : ∀ sp, Frame s sp → Frame sp (sync sp jo).1) : (work s).1.pods = s.pods := by
  unfold work
  simp only
  cases hg : (s.q.advance s.clock).get with
  | none => rfl
  | some v =>
    obtain ⟨k, q1⟩ := v
    (try simp only)
    have hf1 : Frame s { s with q := q1, calls := [], delRun := none } :=
      ⟨⟨rfl, rfl, rfl, rfl, rfl⟩, rfl, rfl, rfl, rfl, rfl⟩
    have := (syncOne_pods_eq { s with q := q1, calls := [], delRun := none } jo hc).trans (hfr _ hf1).pods
    generalize syncOne { s with q := q1, calls := [], delRun := none } = r at this ⊢
    obtain ⟨s1, ok⟩ := r
    exact this

/-- A Job that carries the finalizer leaves the API only through a pass that runs on exactly this
object, finds it being deleted, and finds none of `finalizerTasks`: no task of its status — neither
in the pod cache nor, by a live GET for EVERY listed task, on the server — and no unrecorded task
of the Job in the pod cache; that pass issues no pod call. -/
theorem gone_only_when_no_task (hb : Base j0 s) (a : Action) (hal : Allowed j0 s a)
    (j : JobObj) (hj : s.job = some j) (hfin : j.finalizer = true) (hgone : (step s a).job = none) :
    a = .work ∧ s.jobCache = some j ∧ j.job.deletionTimestamp.isSome = true ∧
    finalizerTasks s j j.job = [] ∧ (step s a).pods = s.pods := by
  have hm := job_moves hb a hal
  rw [hj, hgone] at hm
  rcases jobMoves_from_finalized hb hj hfin hm with h | ⟨x, h, _⟩ | ⟨_, ha, hc, hd, sp, hf, hz⟩
  · cases h
  · cases h
  · have hnone : finalizerTasks s j j.job = [] := by
      rcases sync_fin_deleted sp j hd with hk | hk
      · rw [hk.1, hfin] at hz; cases hz
      · rw [← finalizerTasks_frame hf]; exact hk.2.2.1
    refine ⟨ha, hc, hd, hnone, ?_⟩
    subst ha
    show (work s).1.pods = s.pods
    refine work_pods s j hc ?_
    intro sp' hf'
    exact (sync_deleted_no_tasks sp' j hd hfin (by rw [finalizerTasks_frame hf']; exact hnone)).2

/-- … and until then the finalizer stays on the object -/
theorem finalizer_kept (hb : Base j0 s) (a : Action) (hal : Allowed j0 s a)
    (j j' : JobObj) (hj : s.job = some j) (hfin : j.finalizer = true) (hj' : (step s a).job = some j') :
    j'.finalizer = true := by
  have hm := job_moves hb a hal
  rw [hj, hj'] at hm
  rcases jobMoves_from_finalized hb hj hfin hm with h | ⟨x, h, _, hx⟩ | ⟨h, _⟩
  · cases h; exact hfin
  · cases h; exact hx
  · cases h

end Furiko.JobCtl
