/-
Termination of the pop loop (every Pop uses the tick's `now`): a potential that strictly decreases with every
pop.  `keyPot` of a key is the number of pops it can still cause (its number of due times for a
well-formed key, 1 for a due key that will be dropped).
-/
import FurikoModel.Proofs.CronTick
import FurikoModel.Proofs.CronRun

namespace Furiko.Cron
open Furiko

def heapKeys (pq : Heap.PQ) : List String := pq.queue.toList.map (fun it => it.name)

/-- (extra heap fact, proved here from the definitions of `Heap.Inv` and `Heap.search`)
every key with an entry is the name of an array element -/
theorem heap_extra_keys_cover {pq : Heap.PQ} (h : Heap.Inv pq) {k : String} {p : Int}
    (hk : Heap.search pq k = some p) : k ∈ heapKeys pq := by
  unfold Heap.search Heap.PQ.search at hk
  cases hn : pq.names k with
  | none => simp [hn] at hk
  | some idx =>
    obtain ⟨hlt, hname⟩ := h.1.2 k idx hn
    unfold heapKeys
    refine List.mem_map.2 ⟨pq.queue[idx], ?_, hname⟩
    exact Array.mem_toList_iff.2 (Array.getElem_mem hlt)

/-- number of pops key `k` can still cause in this tick, given its entry -/
def keyPot (lister : List (String × JC)) (nowS : Int) (k : String) (ent : Option Int) : Nat :=
  match ent with
  | none => 0
  | some t =>
    match lookup lister k with
    | some jc =>
      if jc.sched.enabled && !jc.sched.parseErr then (dueList jc.nextAfter nowS t).length
      else if t ≤ nowS then 1 else 0
    | none => if t ≤ nowS then 1 else 0

def totalPot (lister : List (String × JC)) (nowS : Int) (ks : List String) (heap : Heap.PQ) :
    Nat :=
  (ks.map (fun k => keyPot lister nowS k (Heap.search heap k))).sum

theorem sum_map_lt {α : Type} (f g : α → Nat) (ks : List α) (hle : ∀ k ∈ ks, f k ≤ g k) :
    (ks.map f).sum ≤ (ks.map g).sum ∧
    ((∃ k ∈ ks, f k < g k) → (ks.map f).sum < (ks.map g).sum) := by
  induction ks with
  | nil => exact ⟨Nat.le_refl _, fun ⟨_, hk, _⟩ => nomatch hk⟩
  | cons a t ih =>
    have ha := hle a (List.mem_cons_self ..)
    have ih := ih (fun k hk => hle k (List.mem_cons_of_mem _ hk))
    simp only [List.map_cons, List.sum_cons]
    refine ⟨by omega, fun ⟨k, hk, hlt⟩ => ?_⟩
    rcases List.mem_cons.1 hk with rfl | hk
    · omega
    · have := ih.2 ⟨k, hk, hlt⟩; omega

theorem keyPot_kstep_lt {lister : List (String × JC)} (hL : ListerOK lister) (nowS cap : Int)
    (k : String) (ts : Int) (hts : ts ≤ nowS) (s : KState) :
    keyPot lister nowS k (kstep (lookup lister k) nowS cap ts s).ent
      < keyPot lister nowS k (some ts) := by
  unfold kstep
  cases hlk : lookup lister k with
  | none => simp [keyPot, hlk, hts]
  | some jc =>
    have hsp := JC.nextAfter_spec (lookup_ok hL hlk).2
    by_cases hact : (jc.sched.enabled && !jc.sched.parseErr) = true
    · have hbe : ∀ x, bumpEnt jc x = jc.nextAfter x := fun x => by simp [bumpEnt, hact]
      have hpot : ∀ ent, keyPot lister nowS k ent = (rem jc.nextAfter nowS ent).length := by
        intro ent
        cases ent with
        | none => rfl
        | some t => simp [keyPot, hlk, hact, rem]
      simp only [hpot, hbe]
      have hcur : rem jc.nextAfter nowS (some ts) = ts :: rem jc.nextAfter nowS (jc.nextAfter ts) :=
        dueList_of_le hsp hts
      rw [hcur]
      by_cases hcap : (s.cnt : Int) ≥ cap
      · simp only [hcap, if_true]
        rw [rem_eq_nil_of_gt _ _ _ (fun t ht => ((hsp nowS).1 t ht).1)]
        simp
      · simp only [hcap, if_false]
        simp
    · have hbe : ∀ x, bumpEnt jc x = none := fun x => by simp [bumpEnt, hact]
      have : keyPot lister nowS k (some ts) = 1 := by simp [keyPot, hlk, hact, hts]
      rw [this]
      by_cases hcap : (s.cnt : Int) ≥ cap
      · simp [hcap, hbe, keyPot]
      · simp [hcap, hbe, keyPot]

theorem workLoop_terminates {lister : List (String × JC)} {now : Int} {cap : Int}
    (hL : ListerOK lister) (ks : List String) :
    ∀ (fuel : Nat) (heap : Heap.PQ) (counts : List (String × Nat))
      (acc : List (String × Int)),
      Heap.Inv heap → (∀ k p, Heap.search heap k = some p → k ∈ ks) →
      totalPot lister (floorSec now) ks heap < fuel →
      (workLoop lister now cap fuel heap counts acc).2.2 = true := by
  intro fuel
  induction fuel with
  | zero => intro _ _ _ _ _ h; omega
  | succ fuel ih =>
    intro heap counts acc hInv hcov hpot
    unfold workLoop
    cases hpop : schedPop heap now with
    | none => rfl
    | some r =>
      obtain ⟨h1, key, ts⟩ := r
      obtain ⟨hsk, hts', hInv', hv⟩ := pop_sync_view hInv hL hpop counts cap acc.reverse
      have hent : ∀ k, Heap.search (syncOne h1 lister now key ts counts cap).1 k
          = if k = key then (kstep (lookup lister key) (floorSec now) cap ts
              (view heap counts acc.reverse key)).ent
            else Heap.search heap k := by
        intro k
        have := congrArg KState.ent (hv k)
        split at this <;> simpa [view, *] using this
      simp only []
      apply ih
      · exact hInv'
      · intro k p hk
        rw [hent k] at hk
        by_cases hkk : k = key
        · subst hkk; exact hcov k ts hsk
        · rw [if_neg hkk] at hk; exact hcov k p hk
      · have hlt : totalPot lister (floorSec now) ks (syncOne h1 lister now key ts counts cap).1
            < totalPot lister (floorSec now) ks heap := by
          refine (sum_map_lt _ _ ks fun k _ => ?_).2 ⟨key, hcov key ts hsk, ?_⟩
          · rw [hent k]
            by_cases hkk : k = key
            · subst hkk
              rw [if_pos rfl, hsk]
              exact Nat.le_of_lt (keyPot_kstep_lt hL _ cap k ts hts' _)
            · rw [if_neg hkk]; exact Nat.le_refl _
          · rw [hent key, if_pos rfl, hsk]
            exact keyPot_kstep_lt hL _ cap key ts hts' _
        omega

end Furiko.Cron
