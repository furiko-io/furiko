/-! `List.lookup` on association lists whose keys are pairwise distinct: membership and lookup agree, so the
lookup does not depend on the order of the entries.  Used for Go maps enumerated in some order (the matrix of a
parallelism spec, substitution maps).  Also: duplicate-free lists under maps injective on their elements; folds of ordered insertions. -/
namespace List
variable {α β : Type} [BEq α] [LawfulBEq α] {l l' : List (α × β)} {k : α} {v : β}

theorem mem_of_lookup_eq_some (h : l.lookup k = some v) : (k, v) ∈ l := by
  induction l with
  | nil => simp at h
  | cons e rest ih =>
    obtain ⟨k', v'⟩ := e
    rw [lookup_cons] at h
    split at h
    · next hk => cases h; cases eq_of_beq hk; exact mem_cons_self
    · exact mem_cons_of_mem _ (ih h)

theorem lookup_eq_some_of_mem (hn : (l.map (·.1)).Nodup) (h : (k, v) ∈ l) : l.lookup k = some v := by
  induction l with
  | nil => simp at h
  | cons e rest ih =>
    obtain ⟨k', v'⟩ := e
    simp only [map_cons, nodup_cons] at hn
    rw [lookup_cons]
    rcases mem_cons.1 h with heq | hmem
    · cases heq; simp
    · have hk : (k == k') = false := by
        rw [beq_eq_false_iff_ne]
        rintro rfl
        exact hn.1 (mem_map.2 ⟨(k, v), hmem, rfl⟩)
      rw [hk]
      exact ih hn.2 hmem

theorem Perm.lookup_eq (hn : (l.map (·.1)).Nodup) (h : l.Perm l') (k : α) : l.lookup k = l'.lookup k := by
  have hn' : (l'.map (·.1)).Nodup := (h.map _).nodup hn
  cases h1 : l.lookup k with
  | some v => exact (lookup_eq_some_of_mem hn' (h.subset (mem_of_lookup_eq_some h1))).symm
  | none =>
    cases h2 : l'.lookup k with
    | none => rfl
    | some v => rw [lookup_eq_some_of_mem hn (h.symm.subset (mem_of_lookup_eq_some h2))] at h1; cases h1

theorem Nodup.map_of_inj {γ δ : Type} {f : γ → δ} {xs : List γ} (hn : xs.Nodup)
    (hinj : ∀ a ∈ xs, ∀ b ∈ xs, f a = f b → a = b) : (xs.map f).Nodup := by
  induction xs with
  | nil => simp
  | cons x xs ih =>
    have hx := nodup_cons.1 hn
    simp only [map_cons, nodup_cons, mem_map, not_exists, not_and]
    refine ⟨fun y hy e => ?_, ih hx.2 (fun a ha b hb => hinj a (mem_cons_of_mem _ ha) b (mem_cons_of_mem _ hb))⟩
    have := hinj y (mem_cons_of_mem _ hy) x mem_cons_self e
    exact hx.1 (this ▸ hy)

/-- a fold of insertions that only order (`ins a l` is a permutation of `a :: l`) permutes -/
theorem foldl_insert_perm {γ : Type} (ins : γ → List γ → List γ) (hins : ∀ a l, (ins a l).Perm (a :: l)) :
    ∀ xs acc : List γ, (xs.foldl (fun acc a => ins a acc) acc).Perm (xs ++ acc)
  | [], _ => .refl _
  | a :: xs, acc =>
    (foldl_insert_perm ins hins xs (ins a acc)).trans (((hins a acc).append_left xs).trans perm_middle)

end List
