/-
The core of the stability theorems: a pass on a cached Job whose stored condition is `Finished` with
result / finish time `k` (Job not being deleted, no kill timestamp, no admission error) computes a
status whose condition is `Finished` with the same `k` (`stable_sync`); from it the same for one step and
for every continuation of a history inside `stabEnvF` (`stable_step`, `stable_steps`).  Last, a decidable
form of the envelope (`stabCheckedF`), to evaluate it on concrete histories.  Core Lean only.
-/
import FurikoModel.Proofs.JobCtlInvStabStep

set_option linter.unusedSimpArgs false
set_option linter.unusedVariables false

namespace Furiko.JobCtl
open Furiko Furiko.WQ Furiko.StatusLemmas Furiko.ConditionLemmas

variable {j0 : JobObj} {s s' : Sys}

theorem finKey_some {c : Condition} {k : JobResult × Option Time} (h : finKey c = some k) :
    ∃ f, c.finished = some f ∧ k = (f.result, f.finishTimestamp) := by
  unfold finKey at h
  cases hf : c.finished with
  | none => simp [hf] at h
  | some f => simp only [hf, Option.map_some, Option.some.injEq] at h; exact ⟨f, rfl, h.symm⟩

theorem finished_all_refs {d : PIndex} {now : Time} {rj : Job} {k : JobResult × Option Time}
    (hg : Good j0 d rj) (htm : rj.template = j0.job.template) (ha : rj.admissionError = false)
    (hk : rj.killTimestamp = none) (h : finKey (getCondition now d rj) = some k) :
    (∀ r ∈ rj.status.tasks, r.finishTimestamp.isSome = true) ∧
    (getParallelTaskSummary d rj rj.status.tasks).complete = true := by
  obtain ⟨f, hf, _⟩ := finKey_some h
  rcases getCondition_finished now d rj f hf with h1 | h1
  · rw [ha] at h1; cases h1.1
  · obtain ⟨_, _, hterm, hres⟩ := h1
    have hkill : isTimeSetAndEarlierOrEqual now rj.killTimestamp = false := by rw [hk]; rfl
    rcases hres with h2 | h2
    · rw [hkill] at h2; cases h2.1
    · refine ⟨?_, h2.2.1⟩
      have hall := (terminated_ge_iff d rj rj.status.tasks).mp hterm
      intro r hr
      obtain ⟨⟨i, hi, hp, _⟩, _⟩ := hg.refs r hr
      have hi' : i ∈ rj.indexes d := by rw [indexes_of_template htm]; exact hi
      refine hall i hi' r hr ?_
      unfold TaskRef.hash TaskRef.index
      rw [hp]; rfl

theorem getParallelTaskSummary_congr (d : PIndex) (job : Job) (a b : List TaskRef)
    (h : ∀ i : PIndex, getIndexStatus i i.hash (tasksOfHash d b i.hash) job.maxAttempts =
      getIndexStatus i i.hash (tasksOfHash d a i.hash) job.maxAttempts) :
    getParallelTaskSummary d job b = getParallelTaskSummary d job a := by
  have : indexStatuses d job b = indexStatuses d job a := by
    unfold indexStatuses
    apply List.map_congr_left
    intro i _
    exact h i
  unfold getParallelTaskSummary
  rw [this]

/-- One pass keeps a `Finished` condition's result and finish time. -/
theorem stable_sync {j0 jo : JobObj} {sp : Sys} (ctx : PassCtx j0 sp) (hwf : WF2 j0 sp.d) (hjo : VerOK j0 jo)
    (hg : Good j0 sp.d jo.job) (hv : VerOK3 sp.d jo)
    (hfin : ∀ r ∈ jo.job.status.tasks, r.finishTimestamp.isSome = true → PodFinIn sp.pods r.name)
    (htm : j0.job.template.isSome = true) (hnd : jo.job.deletionTimestamp = none) (hnu : NoUnrec sp jo)
    (k : JobResult × Option Time) (hk : finKey jo.job.status.condition = some k) :
    finKey (sync sp jo).2.1.status.condition = some k := by
  have htm' : jo.job.template.isSome = true := by rw [hjo.template]; exact htm
  obtain ⟨f, hf, hkf⟩ := finKey_some hk
  obtain ⟨hstart, t, hcomp⟩ := hv.coh hnd f hf
  rw [← hkf] at hcomp
  obtain ⟨hres, hnames, _, hcond⟩ := sync_res sp jo ctx hwf hjo hg hv.rs hfin hv.coh hv.noAdm htm'
  have hle := (sync_spec sp jo sp (CreatePhase.refl _)).2
  rcases hcond with heq | hcond
  · rw [heq]; exact hk
  · have hdel : (sync sp jo).2.1.deletionTimestamp = none := by rw [hle.del]; exact hnd
    rw [hcond hdel]
    -- all recorded refs are finished and the summary is complete
    obtain ⟨hallfin, hcomplete⟩ := finished_all_refs hg hjo.template hv.noAdm hv.noKill hcomp
    -- the refreshed refs of the completion check are complete too
    have htf := tasksForRefs_good (jo := jo) ctx.pods hjo.uid jo.job.status.tasks hg.nodup
    have hN0 : ∀ r ∈ jo.job.status.tasks, r.name ∈ passNames sp jo :=
      fun r hr => List.mem_append_left _ (List.mem_map_of_mem hr)
    have hsem := tasksForRefs_refsOK (jo := jo) ctx hjo.uid (passNames sp jo) jo.job.status.tasks hg.nodup hv.rs hfin hN0
    have hu := updateJobTaskRefs_g3 sp.clock jo.job hg hsem.2 htf.1 hsem.1
    have hsame0 : SameFinished j0 sp.d jo.job (updateJobTaskRefs sp.clock jo.job (tasksForRefs sp jo jo.job.status.tasks)) :=
      ⟨hg, hu.good, generateTaskRefs_names sp.clock _ _ (fun t ht => (htf.1.ok t ht).1), by
        intro n hn
        rcases hu.names n hn with h | h
        · exact h
        · exact htf.2 n h, hu.froz, hallfin⟩
    have hcomplete0 : (getParallelTaskSummary sp.d jo.job (generateTaskRefs sp.clock jo.job.status.tasks
        (tasksForRefs sp jo jo.job.status.tasks))).complete = true := by
      have := getParallelTaskSummary_congr sp.d jo.job jo.job.status.tasks
        (generateTaskRefs sp.clock jo.job.status.tasks (tasksForRefs sp jo jo.job.status.tasks))
        (hsame0.view hwf jo.job.maxAttempts).1
      rw [this]; exact hcomplete
    -- hence no name was added, and every finished ref is frozen
    have hsame : SameFinished j0 sp.d jo.job (sync sp jo).2.1 :=
      ⟨hg, hres.good, hle.names, (hnames (Or.inl ⟨hcomplete0, hnu⟩)).1 hnd, hres.froz, hallfin⟩
    have hview := hsame.view hwf jo.job.maxAttempts
    have hkey := getCondition_finKey_congr sp.clock sp.d jo.job (sync sp jo).2.1 hv.noAdm
      (by rw [hres.adm]; exact hv.noAdm) hstart hle.startTime hle.kill hle.template
      (fun i _ => hview.1 i) hview.2
    rw [hkey, getCondition_now_irrel sp.clock t sp.d jo.job hv.noAdm hv.noKill]
    exact hcomp

/-- the stability clauses between an earlier version `j` and a later version `j'` of the Job object: if
`j'` is not being deleted, `j` was not either, and a `Finished` condition stored in `j` with result /
finish time `k` is stored in `j'` with the same `k` -/
def StableFrom (j j' : JobObj) : Prop :=
  j'.job.deletionTimestamp = none →
    j.job.deletionTimestamp = none ∧
    ∀ k, finKey j.job.status.condition = some k → finKey j'.job.status.condition = some k

theorem stable_moves {j0 : JobObj} {s : Sys} {a : Action} (hb : Base j0 s) (h2 : Inv2 j0 s) (ho : Owned j0 s) (h3 : Inv3G s)
    (hwf : WF2 j0 s.d) (hwf3 : WF3 j0) (henv : stabEnvF s a) (j : JobObj) (hj : s.job = some j)
    {o : Option JobObj} (hm : JobMoves s a (some j) o) : ∀ y, o = some y → StableFrom j y := by
  have h3' := h3 (by rw [hj]; rfl)
  suffices hgen : ∀ src o, JobMoves s a src o → src = some j → ∀ y, o = some y → StableFrom j y from
    hgen _ _ hm rfl
  intro src o hm
  induction hm with
  | refl => intro hsrc y hy; rw [hsrc] at hy; cases hy; exact fun hd => ⟨hd, fun k hk => hk⟩
  | tail hms hmv ih =>
    intro hsrc y hy
    obtain ⟨cur, rfl⟩ := hmv.src
    subst hy
    have hprev := ih hsrc cur rfl
    rcases hmv.some_cases with ⟨hst, _, hdel, _⟩ | ⟨jo, sp, rv, ha, hc, hf, hpc, rfl⟩
    · intro hd
      obtain ⟨hjd0, hkeys⟩ := hprev (hdel hd)
      exact ⟨hjd0, fun k hk => by rw [hst]; exact hkeys k hk⟩
    · intro hd
      -- the object the status is written over carries the status of the cached Job
      obtain ⟨e1, _, e3, _⟩ := hpc.agree
      have hjd : jo.job.deletionTimestamp = none := e3 ▸ hd
      obtain ⟨hjd0, hkeys⟩ := hprev hd
      refine ⟨hjd0, fun k hk => ?_⟩
      have hk' : finKey jo.job.status.condition = some k := e1 ▸ hkeys k hk
      obtain ⟨hjo, hg, hv, ctx, hfin⟩ := passCtx_of_inv hb h2 ho h3' hc hf
      have hnu : NoUnrec sp jo := by
        obtain ⟨f, hff, _⟩ := finKey_some hk'
        have := henv.2 ha jo hc (by rw [hff]; rfl)
        intro p hp
        have h' := this p (hf.podCache ▸ hp)
        rw [← hf.clock] at h'; exact h'
      exact stable_sync ctx (hf.d ▸ hwf) hjo hg hv hfin hwf3.tmpl hjd hnu k hk'

/-- one step inside the envelope: a non-deleted Job that is `Finished` with result / finish time `k`
is, after the step (if the object still exists and is not being deleted), `Finished` with the same `k` -/
theorem stable_step {ok : Sys → Action → Prop} (hok : ∀ s a, ok s a → stabEnvF s a)
    (hr : Reach ok j0 s) (hwf : WF2 j0 s.d) (hwf3 : WF3 j0) (a : Action) (hoka : ok s a) (hal : Allowed j0 s a)
    (j j' : JobObj) (hj : s.job = some j) (hj' : (step s a).job = some j') : StableFrom j j' := by
  have hb := base_of_reach hr
  have h2 := inv2_of_reach hr hwf
  have ho := owned_of_reach (fun s a h => (hok s a h).1.1) hr
  have h3 := inv3_of_reach (fun s a h => (hok s a h).1) hr hwf hwf3
  have hm := job_moves hb a hal
  rw [hj] at hm
  exact stable_moves hb h2 ho h3 hwf hwf3 (hok s a hoka) j hj hm j' hj'

/-- … and along every continuation of the history inside the envelope -/
theorem stable_steps {ok : Sys → Action → Prop} (hok : ∀ s a, ok s a → stabEnvF s a)
    (hr : Reach ok j0 s) (hwf : WF2 j0 s.d) (hwf3 : WF3 j0) (hs : Steps ok j0 s s') :
    ∀ j j', s.job = some j → s'.job = some j' → StableFrom j j' := by
  induction hs with
  | refl => intro j j' h1 h2; rw [h1] at h2; cases h2; exact fun hd => ⟨hd, fun k hk => hk⟩
  | step a hs' hoka hal ih =>
    intro j j' h1 h2
    rename_i s''
    have hr'' := hr.steps hs'
    cases hj : s''.job with
    | none => rw [step_job_none hr'' a hal hj] at h2; cases h2
    | some j'' =>
      have hstep := stable_step hok hr'' (by rw [steps_d hs']; exact hwf) hwf3 a hoka hal j'' j' hj h2
      intro hd
      obtain ⟨hd'', hk''⟩ := hstep hd
      obtain ⟨hd0, hk0⟩ := ih j j'' h1 hj hd''
      exact ⟨hd0, fun k hk => hk'' k (hk0 k hk)⟩

def freshNameB (s : Sys) (n : String) : Bool :=
  !((match s.job with
      | some j => refNames j.job
      | none => []).contains n) && !((podNames s.podCache).contains n) && !((podEvNames s.podEvs).contains n)

theorem freshName_of_b {n : String} (h : freshNameB s n = true) : FreshName s n := by
  unfold freshNameB at h
  simp only [Bool.and_eq_true, Bool.not_eq_true', ← Bool.not_eq_true, List.contains_iff_mem] at h
  refine ⟨?_, h.1.2, h.2⟩
  intro j hj hm
  rw [hj] at h
  exact h.1.1 hm

/-- every creation request computed from the cached Job names a pod that is on the server or fresh -/
def noStaleCheck (s : Sys) : Bool :=
  match s.jobCache with
  | none => true
  | some jo =>
    match computeMissingIndexesForCreation s.d jo.job (jo.job.indexes s.d) with
    | none => true
    | some reqs => reqs.all (fun r =>
        (podNames s.pods).contains (taskName jo.name r.index.hash r.retryIndex) ||
        freshNameB s (taskName jo.name r.index.hash r.retryIndex))

theorem noStale_of_check (h : noStaleCheck s = true) : noStaleCopyOnCreate s .work := by
  intro _ _ _ jo idx retry hc hreq hn
  obtain ⟨_, _, _, reqs, e, hreqs, hmem⟩ := hreq
  unfold noStaleCheck at h
  simp only [hc, hreqs, List.all_eq_true, Bool.or_eq_true] at h
  rcases h _ hmem with h' | h'
  · rw [List.contains_iff_mem] at h'; exact absurd h' hn
  · exact freshName_of_b h'

/-- the pod cache holds no unrecorded task of a cached Job that is recorded `Finished` -/
def noUnrecCheck (s : Sys) : Bool :=
  match s.jobCache with
  | none => true
  | some jo =>
    !jo.job.status.condition.finished.isSome ||
      s.podCache.all (fun p =>
        !(decide (p.jobLabel = some jo.uid) && decide (p.ownerUid = some jo.uid) &&
          !(jo.job.status.tasks.any (·.name = p.pod.name))) || (podTask s.clock p).isNone)

theorem noUnrec_of_check (h : noUnrecCheck s = true) : noUnrecordedWhenFinished s .work := by
  intro _ jo hc hfin p hp hl ho hn
  unfold noUnrecCheck at h
  simp only [hc, hfin, Bool.not_true, Bool.false_or, List.all_eq_true] at h
  have hp' := h p hp
  have hcond : (decide (p.jobLabel = some jo.uid) && decide (p.ownerUid = some jo.uid) &&
      !(jo.job.status.tasks.any (·.name = p.pod.name))) = true := by
    simp only [Bool.and_eq_true, decide_eq_true_eq, Bool.not_eq_true', List.any_eq_false]
    exact ⟨⟨hl, ho⟩, fun r hr => by simpa using hn r hr⟩
  rw [hcond] at hp'
  simpa using hp'

/-- the decidable filter: no foreign pod, no user kill / delete, and before every pass `noStaleCheck` -/
def stabChecked (s : Sys) (a : Action) : Prop :=
  noForeign s a ∧ noUserEdit s a ∧ (a = .work → noStaleCheck s = true)

/-- … and `noUnrecCheck`: the decidable form of `stabEnvF` -/
def stabCheckedF (s : Sys) (a : Action) : Prop := stabChecked s a ∧ (a = .work → noUnrecCheck s = true)

instance (s : Sys) (a : Action) : Decidable (stabChecked s a) := by unfold stabChecked; infer_instance

theorem stabEnv_of_checked (s : Sys) (a : Action) (h : stabChecked s a) : stabEnv s a := by
  refine ⟨h.1, h.2.1, ?_⟩
  cases a with
  | work => exact noStale_of_check (h.2.2 rfl)
  | _ => intro hw; cases hw

instance (s : Sys) (a : Action) : Decidable (stabCheckedF s a) := by unfold stabCheckedF; infer_instance

theorem stabEnvF_of_checked (s : Sys) (a : Action) (h : stabCheckedF s a) : stabEnvF s a := by
  refine ⟨stabEnv_of_checked s a h.1, ?_⟩
  cases a with
  | work => exact noUnrec_of_check (h.2 rfl)
  | _ => intro hw; cases hw

end Furiko.JobCtl
