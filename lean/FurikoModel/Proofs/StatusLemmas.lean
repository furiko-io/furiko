/- Helper lemmas: counters as `countP`, per-index status characterisations, the summary in terms
of refs, membership in the sorted ref list, `lookupRef` / `getTaskRef` field by field.  Core Lean only. -/
import FurikoModel.Model.JobStatus
namespace Furiko.StatusLemmas
open Furiko

def isTermState (s : IndexStatus) : Bool :=
  s.state == .notCreated || s.state == .retryBackoff || s.state == .terminated
def isCreatedState (s : IndexStatus) : Bool :=
  s.state == .retryBackoff || s.state == .starting || s.state == .running || s.state == .terminated
def isSucc (s : IndexStatus) : Bool := s.result == .succeeded
def isFail (s : IndexStatus) : Bool := s.result == .failed

theorem foldl_add_count (f : Counters → Int) (p : IndexStatus → Bool)
    (h : ∀ c s, f (c.add s) = if p s then f c + 1 else f c) :
    ∀ (l : List IndexStatus) (c : Counters), f (l.foldl Counters.add c) = f c + (l.countP p : Nat)
  | [], c => by simp
  | s :: ss, c => by
    rw [List.foldl_cons, foldl_add_count f p h ss, h, List.countP_cons]
    split <;> simp <;> omega

theorem counter_eq_count (f : Counters → Int) (p : IndexStatus → Bool)
    (h : ∀ c s, f (c.add s) = if p s then f c + 1 else f c) (h0 : f {} = 0) (l : List IndexStatus) :
    f (getParallelStatusCounters l) = (l.countP p : Nat) := by
  rw [getParallelStatusCounters, foldl_add_count f p h, h0, Int.zero_add]

theorem counters_eq (l : List IndexStatus) :
    (getParallelStatusCounters l).terminated = (l.countP isTermState : Nat) ∧
    (getParallelStatusCounters l).succeeded = (l.countP isSucc : Nat) ∧
    (getParallelStatusCounters l).failed = (l.countP isFail : Nat) ∧
    (getParallelStatusCounters l).created = (l.countP isCreatedState : Nat) ∧
    (getParallelStatusCounters l).retryBackoff = (l.countP (fun s => s.state == .retryBackoff) : Nat) ∧
    (getParallelStatusCounters l).starting = (l.countP (fun s => s.state == .starting) : Nat) ∧
    (getParallelStatusCounters l).running = (l.countP (fun s => s.state == .running) : Nat) := by
  refine ⟨counter_eq_count (·.terminated) isTermState ?_ rfl l, counter_eq_count (·.succeeded) isSucc ?_ rfl l,
    counter_eq_count (·.failed) isFail ?_ rfl l, counter_eq_count (·.created) isCreatedState ?_ rfl l,
    counter_eq_count (·.retryBackoff) _ ?_ rfl l, counter_eq_count (·.starting) _ ?_ rfl l,
    counter_eq_count (·.running) _ ?_ rfl l⟩ <;>
  · rintro c ⟨_, _, _, st, res⟩
    cases st <;> cases res <;> rfl

theorem any_refSucceeded (ts : List TaskRef) :
    ts.any refSucceeded = true ↔ ∃ t ∈ ts, t.status.result = .succeeded := by
  simp [refSucceeded]

theorem indexStatus_succeeded_iff (i : PIndex) (h : String) (ts : List TaskRef) (m : Int) :
    (getIndexStatus i h ts m).result = .succeeded ↔ ∃ t ∈ ts, t.status.result = .succeeded := by
  rw [← any_refSucceeded]
  unfold getIndexStatus
  cases ts.any refSucceeded <;> simp
  split <;> simp

theorem indexStatus_failed_iff (i : PIndex) (h : String) (ts : List TaskRef) (m : Int) :
    (getIndexStatus i h ts m).result = .failed ↔
      (¬ ∃ t ∈ ts, t.status.result = .succeeded) ∧ ((ts.countP refTerminal : Nat) : Int) ≥ m := by
  rw [← any_refSucceeded]
  unfold getIndexStatus
  cases ts.any refSucceeded <;> simp

/-- an index status is in a "terminated" state (NotCreated / RetryBackoff / Terminated — the
states that increment `Terminated`) exactly when every ref of the index is finished -/
theorem indexStatus_term_iff (i : PIndex) (h : String) (ts : List TaskRef) (m : Int) :
    isTermState (getIndexStatus i h ts m) = true ↔ ∀ t ∈ ts, t.finishTimestamp.isSome = true := by
  have hcl := List.countP_le_length (p := refTerminal) (l := ts)
  have hce := List.countP_eq_length (p := refTerminal) (l := ts)
  unfold refTerminal at hce
  rw [← hce]
  unfold getIndexStatus isTermState
  simp only
  by_cases h0 : ts.length = 0
  · have : ts = [] := List.eq_nil_of_length_eq_zero h0
    subst this
    simp
  · have h0' : (ts.length == 0) = false := by simpa using h0
    rw [if_neg (by simp [h0'])]
    by_cases hall : List.countP refTerminal ts = ts.length
    · have e : (((List.countP refTerminal ts : Nat) : Int) == (ts.length : Int)) = true := by
        simp only [beq_iff_eq]; omega
      simp only [e, Bool.true_and, if_true]
      have hall' : List.countP (fun t => t.finishTimestamp.isSome) ts = ts.length := hall
      simp only [hall', iff_true]
      split <;> simp
    · have e : (((List.countP refTerminal ts : Nat) : Int) == (ts.length : Int)) = false := by
        simp only [beq_eq_false_iff_ne, ne_eq]; omega
      simp only [e, Bool.false_and, Bool.false_eq_true, if_false]
      have hall' : ¬ List.countP (fun t => t.finishTimestamp.isSome) ts = ts.length := hall
      simp only [hall', iff_false]
      split
      · simp
      · split <;> simp

def IndexSucceeded (d : PIndex) (tasks : List TaskRef) (i : PIndex) : Prop :=
  ∃ t ∈ tasks, t.hash d = i.hash ∧ t.status.result = .succeeded

def IndexExhausted (d : PIndex) (tasks : List TaskRef) (m : Int) (i : PIndex) : Prop :=
  ¬ IndexSucceeded d tasks i ∧ (((tasksOfHash d tasks i.hash).countP refTerminal : Nat) : Int) ≥ m

def IndexAllFinished (d : PIndex) (tasks : List TaskRef) (i : PIndex) : Prop :=
  ∀ t ∈ tasks, t.hash d = i.hash → t.finishTimestamp.isSome = true

theorem mem_tasksOfHash (d : PIndex) (tasks : List TaskRef) (h : String) (t : TaskRef) :
    t ∈ tasksOfHash d tasks h ↔ t ∈ tasks ∧ t.hash d = h := by
  unfold tasksOfHash
  simp [List.mem_filter]

theorem status_succ_iff (d : PIndex) (job : Job) (tasks : List TaskRef) (i : PIndex) :
    isSucc (getIndexStatus i i.hash (tasksOfHash d tasks i.hash) job.maxAttempts) = true ↔ IndexSucceeded d tasks i := by
  unfold isSucc IndexSucceeded
  rw [beq_iff_eq, indexStatus_succeeded_iff]
  simp only [mem_tasksOfHash, and_assoc]

theorem status_fail_iff (d : PIndex) (job : Job) (tasks : List TaskRef) (i : PIndex) :
    isFail (getIndexStatus i i.hash (tasksOfHash d tasks i.hash) job.maxAttempts) = true ↔
      IndexExhausted d tasks job.maxAttempts i := by
  unfold isFail IndexExhausted IndexSucceeded
  rw [beq_iff_eq, indexStatus_failed_iff]
  simp only [mem_tasksOfHash, and_assoc]

theorem status_term_iff (d : PIndex) (job : Job) (tasks : List TaskRef) (i : PIndex) :
    isTermState (getIndexStatus i i.hash (tasksOfHash d tasks i.hash) job.maxAttempts) = true ↔
      IndexAllFinished d tasks i := by
  rw [indexStatus_term_iff]
  unfold IndexAllFinished
  simp only [mem_tasksOfHash, and_imp]

theorem countP_statuses (d : PIndex) (job : Job) (tasks : List TaskRef) (p : IndexStatus → Bool) :
    (indexStatuses d job tasks).countP p =
      (job.indexes d).countP (fun i => p (getIndexStatus i i.hash (tasksOfHash d tasks i.hash) job.maxAttempts)) := by
  unfold indexStatuses
  rw [List.countP_map]
  rfl

theorem length_statuses (d : PIndex) (job : Job) (tasks : List TaskRef) :
    (indexStatuses d job tasks).length = (job.indexes d).length := by
  unfold indexStatuses; simp

theorem countP_ge_length_iff {α} (p : α → Bool) (l : List α) :
    ((l.countP p : Nat) : Int) ≥ (l.length : Int) ↔ ∀ a ∈ l, p a = true := by
  have := List.countP_le_length (p := p) (l := l)
  rw [← List.countP_eq_length]
  omega

theorem countP_pos_int_iff {α} (p : α → Bool) (l : List α) :
    ((l.countP p : Nat) : Int) > 0 ↔ ∃ a ∈ l, p a = true := by
  rw [← List.countP_pos_iff]
  omega

/-- all indexes terminated ⇔ `counters.Terminated >= numIndexes` -/
theorem terminated_ge_iff (d : PIndex) (job : Job) (tasks : List TaskRef) :
    (getParallelStatusCounters (indexStatuses d job tasks)).terminated ≥ ((job.indexes d).length : Int) ↔
      ∀ i ∈ job.indexes d, IndexAllFinished d tasks i := by
  rw [(counters_eq _).1, countP_statuses, countP_ge_length_iff]
  simp only [status_term_iff]

def Satisfied (d : PIndex) (job : Job) (tasks : List TaskRef) : Prop :=
  match job.strategy with
  | .allSuccessful => ∀ i ∈ job.indexes d, IndexSucceeded d tasks i
  | .anySuccessful => ∃ i ∈ job.indexes d, IndexSucceeded d tasks i
  | _ => False

def Unsatisfiable (d : PIndex) (job : Job) (tasks : List TaskRef) : Prop :=
  match job.strategy with
  | .allSuccessful => ∃ i ∈ job.indexes d, IndexExhausted d tasks job.maxAttempts i
  | .anySuccessful => ∀ i ∈ job.indexes d, IndexExhausted d tasks job.maxAttempts i
  | _ => False

theorem outcome_iff (d : PIndex) (job : Job) (tasks : List TaskRef) :
    ((strategyOutcome job.strategy (getParallelStatusCounters (indexStatuses d job tasks)) (job.indexes d).length).1 = true ↔
        Satisfied d job tasks) ∧
    ((strategyOutcome job.strategy (getParallelStatusCounters (indexStatuses d job tasks)) (job.indexes d).length).2 = true ↔
        Unsatisfiable d job tasks) := by
  have hc := counters_eq (indexStatuses d job tasks)
  unfold strategyOutcome Satisfied Unsatisfiable
  cases job.strategy <;>
    simp only [Bool.false_eq_true, and_self, decide_eq_true_eq, hc.2.1, hc.2.2.1, countP_statuses,
      countP_ge_length_iff, countP_pos_int_iff, status_succ_iff, status_fail_iff]

theorem not_satisfied_and_unsatisfiable (d : PIndex) (job : Job) (tasks : List TaskRef) :
    ¬ (Satisfied d job tasks ∧ Unsatisfiable d job tasks) := by
  unfold Satisfied Unsatisfiable
  cases job.strategy <;> simp only [and_false, not_false_eq_true]
  · rintro ⟨hs, i, hi, he⟩; exact he.1 (hs i hi)
  · rintro ⟨⟨i, hi, hs⟩, he⟩; exact (he i hi).1 hs

theorem summary_iff (d : PIndex) (job : Job) (tasks : List TaskRef) :
    ((getParallelTaskSummary d job tasks).successful = some true ↔ Satisfied d job tasks) ∧
    ((getParallelTaskSummary d job tasks).successful = some false ↔ Unsatisfiable d job tasks) ∧
    ((getParallelTaskSummary d job tasks).complete = true ↔ Satisfied d job tasks ∨ Unsatisfiable d job tasks) ∧
    ((getParallelTaskSummary d job tasks).complete = true ↔ (getParallelTaskSummary d job tasks).successful ≠ none) := by
  have ho := outcome_iff d job tasks
  have hx := not_satisfied_and_unsatisfiable d job tasks
  unfold getParallelTaskSummary
  simp only
  generalize strategyOutcome job.strategy (getParallelStatusCounters (indexStatuses d job tasks)) (job.indexes d).length = o at ho
  obtain ⟨s, f⟩ := o
  simp only at ho
  cases s <;> cases f <;> simp_all

theorem mem_foldl_insert {α : Type} (ins : α → List α → List α)
    (hins : ∀ a x l, x ∈ ins a l ↔ x = a ∨ x ∈ l) (x : α) :
    ∀ l acc : List α, x ∈ l.foldl (fun acc a => ins a acc) acc ↔ x ∈ l ∨ x ∈ acc
  | [], acc => by simp
  | a :: l, acc => by
    rw [List.foldl_cons, mem_foldl_insert ins hins x l, hins, List.mem_cons, or_left_comm, or_assoc]

theorem mem_insertRef (x y : TaskRef) : ∀ (l : List TaskRef), y ∈ insertRef x l ↔ y = x ∨ y ∈ l
  | [] => by simp [insertRef]
  | z :: zs => by
    unfold insertRef
    split <;> simp [mem_insertRef x y zs, or_left_comm]

theorem mem_sortTaskRefs (y : TaskRef) (l : List TaskRef) : y ∈ sortTaskRefs l ↔ y ∈ l := by
  unfold sortTaskRefs
  rw [mem_foldl_insert insertRef mem_insertRef]
  simp

theorem length_insertRef (x : TaskRef) : ∀ (l : List TaskRef), (insertRef x l).length = l.length + 1
  | [] => rfl
  | z :: zs => by
    unfold insertRef
    split
    · simp
    · simp [length_insertRef x zs]

theorem length_foldl_insertRef : ∀ (l acc : List TaskRef),
    (l.foldl (fun acc x => insertRef x acc) acc).length = l.length + acc.length
  | [], acc => by simp
  | x :: xs, acc => by
    simp only [List.foldl_cons, length_foldl_insertRef xs, length_insertRef, List.length_cons]
    omega

theorem length_sortTaskRefs (l : List TaskRef) : (sortTaskRefs l).length = l.length := by
  unfold sortTaskRefs
  rw [length_foldl_insertRef]
  simp

theorem find_of_nodup_names : ∀ (l : List TaskRef), (l.map (·.name)).Nodup → ∀ x ∈ l,
    l.find? (fun r => r.name == x.name) = some x
  | [], _, x, hx => by cases hx
  | y :: ys, hnd, x, hx => by
    simp only [List.map_cons, List.nodup_cons] at hnd
    rw [List.find?_cons]
    by_cases hyx : y.name = x.name
    · have : y = x := by
        rcases List.mem_cons.mp hx with h | h
        · exact h.symm
        · exact absurd (List.mem_map.mpr ⟨x, h, hyx.symm⟩) hnd.1
      simp [this]
    · have hne : (y.name == x.name) = false := by simpa using hyx
      rw [hne]
      rcases List.mem_cons.mp hx with h | h
      · exact absurd (by rw [h]) hyx
      · exact find_of_nodup_names ys hnd.2 x h

/-- with pairwise distinct names, `existingRefs[name]` is the ref of that name -/
theorem lookupRef_of_nodup (existing : List TaskRef) (hnd : (existing.map (·.name)).Nodup) (ex : TaskRef)
    (hex : ex ∈ existing) : lookupRef existing ex.name = some ex := by
  unfold lookupRef
  apply find_of_nodup_names
  · rw [List.map_reverse]
    unfold List.Nodup at *
    rw [List.pairwise_reverse]
    exact hnd.imp (fun h => Ne.symm h)
  · exact List.mem_reverse.mpr hex

/-! `getTaskRef` field by field: name and creation time are the task's; a running or finish time is
missing only when neither the task nor the ref recorded before has one. -/

/-- `GetTaskRef` on a recorded ref, in closed form: the first final observation wins; otherwise the
task's own ref with the recorded timestamps it does not report itself, and its status as deleted status
once it reports a finish time -/
theorem _root_.Furiko.getTaskRef_some (ex : TaskRef) (t : Task) :
    getTaskRef (some ex) t =
      if (ex.finishTimestamp.isSome && t.ref.finishTimestamp.isSome && isFinalTaskState ex.status.state) = true then
        { t.ref with
          runningTimestamp := if t.ref.runningTimestamp.isNone then ex.runningTimestamp else t.ref.runningTimestamp,
          status := ex.status, finishTimestamp := ex.finishTimestamp, deletedStatus := ex.deletedStatus }
      else
        { t.ref with
          runningTimestamp := if t.ref.runningTimestamp.isNone then ex.runningTimestamp else t.ref.runningTimestamp,
          finishTimestamp := if t.ref.finishTimestamp.isNone then ex.finishTimestamp else t.ref.finishTimestamp,
          deletedStatus := if t.ref.finishTimestamp.isSome then some t.ref.status else ex.deletedStatus } := by
  unfold getTaskRef
  generalize t.ref = r
  obtain ⟨n, ct, rt, ft, ri, pi, st, ds⟩ := r
  cases rt <;> cases ft <;> rfl

theorem _root_.Furiko.getTaskRef_none (t : Task) :
    getTaskRef none t =
      if t.ref.finishTimestamp.isSome then { t.ref with deletedStatus := some t.ref.status } else t.ref := rfl

theorem getTaskRef_name (e : Option TaskRef) (t : Task) : (getTaskRef e t).name = t.ref.name := by
  cases e <;> simp only [getTaskRef_none, getTaskRef_some] <;> split <;> rfl

theorem getTaskRef_creationTimestamp (e : Option TaskRef) (t : Task) :
    (getTaskRef e t).creationTimestamp = t.ref.creationTimestamp := by
  cases e <;> simp only [getTaskRef_none, getTaskRef_some] <;> split <;> rfl

theorem getTaskRef_running_none (e : Option TaskRef) (t : Task) :
    (getTaskRef e t).runningTimestamp = none ↔
      t.ref.runningTimestamp = none ∧ ∀ ex, e = some ex → ex.runningTimestamp = none := by
  cases e <;> simp only [getTaskRef_none, getTaskRef_some] <;> split <;> cases t.ref.runningTimestamp <;> simp

theorem getTaskRef_finish_none (e : Option TaskRef) (t : Task) :
    (getTaskRef e t).finishTimestamp = none ↔
      t.ref.finishTimestamp = none ∧ ∀ ex, e = some ex → ex.finishTimestamp = none := by
  cases e with
  | none => rw [getTaskRef_none]; split <;> simp
  | some ex =>
    rw [getTaskRef_some]
    split
    · -- task and recorded ref both finished: whichever finish time wins, it is set
      rename_i hc; cases hx : ex.finishTimestamp <;> cases ht : t.ref.finishTimestamp <;> simp_all
    · cases t.ref.finishTimestamp <;> simp

end Furiko.StatusLemmas
