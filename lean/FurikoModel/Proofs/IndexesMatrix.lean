import FurikoModel.Model.Indexes
/-!
Helper lemmas for C14, matrix part: the carry loop of `GenerateMatrixCombinations` enumerates the
mixed-radix tuples over the sorted keys in lexicographic order, exactly once each (`odometer_full`); that the
output is `cartesian (cols m)` is concluded in `IndexesLemmas.generateMatrixCombinations_eq`. Core Lean only.
-/
namespace Furiko.Indexes

/-- specification: the cartesian product of the columns, first column most significant
(nested loops, i.e. lexicographic order) -/
def cartesian : List (String × List String) → List Combination
  | [] => [[]]
  | kv :: rest => kv.2.flatMap fun v => (cartesian rest).map ((kv.1, v) :: ·)

/-- the columns of a matrix in the order the code uses: sorted keys with their value lists -/
def cols (m : Matrix) : List (String × List String) := (getKeys m).map fun k => (k, values m k)

abbrev len (m : Matrix) (k : String) : Nat := (values m k).length

/-- all digit tuples over the keys `ks`, lexicographic -/
def tuples (m : Matrix) : List String → List (List Nat)
  | [] => [[]]
  | k :: ks => (List.range (len m k)).flatMap fun i => (tuples m ks).map (i :: ·)

/-- the blocks of `tuples m (k :: ks)` whose first digit is in `[s, s+n)` -/
def blocks (m : Matrix) (ks : List String) (s n : Nat) : List (List Nat) :=
  (List.range' s n).flatMap fun i => (tuples m ks).map (i :: ·)

/-- the tuples from `t` (inclusive) to the end, lexicographic -/
def after (m : Matrix) : List String → List Nat → List (List Nat)
  | k :: ks, i :: t => (after m ks t).map (i :: ·) ++ blocks m ks (i + 1) (len m k - (i + 1))
  | _, _ => [[]]

def zeros (ks : List String) : List Nat := List.replicate ks.length 0

theorem zeros_cons (k : String) (ks : List String) : zeros (k :: ks) = 0 :: zeros ks := rfl

/-- digit tuple in range -/
def Valid (m : Matrix) : List String → List Nat → Prop
  | k :: ks, i :: t => i < len m k ∧ Valid m ks t
  | [], [] => True
  | _, _ => False

/-- `fixLoop` with an initial carry entering at the right end -/
def fixC (m : Matrix) (c0 : Nat) : List String → List Nat → List Nat × Nat
  | k :: ks, i :: is =>
    let r := fixC m c0 ks is
    let i' := i + r.2
    if i' ≥ (values m k).length then (0 :: r.1, 1) else (i' :: r.1, 0)
  | _, _ => ([], c0)

theorem fixLoop_eq_fixC (m : Matrix) (ks : List String) (t : List Nat) : fixLoop m ks t = fixC m 0 ks t := by
  induction ks generalizing t with
  | nil => simp [fixLoop, fixC]
  | cons k ks ih =>
    cases t with
    | nil => simp [fixLoop, fixC]
    | cons i t => simp [fixLoop, fixC, ih]

theorem fixC_nil_right (m : Matrix) (c : Nat) (ks : List String) : fixC m c ks [] = ([], c) := by
  cases ks <;> simp [fixC]

/-- `indexes[len-1]++` followed by the fix loop = the fix loop with carry-in 1 -/
theorem incrLast_fix (m : Matrix) : ∀ (ks : List String) (t : List Nat), ks ≠ [] → Valid m ks t →
    ∃ t', incrLast t = some t' ∧ fixLoop m ks t' = fixC m 1 ks t
  | [], _, h, _ => absurd rfl h
  | [k], [i], _, _ => ⟨[i + 1], rfl, by simp [fixLoop, fixC]⟩
  | [_], [], _, hv => by simp [Valid] at hv
  | [_], _ :: _ :: _, _, hv => by simp [Valid] at hv
  | _ :: _ :: _, [], _, hv => by simp [Valid] at hv
  | _ :: _ :: _, [_], _, hv => by simp [Valid] at hv
  | k :: k2 :: ks, i :: i2 :: t, _, hv => by
    obtain ⟨t'', h1, h2⟩ := incrLast_fix m (k2 :: ks) (i2 :: t) (by simp) hv.2
    refine ⟨i :: t'', ?_, ?_⟩
    · simp [incrLast, h1]
    · rw [fixLoop, fixC, h2]

theorem valid_len_pos {m : Matrix} : ∀ {ks : List String} {t : List Nat}, Valid m ks t → ∀ k ∈ ks, 0 < len m k
  | [], [], _, _, hk => by simp at hk
  | [], _ :: _, hv, _, _ => by simp [Valid] at hv
  | _ :: _, [], hv, _, _ => by simp [Valid] at hv
  | k :: ks, i :: t, hv, k', hk => by
    rcases List.mem_cons.1 hk with rfl | hk
    · exact Nat.lt_of_le_of_lt (Nat.zero_le _) hv.1
    · exact valid_len_pos hv.2 k' hk

theorem valid_zeros {m : Matrix} : ∀ {ks : List String}, (∀ k ∈ ks, 0 < len m k) → Valid m ks (zeros ks)
  | [], _ => trivial
  | k :: _, h => ⟨h k List.mem_cons_self, valid_zeros fun k hk => h k (List.mem_cons_of_mem _ hk)⟩

theorem valid_length {m : Matrix} : ∀ {ks : List String} {t : List Nat}, Valid m ks t → t.length = ks.length
  | [], [], _ => rfl
  | [], _ :: _, hv => by simp [Valid] at hv
  | _ :: _, [], hv => by simp [Valid] at hv
  | _ :: ks, _ :: t, hv => by simp [valid_length hv.2]

theorem after_zeros {m : Matrix} : ∀ {ks : List String}, (∀ k ∈ ks, 0 < len m k) →
    after m ks (zeros ks) = tuples m ks
  | [], _ => by simp [after, tuples]
  | k :: ks, h => by
    have ih := after_zeros (m := m) (ks := ks) (fun k hk => h k (List.mem_cons_of_mem _ hk))
    have hk : 0 < len m k := h k (List.mem_cons_self ..)
    rw [zeros_cons, after, ih, tuples, blocks, List.range_eq_range']
    obtain ⟨n, hn⟩ : ∃ n, len m k = n + 1 := ⟨len m k - 1, by omega⟩
    rw [hn, List.range'_succ]
    simp

/-- the step lemma: from a valid tuple `t`, the carry loop either moves to the lexicographic successor
(no carry out) or `t` was the last tuple (carry out, state wraps to zeros) -/
theorem next_tuple (m : Matrix) : ∀ (ks : List String) (t : List Nat), Valid m ks t →
    ((fixC m 1 ks t).2 = 0 ∧ Valid m ks (fixC m 1 ks t).1 ∧ after m ks t = t :: after m ks (fixC m 1 ks t).1) ∨
    ((fixC m 1 ks t).2 = 1 ∧ (fixC m 1 ks t).1 = zeros ks ∧ after m ks t = [t])
  | [], [], _ => by right; simp [fixC, zeros, after]
  | [], _ :: _, hv => by simp [Valid] at hv
  | _ :: _, [], hv => by simp [Valid] at hv
  | k :: ks, i :: t, hv => by
    have hi : i < (values m k).length := hv.1
    rcases next_tuple m ks t hv.2 with ⟨h0, hval, haft⟩ | ⟨h1, hz, haft⟩
    · left
      have hlt : ¬ (i ≥ (values m k).length) := by omega
      simp only [fixC, h0, Nat.add_zero, hlt, if_false]
      refine ⟨trivial, ⟨hi, hval⟩, ?_⟩
      simp [after, haft]
    · by_cases hlast : i + 1 ≥ (values m k).length
      · right
        simp only [fixC, h1, hlast, if_true]
        refine ⟨trivial, ?_, ?_⟩
        · rw [zeros_cons, hz]
        · have : len m k - (i + 1) = 0 := by simp only [len]; omega
          simp [after, haft, this, blocks]
      · left
        simp only [fixC, h1, hlast, if_false]
        have hpos : ∀ k ∈ ks, 0 < len m k := valid_len_pos hv.2
        refine ⟨trivial, ⟨by simp only [len]; omega, hz ▸ valid_zeros hpos⟩, ?_⟩
        obtain ⟨n, hn⟩ : ∃ n, len m k - (i + 1) = n + 1 := ⟨len m k - (i + 1) - 1, by simp only [len]; omega⟩
        have hn' : len m k - (i + 1 + 1) = n := by omega
        rw [hz]
        simp only [after, haft, after_zeros hpos, blocks, hn, hn', List.range'_succ]
        simp

theorem after_head (m : Matrix) (ks : List String) (t : List Nat) (hv : Valid m ks t) :
    ∃ rest, after m ks t = t :: rest := by
  rcases next_tuple m ks t hv with ⟨_, _, h⟩ | ⟨_, _, h⟩ <;> exact ⟨_, h⟩

/-- total version of `IndexMatrix` -/
def pickD (m : Matrix) : List String → List Nat → Combination
  | k :: ks, i :: is => (k, ((values m k)[i]?).getD "") :: pickD m ks is
  | _, _ => []

theorem indexMatrix_valid (m : Matrix) : ∀ (ks : List String) (t : List Nat), Valid m ks t →
    indexMatrix m ks t = some (pickD m ks t)
  | [], [], _ => by simp [indexMatrix, pickD]
  | [], _ :: _, hv => by simp [Valid] at hv
  | _ :: _, [], hv => by simp [Valid] at hv
  | k :: ks, i :: t, hv => by
    have hi : i < (values m k).length := hv.1
    simp [indexMatrix, pickD, indexMatrix_valid m ks t hv.2, List.getElem?_eq_getElem hi]

/-- the main loop emits the next `n` tuples in lexicographic order -/
theorem odometer_take (m : Matrix) (ks : List String) (hks : ks ≠ []) :
    ∀ (n : Nat) (idx t : List Nat), Valid m ks t → fixLoop m ks idx = (t, 0) → n ≤ (after m ks t).length →
      odometer m ks n idx = some (((after m ks t).take n).map (pickD m ks))
  | 0, _, _, _, _, _ => by simp [odometer]
  | n + 1, idx, t, hv, hfix, hn => by
    obtain ⟨t', hincr, hfix'⟩ := incrLast_fix m ks t hks hv
    have h1 : fixIndexes m ks idx = some t := by simp [fixIndexes, hfix]
    rcases next_tuple m ks t hv with ⟨h0, hval, haft⟩ | ⟨_, _, haft⟩
    · have hfix2 : fixLoop m ks t' = ((fixC m 1 ks t).1, 0) := by rw [hfix', ← h0]
      have hn' : n ≤ (after m ks (fixC m 1 ks t).1).length := by
        rw [haft] at hn; simpa using hn
      have ih := odometer_take m ks hks n t' _ hval hfix2 hn'
      simp [odometer, h1, indexMatrix_valid m ks t hv, hincr, ih, haft]
    · have : n = 0 := by rw [haft] at hn; simpa using hn
      subst this
      simp [odometer, h1, indexMatrix_valid m ks t hv, hincr, haft]

theorem fixLoop_zeros (m : Matrix) : ∀ (ks : List String), (∀ k ∈ ks, 0 < len m k) →
    fixLoop m ks (zeros ks) = (zeros ks, 0)
  | [], _ => by simp [zeros, fixLoop]
  | k :: ks, h => by
    have ih := fixLoop_zeros m ks (fun k hk => h k (List.mem_cons_of_mem _ hk))
    have hk : 0 < (values m k).length := h k (List.mem_cons_self ..)
    have : ¬ (0 ≥ (values m k).length) := by omega
    rw [zeros_cons, fixLoop, ih]
    simp [this]

theorem flatMap_range_getD {α β : Type} (d : α) (g : α → List β) : ∀ (vs : List α),
    (List.range vs.length).flatMap (fun i => g ((vs[i]?).getD d)) = vs.flatMap g
  | [] => by simp
  | v :: vs => by
    have ih := flatMap_range_getD d g vs
    rw [List.length_cons, List.range_succ_eq_map]
    simp [List.flatMap_map, ih]

theorem tuples_pick (m : Matrix) : ∀ (ks : List String),
    (tuples m ks).map (pickD m ks) = cartesian (ks.map fun k => (k, values m k))
  | [] => by simp [tuples, pickD, cartesian]
  | k :: ks => by
    have ih := tuples_pick m ks
    simp only [tuples, List.map_cons, cartesian, List.map_flatMap, List.map_map, ← ih]
    rw [← flatMap_range_getD "" _ (values m k)]
    simp [Function.comp_def, pickD, len]

theorem tuples_length (m : Matrix) : ∀ (ks : List String),
    (tuples m ks).length = (ks.map (len m)).prod
  | [] => by simp [tuples]
  | k :: ks => by
    simp [tuples, List.length_flatMap, tuples_length m ks, List.map_const', List.sum_replicate_nat]

/-- the odometer run for exactly `∏ |values|` steps from the all-zero state yields the cartesian product -/
theorem odometer_full (m : Matrix) (ks : List String) (hks : ks ≠ []) (hpos : ∀ k ∈ ks, 0 < len m k) :
    odometer m ks ((ks.map (len m)).prod) (List.replicate ks.length 0) =
      some (cartesian (ks.map fun k => (k, values m k))) := by
  have h := odometer_take m ks hks (tuples m ks).length (zeros ks) (zeros ks) (valid_zeros hpos)
    (fixLoop_zeros m ks hpos) (by rw [after_zeros hpos]; exact Nat.le_refl _)
  rw [after_zeros hpos, List.take_length, tuples_pick] at h
  rw [← tuples_length]
  exact h

theorem foldl_numComb_eq_prod (m : Matrix) (hpos : ∀ kv ∈ m, 0 < kv.2.length) : ∀ (acc : Nat), 0 < acc →
    m.foldl (fun total kv => (if total = 0 then 1 else total) * kv.2.length) acc
      = acc * (m.map (·.2.length)).prod := by
  induction m with
  | nil => intro acc _; simp
  | cons kv rest ih =>
    intro acc hacc
    have h1 : 0 < kv.2.length := hpos kv (List.mem_cons_self ..)
    have hne : acc ≠ 0 := by omega
    simp only [List.foldl_cons, hne, if_false, List.map_cons, List.prod_cons]
    rw [ih (fun kv h => hpos kv (List.mem_cons_of_mem _ h)) _ (Nat.mul_pos hacc h1), Nat.mul_assoc]

/-- without empty value lists `NumCombinations` is the product of the lengths -/
theorem numCombinations_eq_prod (m : Matrix) (hne : m ≠ []) (hpos : ∀ kv ∈ m, 0 < kv.2.length) :
    numCombinations m = (m.map (·.2.length)).prod := by
  cases m with
  | nil => exact absurd rfl hne
  | cons kv rest =>
    have h1 : 0 < kv.2.length := hpos kv (List.mem_cons_self ..)
    simp only [numCombinations, List.foldl_cons, if_true, Nat.one_mul, List.map_cons, List.prod_cons]
    exact foldl_numComb_eq_prod rest (fun kv h => hpos kv (List.mem_cons_of_mem _ h)) _ h1

end Furiko.Indexes
