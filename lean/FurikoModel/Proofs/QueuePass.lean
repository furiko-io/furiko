/-
The per-JobConfig pass (`passLoop`) as a big-step relation `Pass` over states (its state-free
projection `Run` over the call log: `Proofs/QueueRun.lean`); what every pass preserves, leaves alone
and writes; `listQueued` is sorted by creation time.
-/
import FurikoModel.Proofs.QueueBasic
import FurikoModel.Proofs.QueueWQ

set_option linter.unusedSimpArgs false
set_option linter.unusedVariables false

namespace Furiko.Queue
open Furiko.WQ

deriving instance DecidableEq for Call

theorem mem_insertByCreated {j x : JobV} {l : List JobV} :
    x ∈ insertByCreated j l ↔ x = j ∨ x ∈ l := by
  rw [(insertByCreated_perm j l).mem_iff]; simp

theorem insertByCreated_sorted (j : JobV) {l : List JobV}
    (h : l.Pairwise (fun a b => a.created ≤ b.created)) :
    (insertByCreated j l).Pairwise (fun a b => a.created ≤ b.created) := by
  induction l with
  | nil => simp [insertByCreated]
  | cons x rest ih =>
    simp only [insertByCreated]
    rw [List.pairwise_cons] at h
    split
    · rename_i hlt
      refine List.Pairwise.cons ?_ (List.Pairwise.cons h.1 h.2)
      intro b hb
      rcases List.mem_cons.mp hb with rfl | hb
      · omega
      · have := h.1 b hb; omega
    · rename_i hlt
      refine List.Pairwise.cons ?_ (ih h.2)
      intro b hb
      rcases mem_insertByCreated.mp hb with rfl | hb
      · omega
      · exact h.1 b hb

theorem listQueued_sorted (cache : List JobV) (jc : JCV) :
    (listQueued cache jc).Pairwise (fun a b => a.created ≤ b.created) :=
  List.foldlRecOn _ _ List.Pairwise.nil fun _ h j _ => insertByCreated_sorted j h

/-- in a list sorted by creation time, strictly earlier creation means earlier position -/
theorem split_of_created_lt {l : List JobV} {A B : JobV}
    (hs : l.Pairwise (fun a b => a.created ≤ b.created)) (hA : A ∈ l) (hB : B ∈ l)
    (hlt : A.created < B.created) : ∃ l1 l2 l3, l = l1 ++ A :: l2 ++ B :: l3 := by
  obtain ⟨l1, r, rfl⟩ := List.append_of_mem hA
  rw [List.pairwise_append] at hs
  obtain ⟨_, hr, hcross⟩ := hs
  rw [List.pairwise_cons] at hr
  have hBr : B ∈ r := by
    rcases List.mem_append.mp hB with h | h
    · have := hcross B h A (by simp); omega
    · rcases List.mem_cons.mp h with rfl | h
      · omega
      · exact h
  obtain ⟨l2, l3, rfl⟩ := List.append_of_mem hBr
  exact ⟨l1, l2, l3, by simp⟩

/-- `Pass jc rjs s ac cs s' ok`: running the loop over `rjs` from `s` with active count `ac`
appends the calls `cs`, ends in `s'` and returns `ok`. -/
inductive Pass (jc : JCV) : List JobV → Sys → Int → List Call → Sys → Bool → Prop
  | nil (s : Sys) (ac : Int) : Pass jc [] s ac [] s true
  | defer {j : JobV} {rest : List JobV} {s : Sys} {ac : Int} {cs : List Call} {s' : Sys} {ok : Bool} :
      j.hasPolicy = true → startAfterLater j s.clock = true →
      Pass jc rest (deferState s jc j) ac cs s' ok → Pass jc (j :: rest) s ac cs s' ok
  | wait {j : JobV} {rest : List JobV} {s : Sys} {ac : Int} {cs : List Call} {s' : Sys} {ok : Bool} :
      j.hasPolicy = true → startAfterLater j s.clock = false → j.policy = 2 → overLimit jc ac →
      Pass jc rest s ac cs s' ok → Pass jc (j :: rest) s ac cs s' ok
  | rejectFail {j : JobV} {rest : List JobV} {s : Sys} {ac : Int} (res : String) :
      j.hasPolicy = true → startAfterLater j s.clock = false → j.policy = 1 → overLimit jc ac →
      res ≠ "ok" → writeRefused s j →
      Pass jc (j :: rest) s ac [⟨"reject", j.name, res⟩] (failWrite s "reject" j.name res) false
  | rejectOk {j : JobV} {rest : List JobV} {s : Sys} {ac : Int} {cs : List Call} {s' : Sys} {ok : Bool}
      (cur : JobV) :
      j.hasPolicy = true → startAfterLater j s.clock = false → j.policy = 1 → overLimit jc ac →
      findJob s.jobs j.name = some cur → cur.rv = j.rv → ¬ faultBlocks s →
      nextFault s ≠ "applied-err" →
      Pass jc rest (applyWrite s "reject" j.name (rejectedJob s (rejMsg jc ac) j cur)) ac cs s' ok →
      Pass jc (j :: rest) s ac (⟨"reject", j.name, "ok"⟩ :: cs) s' ok
  | rejectLost {j : JobV} {rest : List JobV} {s : Sys} {ac : Int} (cur : JobV) :
      j.hasPolicy = true → startAfterLater j s.clock = false → j.policy = 1 → overLimit jc ac →
      findJob s.jobs j.name = some cur → cur.rv = j.rv → ¬ faultBlocks s →
      nextFault s = "applied-err" →
      Pass jc (j :: rest) s ac [⟨"reject", j.name, "ok"⟩]
        (applyWrite s "reject" j.name (rejectedJob s (rejMsg jc ac) j cur)) false
  /-- the reject write is a no-op (the authoritative Job already carries this very rejection):
  logged "ok", no new resourceVersion, no event; the pass goes on -/
  | rejectNoop {j : JobV} {rest : List JobV} {s : Sys} {ac : Int} {cs : List Call} {s' : Sys} {ok : Bool}
      (cur : JobV) :
      j.hasPolicy = true → startAfterLater j s.clock = false → j.policy = 1 → overLimit jc ac →
      findJob s.jobs j.name = some cur → cur.rv = j.rv → ¬ faultBlocks s →
      nextFault s ≠ "applied-err" → rejectF (rejMsg jc ac) j cur = cur →
      Pass jc rest (failWrite s "reject" j.name "ok") ac cs s' ok →
      Pass jc (j :: rest) s ac (⟨"reject", j.name, "ok"⟩ :: cs) s' ok
  /-- no-op reject write whose answer is lost (`applied-err`): the pass aborts -/
  | rejectNoopLost {j : JobV} {rest : List JobV} {s : Sys} {ac : Int} (cur : JobV) :
      j.hasPolicy = true → startAfterLater j s.clock = false → j.policy = 1 → overLimit jc ac →
      findJob s.jobs j.name = some cur → cur.rv = j.rv → ¬ faultBlocks s →
      nextFault s = "applied-err" → rejectF (rejMsg jc ac) j cur = cur →
      Pass jc (j :: rest) s ac [⟨"reject", j.name, "ok"⟩] (failWrite s "reject" j.name "ok") false
  | casFail {j : JobV} {rest : List JobV} {s : Sys} {ac : Int} :
      startVerdict jc s.clock j ac → getCtr s.counter jc.uid ≠ ac →
      Pass jc (j :: rest) s ac [] s false
  | startFail {j : JobV} {rest : List JobV} {s : Sys} {ac : Int} (res : String) :
      startVerdict jc s.clock j ac → getCtr s.counter jc.uid = ac → res ≠ "ok" → writeRefused s j →
      Pass jc (j :: rest) s ac [⟨"start", j.name, res⟩]
        { failWrite s "start" j.name res with counter := rollback s.counter jc.uid ac } false
  | startOk {j : JobV} {rest : List JobV} {s : Sys} {ac : Int} {cs : List Call} {s' : Sys} {ok : Bool}
      (cur : JobV) :
      startVerdict jc s.clock j ac → getCtr s.counter jc.uid = ac →
      findJob s.jobs j.name = some cur → cur.rv = j.rv → ¬ faultBlocks s →
      nextFault s ≠ "applied-err" →
      Pass jc rest { applyWrite s "start" j.name (startedJob s j cur) with
                      counter := setCtr s.counter jc.uid (ac + 1) } (ac + 1) cs s' ok →
      Pass jc (j :: rest) s ac (⟨"start", j.name, "ok"⟩ :: cs) s' ok
  | startLost {j : JobV} {rest : List JobV} {s : Sys} {ac : Int} (cur : JobV) :
      startVerdict jc s.clock j ac → getCtr s.counter jc.uid = ac →
      findJob s.jobs j.name = some cur → cur.rv = j.rv → ¬ faultBlocks s →
      nextFault s = "applied-err" →
      Pass jc (j :: rest) s ac [⟨"start", j.name, "ok"⟩]
        { applyWrite s "start" j.name (startedJob s j cur) with
            counter := rollback s.counter jc.uid ac } false

theorem passLoop_cons (jc : JCV) (j : JobV) (rest : List JobV) (s : Sys) (ac : Int) :
    passLoop jc (j :: rest) s ac =
      match canStartJob s jc j ac with
      | (s1, .error) => (s1, false)
      | (s1, .skip) => passLoop jc rest s1 ac
      | (s1, .start) =>
        match startJob s1 jc j ac with
        | (s2, false) => (s2, false)
        | (s2, true) => passLoop jc rest s2 (getCtr s2.counter jc.uid) := rfl

theorem passLoop_Pass (jc : JCV) (rjs : List JobV) (s : Sys) (ac : Int) :
    ∃ cs, Pass jc rjs s ac cs (passLoop jc rjs s ac).1 (passLoop jc rjs s ac).2 := by
  induction rjs generalizing s ac with
  | nil => exact ⟨[], Pass.nil s ac⟩
  | cons j rest ih =>
    rw [passLoop_cons]
    rcases canStartJob_cases s jc j ac with ⟨hv, heq⟩ | ⟨h, hl, heq⟩ | ⟨h, hl, hpol, hlim, heq⟩ |
        ⟨h, hl, hpol, hlim, heq⟩ <;> rw [heq]
    · simp only
      rcases startJob_cases s jc j ac with ⟨hne, hst⟩ | ⟨hcas, res, hres, hwhy, hst⟩ |
          ⟨hcas, cur, hf, hrv, hnb, ⟨ha, hst⟩ | ⟨ha, hst⟩⟩ <;> rw [hst]
      · exact ⟨[], Pass.casFail hv hne⟩
      · exact ⟨_, Pass.startFail res hv hcas hres hwhy⟩
      · simp only [getCtr_setCtr, if_true]
        obtain ⟨cs, hcs⟩ := ih { applyWrite s "start" j.name (startedJob s j cur) with
                      counter := setCtr s.counter jc.uid (ac + 1) } (ac + 1)
        exact ⟨_, Pass.startOk cur hv hcas hf hrv hnb ha hcs⟩
      · exact ⟨_, Pass.startLost cur hv hcas hf hrv hnb ha⟩
    · obtain ⟨cs, hcs⟩ := ih (deferState s jc j) ac
      exact ⟨cs, Pass.defer h hl hcs⟩
    · rcases rejectJobWrite_cases s j (rejMsg jc ac) with ⟨res, hres, hwhy, hw⟩ |
          ⟨cur, hf, hrv, hnb, _, hw⟩ | ⟨cur, hf, hrv, hnb, hnoop, hw⟩ <;> rw [hw]
      · exact ⟨_, Pass.rejectFail res h hl hpol hlim hres hwhy⟩
      · by_cases ha : nextFault s = "applied-err"
        · simp only [ha, ne_eq, not_true_eq_false, decide_false, Bool.false_eq_true, if_false]
          exact ⟨_, Pass.rejectLost cur h hl hpol hlim hf hrv hnb ha⟩
        · simp only [ha, ne_eq, not_false_eq_true, decide_true, if_true]
          obtain ⟨cs, hcs⟩ := ih (applyWrite s "reject" j.name (rejectedJob s (rejMsg jc ac) j cur)) ac
          exact ⟨_, Pass.rejectOk cur h hl hpol hlim hf hrv hnb ha hcs⟩
      · by_cases ha : nextFault s = "applied-err"
        · simp only [ha, ne_eq, not_true_eq_false, decide_false, Bool.false_eq_true, if_false]
          exact ⟨_, Pass.rejectNoopLost cur h hl hpol hlim hf hrv hnb ha hnoop⟩
        · simp only [ha, ne_eq, not_false_eq_true, decide_true, if_true]
          obtain ⟨cs, hcs⟩ := ih (failWrite s "reject" j.name "ok") ac
          exact ⟨_, Pass.rejectNoop cur h hl hpol hlim hf hrv hnb ha hnoop hcs⟩
    · obtain ⟨cs, hcs⟩ := ih s ac
      exact ⟨cs, Pass.wait h hl hpol hlim hcs⟩

theorem Pass.preserve {jc : JCV} {P : Sys → Prop}
    (hdefer : ∀ s j, P s → P (deferState s jc j))
    (hfail : ∀ s verb name res, P s → P (failWrite s verb name res))
    (hrej : ∀ s m j cur, findJob s.jobs j.name = some cur → P s →
      P (applyWrite s "reject" j.name (rejectedJob s m j cur)))
    (hstart : ∀ s j cur, findJob s.jobs j.name = some cur → P s →
      P (applyWrite s "start" j.name (startedJob s j cur)))
    (hctr : ∀ s c, P s → P { s with counter := c })
    {rjs : List JobV} {s : Sys} {ac : Int} {cs : List Call} {s' : Sys}
    {ok : Bool} (h : Pass jc rjs s ac cs s' ok) : P s → P s' := by
  induction h with
  | nil | casFail => exact id
  | defer _ _ _ ih => exact fun hP => ih (hdefer _ _ hP)
  | wait _ _ _ _ _ ih => exact ih
  | rejectFail | rejectNoopLost => exact fun hP => hfail _ _ _ _ hP
  | rejectOk cur _ _ _ _ hf _ _ _ _ ih => exact fun hP => ih (hrej _ _ _ _ hf hP)
  | rejectLost cur _ _ _ _ hf => exact fun hP => hrej _ _ _ _ hf hP
  | rejectNoop cur _ _ _ _ _ _ _ _ _ _ ih => exact fun hP => ih (hfail _ _ _ _ hP)
  | startFail => exact fun hP => hctr _ _ (hfail _ _ _ _ hP)
  | startOk cur _ _ hf _ _ _ _ ih => exact fun hP => ih (hctr _ _ (hstart _ _ _ hf hP))
  | startLost cur _ _ hf => exact fun hP => hctr _ _ (hstart _ _ _ hf hP)

variable {jc : JCV} {rjs : List JobV} {s : Sys} {ac : Int} {cs : List Call} {s' : Sys} {ok : Bool}

theorem Pass.calls (h : Pass jc rjs s ac cs s' ok) : s'.calls = s.calls ++ cs := by
  induction h with
  | nil | casFail => simp
  | defer _ _ _ ih => simpa [deferState] using ih
  | wait _ _ _ _ _ ih => exact ih
  | rejectFail | rejectNoopLost | startFail => simp [failWrite]
  | rejectLost | startLost => simp [applyWrite]
  | rejectOk _ _ _ _ _ _ _ _ _ _ ih => simpa [applyWrite] using ih
  | rejectNoop _ _ _ _ _ _ _ _ _ _ _ ih => simpa [failWrite] using ih
  | startOk _ _ _ _ _ _ _ _ ih => simpa [applyWrite] using ih

theorem Pass.clock (h : Pass jc rjs s ac cs s' ok) : s'.clock = s.clock :=
  Pass.preserve (P := fun x => x.clock = s.clock) (fun _ _ h => h) (fun _ _ _ _ h => h)
    (fun _ _ _ _ _ h => h) (fun _ _ _ _ h => h) (fun _ _ h => h) h rfl

theorem Pass.deadline_mono (h : Pass jc rjs s ac cs s' ok) {k : String} {b : Int}
    (hd : HasDeadline s.cfgQ.delayed k b) : HasDeadline s'.cfgQ.delayed k b := by
  refine Pass.preserve (P := fun x => HasDeadline x.cfgQ.delayed k b) ?_ ?_ ?_ ?_ ?_ h hd
  · intro s1 j h1; exact hasDeadline_addAfter_mono h1 _ _ _
  · intro s1 _ _ _ h1; exact h1
  · intro s1 _ _ _ _ h1; exact h1
  · intro s1 _ _ _ h1; exact h1
  · intro s1 _ h1; exact h1

/-- the authoritative Job `c.job` carries the effect of the applied call `c` -/
def Written (s : Sys) (c : Call) : Prop :=
  ∃ a, findJob s.jobs c.job = some a ∧
    (c.verb = "start" → a.startTime = some (s.clock / 1000000000)) ∧
    (c.verb = "reject" → a.admErr = true)

/-- a later write to some Job keeps `Written` when it keeps or sets the start time and keeps the
annotation: both controller writes do -/
theorem Written.after_write {s : Sys} {c : Call} {j cur nj : JobV} (verb : String)
    (hf : findJob s.jobs j.name = some cur) (hn : nj.name = j.name)
    (hst : nj.startTime = cur.startTime ∨ nj.startTime = some (s.clock / 1000000000))
    (hadm : cur.admErr = true → nj.admErr = true) (h : Written s c) :
    Written (applyWrite s verb j.name nj) c := by
  obtain ⟨a, ha, h1, h2⟩ := h
  unfold Written
  simp only [applyWrite, findJob_setJob]
  split
  · rename_i hc
    rw [← hc, hn, hf] at ha; cases ha
    exact ⟨nj, rfl, fun hv => hst.elim (fun e => e ▸ h1 hv) id, fun hv => hadm (h2 hv)⟩
  · exact ⟨a, ha, h1, h2⟩

theorem Pass.written_mono (h : Pass jc rjs s ac cs s' ok) {c : Call} (hw : Written s c) :
    Written s' c := by
  refine Pass.preserve (P := fun x => Written x c) ?_ ?_ ?_ ?_ ?_ h hw
  · exact fun _ _ h1 => h1
  · exact fun _ _ _ _ h1 => h1
  · exact fun _ _ _ cur hf h1 =>
      h1.after_write _ hf (findJob_some_name hf : cur.name = _) (.inl rfl) (fun _ => rfl)
  · exact fun _ _ cur hf h1 => h1.after_write _ hf (findJob_some_name hf : cur.name = _) (.inr rfl) id
  · exact fun _ _ h1 => h1

theorem findJob_applyWrite_self (s : Sys) (verb : String) {j cur nj : JobV}
    (hf : findJob s.jobs j.name = some cur) (hn : nj.name = cur.name) :
    findJob (applyWrite s verb j.name nj).jobs j.name = some nj := by
  simp [applyWrite, findJob_setJob, hn, findJob_some_name hf]

theorem findJob_applyWrite_other (s : Sys) (verb : String) {j cur nj : JobV} {n : String}
    (hf : findJob s.jobs j.name = some cur) (hn : nj.name = cur.name) (hne : n ≠ j.name) :
    findJob (applyWrite s verb j.name nj).jobs n = findJob s.jobs n := by
  simp [applyWrite, findJob_setJob, hn, findJob_some_name hf, Ne.symm hne]

theorem written_start_self (s : Sys) (j cur : JobV) (hf : findJob s.jobs j.name = some cur)
    (r : String) : Written (applyWrite s "start" j.name (startedJob s j cur)) ⟨"start", j.name, r⟩ :=
  ⟨_, findJob_applyWrite_self s _ hf rfl, fun _ => rfl,
    fun h => absurd (show "start" = "reject" from h) (by decide)⟩

theorem written_reject_self (s : Sys) (m : String × Int) (j cur : JobV)
    (hf : findJob s.jobs j.name = some cur) (r : String) :
    Written (applyWrite s "reject" j.name (rejectedJob s m j cur)) ⟨"reject", j.name, r⟩ :=
  ⟨_, findJob_applyWrite_self s _ hf rfl,
    fun h => absurd (show "reject" = "start" from h) (by decide), fun _ => rfl⟩

theorem rejectF_fix_admErr {m : String × Int} {j cur : JobV} (h : rejectF m j cur = cur) :
    cur.admErr = true := by
  have := congrArg JobV.admErr h
  simpa [rejectF] using this.symm

theorem written_reject_noop (s : Sys) {m : String × Int} {j cur : JobV}
    (hf : findJob s.jobs j.name = some cur) (hnoop : rejectF m j cur = cur) (r : String) :
    Written (failWrite s "reject" j.name "ok") ⟨"reject", j.name, r⟩ :=
  ⟨cur, hf, fun h => absurd (show "reject" = "start" from h) (by decide),
    fun _ => rejectF_fix_admErr hnoop⟩

/-- every call logged `"ok"` during the pass is reflected in the final authoritative state: it is
when the call is made, and the rest of the pass keeps it so -/
theorem Pass.ok_written (h : Pass jc rjs s ac cs s' ok) :
    ∀ c ∈ cs, c.res = "ok" → Written s' c := by
  -- a call list `c0 :: cs`: `c0` by the fact at the time of the call, `cs` by induction
  have cons : ∀ {c0 : Call} {cs : List Call} {s' : Sys}, Written s' c0 →
      (∀ c ∈ cs, c.res = "ok" → Written s' c) → ∀ c ∈ c0 :: cs, c.res = "ok" → Written s' c :=
    fun h0 ih c hc hok => (List.mem_cons.mp hc).elim (fun e => e ▸ h0) (fun hc => ih c hc hok)
  have refused : ∀ {c0 : Call} {s' : Sys}, c0.res ≠ "ok" → ∀ c ∈ [c0], c.res = "ok" → Written s' c :=
    fun hres c hc hok => absurd (List.mem_singleton.mp hc ▸ hok) hres
  induction h with
  | nil => simp
  | defer _ _ _ ih => exact ih
  | wait _ _ _ _ _ ih => exact ih
  | rejectFail res _ _ _ _ hres => exact refused hres
  | rejectOk cur _ _ _ _ hf _ _ _ hp ih => exact cons (hp.written_mono (written_reject_self _ _ _ _ hf _)) ih
  | rejectLost cur _ _ _ _ hf => exact cons (written_reject_self _ _ _ _ hf _) (by simp)
  | rejectNoop cur _ _ _ _ hf _ _ _ hnoop hp ih =>
    exact cons (hp.written_mono (written_reject_noop _ hf hnoop _)) ih
  | rejectNoopLost cur _ _ _ _ hf _ _ _ hnoop => exact cons (written_reject_noop _ hf hnoop _) (by simp)
  | casFail => simp
  | startFail res _ _ hres => exact refused hres
  | startOk cur _ _ hf _ _ _ hp ih => exact cons (hp.written_mono (written_start_self _ _ _ hf _)) ih
  | startLost cur _ _ hf => exact cons (written_start_self _ _ _ hf _) (by simp)

end Furiko.Queue
