/-
Interface theorems of the heap model: the wrapper refines a finite map `name ⇀ priority`
(`Heap.search`), and `peek`/`pop` yield an entry of minimal priority.
Used by the cron proofs (imported by Proofs/CronLemmas.lean; used in CronTick, CronCatchUp,
CronExamples) and by Props/C01Heap.lean.
-/
import FurikoModel.Model.Heap
import FurikoModel.Proofs.HeapLemmasOps

namespace Furiko.Heap

def lookupItems : List (String × Int) → String → Option Int
  | [], _ => none
  | (n, p) :: rest, k => if k = n then some p else lookupItems rest k

theorem search_none_iff (pq : PQ) (k : String) : search pq k = none ↔ pq.names k = none := by
  rw [search_eq]; cases pq.names k <;> simp

theorem lookupItems_not_mem (l : List (String × Int)) (k : String) (h : k ∉ l.map Prod.fst) :
    lookupItems l k = none := by
  induction l with
  | nil => rfl
  | cons hd tl ih =>
    obtain ⟨n, p⟩ := hd
    simp only [List.map_cons, List.mem_cons, not_or] at h
    unfold lookupItems
    rw [if_neg h.1]
    exact ih h.2

theorem lookupItems_cons (n : String) (p : Int) (rest : List (String × Int)) (k : String) :
    lookupItems ((n, p) :: rest) k = if k = n then some p else lookupItems rest k := rfl

theorem build_spec (l : List (String × Int)) : ∀ (a : PQ), WF a → (l.map Prod.fst).Nodup →
    (∀ x, x ∈ l.map Prod.fst → a.names x = none) →
    WF (new.build l a.queue.size a) ∧
      ∀ k, search (new.build l a.queue.size a) k = (lookupItems l k).or (search a k) := by
  induction l with
  | nil =>
    intro a h _ _
    exact ⟨h, fun k => rfl⟩
  | cons hd tl ih =>
    intro a h hnd hfresh
    obtain ⟨nm, p⟩ := hd
    simp only [List.map_cons, List.nodup_cons] at hnd
    have hnm : a.names nm = none := hfresh nm (by simp)
    have hwf := pushRaw_wf h nm p hnm
    rw [build_cons, ← pushRaw_size a nm p]
    have hfresh' : ∀ x, x ∈ tl.map Prod.fst → (a.pushRaw nm p).names x = none := by
      intro x hx
      rw [pushRaw_names, if_neg (by rintro rfl; exact hnd.1 hx)]
      exact hfresh x (by simp only [List.map_cons, List.mem_cons]; exact Or.inr hx)
    obtain ⟨h1, h2⟩ := ih (a.pushRaw nm p) hwf hnd.2 hfresh'
    refine ⟨h1, fun k => ?_⟩
    rw [h2 k, pushRaw_search h, lookupItems_cons nm p tl k]
    by_cases e : k = nm
    · rw [if_pos e, if_pos e, e, lookupItems_not_mem tl nm hnd.1]; rfl
    · rw [if_neg e, if_neg e]

theorem new_spec (items : List (String × Int)) (hnd : (items.map Prod.fst).Nodup) :
    Inv (new items) ∧ ∀ k, search (new items) k = lookupItems items k := by
  obtain ⟨h1, h2⟩ := build_spec items default default_wf hnd (fun _ _ => rfl)
  rw [default_size] at h1 h2
  obtain ⟨h3, h4⟩ := heapInit_spec h1
  rw [new_eq]
  refine ⟨h3, fun k => ?_⟩
  rw [h4 k, h2 k, default_search, Option.or_none]

theorem push_spec {pq : PQ} (h : Inv pq) (n : String) (p : Int) (hfresh : search pq n = none) :
    Inv (push pq n p) ∧ ∀ k, search (push pq n p) k = if k = n then some p else search pq k := by
  obtain ⟨h1, h2⟩ := heapPush_spec h n p ((search_none_iff pq n).1 hfresh)
  exact ⟨h1, h2⟩

theorem update_some {pq : PQ} (hwf : WF pq) (n : String) (p : Int) (idx : Nat)
    (hk : pq.names n = some idx) : update pq n p = (heapFix (setPrio pq idx p) idx, true) := by
  have hidx : (pq.queue[idx]!).index.toNat = idx := by
    rw [(hwf.get idx (hwf.pos n idx hk).1).1]; rfl
  unfold update
  rw [hk]
  simp only [hidx]
  rfl

theorem update_none {pq : PQ} (n : String) (p : Int) (hk : pq.names n = none) :
    update pq n p = (pq, false) := by
  unfold update; rw [hk]

theorem delete_some {pq : PQ} (hwf : WF pq) (n : String) (idx : Nat)
    (hk : pq.names n = some idx) : delete pq n = ((heapRemove pq idx).1, true) := by
  have hidx : (pq.queue[idx]!).index.toNat = idx := by
    rw [(hwf.get idx (hwf.pos n idx hk).1).1]; rfl
  unfold delete
  rw [hk]
  simp only [hidx]

theorem delete_none {pq : PQ} (n : String) (hk : pq.names n = none) :
    delete pq n = (pq, false) := by
  unfold delete; rw [hk]

theorem update_spec {pq : PQ} (h : Inv pq) (n : String) (p : Int) :
    Inv (update pq n p).1 ∧
      (search pq n ≠ none →
        ∀ k, search (update pq n p).1 k = if k = n then some p else search pq k) := by
  rcases Option.eq_none_or_eq_some (pq.names n) with hk | ⟨idx, hk⟩
  · rw [update_none n p hk]; exact ⟨h, fun c => absurd ((search_none_iff pq n).2 hk) c⟩
  · rw [update_some h.1 n p idx hk]
    obtain ⟨h1, h2⟩ := heapFix_setPrio_spec h n idx p hk
    exact ⟨h1, fun _ => h2⟩

theorem delete_spec {pq : PQ} (h : Inv pq) (n : String) :
    Inv (delete pq n).1 ∧ ∀ k, search (delete pq n).1 k = if k = n then none else search pq k := by
  rcases Option.eq_none_or_eq_some (pq.names n) with hk | ⟨idx, hk⟩
  · rw [delete_none n hk]
    refine ⟨h, fun k => ?_⟩
    split
    · next e => rw [e]; exact (search_none_iff pq n).2 hk
    · rfl
  · rw [delete_some h.1 n idx hk]
    obtain ⟨hi, hname⟩ := h.1.pos n idx hk
    obtain ⟨h1, h2⟩ := heapRemove_spec h idx hi
    rw [hname] at h2
    exact ⟨h1, h2⟩

theorem peek_eq_some {pq : PQ} {it : Item} (hp : peek pq = some it) :
    0 < pq.queue.size ∧ it = pq.queue[0]! := by
  unfold peek PQ.len at hp
  split at hp
  · cases hp
  · exact ⟨by omega, (Option.some.inj hp).symm⟩

theorem peek_none {pq : PQ} : peek pq = none ↔ pq.queue.size = 0 := by
  unfold peek PQ.len
  split
  · exact ⟨fun _ => (by omega), fun _ => rfl⟩
  · exact ⟨fun h => (by cases h), fun h => (by omega)⟩

theorem peek_none_iff {pq : PQ} (h : Inv pq) : peek pq = none ↔ ∀ k, search pq k = none := by
  have hwf := h.1
  rw [peek_none]
  constructor
  · intro h0 k
    rw [search_none_iff]
    rcases Option.eq_none_or_eq_some (pq.names k) with hk | ⟨m, hk⟩
    · exact hk
    · have := (hwf.pos k m hk).1; omega
  · intro hall
    refine Nat.eq_zero_of_not_pos (fun hpos => ?_)
    have h1 := (hwf.get 0 hpos).2
    have h2 := (search_none_iff pq _).1 (hall (pq.queue[0]!).name)
    rw [h1] at h2; cases h2

theorem peek_min {pq : PQ} (h : Inv pq) {it : Item} (hp : peek pq = some it) :
    search pq it.name = some it.prio ∧ ∀ k p, search pq k = some p → it.prio ≤ p := by
  have hwf := h.1
  have ho := h.heapFrom
  obtain ⟨hpos, rfl⟩ := peek_eq_some hp
  constructor
  · rw [search_eq, (hwf.get 0 hpos).2]; rfl
  · intro k p hk
    rw [search_eq] at hk
    rcases Option.eq_none_or_eq_some (pq.names k) with hn | ⟨m, hn⟩
    · rw [hn] at hk; cases hk
    · rw [hn] at hk
      have : prio pq m = p := Option.some.inj hk
      rw [← this]
      exact ho.root_le m (hwf.pos k m hn).1

theorem pop_spec {pq : PQ} (h : Inv pq) {it : Item} (hp : peek pq = some it) :
    ∃ pq' it', pop pq = some (pq', it') ∧ it'.name = it.name ∧ it'.prio = it.prio ∧ Inv pq' ∧
      ∀ k, search pq' k = if k = it.name then none else search pq k := by
  obtain ⟨hpos, rfl⟩ := peek_eq_some hp
  obtain ⟨h1, h2, h3⟩ := heapPop_spec h hpos
  refine ⟨(heapPop pq).1, (heapPop pq).2, ?_, ?_, ?_, h1, h3⟩
  · unfold pop PQ.len
    rw [if_neg (by omega)]
  · rw [h2]
  · rw [h2]

end Furiko.Heap
