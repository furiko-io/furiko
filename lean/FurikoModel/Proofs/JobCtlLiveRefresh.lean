/-
Liveness of the job controller: the refs of a pass while every pod of the Job is finished, and the
`work` step around it.
* One recorded ref under `GenerateTaskRefs`: a DEAD ref (finished, final state, no success recorded
  anywhere in it) stays dead with the same finish time, whether its pod is still there or not; a LIVE ref
  (unfinished, no deletion marker) becomes finished: dead, or succeeded when its pod did; the ref of a
  task that was not recorded yet is live when the task is unfinished and finished otherwise.
* The refs a pass computes in a fresh state are a permutation of "every recorded ref refreshed against
  the pod of its name" (`refreshSrv`) plus the refs of the tasks handed on that were not recorded; a task list
  consistent with the server (`Consistent`) makes the recomputed status a fixpoint of the next pass.
* What a `work` step (`reconciler.Controller.work`: pop a key, `SyncOne`, forget, done) leaves behind
  (`CreateOut`, `PassOut`), and the work queue after an ok pass that only armed timers.
Core Lean only.
-/
import FurikoModel.Proofs.JobCtlLiveEnv
import FurikoModel.Proofs.ConvLemmasJob

set_option linter.unusedSimpArgs false
set_option linter.unusedVariables false

namespace Furiko.JobCtl.Live
open Furiko Furiko.JobCtl Furiko.WQ Furiko.StatusLemmas Furiko.JobCtlPlan

/-- a recorded attempt that is over and did not succeed -/
structure Dead (r : TaskRef) : Prop where
  fin : r.finishTimestamp.isSome = true
  nosucc : r.status.result ≠ .succeeded
  final : isFinalTaskState r.status.state = true
  ds : ∀ x, r.deletedStatus = some x → x.result ≠ .succeeded ∧ isFinalTaskState x.state = true

/-- a recorded attempt that is not over -/
structure LiveRef (r : TaskRef) : Prop where
  unfin : r.finishTimestamp = none
  nods : r.deletedStatus = none
  nosucc : r.status.result ≠ .succeeded

/-- a recorded attempt that succeeded -/
structure SuccRef (r : TaskRef) : Prop where
  fin : r.finishTimestamp.isSome = true
  succ : r.status.result = .succeeded

/-- what a task read from a pod reports (`TaskSem` of the stability proofs plus the name) -/
structure TaskGood (t : Task) : Prop where
  ok : TaskOK t
  succFin : t.ref.status.result = .succeeded → t.ref.finishTimestamp.isSome = true
  finFinal : t.ref.finishTimestamp.isSome = true → isFinalTaskState t.ref.status.state = true
  noDs : t.ref.deletedStatus = none

theorem TaskGood.final {t : Task} (h : TaskGood t) : TaskFinal t := h.finFinal

theorem podTask_taskGood {now : Time} {p : PodObj} {t : Task} (hc : p.pod.creationTimestamp.isSome = true)
    (h : podTask now p = some t) : TaskGood t := by
  have hs := podTask_sem hc h
  exact ⟨(podTask_ok h).1, hs.succFin, hs.finFinal, hs.noDs⟩

theorem dead_getTaskRef {r : TaskRef} {t : Task} (hd : Dead r) (hf : t.ref.finishTimestamp.isSome = true) :
    Dead (getTaskRef (some r) t) ∧ (getTaskRef (some r) t).finishTimestamp = r.finishTimestamp := by
  obtain ⟨h1, h2, h3⟩ := getTaskRef_some_frozen r t hd.fin hf hd.final
  refine ⟨⟨by rw [h2]; exact hd.fin, by rw [h1]; exact hd.nosucc, by rw [h1]; exact hd.final, ?_⟩, h2⟩
  rw [h3]; exact hd.ds

theorem dead_lostRef {r : TaskRef} (now : Time) (hd : Dead r) :
    Dead (lostRef now r) ∧ (lostRef now r).finishTimestamp = r.finishTimestamp := by
  unfold lostRef
  cases hf : r.finishTimestamp with
  | none => have := hd.fin; rw [hf] at this; cases this
  | some f =>
    cases hds : r.deletedStatus with
    | none =>
      simp only [Option.isNone_some, Bool.false_eq_true, ↓reduceIte]
      refine ⟨⟨by rw [hf]; rfl, hd.nosucc, by simp [isFinalTaskState], ?_⟩, hf⟩
      intro x hx; rw [hds] at hx; cases hx
    | some x =>
      simp only [Option.isNone_some, Bool.false_eq_true, ↓reduceIte]
      have hx := hd.ds x hds
      refine ⟨⟨by rw [hf]; rfl, hx.1, hx.2, ?_⟩, hf⟩
      intro y hy; rw [hds] at hy; cases hy; exact hx

/-- a ref that records a finished task as the task reports it: finished; dead unless the task succeeded -/
theorem recorded_finished {g : TaskRef} {t : Task} (ht : TaskGood t) (hf : t.ref.finishTimestamp.isSome = true)
    (h1 : g.status = t.ref.status) (h2 : g.finishTimestamp = t.ref.finishTimestamp)
    (h3 : g.deletedStatus = some t.ref.status) :
    g.finishTimestamp.isSome = true ∧ g.status = t.ref.status ∧ (t.ref.status.result ≠ .succeeded → Dead g) := by
  refine ⟨by rw [h2]; exact hf, h1, fun hns => ?_⟩
  refine ⟨by rw [h2]; exact hf, by rw [h1]; exact hns, by rw [h1]; exact ht.finFinal hf, fun x hx => ?_⟩
  rw [h3] at hx
  cases hx
  exact ⟨hns, ht.finFinal hf⟩

theorem live_getTaskRef {r : TaskRef} {t : Task} (hl : LiveRef r) (ht : TaskGood t)
    (hf : t.ref.finishTimestamp.isSome = true) :
    (getTaskRef (some r) t).finishTimestamp.isSome = true ∧
    (getTaskRef (some r) t).status = t.ref.status ∧
    (t.ref.status.result ≠ .succeeded → Dead (getTaskRef (some r) t)) := by
  obtain ⟨h1, h2, h3⟩ := getTaskRef_some_fresh r t (by rw [hl.unfin]; rfl) hf
  exact recorded_finished ht hf h1 h2 h3

theorem live_lostRef {r : TaskRef} (now : Time) (hl : LiveRef r) : Dead (lostRef now r) := by
  unfold lostRef
  simp only [hl.unfin, Option.isNone_none, ↓reduceIte, hl.nods]
  refine ⟨rfl, hl.nosucc, by simp [isFinalTaskState], ?_⟩
  intro x hx; cases hx

theorem live_getTaskRef_unfinished {r : TaskRef} {t : Task} (hl : LiveRef r) (ht : TaskGood t)
    (hf : t.ref.finishTimestamp = none) : LiveRef (getTaskRef (some r) t) := by
  obtain ⟨h1, h2, h3⟩ := getTaskRef_some_unfinished r t (by rw [hf]; rfl)
  refine ⟨by rw [h2]; exact hl.unfin, by rw [h3]; exact hl.nods, ?_⟩
  rw [h1]
  intro hs
  have := ht.succFin hs
  rw [hf] at this; cases this

theorem new_getTaskRef_unfinished {t : Task} (ht : TaskGood t) (hf : t.ref.finishTimestamp = none) :
    LiveRef (getTaskRef none t) := by
  obtain ⟨h1, h2, h3⟩ := getTaskRef_none_fields t
  refine ⟨by rw [h2]; exact hf, ?_, ?_⟩
  · rw [h3, hf]; simp [ht.noDs]
  · rw [h1]
    intro hs
    have := ht.succFin hs
    rw [hf] at this; cases this

theorem new_getTaskRef_finished {t : Task} (ht : TaskGood t) (hf : t.ref.finishTimestamp.isSome = true) :
    (getTaskRef none t).finishTimestamp.isSome = true ∧ (getTaskRef none t).status = t.ref.status ∧
    (t.ref.status.result ≠ .succeeded → Dead (getTaskRef none t)) := by
  obtain ⟨h1, h2, h3⟩ := getTaskRef_none_fields t
  exact recorded_finished ht hf h1 h2 (by rw [h3, if_pos hf])

theorem Dead.not_activeOrSuccessful {r : TaskRef} (h : Dead r) : refActiveOrSuccessful r = false := by
  unfold refActiveOrSuccessful
  cases hf : r.finishTimestamp with
  | none => have := h.fin; rw [hf] at this; cases this
  | some f =>
    have := h.nosucc
    cases hr : r.status.result <;> simp_all

theorem LiveRef.activeOrSuccessful {r : TaskRef} (h : LiveRef r) : refActiveOrSuccessful r = true := by
  unfold refActiveOrSuccessful
  simp [h.unfin]

theorem Dead.not_live {r : TaskRef} (h : Dead r) (hl : LiveRef r) : False := by
  have := h.fin; rw [hl.unfin] at this; cases this

theorem allDead_facts {L : List TaskRef} (h : ∀ r ∈ L, Dead r) : ¬ AnySucc L ∧ AllFin L ∧
    L.any refActiveOrSuccessful = false := by
  refine ⟨?_, fun r hr => (h r hr).fin, ?_⟩
  · rintro ⟨r, hr, hs⟩; exact (h r hr).nosucc hs
  · cases ha : L.any refActiveOrSuccessful with
    | false => rfl
    | true =>
      obtain ⟨r, hr, hx⟩ := List.any_eq_true.mp ha
      rw [(h r hr).not_activeOrSuccessful] at hx; cases hx

/-- a recorded ref refreshed against the pod of its name on the server: `refresh` (`JobCtlLivePure`) with the
server's `lookTask` in the place of `findTask` over a task list (`Consistent.refresh_eq`) -/
def refreshSrv (s : Sys) (r : TaskRef) : TaskRef :=
  match lookTask s r.name with
  | some t => getTaskRef (some r) t
  | none => lostRef s.clock r

/-- a task list as a pass holds it: names pairwise distinct, every task is the one the server shows under
its name, and every recorded ref whose pod the server shows has its task listed -/
structure Consistent (s : Sys) (rs : List TaskRef) (T1 : List Task) : Prop where
  nodup : (T1.map (·.name)).Nodup
  look : ∀ t ∈ T1, lookTask s t.name = some t
  cover : ∀ r ∈ rs, (lookTask s r.name).isSome = true → r.name ∈ T1.map (·.name)

section
variable {s : Sys} {rs : List TaskRef} {T1 : List Task}

theorem Consistent.findTask_eq (h : Consistent s rs T1) (n : String)
    (hn : n ∈ T1.map (·.name)) : findTask T1 n = lookTask s n := by
  obtain ⟨t, ht, rfl⟩ := List.mem_map.mp hn
  rw [findTask_of_mem h.nodup ht, h.look t ht]

theorem Consistent.findTask_ref (h : Consistent s rs T1) {r : TaskRef}
    (hr : r ∈ rs) : findTask T1 r.name = lookTask s r.name := by
  by_cases hn : r.name ∈ T1.map (·.name)
  · exact h.findTask_eq r.name hn
  · rw [findTask_eq_none.mpr hn]
    exact (Option.not_isSome_iff_eq_none.mp fun hs => hn (h.cover r hr hs)).symm

theorem Consistent.refresh_eq (h : Consistent s rs T1) (r : TaskRef)
    (hr : r ∈ rs) : refresh s.clock T1 r = refreshSrv s r := by
  unfold refresh refreshSrv
  rw [h.findTask_ref hr]
  rfl

theorem Consistent.taskOK (h : Consistent s rs T1) :
    ∀ t ∈ T1, TaskOK t := by
  intro t ht
  obtain ⟨p, _, hp⟩ := lookTask_some (h.look t ht)
  exact (podTask_ok hp).1

end

/-- the tasks found for the recorded refs are consistent with the server -/
theorem consistent_found (s : Sys) (rs : List TaskRef) (hnd : (rs.map (·.name)).Nodup) :
    Consistent s rs (rs.filterMap (fun r => lookTask s r.name)) := by
  have hsub := filterMap_names_sublist (fun r : TaskRef => lookTask s r.name) (·.name) (·.name)
    (fun x y h => lookTask_name h) rs
  refine ⟨hsub.nodup hnd, ?_, ?_⟩
  · intro t ht
    obtain ⟨r, _, hr⟩ := List.mem_filterMap.mp ht
    rw [lookTask_name hr]; exact hr
  · intro r hr hs
    cases hl : lookTask s r.name with
    | none => rw [hl] at hs; cases hs
    | some t =>
      exact List.mem_map.mpr ⟨t, List.mem_filterMap.mpr ⟨r, hr, hl⟩, lookTask_name hl⟩

/-- … and stay so when a task the server shows under a name that is not recorded is appended -/
theorem Consistent.snoc {s : Sys} {rs : List TaskRef} {T : List Task} (h : Consistent s rs T) (t : Task)
    (hl : lookTask s t.name = some t) (hn : t.name ∉ T.map (·.name)) : Consistent s rs (T ++ [t]) := by
  refine ⟨?_, ?_, ?_⟩
  · rw [List.map_append, List.nodup_append]
    refine ⟨h.nodup, by simp, ?_⟩
    intro a ha b hb
    simp only [List.map_cons, List.map_nil, List.mem_singleton] at hb
    subst hb
    intro e; subst e; exact hn ha
  · intro t' ht'
    rcases List.mem_append.mp ht' with h' | h'
    · exact h.look t' h'
    · simp only [List.mem_singleton] at h'; subst h'; exact hl
  · intro r hr hs
    rw [List.map_append]
    exact List.mem_append_left _ (h.cover r hr hs)

/-- the refs a pass generates from a consistent task list: the recorded refs refreshed against the server,
and the refs of the listed tasks that were not recorded -/
theorem generate_consistent (s : Sys) (rs : List TaskRef) (T1 : List Task) (hnd : (rs.map (·.name)).Nodup)
    (h : Consistent s rs T1) :
    (generateTaskRefs s.clock rs T1).Perm (rs.map (refreshSrv s) ++ (newTasks rs T1).map (getTaskRef none)) := by
  have hp := generateTaskRefs_perm_canon s.clock rs T1 hnd h.nodup h.taskOK
  unfold canonRefs at hp
  have : rs.map (refresh s.clock T1) = rs.map (refreshSrv s) := by
    apply List.map_congr_left
    intro r hr
    exact h.refresh_eq r hr
  rw [this] at hp
  exact hp

theorem newTasks_found (rs : List TaskRef) (look : String → Option Task) (hl : ∀ n t, look n = some t → t.name = n) :
    newTasks rs (rs.filterMap (fun r => look r.name)) = [] := by
  refine List.eq_nil_iff_forall_not_mem.mpr fun t ht => ?_
  obtain ⟨ht, hn⟩ := mem_newTasks.mp ht
  obtain ⟨r, hr, hrt⟩ := List.mem_filterMap.mp ht
  exact hn (List.mem_map.mpr ⟨r, hr, (hl _ _ hrt).symm⟩)

theorem newTasks_snoc (rs : List TaskRef) (T : List Task) (t : Task) (h0 : newTasks rs T = [])
    (hn : t.name ∉ rs.map (·.name)) : newTasks rs (T ++ [t]) = [t] := by
  unfold newTasks at *
  rw [List.filter_append, h0, List.nil_append, List.filter_cons_of_pos (by simpa using hn), List.filter_nil]

/-- **a pass that changes nothing on the server leaves refs the next pass computes again**: let the refs
`rs` be regenerated over a task list consistent with the server (`generateTaskRefs now rs T1`), every
task reporting a finish time with a final state.  In any state `s'` that shows the same tasks under every
name, up to the clock they are read at (`OptSim`), the task list found for the new refs reproduces the new
refs, at any clock. -/
theorem generate_stable (s s' : Sys) (now : Time) (rs : List TaskRef) (T1 : List Task) (hnd : (rs.map (·.name)).Nodup)
    (h : Consistent s rs T1) (hfin : ∀ t ∈ T1, TaskFinal t)
    (hsame : ∀ n, OptSim (lookTask s n) (lookTask s' n)) :
    generateTaskRefs s'.clock (generateTaskRefs now rs T1)
      ((generateTaskRefs now rs T1).filterMap (fun r => lookTask s' r.name)) = generateTaskRefs now rs T1 := by
  have hok := h.taskOK
  have hG := generateTaskRefs_names_nodup now rs T1 hnd h.nodup hok
  have hc' := consistent_found s' (generateTaskRefs now rs T1) hG
  refine generateTaskRefs_idem_sim now s'.clock rs T1 _ hnd h.nodup hok hfin hc'.nodup hc'.taskOK ?_ ?_
  · intro t ht
    obtain ⟨r, hr, hrt⟩ := List.mem_filterMap.mp ht
    exact List.mem_map.mpr ⟨r, hr, (lookTask_name hrt).symm⟩
  · intro g hg
    rw [hc'.findTask_ref hg]
    have hgn : g.name ∈ (generateTaskRefs now rs T1).map (·.name) := List.mem_map.mpr ⟨g, hg, rfl⟩
    -- the name is a task's or a lost ref's
    have hnames := (generateTaskRefs_perm_canon now rs T1 hnd h.nodup hok).map (·.name)
    rw [canonRefs_names now rs T1 hok] at hnames
    have hgn' := hnames.mem_iff.mp hgn
    rcases List.mem_append.mp hgn' with hx | hx
    · obtain ⟨r, hr, hrn⟩ := List.mem_map.mp hx
      rw [← hrn, h.findTask_ref hr]
      exact hsame r.name
    · obtain ⟨t, ht, htn⟩ := List.mem_map.mp hx
      rw [h.findTask_eq g.name (List.mem_map.mpr ⟨t, (mem_newTasks.mp ht).1, htn⟩)]
      exact hsame g.name

open Furiko.Conv

/-- the state after the creation stage of a pass: the pass-start state plus the created pods (none or
one), call log aside -/
structure CreateOut (sp s1 : Sys) (created : List PodObj) : Prop where
  clock : s1.clock = sp.clock
  d : s1.d = sp.d
  cfg : s1.cfg = sp.cfg
  job : s1.job = sp.job
  jobEvs : s1.jobEvs = sp.jobEvs
  jobCache : s1.jobCache = sp.jobCache
  podCache : s1.podCache = sp.podCache
  q : s1.q = sp.q
  faults : s1.faults = sp.faults
  delRun : s1.delRun = sp.delRun
  pods : s1.pods = sp.pods ++ created
  podEvs : s1.podEvs = sp.podEvs ++ created.map PEv.upsert

/-- what a `work` step leaves behind -/
structure PassOut (jo : JobObj) (s w : Sys) (newStatus : JobStatus) (created : List PodObj) : Prop where
  job : ∃ jo', w.job = some jo' ∧ jo'.name = jo.name ∧ jo'.uid = jo.uid ∧ jo'.finalizer = jo.finalizer ∧
    jo'.job = { jo.job with status := newStatus }
  jsync : JSync w
  psync : PSync w
  pods : w.pods = s.pods ++ created
  clock : w.clock = s.clock
  d : w.d = s.d
  cfg : w.cfg = s.cfg
  faults : w.faults = []
  wf : Retry.WF w.q
  wrote : newStatus ≠ jo.job.status → ∃ j rest, w.jobEvs = .upsert j :: rest

/-- the queue after `Get` popped `k` -/
def popQ (q : WQ) (k : String) (rest : List String) : WQ :=
  { q with queue := rest, processing := k :: q.processing, dirty := q.dirty.erase k }

theorem get_cons {q : WQ} {k : String} {rest : List String} (h : q.queue = k :: rest) :
    q.get = some (k, popQ q k rest) := by
  unfold WQ.get popQ; rw [h]

/-- the queue after `Done k` on a queue `q'` that has, of the queue `q` the key `k` was popped from, the keys
behind `k`, the dirty set without `k`, and `k` in processing -/
theorem queue_done {q q' : WQ} {k : String} {rest : List String} (hwf : Retry.WF q) (hq : q.queue = k :: rest)
    (h1 : q'.queue = rest) (h2 : q'.dirty = q.dirty.erase k) (h3 : q'.processing = k :: q.processing) :
    Retry.WF (q'.done k) ∧ (q'.done k).delayed = q'.delayed ∧ (q'.done k).queue = rest := by
  have hke : k ∉ q.dirty.erase k := fun hm => ((List.Nodup.mem_erase_iff hwf.nodup).mp hm).1 rfl
  rw [Retry.done_clean (by rw [h3, hwf.idle]) (by rw [h2]; exact hke)]
  refine ⟨⟨rfl, ?_, ?_⟩, rfl, h1⟩
  · show q'.dirty.Nodup; rw [h2]; exact hwf.nodup.erase k
  · intro x hx
    obtain ⟨hne, hxd⟩ := (List.Nodup.mem_erase_iff hwf.nodup).mp (h2 ▸ (hx : x ∈ q'.dirty))
    show x ∈ q'.queue
    rw [h1]
    exact (List.mem_cons.mp (hq ▸ hwf.dirty x hxd)).resolve_left hne

/-- the queue after an ok pass that only armed timers -/
theorem queue_after_ok {q qs : WQ} {k : String} {rest : List String} (hwf : Retry.WF q) (hq : q.queue = k :: rest)
    (h1 : qs.queue = rest) (h2 : qs.dirty = q.dirty.erase k) (h3 : qs.processing = k :: q.processing) :
    Retry.WF ((qs.forget k).done k) ∧ ((qs.forget k).done k).delayed = qs.delayed ∧
    ((qs.forget k).done k).queue = rest :=
  queue_done (q' := qs.forget k) hwf hq h1 h2 h3

end Furiko.JobCtl.Live
