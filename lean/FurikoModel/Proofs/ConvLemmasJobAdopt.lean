/-
Helpers for Props/C20Inst: a job-controller pass that RETURNS OK records, in the status it
writes, a task for every creation request of its loop that was due — in particular the pod that an
earlier, faulted pass created without recording (create ↦ AlreadyExists ↦ adopt ↦ record).
Core Lean only.
-/
import FurikoModel.Proofs.ConvLemmasJob
import FurikoModel.Props.C11

set_option linter.unusedVariables false
set_option linter.unusedSimpArgs false

namespace Furiko.Conv
open Furiko Furiko.JobCtl Furiko.WQ Furiko.JobCtlPlan

/-- a create that did not fail hands on a task named after the request, provided a pod-cache entry
of that name (if there is one) is controlled by this Job -/
theorem syncCreateTask_named (s : Sys) (jo : JobObj) (rj : Job) (tasks : List Task) (idx : PIndex) (retry : Int)
    (rj' : Job) (tasks' : List Task)
    (h : (syncCreateTask s jo rj tasks idx retry).2 = some (rj', tasks'))
    (hown : ∀ p, findPod s.podCache (taskName jo.name idx.hash retry) = some p → p.ownerUid = some jo.uid) :
    ∃ t, tasks' = tasks ++ [t] ∧ t.name = taskName jo.name idx.hash retry := by
  rw [syncCreateTask_eq] at h
  simp only at h
  have hpc : (apiCreatePod s jo idx retry).1.podCache = s.podCache := by
    obtain ⟨c, e, _⟩ := apiCreatePod_ext s jo idx retry
    exact e.podCache
  rcases apiCreatePod_spec s jo idx retry with ⟨_, hnok⟩ | ⟨_, hres⟩
  · -- nothing created: err or exists
    cases hr : (apiCreatePod s jo idx retry).2 with
    | ok p => exact absurd hr (hnok p)
    | err => rw [hr] at h; simp [createOut] at h
    | «exists» =>
      rw [hr] at h
      simp only [createOut, hpc] at h
      cases hf : findPod s.podCache (taskName jo.name idx.hash retry) with
      | none => rw [hf] at h; simp at h
      | some p =>
        rw [hf] at h
        simp only [hown p hf, if_true] at h
        cases ht : podTask s.clock p with
        | none => rw [ht] at h; simp at h
        | some t =>
          rw [ht] at h
          simp only [Option.map_some, Option.some.injEq, Prod.mk.injEq] at h
          exact ⟨t, h.2.symm, by rw [(podTask_ok ht).2]; exact (JobCtl.findPod_some hf).2⟩
  · rcases hres with hr | hr
    · rw [hr] at h
      simp only [createOut] at h
      cases ht : podTask s.clock (newPod jo idx retry (nowT s)) with
      | none => rw [ht] at h; simp at h
      | some t =>
        rw [ht] at h
        simp only [Option.map_some, Option.some.injEq, Prod.mk.injEq] at h
        exact ⟨t, h.2.symm, by rw [(podTask_ok ht).2]; rfl⟩
    · rw [hr] at h; simp [createOut] at h

/-- **a creation loop that did not fail returns, for every due request, a task named after it** -/
theorem createLoop_covers (jo : JobObj) : ∀ (reqs : List CreationRequest) (s : Sys) (rj : Job) (tasks : List Task)
    (minE : Option Time) (rj' : Job) (tasks' : List Task) (m : Option Time) (r : CreationRequest),
    (createLoop jo reqs s rj tasks minE).2 = some (rj', tasks', m) → r ∈ reqs → reqDueNow s.clock r →
    (∀ p, findPod s.podCache (taskName jo.name r.index.hash r.retryIndex) = some p → p.ownerUid = some jo.uid) →
    ∃ t ∈ tasks', t.name = taskName jo.name r.index.hash r.retryIndex := by
  intro reqs
  induction reqs with
  | nil => intro s rj tasks minE rj' tasks' m r _ hr; cases hr
  | cons r0 rest ih =>
    intro s rj tasks minE rj' tasks' m r h hr hdue hown
    rw [createLoop_consK] at h
    by_cases hskip : skipReq r0 s = true
    · rw [if_pos hskip] at h
      rcases List.mem_cons.mp hr with rfl | hr'
      · -- a due request is not skipped
        exfalso
        unfold skipReq at hskip
        unfold reqDueNow at hdue
        rcases hdue with hz | hn
        · simp [hz] at hskip
        · simp only [Bool.and_eq_true, decide_eq_true_eq] at hskip
          exact hn hskip.2
      · exact ih s rj tasks _ rj' tasks' m r h hr' hdue hown
    · rw [if_neg hskip] at h
      dsimp only [orElse] at h
      obtain ⟨c, e, _⟩ := syncCreateTask_ext s jo rj tasks r0.index r0.retryIndex
      cases hsc : (syncCreateTask s jo rj tasks r0.index r0.retryIndex).2 with
      | none => rw [hsc] at h; cases h
      | some pr =>
        obtain ⟨rj1, tasks1⟩ := pr
        rw [hsc] at h
        rcases List.mem_cons.mp hr with rfl | hr'
        · obtain ⟨t, ht, hn⟩ := syncCreateTask_named s jo rj tasks r.index r.retryIndex rj1 tasks1 hsc hown
          -- the tasks the rest of the loop returns extend `tasks1`
          obtain ⟨_, _, _, _, hres⟩ := createLoop_ext jo rest _ rj1 tasks1 (JobCtlPlan.minNonZero r minE)
          obtain ⟨_, _, _, _, extra, he, _⟩ := hres rj' tasks' m h
          exact ⟨t, by rw [he, ht]; simp, hn⟩
        · exact ih _ rj1 tasks1 _ rj' tasks' m r h hr' (by rw [e.clock]; exact hdue) (by rw [e.podCache]; exact hown)

theorem updateTaskRefStatus_names (s : Sys) (key : String) (rj : Job) (tasks : List Task)
    (hok : ∀ t ∈ tasks, TaskOK t) : ∀ t ∈ tasks, t.name ∈ refNames (updateTaskRefStatus s key rj tasks).2 := by
  intro t ht
  unfold updateTaskRefStatus
  have hle := (syncJobStatusFromTaskRefs_spec s key (updateJobTaskRefs s.clock rj tasks)).2
  apply hle.names
  have hm := (Props.C11.generateTaskRefs_members s.clock rj.status.tasks tasks).2.1 t ht
  unfold refNames updateJobTaskRefs
  refine List.mem_map.mpr ⟨_, hm, ?_⟩
  rw [(getTaskRef_fields _ t).1]
  exact hok t ht

/-- what `sync` returns extends (in the sense of `JobLe`) what its task stage returned -/
theorem sync_from_stage (s : Sys) (jo : JobObj) (rj1 : Job) (h : (syncTasksStage s jo).2 = some rj1) :
    JobLe rj1 (sync s jo).2.1 := by
  rw [sync_eqK]
  dsimp only [orElse]
  rw [h]
  dsimp only [syncK2]
  have h2 := (syncJobStatusFromTaskRefs_spec (syncTasksStage s jo).1 (jobKey jo) rj1).2
  generalize syncJobStatusFromTaskRefs (syncTasksStage s jo).1 (jobKey jo) rj1 = u at h2 ⊢
  obtain ⟨s2, rj2⟩ := u
  dsimp only at h2 ⊢
  cases (handleTTL s2 jo rj2).2 with
  | false => exact h2
  | true =>
    dsimp only [syncK3, orElse]
    have h3 := (handleFinalizer_spec (handleTTL s2 jo rj2).1 jo (handleTTL s2 jo rj2).1 rj2 jo.finalizer).2
    cases hf : (handleFinalizer (handleTTL s2 jo rj2).1 jo rj2 jo.finalizer).2 with
    | none => exact h2
    | some pr => exact h2.trans (h3 pr.1 pr.2 hf)

/-- a `sync` that reports success got a Job from its task stage -/
theorem sync_ok_stage (s : Sys) (jo : JobObj) (h : (sync s jo).2.2.2.1 = true) :
    ∃ rj1, (syncTasksStage s jo).2 = some rj1 := by
  rw [sync_eqK] at h
  dsimp only [orElse] at h
  cases hs : (syncTasksStage s jo).2 with
  | none => rw [hs] at h; cases h
  | some rj1 => exact ⟨rj1, rfl⟩

theorem apiUpdateJobStatus_true (s : Sys) (c n : JobObj) (h : (apiUpdateJobStatus s c n).2 = true) :
    ∃ j', (apiUpdateJobStatus s c n).1.job = some j' ∧ j'.job.status = n.job.status := by
  unfold apiUpdateJobStatus at h ⊢
  generalize nextFault s = r at h ⊢
  obtain ⟨f, s1⟩ := r
  dsimp only at h ⊢
  by_cases hff : isFailFault f = true
  · rw [if_pos hff] at h; cases h
  rw [if_neg hff] at h ⊢
  cases hj : s1.job with
  | none => rw [hj] at h; cases h
  | some cur =>
    rw [hj] at h
    dsimp only at h ⊢
    by_cases hrv : cur.rv ≠ c.rv
    · rw [if_pos hrv] at h; cases h
    rw [if_neg hrv]
    split
    · rename_i heq
      -- a no-op write: the stored status already is the new one
      exact ⟨cur, hj, (congrArg (·.job.status) heq).symm⟩
    · exact ⟨_, rfl, rfl⟩

/-- a `SyncOne` tail that returns ok after computing a status different from the cached one has
written exactly that status, and `sync` had reported success -/
theorem oneK_ok (jo : JobObj) (r : Job × Bool × Bool × Bool) (s1 : Sys) (h : (oneK jo r s1).2 = true) :
    r.2.2.1 = true ∧
    (r.1.status ≠ jo.job.status → ∃ j', (oneK jo r s1).1.job = some j' ∧ j'.job.status = r.1.status) := by
  unfold oneK oneK2 at h ⊢
  generalize oneK1 jo r s1 = w1 at h ⊢
  obtain ⟨s2, ok1⟩ := w1
  cases ok1 with
  | false => simp at h
  | true =>
    simp only [Bool.not_true, Bool.false_eq_true, if_false] at h ⊢
    by_cases hd : (decide (r.1.status ≠ jo.job.status) || r.2.2.2) = true
    · simp only [hd, if_true] at h ⊢
      cases hw : (apiUpdateJobStatus s2 (statusBase s2 jo (r.1.admissionError ≠ jo.job.admissionError || r.2.1 ≠ jo.finalizer))
          { jo with job := r.1 }).2 with
      | false => rw [hw] at h; simp at h
      | true =>
        rw [hw] at h
        simp only [Bool.not_true, Bool.false_eq_true, if_false] at h ⊢
        exact ⟨h, fun _ => apiUpdateJobStatus_true s2 _ { jo with job := r.1 } hw⟩
    · simp only [hd, Bool.false_eq_true, if_false, Bool.not_true] at h ⊢
      refine ⟨h, fun hne => ?_⟩
      exfalso
      apply hd
      simp [hne]


/-- **A pass that returns ok has recorded every due creation request.**  Reachable state, Job cache
equal to the server, the cached Job started / not being deleted / allowed to create tasks / not
complete, `r` one of the requests `ComputeMissingIndexesForCreation` computes from the cached status,
due now, and a pod-cache entry under the request's task name — if any — controlled by this Job.
If `work` returns "ok", the authoritative status afterwards lists the request's task name. -/
theorem work_ok_records {ok : Sys → Action → Prop} {j0 : JobObj} {s : Sys} (hr : Reach ok j0 s) (jo : JobObj)
    (hc : s.jobCache = some jo) (hjob : s.job = some jo)
    (hst : isStarted jo.job = true) (hnd : isDeleted jo.job = false) (hcan : canCreateTask jo.job = true)
    (hncomp : (refreshedSummary s jo.job (tasks0 s jo jo.job)).complete = false)
    (reqs : List CreationRequest) (r : CreationRequest)
    (hreqs : computeMissingIndexesForCreation s.d jo.job (jo.job.indexes s.d) = some reqs) (hrm : r ∈ reqs)
    (hdue : reqDueNow s.clock r)
    (hown : ∀ p, findPod s.podCache (taskName jo.name r.index.hash r.retryIndex) = some p → p.ownerUid = some jo.uid)
    (hok : (JobCtl.work s).2 = "ok") :
    ∀ j', (JobCtl.work s).1.job = some j' → taskName jo.name r.index.hash r.retryIndex ∈ refNames j'.job := by
  intro j' hj'
  obtain ⟨k, q1, hg⟩ := work_not_idle (s := s) (by rw [hok]; decide)
  have hwj : (JobCtl.work s).1.job = (syncOne (passStart s q1)).1.job := by rw [work_some s k q1 hg]
  have hsok := (syncOne_of_work hg).1 hok
  have hcp : (passStart s q1).jobCache = some jo := hc
  rw [syncOne_eqK (passStart s q1) jo hcp] at hsok hwj
  obtain ⟨hsync, hwritten⟩ := oneK_ok jo _ _ hsok
  obtain ⟨rjOut, hstage⟩ := sync_ok_stage (passStart s q1) jo hsync
  have hle := sync_from_stage (passStart s q1) jo rjOut hstage
  -- the task stage is `syncJobTasks`
  have hstage' : (syncJobTasks (passStart s q1) jo jo.job).2 = some rjOut := by
    unfold syncTasksStage at hstage
    have hcnd : (isStarted jo.job && !isDeleted jo.job) = true := by simp [hst, hnd]
    rw [if_pos hcnd] at hstage
    exact hstage
  obtain ⟨s1, rj1, tasks1, s2, rj2, s3, rj3, s4, rj4, s5, rj5, hct, _, _, _, _, hfinal, _⟩ :=
    syncJobTasks_success (passStart s q1) jo jo.job rjOut hstage'
  have hout : rjOut = (updateTaskRefStatus s5 (jobKey jo) rj5 tasks1).2 := by
    rw [hfinal] at hstage'
    simp only [Option.some.injEq] at hstage'
    exact hstage'.symm
  -- the tasks after the creation step are well-formed
  have htok : ∀ t ∈ tasks1, TaskOK t := by
    have hsp := (syncCreateTasks_spec (passStart s q1) jo (passStart s q1) (tasks0 (passStart s q1) jo jo.job) hst hnd
      (tasksForRefs_ok _ _ _) (CreatePhase.refl _)).2
    rw [hct] at hsp
    exact (hsp rj1 tasks1 rfl).2
  -- the creation loop ran and returned `tasks1`
  have hloop : ∃ rjL minE, (createLoop jo reqs (passStart s q1) jo.job (tasks0 (passStart s q1) jo jo.job) none).2 =
      some (rjL, tasks1, minE) := by
    rw [syncCreateTasks_eq] at hct
    have h1 : ¬ (!canCreateTask jo.job) = true := by simp [hcan]
    rw [if_neg h1] at hct
    have h2 : ¬ (refreshedSummary (passStart s q1) jo.job (tasks0 (passStart s q1) jo jo.job)).complete = true := by
      have : (refreshedSummary (passStart s q1) jo.job (tasks0 (passStart s q1) jo jo.job)).complete = false := hncomp
      rw [this]; simp
    rw [if_neg h2] at hct
    have h3 : computeMissingIndexesForCreation (passStart s q1).d jo.job (jo.job.indexes (passStart s q1).d) = some reqs :=
      hreqs
    rw [h3] at hct
    simp only at hct
    cases hl : (createLoop jo reqs (passStart s q1) jo.job (tasks0 (passStart s q1) jo jo.job) none).2 with
    | none => rw [hl] at hct; simp at hct
    | some pr =>
      obtain ⟨rjL, tasksL, minE⟩ := pr
      rw [hl] at hct
      simp only [Prod.mk.injEq, Option.some.injEq] at hct
      exact ⟨rjL, minE, by rw [hct.2.2]⟩
  obtain ⟨rjL, minE, hl⟩ := hloop
  obtain ⟨t, ht, hn⟩ := createLoop_covers jo reqs (passStart s q1) jo.job _ none rjL tasks1 minE r hl hrm hdue hown
  have hname : taskName jo.name r.index.hash r.retryIndex ∈ refNames (sync (passStart s q1) jo).2.1 := by
    apply hle.names
    rw [hout, ← hn]
    exact updateTaskRefStatus_names s5 (jobKey jo) rj5 tasks1 htok t ht
  by_cases hdiff : (sync (passStart s q1) jo).2.1.status = jo.job.status
  · -- nothing to write: the name was recorded already; the pass keeps recorded names
    have hin : taskName jo.name r.index.hash r.retryIndex ∈ refNames jo.job := by
      unfold refNames at hname ⊢
      rw [← hdiff]; exact hname
    exact (work_level_kept (base_of_reach hr) jo j' hjob hj').names _ hin
  · obtain ⟨j'', hj'', hst''⟩ := hwritten hdiff
    rw [hwj, hj''] at hj'
    cases hj'
    unfold refNames at hname ⊢
    rw [hst'']
    exact hname

end Furiko.Conv
