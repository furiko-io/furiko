/-
Helpers for Props/C20Inst: one `work` step of the job controller (`Model/JobCtl.lean`) at
the level the convergence schema needs —
* `work_level_kept`   what a pass (faulted or not) leaves untouched on the authoritative Job;
* `work_pods_kept`    every pod that existed still exists or a logged forced delete names it;
* `work_queue_eq`     the work queue after the pass IS `Retry.work` of the retry-loop model, with the
                      pass's deferred adds as `SyncResult.during`;
* `work_nocall_frame` a pass that logged no call changed nothing but the work queue;
* `work_oblivious`    what a pass returns and logs depends on the state `SyncOne` starts in only up to
                      its work queue.
Core Lean only.
-/
import FurikoModel.Proofs.ConvLemmasJobQ
import FurikoModel.Proofs.JobCtlInvJob
import FurikoModel.Proofs.RetryLemmas
import FurikoModel.Proofs.JobCtlInvExamples

set_option linter.unusedVariables false
set_option linter.unusedSimpArgs false

namespace Furiko.Conv
open Furiko Furiko.JobCtl Furiko.WQ Furiko.Retry

/-- What a controller pass leaves untouched on the authoritative Job (`a` before, `b` after): the
user-facing spec, the start time, a deletion mark once set (a pass may ADD one: TTL deletion of a
Job that carries the finalizer); the admission-error annotation is only ever added; no task name is
dropped from `status.tasks`. -/
structure LevelKept (a b : Job) : Prop where
  template : b.template = a.template
  kill : b.killTimestamp = a.killTimestamp
  ttl : b.ttlSecondsAfterFinished = a.ttlSecondsAfterFinished
  startPolicy : b.startPolicy = a.startPolicy
  del : a.deletionTimestamp.isSome = true → b.deletionTimestamp = a.deletionTimestamp
  adm : a.admissionError = true → b.admissionError = true
  startTime : b.status.startTime = a.status.startTime
  names : ∀ n ∈ refNames a, n ∈ refNames b

theorem LevelKept.refl (a : Job) : LevelKept a a := ⟨rfl, rfl, rfl, rfl, fun _ => rfl, id, rfl, fun _ h => h⟩

theorem LevelKept.trans {a b c : Job} (h1 : LevelKept a b) (h2 : LevelKept b c) : LevelKept a c :=
  ⟨h2.template.trans h1.template, h2.kill.trans h1.kill, h2.ttl.trans h1.ttl, h2.startPolicy.trans h1.startPolicy,
   fun h => by
     have e1 := h1.del h
     have : b.deletionTimestamp.isSome = true := by rw [e1]; exact h
     rw [h2.del this, e1],
   fun h => h2.adm (h1.adm h), h2.startTime.trans h1.startTime, fun n h => h2.names n (h1.names n h)⟩

theorem LevelKept.of_jobLe {a b : Job} (h : JobLe a b) : LevelKept a b :=
  ⟨h.template, h.kill, h.ttl, h.startPolicy, fun _ => h.del, h.adm, h.startTime, h.names⟩

/-- a Job `Update` that writes a Job computed from the cached one (`JobLe`) keeps the level -/
theorem LevelKept.specWrite {jo : JobObj} {n : Job} (h : JobLe jo.job n) (f : Bool) (rv : Nat) :
    LevelKept jo.job (specWrite jo { jo with job := n, finalizer := f } rv).job :=
  ⟨h.template, h.kill, h.ttl, h.startPolicy, fun _ => rfl, h.adm, rfl, fun _ h => h⟩

/-- a Job `UpdateStatus` touches the level only through the status it writes -/
theorem LevelKept.statusWrite {x jo : JobObj} {n : Job} (hs : n.status.startTime = x.job.status.startTime)
    (hn : ∀ m ∈ refNames x.job, m ∈ refNames n) (rv : Nat) :
    LevelKept x.job (statusWrite x { jo with job := n } rv).job :=
  ⟨rfl, rfl, rfl, rfl, fun _ => rfl, id, hs, hn⟩

/-- the moves of the authoritative Job during any step other than a user `kill` keep the level -/
theorem jobMoves_level {s0 : Sys} {a : Action} (hnk : ∀ t, a ≠ .kill t) {o o' : Option JobObj}
    (h : JobMoves s0 a o o') : ∀ j j', o = some j → o' = some j' → LevelKept j.job j'.job := by
  induction h with
  | refl => intro j j' h1 h2; rw [h1] at h2; cases h2; exact LevelKept.refl _
  | tail hms hm ih =>
    intro j j' h1 h2
    cases hm with
    | goneUser => cases h2
    | goneTTL => cases h2
    | goneSpec => cases h2
    | delMark cur t rv _ _ hd _ =>
      cases h2
      refine (ih j cur h1 rfl).trans ⟨rfl, rfl, rfl, rfl, ?_, id, rfl, fun _ h => h⟩
      intro hsome
      rw [hd] at hsome
      cases hsome
    | kill cur t rv ha _ => exact absurd ha (hnk t)
    | ctlSpec jo sp rv _ hc hf _ _ =>
      cases h2
      exact (ih j jo h1 rfl).trans (.specWrite (sync_spec sp jo sp (CreatePhase.refl _)).2 _ _)
    | ctlStatus jo sp rv _ hc hf _ =>
      cases h2
      have hle := (sync_spec sp jo sp (CreatePhase.refl _)).2
      exact (ih j jo h1 rfl).trans (.statusWrite hle.startTime hle.names _)
    | ctlStatusOn jo sp rv0 rv _ hc hf _ =>
      cases h2
      have hle := (sync_spec sp jo sp (CreatePhase.refl _)).2
      -- written on top of the object `Update` produced, which carries the cached status
      refine (ih j _ h1 rfl).trans (.statusWrite ?_ ?_ _)
      · exact hle.startTime
      · exact hle.names

/-- **the level is kept by every pass**, whatever faults hit it and whatever it returns: in a state
satisfying the base invariant (every reachable state does: `base_of_reach`) -/
theorem work_level_kept {j0 : JobObj} {s : Sys} (hb : Base j0 s) (j j' : JobObj) (hj : s.job = some j)
    (hj' : (JobCtl.work s).1.job = some j') : LevelKept j.job j'.job :=
  jobMoves_level (a := .work) (fun t h => by cases h) (job_moves hb .work trivial) j j' hj hj'

/-- the user does not set a kill timestamp (the one action that changes the level) -/
def noKill (_ : Sys) (a : Action) : Prop :=
  match a with
  | .kill _ => False
  | _ => True

instance (s : Sys) (a : Action) : Decidable (noKill s a) := by cases a <;> unfold noKill <;> infer_instance

/-- the state `SyncOne` runs in: key popped, call log reset -/
def passStart (s : Sys) (q1 : WQ) : Sys := { s with q := q1, calls := [], delRun := none }

theorem work_some (s : Sys) (k : String) (q1 : WQ) (hg : (s.q.advance s.clock).get = some (k, q1)) :
    work s =
      ({ (syncOne (passStart s q1)).1 with
          q := ((if (syncOne (passStart s q1)).2 = true then (syncOne (passStart s q1)).1.q.forget k
                 else (syncOne (passStart s q1)).1.q.addRateLimited k (syncOne (passStart s q1)).1.clock).done k),
          delRun := none },
       if (syncOne (passStart s q1)).2 = true then "ok" else "err") := by
  unfold JobCtl.work
  simp only [hg]
  rfl

theorem work_none (s : Sys) (hg : (s.q.advance s.clock).get = none) :
    work s = ({ s with q := s.q.advance s.clock, calls := [], delRun := none }, "idle") := by
  unfold JobCtl.work
  simp only [hg]

/-- a pass that does not return "idle" popped a key -/
theorem work_not_idle {s : Sys} (h : (work s).2 ≠ "idle") : ∃ k q1, (s.q.advance s.clock).get = some (k, q1) := by
  cases hg : (s.q.advance s.clock).get with
  | none => rw [work_none s hg] at h; exact absurd rfl h
  | some v => exact ⟨v.1, v.2, rfl⟩

/-- the string a pass that popped a key returns says what `SyncOne` returned -/
theorem work_some_result {s : Sys} {k : String} {q1 : WQ} (hg : (s.q.advance s.clock).get = some (k, q1)) :
    (work s).2 = if (syncOne (passStart s q1)).2 = true then "ok" else "err" := by
  rw [work_some s k q1 hg]

theorem syncOne_of_work {s : Sys} {k : String} {q1 : WQ} (hg : (s.q.advance s.clock).get = some (k, q1)) :
    ((work s).2 = "ok" → (syncOne (passStart s q1)).2 = true) ∧
    ((work s).2 = "err" → (syncOne (passStart s q1)).2 = false) := by
  rw [work_some_result hg]
  cases (syncOne (passStart s q1)).2 <;> simp

theorem work_result (s : Sys) : (work s).2 = "idle" ∨ (work s).2 = "ok" ∨ (work s).2 = "err" := by
  cases hg : (s.q.advance s.clock).get with
  | none => rw [work_none s hg]; exact Or.inl rfl
  | some v =>
    rw [work_some_result (k := v.1) (q1 := v.2) hg]
    split
    · exact Or.inr (Or.inl rfl)
    · exact Or.inr (Or.inr rfl)

/-- a pass is call-accounted (`Kept`) from the state `SyncOne` starts in, with the call log it ends with -/
theorem work_kept (s : Sys) : ∃ q0, Kept (passStart s q0) (work s).1 (work s).1.calls := by
  cases hg : (s.q.advance s.clock).get with
  | none => rw [work_none s hg]; exact ⟨_, Kept.of_setQ (passStart s s.q) _⟩
  | some v =>
    obtain ⟨l, hk⟩ := (syncOne_good (passStart s v.2)).kept
    have hl : (syncOne (passStart s v.2)).1.calls = l := hk.calls
    subst hl
    rw [work_some s v.1 v.2 hg]
    refine ⟨v.2, rfl, hk.clock, hk.pods, fun hl => ?_⟩
    have e := hk.nocall hl
    generalize syncOne (passStart s v.2) = r at e ⊢
    rw [e]; rfl

/-- **every pod that existed before a pass still exists after it (by name), unless a successful
forced pod delete logged by this pass names it** — whatever faults hit the pass -/
theorem work_pods_kept (s : Sys) : ∀ n ∈ podNames s.pods,
    n ∈ podNames (work s).1.pods ∨ ∃ c ∈ (work s).1.calls, ForceDelOk c n :=
  (work_kept s).elim fun _ hk => hk.pods

theorem get_queue {q : WQ} {k : String} {q1 : WQ} (h : q.get = some (k, q1)) : ∃ rest, q.queue = k :: rest := by
  unfold WQ.get at h
  cases hq : q.queue with
  | nil => rw [hq] at h; cases h
  | cons x rest =>
    rw [hq] at h
    simp only [Option.some.injEq, Prod.mk.injEq] at h
    exact ⟨rest, by rw [h.1]⟩

/-- **the work queue after a pass is `Retry.work`** (the retry-loop model of
`reconciler.Controller.work`, `Model/Retry.lean`) applied to the queue after `advance`, with the
pass's result as `SyncResult.ok` and the deferred adds the pass issued as `SyncResult.during` — for
every retry budget `≤ 0` and every key `SplitMetaNamespaceKey` accepts. -/
theorem work_queue_eq (s : Sys) (k : String) (q1 : WQ) (hg : (s.q.advance s.clock).get = some (k, q1))
    (hs : splitOk k = true) (mr : Int) (hmr : mr ≤ 0) :
    ∃ ops : List QOp, (work s).1.q =
      Retry.work (s.q.advance s.clock) mr s.clock { ok := (syncOne (passStart s q1)).2, during := ops } := by
  obtain ⟨ops, ho⟩ := (syncOne_good (passStart s q1)).obl
  obtain ⟨l, hk⟩ := (syncOne_good (passStart s q1)).kept
  refine ⟨ops, ?_⟩
  rw [work_some s k q1 hg]
  unfold Retry.work
  simp only [hg, syncItem, hs, Bool.not_true, Bool.false_eq_true, if_false]
  -- `passStart s q1` is itself with the queue `q1`
  have hq' : (syncOne (passStart s q1)).1.q = applyOps q1 s.clock ops := congrArg (fun r => r.1.q) (ho q1)
  have hclock : (syncOne (passStart s q1)).1.clock = s.clock := hk.clock
  rw [hq', hclock]
  cases (syncOne (passStart s q1)).2 with
  | true => simp
  | false => simp [hmr]

/-- a pass that logged no call changed nothing but the work queue (and the bookkeeping fields the
model resets at the start of every pass) -/
theorem work_nocall_frame (s : Sys) (hnc : (work s).1.calls = []) :
    (work s).1 = { s with q := (work s).1.q, calls := [], delRun := none } :=
  (work_kept s).elim fun _ hk => hk.nocall hnc

/-- what a pass returns and logs is determined by the state `SyncOne` starts in up to its work
queue: not by the work queue, the call log or the delete batch the pass is started with -/
theorem work_oblivious (sa sb : Sys) (h : ∀ q, passStart sb q = passStart sa q)
    (ha : (work sa).2 ≠ "idle") (hb : (work sb).2 ≠ "idle") :
    (work sb).2 = (work sa).2 ∧ (work sb).1.calls = (work sa).1.calls := by
  obtain ⟨ka, q1a, hga⟩ := work_not_idle ha
  obtain ⟨kb, q1b, hgb⟩ := work_not_idle hb
  obtain ⟨ops, ho⟩ := (syncOne_good (passStart sa sa.q)).obl
  rw [work_some _ ka q1a hga, work_some _ kb q1b hgb, h q1b]
  have e : ∀ q, passStart sa q = setQ (passStart sa sa.q) q := fun _ => rfl
  rw [e q1a, e q1b, ho q1a, ho q1b]
  exact ⟨rfl, rfl⟩

/-- `Fix` for the job controller: both watch queues are empty, both caches equal the server, and a
pass returns "ok" without issuing a single API call -/
def JobFix (s : Sys) : Prop :=
  s.jobEvs = [] ∧ s.podEvs = [] ∧ s.jobCache = s.job ∧ s.podCache = s.pods ∧
  (JobCtl.work s).2 = "ok" ∧ (JobCtl.work s).1.calls = []

theorem deliverJob_nothing (s : Sys) (h : s.jobEvs = []) : deliverJob s = s := by
  unfold deliverJob; rw [h]

theorem deliverPod_nothing (s : Sys) (h : s.podEvs = []) : deliverPod s = s := by
  unfold deliverPod; rw [h]

/-- the next API call is not failed by the fault oracle (in particular: no fault pending) -/
def NextCallOk (s : Sys) : Prop := ∀ f rest, s.faults = f :: rest → isFailFault f = false

theorem nextCallOk_nil {s : Sys} (h : s.faults = []) : NextCallOk s := by
  intro f rest hf; rw [h] at hf; cases hf

/-- a create for a name that is taken on the server, not failed by the oracle, is answered
AlreadyExists; it touches neither the pods nor the caches -/
theorem apiCreatePod_exists (s : Sys) (jo : JobObj) (idx : PIndex) (retry : Int) (p : PodObj)
    (hf : NextCallOk s) (hsrv : findPod s.pods (taskName jo.name idx.hash retry) = some p) :
    ∃ s1, apiCreatePod s jo idx retry = (s1, .exists) ∧ s1.podCache = s.podCache ∧ s1.pods = s.pods := by
  obtain ⟨clock, rv, cfg, d, job, pods, jobEvs, podEvs, jobCache, podCache, q0, faults, delRun, calls⟩ := s
  unfold NextCallOk at hf
  simp only at hf hsrv
  unfold apiCreatePod nextFault popFault
  cases faults with
  | nil =>
    have : isFailFault "" = false := by decide
    simp only [this, Bool.false_eq_true, if_false, hsrv, Option.isSome_some, if_true]
    exact ⟨_, rfl, rfl, rfl⟩
  | cons f rest =>
    have := hf f rest rfl
    simp only [this, Bool.false_eq_true, if_false, hsrv, Option.isSome_some, if_true]
    exact ⟨_, rfl, rfl, rfl⟩

namespace JEx

/-- `Ex.s0` with the Job event delivered; the next pass will create pod `job-h-0` (fault slot 1:
none) and then fail its status write (fault slot 2: server error) -/
def sPre : Sys := runActs Ex.s0 [.deliverJob, .setFaults ["", "err"]]

theorem sPre_reach : Reach anyAction Ex.job sPre :=
  reach_run (Ex.s0_reach _) [.deliverJob, .setFaults ["", "err"]] (by decide +kernel)

/-- after the faulted pass: the pod exists, the status does not list it, the key waits 5 ms -/
def sErr : Sys := (JobCtl.work sPre).1

/-- the pod's watch event is delivered and the back-off (5 ms) elapses -/
def sRetry : Sys := runActs sErr [.deliverPod, .advance 5000000]

/-- the back-off elapses but the pod cache still lags -/
def sRetryLag : Sys := runActs sErr [.advance 5000000]

/-- a quiescent state: `Ex.sC` (Job Finished / Success) with every watch event delivered -/
def sFix : Sys := runActs Ex.sC [.deliverJob, .deliverPod, .deliverJob, .deliverPod]

end JEx

end Furiko.Conv
