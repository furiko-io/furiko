/-
Lemmas about the retry loop (`Model/Retry.lean`): what one `work` step guarantees for the key it
processed (behind `retry_until_success`, `bounded_budget_gives_up` of Props/C20.lean), and the
run-level argument (measure, invariant, clock bound) behind `retry_run_converges` and
`retry_clock_bound` there.
-/
import FurikoModel.Model.Retry
import FurikoModel.Proofs.QueueWQ

set_option linter.unusedSimpArgs false
set_option linter.unusedVariables false

namespace Furiko.Retry
open Furiko.WQ

theorem mem_keys_setDelayed_self (d : List (String × Int)) (k : String) (t : Int) :
    k ∈ (setDelayed d k t).map (·.1) := by
  obtain ⟨t', h, _⟩ := hasDeadline_setDelayed_self d k t
  exact List.mem_map.mpr ⟨_, h, rfl⟩

theorem mem_keys_setDelayed_mono {d : List (String × Int)} {k x : String} {t : Int}
    (h : x ∈ d.map (·.1)) : x ∈ (setDelayed d k t).map (·.1) := by
  obtain ⟨p, hp, rfl⟩ := List.mem_map.mp h
  obtain ⟨t', h', _⟩ := hasDeadline_setDelayed_mono ⟨p.2, hp, Int.le_refl _⟩ k t
  exact List.mem_map.mpr ⟨_, h', rfl⟩

theorem mem_keys_of_setDelayed {d : List (String × Int)} {k x : String} {t : Int}
    (h : x ∈ (setDelayed d k t).map (·.1)) : x ∈ d.map (·.1) ∨ x = k := by
  obtain ⟨p, hp, rfl⟩ := List.mem_map.mp h
  rcases mem_setDelayed hp with h' | h'
  · exact Or.inl (List.mem_map.mpr ⟨p, h', rfl⟩)
  · exact Or.inr h'

theorem length_setDelayed_le (d : List (String × Int)) (k : String) (t : Int) :
    (setDelayed d k t).length ≤ d.length + 1 := by
  induction d with
  | nil => simp [setDelayed]
  | cons y rest ih =>
    obtain ⟨k', dl⟩ := y
    simp only [setDelayed]
    split
    · simp
    · simp only [List.length_cons]; omega

theorem setDelayed_new {d : List (String × Int)} {k : String} {t T : Int} (hT : t ≤ T) :
    ∀ p ∈ setDelayed d k t, p ∈ d ∨ p.2 ≤ T := by
  induction d with
  | nil => intro p hp; simp [setDelayed] at hp; right; rw [hp]; exact hT
  | cons y rest ih =>
    obtain ⟨k', dl⟩ := y
    intro p hp
    simp only [setDelayed] at hp
    split at hp
    · rename_i hk'
      simp only [List.mem_cons] at hp
      rcases hp with hp | hp
      · rw [hp]; simp only
        split
        · right; exact hT
        · left; rw [hk']; simp
      · left; exact List.mem_cons_of_mem _ hp
    · simp only [List.mem_cons] at hp
      rcases hp with hp | hp
      · left; rw [hp]; simp
      · rcases ih p hp with h' | h'
        · left; exact List.mem_cons_of_mem _ h'
        · right; exact h'

theorem setDelayed_bound {d : List (String × Int)} {k : String} {t U : Int}
    (hd : ∀ p ∈ d, p.2 ≤ U) (ht : t ≤ U) : ∀ p ∈ setDelayed d k t, p.2 ≤ U :=
  fun p hp => (setDelayed_new ht p hp).elim (hd p) id

theorem numRequeues_filter_ne (r : List (String × Nat)) (k : String) :
    numRequeues (r.filter (·.1 ≠ k)) k = 0 := by
  induction r with
  | nil => rfl
  | cons y rest ih =>
    obtain ⟨k', n⟩ := y
    by_cases hk : k' = k
    · simpa [List.filter, hk] using ih
    · simpa [List.filter, hk, numRequeues] using ih

theorem numRequeues_setRequeues_self (r : List (String × Nat)) (k : String) (n : Nat) :
    numRequeues (setRequeues r k n) k = n := by
  induction r with
  | nil => simp [setRequeues, numRequeues]
  | cons y rest ih =>
    obtain ⟨k', m⟩ := y
    by_cases hk : k' = k
    · simp [setRequeues, numRequeues, hk]
    · simp [setRequeues, numRequeues, hk, ih]

@[simp] theorem add_requeues (q : WQ) (k : String) : (q.add k).requeues = q.requeues := by
  unfold WQ.add
  split
  · rfl
  · simp only; split <;> rfl
@[simp] theorem add_delayed (q : WQ) (k : String) : (q.add k).delayed = q.delayed := by
  unfold WQ.add
  split
  · rfl
  · simp only; split <;> rfl
@[simp] theorem add_processing (q : WQ) (k : String) : (q.add k).processing = q.processing := by
  unfold WQ.add
  split
  · rfl
  · simp only; split <;> rfl
@[simp] theorem done_requeues (q : WQ) (k : String) : (q.done k).requeues = q.requeues := by
  unfold WQ.done; simp only; split <;> rfl
@[simp] theorem done_delayed (q : WQ) (k : String) : (q.done k).delayed = q.delayed := by
  unfold WQ.done; simp only; split <;> rfl

theorem applyOps_requeues (q : WQ) (now : Int) (ops : List QOp) :
    (applyOps q now ops).requeues = q.requeues := by
  induction ops generalizing q with
  | nil => rfl
  | cons o rest ih =>
    simp only [applyOps, List.foldl_cons] at ih ⊢
    rw [ih]
    cases o <;> simp [applyOp, WQ.addAfter]

theorem applyOps_delayedKeys_mono {q : WQ} {now : Int} {ops : List QOp} {x : String}
    (h : x ∈ delayedKeys q) : x ∈ delayedKeys (applyOps q now ops) := by
  induction ops generalizing q with
  | nil => exact h
  | cons o rest ih =>
    simp only [applyOps, List.foldl_cons] at ih ⊢
    apply ih
    cases o with
    | add k => simpa [applyOp, delayedKeys] using h
    | addAfter k t => exact mem_keys_setDelayed_mono h

theorem work_cons {q : WQ} {k : String} {rest : List String} (hq : q.queue = k :: rest)
    (mr now : Int) (r : SyncResult) :
    work q mr now r =
      let q1 : WQ := { q with queue := rest, processing := k :: q.processing, dirty := q.dirty.erase k }
      let res := syncItem q1 mr now k r
      (if res.2 then res.1.forget k else res.1).done k := by
  unfold work WQ.get
  rw [hq]

theorem work_nil {q : WQ} (hq : q.queue = []) (mr now : Int) (r : SyncResult) : work q mr now r = q := by
  unfold work WQ.get
  rw [hq]

/-- **never dropped**: a failed sync of a splittable key under an unlimited retry budget leaves the
key with a deadline, and its requeue counter is one more than before -/
theorem work_fail_delayed {q : WQ} {k : String} {rest : List String} (hq : q.queue = k :: rest)
    (mr now : Int) (r : SyncResult) (hs : splitOk k = true) (hf : r.ok = false) (hmr : mr ≤ 0) :
    k ∈ delayedKeys (work q mr now r) ∧
    numRequeues (work q mr now r).requeues k = numRequeues q.requeues k + 1 := by
  rw [work_cons hq]
  simp only [syncItem, hs, hf, Bool.not_true, Bool.false_eq_true, if_false, hmr, true_or, if_true]
  constructor
  · simp only [delayedKeys, done_delayed, WQ.addRateLimited]
    exact mem_keys_setDelayed_self _ _ _
  · simp only [done_requeues, WQ.addRateLimited, numRequeues_setRequeues_self, applyOps_requeues]

/-- with a positive budget the key is re-queued exactly while the counter is below the budget -/
theorem work_fail_bounded {q : WQ} {k : String} {rest : List String} (hq : q.queue = k :: rest)
    (mr now : Int) (r : SyncResult) (hs : splitOk k = true) (hf : r.ok = false) (hmr : 0 < mr)
    (hd : r.during = []) :
    (work q mr now r).delayed =
      if (numRequeues q.requeues k : Int) < mr then (q.addRateLimited k now).delayed else q.delayed := by
  rw [work_cons hq]
  simp only [syncItem, hs, hf, hd, applyOps, List.foldl_nil, Bool.not_true, Bool.false_eq_true, if_false]
  have h0 : ¬ mr ≤ 0 := by omega
  simp only [h0, false_or]
  split <;> simp [WQ.addRateLimited]

/-- what holds of the queue between two `work` steps of a single worker (nothing is in flight) -/
structure WF (q : WQ) : Prop where
  idle  : q.processing = []
  nodup : q.dirty.Nodup
  dirty : ∀ k ∈ q.dirty, k ∈ q.queue

theorem WF_empty : WF {} := ⟨rfl, List.nodup_nil, by intro k hk; cases hk⟩

theorem contains_iff {l : List String} {k : String} : l.contains k = true ↔ k ∈ l := by simp

theorem WF.add {q : WQ} (h : WF q) (k : String) : WF (q.add k) := by
  unfold WQ.add
  split
  · exact h
  · rename_i hd
    have hk : k ∉ q.dirty := fun hm => hd (contains_iff.mpr hm)
    have hp : ¬ q.processing.contains k = true := by rw [h.idle]; simp
    simp only [hp, if_false]
    refine ⟨h.idle, List.nodup_cons.mpr ⟨hk, h.nodup⟩, ?_⟩
    intro x hx
    have hx' : x = k ∨ x ∈ q.dirty := by simpa using hx
    show x ∈ q.queue ++ [k]
    simp only [List.mem_append, List.mem_singleton]
    rcases hx' with rfl | hx'
    · exact Or.inr rfl
    · exact Or.inl (h.dirty x hx')

theorem mem_queue_add_self {q : WQ} (h : WF q) (k : String) : k ∈ (q.add k).queue := by
  unfold WQ.add
  split
  · rename_i hd; exact h.dirty k (contains_iff.mp hd)
  · have hp : k ∉ q.processing := by rw [h.idle]; simp
    simp [hp]

theorem mem_queue_add_mono {q : WQ} {k x : String} (hx : x ∈ q.queue) : x ∈ (q.add k).queue := by
  unfold WQ.add
  split
  · exact hx
  · simp only; split <;> simp [hx]

theorem length_queue_add_le (q : WQ) (k : String) : (q.add k).queue.length ≤ q.queue.length + 1 := by
  unfold WQ.add
  split
  · omega
  · simp only; split <;> simp

theorem mem_queue_of_add {q : WQ} {k x : String} (hx : x ∈ (q.add k).queue) : x ∈ q.queue ∨ x = k := by
  unfold WQ.add at hx
  split at hx
  · exact Or.inl hx
  · simp only at hx
    split at hx
    · exact Or.inl hx
    · simpa using hx

theorem foldl_add_facts (l : List (String × Int)) (q : WQ) (h : WF q) :
    let q' := l.foldl (fun acc x => acc.add x.1) q
    WF q' ∧ q'.delayed = q.delayed ∧ q'.requeues = q.requeues ∧
    q'.queue.length ≤ q.queue.length + l.length ∧
    (∀ x ∈ q.queue, x ∈ q'.queue) ∧ (∀ p ∈ l, p.1 ∈ q'.queue) ∧
    (∀ x ∈ q'.queue, x ∈ q.queue ∨ ∃ p ∈ l, p.1 = x) := by
  induction l generalizing q with
  | nil => simp [h]
  | cons y rest ih =>
    simp only [List.foldl_cons]
    obtain ⟨h1, h2, h3, h4, h5, h6, h7⟩ := ih (q.add y.1) (h.add y.1)
    refine ⟨h1, by rw [h2, add_delayed], by rw [h3, add_requeues], ?_, ?_, ?_, ?_⟩
    · have := length_queue_add_le q y.1
      simp only [List.length_cons]; omega
    · intro x hx; exact h5 x (mem_queue_add_mono hx)
    · intro p hp
      simp only [List.mem_cons] at hp
      rcases hp with rfl | hp
      · exact h5 _ (mem_queue_add_self h _)
      · exact h6 p hp
    · intro x hx
      rcases h7 x hx with hx' | ⟨p, hp, rfl⟩
      · rcases mem_queue_of_add hx' with hx'' | rfl
        · exact Or.inl hx''
        · exact Or.inr ⟨y, by simp, rfl⟩
      · exact Or.inr ⟨p, List.mem_cons_of_mem _ hp, rfl⟩

theorem advance_facts (q : WQ) (now : Int) (h : WF q) :
    let q' := q.advance now
    WF q' ∧ q'.requeues = q.requeues ∧
    q'.delayed = q.delayed.filter (fun x => ¬ x.2 ≤ now) ∧
    q'.queue.length ≤ q.queue.length + (q.delayed.filter (·.2 ≤ now)).length ∧
    (∀ x ∈ q.queue, x ∈ q'.queue) ∧
    (∀ p ∈ q.delayed, p.2 ≤ now → p.1 ∈ q'.queue) ∧
    (∀ x ∈ q'.queue, x ∈ q.queue ∨ x ∈ delayedKeys q) := by
  simp only [WQ.advance]
  have hperm := foldl_insertDue_perm (q.delayed.filter (·.2 ≤ now)) []
  rw [List.append_nil] at hperm
  have hwf1 : WF { q with delayed := q.delayed.filter (fun x => ¬ x.2 ≤ now) } := ⟨h.idle, h.nodup, h.dirty⟩
  obtain ⟨h1, h2, h3, h4, h5, h6, h7⟩ := foldl_add_facts
    ((q.delayed.filter (·.2 ≤ now)).foldl (fun acc x => insertDue x acc) []) _ hwf1
  refine ⟨h1, h3, h2, ?_, h5, ?_, ?_⟩
  · rw [hperm.length_eq] at h4; exact h4
  · intro p hp hdue
    exact h6 p (hperm.mem_iff.mpr (List.mem_filter.mpr ⟨hp, by simpa using hdue⟩))
  · intro x hx
    rcases h7 x hx with hx' | ⟨p, hp, rfl⟩
    · exact Or.inl hx'
    · exact Or.inr (List.mem_map.mpr ⟨p, (List.mem_filter.mp (hperm.mem_iff.mp hp)).1, rfl⟩)

theorem minDeadline_none {d : List (String × Int)} (h : minDeadline d = none) : d = [] := by
  cases d with
  | nil => rfl
  | cons y rest =>
    obtain ⟨k, dl⟩ := y
    simp only [minDeadline] at h
    split at h <;> cases h

theorem minDeadline_mem {d : List (String × Int)} {m : Int} (h : minDeadline d = some m) :
    ∃ k, (k, m) ∈ d := by
  induction d generalizing m with
  | nil => simp [minDeadline] at h
  | cons y rest ih =>
    obtain ⟨k, dl⟩ := y
    simp only [minDeadline] at h
    split at h
    · simp only [Option.some.injEq] at h; exact ⟨k, by simp [h]⟩
    · rename_i m' hm'
      simp only [Option.some.injEq] at h
      split at h
      · exact ⟨k, by simp [h]⟩
      · obtain ⟨k', hk'⟩ := ih hm'
        exact ⟨k', by rw [← h]; exact List.mem_cons_of_mem _ hk'⟩

theorem done_clean {q : WQ} {k : String} (hp : q.processing = [k]) (hd : k ∉ q.dirty) :
    q.done k = { q with processing := [] } := by
  unfold WQ.done
  have h1 : q.processing.erase k = [] := by rw [hp]; simp
  have h2 : ¬ (q.dirty.contains k = true) := fun hc => hd (contains_iff.mp hc)
  simp only [h1, h2, if_false, Bool.false_eq_true]

theorem backoff_le (now : Int) (n : Nat) :
    now + 5000000 * ((2 ^ (if n > 6 then 6 else n) : Nat) : Int) ≤ now + 320000000 := by
  have he : (if n > 6 then 6 else n) ≤ 6 := by split <;> omega
  have h64 : ((2 ^ (if n > 6 then 6 else n) : Nat) : Int) ≤ 64 := by exact_mod_cast two_pow_le_64 he
  omega

theorem work_facts {q : WQ} {k : String} {rest : List String} (h : WF q) (hq : q.queue = k :: rest)
    (mr now : Int) (ok : Bool) :
    let q' := work q mr now { ok := ok }
    WF q' ∧ q'.queue = rest ∧
    ((ok = true ∨ splitOk k = false) → q'.delayed = q.delayed) ∧
    q'.delayed.length ≤ q.delayed.length + 1 ∧
    (∀ x ∈ delayedKeys q, x ∈ delayedKeys q') ∧
    (∀ x ∈ delayedKeys q', x ∈ delayedKeys q ∨ x = k) ∧
    (∀ p ∈ q'.delayed, p ∈ q.delayed ∨ p.2 ≤ now + 320000000) := by
  have hke : k ∉ q.dirty.erase k := fun hm => ((List.Nodup.mem_erase_iff h.nodup).mp hm).1 rfl
  have hdirty : ∀ x ∈ q.dirty.erase k, x ∈ rest := by
    intro x hx
    have hx' := (List.Nodup.mem_erase_iff h.nodup).mp hx
    have := h.dirty x hx'.2
    rw [hq] at this
    simp only [List.mem_cons] at this
    rcases this with rfl | this
    · exact absurd rfl hx'.1
    · exact this
  have hnd : (q.dirty.erase k).Nodup := h.nodup.erase k
  have hproc : k :: q.processing = [k] := by rw [h.idle]
  rw [work_cons hq]
  simp only [syncItem, applyOps, List.foldl_nil]
  by_cases hs : splitOk k = true
  · simp only [hs, Bool.not_true, Bool.false_eq_true, if_false]
    cases ok with
    | true =>
      simp only [if_true]
      rw [done_clean (by simpa [WQ.forget] using hproc) (by simpa [WQ.forget] using hke)]
      exact ⟨⟨rfl, hnd, hdirty⟩, rfl, fun _ => rfl, by simp [WQ.forget], fun x hx => hx, fun x hx => Or.inl hx, fun p hp => Or.inl hp⟩
    | false =>
      simp only [Bool.false_eq_true, if_false]
      by_cases hc : mr ≤ 0 ∨ (numRequeues q.requeues k : Int) < mr
      · simp only [hc, if_true]
        rw [done_clean (by simpa [WQ.addRateLimited] using hproc) (by simpa [WQ.addRateLimited] using hke)]
        refine ⟨⟨rfl, hnd, hdirty⟩, rfl, ?_, length_setDelayed_le _ _ _, ?_, ?_, ?_⟩
        · rintro (h' | h')
          · cases h'
          · cases h'
        · intro x hx; exact mem_keys_setDelayed_mono hx
        · intro x hx; exact mem_keys_of_setDelayed hx
        · exact setDelayed_new (backoff_le now _)
      · simp only [hc, if_false]
        rw [done_clean hproc hke]
        exact ⟨⟨rfl, hnd, hdirty⟩, rfl, fun _ => rfl, by simp, fun x hx => hx, fun x hx => Or.inl hx, fun p hp => Or.inl hp⟩
  · have hs' : splitOk k = false := by simpa using hs
    simp only [hs', Bool.not_false, if_true, Bool.false_eq_true, if_false]
    rw [done_clean hproc hke]
    exact ⟨⟨rfl, hnd, hdirty⟩, rfl, fun _ => rfl, by simp, fun x hx => hx, fun x hx => Or.inl hx, fun p hp => Or.inl hp⟩

def falses (o : List Bool) : Nat := (o.filter (fun b => !b)).length

@[simp] theorem falses_nil : falses [] = 0 := rfl
@[simp] theorem falses_true (o : List Bool) : falses (true :: o) = falses o := by simp [falses]
@[simp] theorem falses_false (o : List Bool) : falses (false :: o) = falses o + 1 := by simp [falses]

theorem falses_headD (o : List Bool) : falses o = falses o.tail + (if o.headD true = true then 0 else 1) := by
  cases o with
  | nil => rfl
  | cons b o => cases b <;> simp

/-- termination measure: two units per outstanding fault and per delayed key, one per ready key -/
def Run.measure (s : Run) : Nat := 2 * falses s.oracle + s.q.queue.length + 2 * s.q.delayed.length

def Run.quiet (s : Run) : Prop := s.q.queue = [] ∧ s.q.delayed = []

def Run.pending (s : Run) (k : String) : Prop := k ∈ s.q.queue ∨ k ∈ delayedKeys s.q ∨ k ∈ s.synced

structure RunOK (s : Run) : Prop where
  wf     : WF s.q
  splitQ : ∀ k ∈ s.q.queue, splitOk k = true
  splitD : ∀ k ∈ delayedKeys s.q, splitOk k = true

theorem length_filter_split (l : List (String × Int)) (now : Int) :
    (l.filter (fun x => decide (x.2 ≤ now))).length + (l.filter (fun x => decide (¬ x.2 ≤ now))).length = l.length := by
  induction l with
  | nil => rfl
  | cons y rest ih =>
    by_cases h : y.2 ≤ now
    · simp only [List.filter, h, decide_true, not_true_eq_false, decide_false, List.length_cons]; omega
    · simp only [List.filter, h, decide_false, not_false_eq_true, decide_true, List.length_cons]; omega

theorem step_quiet (mr : Int) (s : Run) (h : s.quiet) : s.step mr = s := by
  unfold Run.step
  rw [h.1, h.2]
  rfl

theorem step_cons (mr : Int) (s : Run) {k : String} {rest : List String} (hq : s.q.queue = k :: rest) :
    s.step mr = { s with q := work s.q mr s.now { ok := s.oracle.headD true }, oracle := s.oracle.tail,
                         synced := if s.oracle.headD true && splitOk k then k :: s.synced else s.synced } := by
  unfold Run.step
  rw [hq]

theorem step_nil (mr : Int) (s : Run) (hq : s.q.queue = []) {d : Int} (hd : minDeadline s.q.delayed = some d) :
    s.step mr = { s with now := if s.now < d then d else s.now,
                         q := s.q.advance (if s.now < d then d else s.now) } := by
  unfold Run.step
  rw [hq, hd]

theorem step_idle (mr : Int) (s : Run) (hq : s.q.queue = []) (hm : minDeadline s.q.delayed = none) : s.step mr = s := by
  unfold Run.step; rw [hq, hm]

theorem step_facts (mr : Int) (hmr : mr ≤ 0) (s : Run) (h : RunOK s) (hnq : ¬ s.quiet) :
    RunOK (s.step mr) ∧ (s.step mr).measure + 1 ≤ s.measure ∧
    (∀ k, s.pending k → (s.step mr).pending k) := by
  cases hq : s.q.queue with
  | cons k rest =>
    rw [step_cons mr s hq]
    obtain ⟨hwf, hqueue, hsame, hlen, hmono, hnew, _⟩ := work_facts h.wf hq mr s.now (s.oracle.headD true)
    have hks : splitOk k = true := h.splitQ k (by rw [hq]; simp)
    refine ⟨⟨hwf, ?_, ?_⟩, ?_, ?_⟩
    · intro x hx
      simp only at hx
      rw [hqueue] at hx
      exact h.splitQ x (by rw [hq]; exact List.mem_cons_of_mem _ hx)
    · intro x hx
      rcases hnew x hx with hx' | rfl
      · exact h.splitD x hx'
      · exact hks
    · simp only [Run.measure, hqueue]
      rw [hq]
      simp only [List.length_cons]
      have hf := falses_headD s.oracle
      by_cases hh : s.oracle.headD true = true
      · rw [hsame (Or.inl hh)]; rw [if_pos hh] at hf; omega
      · rw [if_neg hh] at hf; omega
    · intro x hx
      simp only [Run.pending]
      rw [hqueue]
      rcases hx with hx | hx | hx
      · rw [hq] at hx
        simp only [List.mem_cons] at hx
        rcases hx with rfl | hx
        · cases hok : s.oracle.headD true with
          | true => right; right; simp [hks]
          | false =>
            right; left
            rw [← hok]
            have := (work_fail_delayed hq mr s.now { ok := s.oracle.headD true } hks (by simpa using hok) hmr).1
            simpa using this
        · exact Or.inl hx
      · exact Or.inr (Or.inl (hmono x hx))
      · right; right
        split
        · exact List.mem_cons_of_mem _ hx
        · exact hx
  | nil =>
    have hdne : s.q.delayed ≠ [] := fun hd => hnq ⟨hq, hd⟩
    cases hm : minDeadline s.q.delayed with
    | none => exact absurd (minDeadline_none hm) hdne
    | some d =>
      rw [step_nil mr s hq hm]
      obtain ⟨kd, hkd⟩ := minDeadline_mem hm
      generalize hnow : (if s.now < d then d else s.now) = now'
      have hdn : d ≤ now' := by rw [← hnow]; split <;> omega
      obtain ⟨hwf, _, hdel, hlen, _, hdue, hsrc⟩ := advance_facts s.q now' h.wf
      have hsplit := length_filter_split s.q.delayed now'
      have hdue1 : 1 ≤ (s.q.delayed.filter (fun x => decide (x.2 ≤ now'))).length := by
        have : (kd, d) ∈ s.q.delayed.filter (fun x => decide (x.2 ≤ now')) :=
          List.mem_filter.mpr ⟨hkd, by simpa using hdn⟩
        exact List.length_pos_of_mem this
      refine ⟨⟨hwf, ?_, ?_⟩, ?_, ?_⟩
      · intro x hx
        rcases hsrc x hx with hx' | hx'
        · exact h.splitQ x hx'
        · exact h.splitD x hx'
      · intro x hx
        simp only [delayedKeys] at hx
        rw [hdel] at hx
        obtain ⟨p, hp, rfl⟩ := List.mem_map.mp hx
        exact h.splitD p.1 (List.mem_map.mpr ⟨p, (List.mem_filter.mp hp).1, rfl⟩)
      · simp only [Run.measure]
        rw [hdel]
        rw [hq] at hlen
        simp only [List.length_nil, Nat.zero_add] at hlen
        omega
      · intro x hx
        simp only [Run.pending]
        rcases hx with hx | hx | hx
        · rw [hq] at hx; cases hx
        · obtain ⟨p, hp, rfl⟩ := List.mem_map.mp hx
          by_cases hpd : p.2 ≤ now'
          · exact Or.inl (hdue p hp hpd)
          · right; left
            simp only [delayedKeys]
            rw [hdel]
            exact List.mem_map.mpr ⟨p, List.mem_filter.mpr ⟨hp, by simpa using hpd⟩, rfl⟩
        · exact Or.inr (Or.inr hx)

theorem drain_quiet (mr : Int) (n : Nat) (s : Run) (h : s.quiet) : Run.drain mr n s = s := by
  induction n with
  | zero => rfl
  | succ n ih => simp only [Run.drain]; rw [step_quiet mr s h]; exact ih

theorem quiet_of_measure_zero {s : Run} (h : s.measure = 0) : s.quiet := by
  simp only [Run.measure] at h
  exact ⟨List.eq_nil_of_length_eq_zero (by omega), List.eq_nil_of_length_eq_zero (by omega)⟩

theorem pending_quiet {s : Run} (h : s.quiet) {k : String} (hk : s.pending k) : k ∈ s.synced := by
  rcases hk with hk | hk | hk
  · rw [h.1] at hk; cases hk
  · simp only [delayedKeys] at hk; rw [h.2] at hk; cases hk
  · exact hk

theorem fuel_suffices' (mr : Int) (hmr : mr ≤ 0) : ∀ (n : Nat) (s : Run), RunOK s → s.measure ≤ n →
    (Run.drain mr n s).quiet ∧ ∀ k, s.pending k → k ∈ (Run.drain mr n s).synced := by
  intro n
  induction n with
  | zero =>
    intro s _ hm
    have hq := quiet_of_measure_zero (Nat.le_zero.mp hm)
    exact ⟨hq, fun k hk => pending_quiet hq hk⟩
  | succ n ih =>
    intro s hok hm
    by_cases hq : s.quiet
    · rw [drain_quiet mr _ s hq]
      exact ⟨hq, fun k hk => pending_quiet hq hk⟩
    · obtain ⟨hok', hdec, hpend⟩ := step_facts mr hmr s hok hq
      obtain ⟨h1, h2⟩ := ih (s.step mr) hok' (by omega)
      exact ⟨h1, fun k hk => h2 k (hpend k hk)⟩

/-- the clock and every deadline are at most `U`; one step raises `U` by at most one maximal
back-off, 5 ms · 2⁶ = 320 ms (`backoff_le`), per fault it consumes (`step_bnd`) -/
def Bnd (s : Run) (U : Int) : Prop := s.now ≤ U ∧ ∀ p ∈ s.q.delayed, p.2 ≤ U

theorem step_wf (mr : Int) (s : Run) (h : WF s.q) : WF (s.step mr).q := by
  cases hq : s.q.queue with
  | cons k rest => rw [step_cons mr s hq]; exact (work_facts h hq mr s.now _).1
  | nil =>
    cases hm : minDeadline s.q.delayed with
    | none =>
      rw [step_idle mr s hq hm]; exact h
    | some d => rw [step_nil mr s hq hm]; exact (advance_facts s.q _ h).1

theorem step_bnd (mr : Int) (s : Run) (h : WF s.q) (U : Int) (hb : Bnd s U) :
    Bnd (s.step mr) (U + 320000000 * ((falses s.oracle : Int) - falses (s.step mr).oracle)) := by
  cases hq : s.q.queue with
  | cons k rest =>
    rw [step_cons mr s hq]
    obtain ⟨_, _, hsame, _, _, _, hnew⟩ := work_facts h hq mr s.now (s.oracle.headD true)
    have hf := falses_headD s.oracle
    have h1 := hb.1
    by_cases hh : s.oracle.headD true = true
    · rw [if_pos hh] at hf
      refine ⟨by simp only; omega, fun p hp => ?_⟩
      simp only at hp
      rw [hsame (Or.inl hh)] at hp
      have := hb.2 p hp
      simp only; omega
    · rw [if_neg hh] at hf
      refine ⟨by simp only; omega, fun p hp => ?_⟩
      rcases hnew p hp with hp' | hp'
      · have := hb.2 p hp'; simp only; omega
      · simp only; omega
  | nil =>
    cases hm : minDeadline s.q.delayed with
    | none =>
      rw [step_idle mr s hq hm]; simpa using hb
    | some d =>
      rw [step_nil mr s hq hm]
      obtain ⟨kd, hkd⟩ := minDeadline_mem hm
      have hdU : d ≤ U := hb.2 (kd, d) hkd
      obtain ⟨_, _, hdel, _⟩ := advance_facts s.q (if s.now < d then d else s.now) h
      refine ⟨?_, ?_⟩
      · simp only [Int.sub_self, Int.mul_zero, Int.add_zero]
        have := hb.1
        split <;> omega
      · intro p hp
        simp only at hp
        rw [hdel] at hp
        simpa using hb.2 p (List.mem_filter.mp hp).1

theorem drain_bnd (mr : Int) : ∀ (n : Nat) (s : Run) (U : Int), WF s.q → Bnd s U →
    Bnd (Run.drain mr n s) (U + 320000000 * (falses s.oracle : Int)) := by
  intro n
  induction n with
  | zero =>
    intro s U _ hb
    refine ⟨?_, fun p hp => ?_⟩
    · have := hb.1; simp only [Run.drain]; omega
    · have := hb.2 p hp; omega
  | succ n ih =>
    intro s U hwf hb
    have hb' := step_bnd mr s hwf U hb
    have := ih (s.step mr) _ (step_wf mr s hwf) hb'
    simp only [Run.drain]
    have heq : U + 320000000 * ((falses s.oracle : Int) - falses (s.step mr).oracle) + 320000000 * (falses (s.step mr).oracle : Int)
        = U + 320000000 * (falses s.oracle : Int) := by omega
    rw [heq] at this
    exact this

end Furiko.Retry
