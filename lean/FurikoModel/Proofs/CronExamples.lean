/-
Concrete data used by the non-vacuity `example`s in Props/*.lean, with proofs of the heap
invariant and of `ListerOK` for the literal workers involved.
-/
import FurikoModel.Proofs.CronFlush

namespace Furiko.Cron.Ex
open Furiko Furiko.Cron

theorem inv_new_singleton (k : String) (p : Int) : Heap.Inv (Heap.new [(k, p)]) :=
  (Heap.new_spec [(k, p)] (List.pairwise_singleton _ _)).1

theorem search_new_singleton (k : String) (p : Int) (k' : String) :
    Heap.search (Heap.new [(k, p)]) k' = if k' = k then some p else none :=
  (Heap.new_spec [(k, p)] (List.pairwise_singleton _ _)).2 k'

theorem inv_empty : Heap.Inv (Heap.new []) := (Heap.new_spec [] List.Pairwise.nil).1

def jcA : JC :=
  { key := "a"
    sched := { enabled := true, parseErr := false, exprs := [[10, 20, 30, 40], [15, 30]],
               notBefore := none, notAfter := some 100, lastUpdated := none, specId := 0 }
    lastScheduled := none }

def w0 : Worker := { heap := Heap.new [("a", 10)], lister := [("a", jcA)], chan := [] }

theorem w0_inv : Heap.Inv w0.heap := inv_new_singleton _ _

theorem jcA_sorted : jcA.SortedOK := by
  intro l hl
  simp only [jcA, List.mem_cons, List.not_mem_nil, or_false] at hl
  rcases hl with rfl | rfl <;> (unfold SortedStrict; decide)

theorem w0_lister : ListerOK w0.lister := by
  refine ⟨fun p hp => ?_, by decide⟩
  simp only [w0, List.mem_singleton] at hp
  subst hp
  exact ⟨rfl, jcA_sorted⟩

def jcEvery : JC :=
  { key := "e"
    sched := { enabled := true, parseErr := false,
               exprs := [[1,2,3,4,5,6,7,8,9,10,11,12,13,14,15,16,17,18,19,20,21,22,23,24,25,26,27,
                          28,29,30,31,32,33,34,35,36,37,38,39,40,41,42,43,44,45,46,47,48,49,50,51,
                          52,53,54,55,56,57,58,59,60]],
               notBefore := none, notAfter := none, lastUpdated := none, specId := 0 }
    lastScheduled := none }

def wEvery : Worker := { heap := Heap.new [("e", 1)], lister := [("e", jcEvery)], chan := [] }

/-- `jcA` restricted to the window [12, 35]: matching in-window times are 15, 20, 30 -/
def jcW : JC :=
  { jcA with sched := { jcA.sched with notBefore := some 12, notAfter := some 35, specId := 3 } }

/-- key "a" under `jcW`, entry 15 (what a Bump before 12 s produces) -/
def wW : Worker := { heap := Heap.new [("a", 15)], lister := [("a", jcW)], chan := [] }

theorem wW_inv : Heap.Inv wW.heap := inv_new_singleton _ _

theorem wW_lister : ListerOK wW.lister := by
  refine ⟨fun p hp => ?_, by decide⟩
  simp only [wW, List.mem_singleton] at hp
  subst hp
  exact ⟨rfl, jcA_sorted⟩

def jcNew : JC :=
  { jcA with sched := { jcA.sched with exprs := [[50, 60]], specId := 1 } }

def wUpd : Worker := onUpdate w0 jcA jcNew true

theorem jcNew_sorted : ∀ l ∈ jcNew.sched.exprs, SortedStrict l := by
  intro l hl
  simp only [jcNew, List.mem_singleton] at hl
  subst hl; unfold SortedStrict; decide

theorem wUpd_lister : ListerOK wUpd.lister := by
  have : wUpd.lister = listerSet w0.lister jcNew.key jcNew := rfl
  rw [this]
  exact listerOK_set w0_lister jcNew_sorted

def jcDis : JC := { jcA with sched := { jcA.sched with enabled := false, specId := 2 } }
def wDis : Worker := onUpdate w0 jcA jcDis true

def jcB : JC :=
  { key := "b"
    sched := { enabled := true, parseErr := false, exprs := [[5, 10, 15, 20, 25, 30]],
               notBefore := none, notAfter := none, lastUpdated := none, specId := 7 }
    lastScheduled := none }

theorem jcB_sorted : ∀ l ∈ jcB.sched.exprs, SortedStrict l := by
  intro l hl
  simp only [jcB, List.mem_singleton] at hl
  subst hl; unfold SortedStrict; decide

end Furiko.Cron.Ex
