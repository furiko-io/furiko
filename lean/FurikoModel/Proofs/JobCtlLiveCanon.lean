/-
Liveness of the job controller: the invariant `Canon` of the fair rounds of a simple Job (one index),
what it gives together with the `Reach` invariants (`Base`, `Inv2`: names, retry numbers, index of every
ref and pod), the variant `mu`; the environment half of a round keeps the invariant (`env_stage`: after
`deliverAll ; sweep ; deliverAll` every pod is finished and both caches are fresh; `jump_stage`: every
armed timer is due); the state a pass starts in (`PState`), the tasks it finds and the refs it refreshes.
Core Lean only.
-/
import FurikoModel.Proofs.JobCtlLiveRefresh
import FurikoModel.Proofs.JobCtlInvRefsInv
import FurikoModel.Proofs.JobCtlInvContigStep

set_option linter.unusedSimpArgs false
set_option linter.unusedVariables false

namespace Furiko.JobCtl.Live
open Furiko Furiko.JobCtl Furiko.WQ Furiko.StatusLemmas Furiko.JobCtlPlan Furiko.Conv Furiko.ParallelLemmas

/-! a lower bound on finish times (for the TTL) -/

/-- whatever phase the pod ends in, the finish time it reports (`GetFinishTimestamp`, fallbacks included) is
at least `F0` -/
def PodFinLB (F0 : Int) (p : PodObj) : Prop :=
  ∀ ph f, ({ p with pod := { p.pod with phase := ph } } : PodObj).pod.finishTimestamp = some (some f) → F0 ≤ f

theorem podFinLB_raw {F0 : Int} {p : PodObj} (h : PodFinLB F0 p) {f : Time}
    (hf : p.pod.finishTimestamp = some (some f)) : F0 ≤ f := h p.pod.phase f hf

theorem podFinLB_newPod (F0 : Int) (jo : JobObj) (idx : PIndex) (retry : Int) (c : Time) (h : F0 ≤ c) :
    PodFinLB F0 (newPod jo idx retry c) := by
  intro ph f hf
  cases ph <;>
    simp [Pod.finishTimestamp, Pod.isFinished, newPod, containerTerminateTime,
      reasonDeadlineExceeded] at hf
  all_goals (subst hf; exact h)

theorem nowT_le_clock (s : Sys) : nowT s ≤ s.clock := by
  unfold nowT nowSec secs nsPerSec
  exact Int.ediv_mul_le s.clock (show (1000000000 : Int) ≠ 0 by decide)

/-- the invariant of the fair rounds of a simple Job with cached = authoritative version `jo` -/
structure Canon (ok : Sys → Action → Prop) (j0 jo : JobObj) (F0 : Int) (s : Sys) : Prop where
  reach : Reach ok j0 s
  nodash : '-' ∉ s.d.hash.toList
  fresh : Fresh jo s
  spec : SimpleSpec jo.job
  npos : 1 ≤ jo.job.maxAttempts
  pods : PodsOK jo s
  wf : Retry.WF s.q
  retries : (jo.job.status.tasks.map (·.retryIndex)).Perm ((List.range jo.job.status.tasks.length).map (fun i : Nat => (i : Int)))
  unrec : ∀ p ∈ s.pods, p.pod.name ∈ refNames jo.job ∨
    (p.pod.name = taskName jo.name s.d.hash jo.job.status.tasks.length ∧
     (jo.job.status.tasks.length : Int) < jo.job.maxAttempts ∧ ∀ r ∈ jo.job.status.tasks, Dead r)
  lbClock : F0 ≤ nowT s
  lbRefs : ∀ r ∈ jo.job.status.tasks, ∀ f, r.finishTimestamp = some f → F0 ≤ f
  lbPods : ∀ p ∈ s.pods, PodFinLB F0 p

/-- the key will be worked on: it is queued, or a timer of the work queue is armed -/
def Armed (s : Sys) : Prop := s.q.queue ≠ [] ∨ s.q.delayed ≠ []

/-- every recorded attempt is dead (over, without success) or live (not over, no deletion marker) -/
def DeadOrLive (jo : JobObj) : Prop := ∀ r ∈ jo.job.status.tasks, Dead r ∨ LiveRef r

/-- the Job is not finished: every recorded attempt is dead or live, and the key will be worked on -/
structure Busy (jo : JobObj) (s : Sys) : Prop where
  unfinished : jo.job.status.condition.finished = none
  shape : ∀ r ∈ jo.job.status.tasks, Dead r ∨ LiveRef r
  armed : s.q.queue ≠ [] ∨ s.q.delayed ≠ []

section derived
variable {ok : Sys → Action → Prop} {j0 jo : JobObj} {F0 : Int} {s : Sys}

theorem Canon.lbNow (h : Canon ok j0 jo F0 s) : F0 ≤ s.clock := Int.le_trans h.lbClock (nowT_le_clock s)

theorem Canon.ver (h : Canon ok j0 jo F0 s) : VerOK j0 jo := ((base_of_reach h.reach).jobOK jo h.fresh.job).1

theorem Canon.indexes0 (h : Canon ok j0 jo F0 s) : j0.job.indexes s.d = [s.d] := by
  rw [indexes_of_template h.ver.template.symm s.d]
  exact h.spec.indexes s.d

theorem Canon.index_eq (h : Canon ok j0 jo F0 s) {i : PIndex} (hi : i ∈ j0.job.indexes s.d) : i = s.d := by
  rw [h.indexes0] at hi
  exact List.mem_singleton.mp hi

theorem Canon.wf2 (h : Canon ok j0 jo F0 s) : WF2 j0 s.d := by
  refine ⟨?_, fun i hi => ?_⟩
  · unfold NoCollision; rw [h.indexes0]; simp
  · obtain rfl := h.index_eq hi
    exact h.nodash

theorem Canon.good (h : Canon ok j0 jo F0 s) : Good j0 s.d jo.job := (inv2_of_reach h.reach h.wf2).job jo h.fresh.job

theorem Canon.refOK (h : Canon ok j0 jo F0 s) {r : TaskRef} (hr : r ∈ jo.job.status.tasks) :
    r.parallelIndex = some s.d ∧ r.name = taskName jo.name s.d.hash r.retryIndex ∧ r.creationTimestamp.isSome = true := by
  obtain ⟨⟨idx, hi, hp, hn⟩, hc⟩ := h.good.refs r hr
  obtain rfl := h.index_eq hi
  exact ⟨hp, by rw [hn, h.ver.name], hc⟩

theorem Canon.allHash (h : Canon ok j0 jo F0 s) : AllHash s.d jo.job.status.tasks := by
  intro r hr
  unfold TaskRef.hash TaskRef.index
  rw [(h.refOK hr).1]; rfl

theorem Canon.nodupNames (h : Canon ok j0 jo F0 s) : (jo.job.status.tasks.map (·.name)).Nodup := h.good.nodup

theorem Canon.retry_range (h : Canon ok j0 jo F0 s) {x : Int} (hx : x ∈ jo.job.status.tasks.map (·.retryIndex)) :
    0 ≤ x ∧ x < jo.job.status.tasks.length := by
  obtain ⟨i, hi, rfl⟩ := List.mem_map.mp (h.retries.mem_iff.mp hx)
  have := List.mem_range.mp hi
  exact ⟨Int.natCast_nonneg i, by omega⟩

theorem Canon.nextRetry (h : Canon ok j0 jo F0 s) :
    nextRetryIndex s.d jo.job.status.tasks s.d.hash = jo.job.status.tasks.length := by
  rw [nextRetryIndex_eq_maxSucc, tasksOfHash_all h.allHash]
  have hp := h.retries
  have hnd : (jo.job.status.tasks.map (·.retryIndex)).Nodup := by
    rw [hp.nodup_iff]
    unfold List.Nodup
    rw [List.pairwise_map]
    exact (List.nodup_range).imp (fun h e => h (by omega))
  have hlen : (jo.job.status.tasks.map (·.retryIndex)).length = jo.job.status.tasks.length := List.length_map _
  have := maxSucc_eq_length (jo.job.status.tasks.map (·.retryIndex)) hnd fun x hx => by
    rw [hlen]; exact h.retry_range hx
  rw [this, hlen]

/-- a pod controlled by the Job is named after the default index and its retry number -/
theorem Canon.podName (h : Canon ok j0 jo F0 s) {p : PodObj} (hp : p ∈ s.pods) :
    ∃ retry, p.pod.name = taskName jo.name s.d.hash retry ∧ p.pod.parallelIndex = some s.d ∧
      p.pod.retryIndex = some retry := by
  have hown : p.ownerUid = some j0.uid := by rw [← h.ver.uid]; exact (h.pods.owned p hp).1
  obtain ⟨idx, retry, hi, _, _, hn, hpi, hri⟩ := (base_of_reach h.reach).podsOK p hp hown
  obtain rfl := h.index_eq hi
  exact ⟨retry, by rw [hn, h.ver.name], hpi, hri⟩

theorem Canon.freshName (h : Canon ok j0 jo F0 s) :
    taskName jo.name s.d.hash jo.job.status.tasks.length ∉ refNames jo.job := by
  intro hm
  obtain ⟨r, hr, hn⟩ := List.mem_map.mp hm
  rw [(h.refOK hr).2.1] at hn
  have := (taskName_inj h.nodash h.nodash hn).2
  have := h.retry_range (List.mem_map_of_mem (f := (·.retryIndex)) hr)
  omega

/-- every retry number below the number of refs is recorded, under the task name of that attempt -/
theorem Canon.refAt (h : Canon ok j0 jo F0 s) (i : Nat) (hi : i < jo.job.status.tasks.length) :
    ∃ r ∈ jo.job.status.tasks, r.retryIndex = i ∧ r.name = taskName jo.name s.d.hash i := by
  have : (i : Int) ∈ (List.range jo.job.status.tasks.length).map (fun i : Nat => (i : Int)) :=
    List.mem_map.mpr ⟨i, List.mem_range.mpr hi, rfl⟩
  obtain ⟨r, hr, hri⟩ := List.mem_map.mp (h.retries.mem_iff.mpr this)
  exact ⟨r, hr, hri, by rw [(h.refOK hr).2.1, hri]⟩

theorem Canon.retry_lt (h : Canon ok j0 jo F0 s) {r : TaskRef} (hr : r ∈ jo.job.status.tasks) :
    0 ≤ r.retryIndex ∧ r.retryIndex < jo.job.status.tasks.length ∧ r.retryIndex < jo.job.maxAttempts := by
  have := h.retries.mem_iff.mp (List.mem_map_of_mem (f := (·.retryIndex)) hr)
  obtain ⟨i, hi, hie⟩ := List.mem_map.mp this
  have hlt := List.mem_range.mp hi
  have hc := ((inv4_of_reach h.reach h.wf2).contig jo (Or.inl h.fresh.job) r hr).2.1
  rw [maxAttempts_of_template h.ver.template.symm] at hc
  refine ⟨by rw [← hie]; exact Int.natCast_nonneg i, by rw [← hie]; omega, hc⟩

/-- the worker found nothing ready: the queue moved, call log and delete batch are reset -/
theorem Canon.idle (h : Canon ok j0 jo F0 s)
    (hr : Reach ok j0 { s with q := s.q.advance s.clock, calls := [], delRun := none }) :
    Canon ok j0 jo F0 { s with q := s.q.advance s.clock, calls := [], delRun := none } :=
  ⟨hr, h.nodash, ⟨h.fresh.jobCache, h.fresh.job, h.fresh.podCache, h.fresh.jobEvs, h.fresh.podEvs, h.fresh.faults⟩,
    h.spec, h.npos, ⟨h.pods.owned, h.pods.sane, h.pods.nodel, h.pods.nodup⟩, (Retry.advance_facts s.q s.clock h.wf).1,
    h.retries, h.unrec, h.lbClock, h.lbRefs, h.lbPods⟩

end derived

/-- the creation request of the next attempt is due, or a timer at or after its earliest time is armed -/
def dueOrArmed (s : Sys) (e : Time) : Bool :=
  decide (DueReq s.clock e) || s.q.delayed.any (fun x => decide (e ≤ x.2))

/-- rounds still needed, at most: three per attempt that may still be made (arm the retry timer, create,
record the outcome) -/
def mu (jo : JobObj) (s : Sys) : Nat :=
  if jo.job.status.tasks.all (fun r => r.finishTimestamp.isSome) then
    3 * (jo.job.maxAttempts - jo.job.status.tasks.length).toNat + 2 -
      (if dueOrArmed s (theReq s.d jo.job).earliest then 1 else 0)
  else 3 * (jo.job.maxAttempts - jo.job.status.tasks.length).toNat + 3

theorem mu_le (jo : JobObj) (s : Sys) : mu jo s ≤ 3 * jo.job.maxAttempts.toNat + 3 := by
  have : (jo.job.maxAttempts - (jo.job.status.tasks.length : Int)).toNat ≤ jo.job.maxAttempts.toNat := by omega
  unfold mu
  split
  · exact Nat.le_trans (Nat.sub_le _ _) (by omega)
  · omega

theorem mu_pos (jo : JobObj) (s : Sys) : 1 ≤ mu jo s := by
  unfold mu
  split
  · split <;> omega
  · omega

theorem nowT_mono {s s' : Sys} (h : s.clock ≤ s'.clock) : nowT s ≤ nowT s' := by
  unfold nowT nowSec secs nsPerSec
  have : s.clock / 1000000000 ≤ s'.clock / 1000000000 := Int.ediv_le_ediv (by decide) h
  exact Int.mul_le_mul_of_nonneg_right this (by decide)

/-- the state of the environment half of a round, before the clock jump -/
def envState (orc : String → Outcome) (s : Sys) : Sys := deliverAll (sweep orc (deliverAll s))

section
variable {ok : Sys → Action → Prop} {j0 jo : JobObj} {F0 : Int} {s : Sys}

/-- **the environment half of a round** keeps the invariant, finishes every pod and touches nothing else
on the server; ready keys and timers of the work queue are kept -/
theorem env_stage (hok : ∀ s a, fairEnv s a → ok s a) (orc : String → Outcome) (h : Canon ok j0 jo F0 s) :
    Canon ok j0 jo F0 (envState orc s) ∧ (∀ p ∈ (envState orc s).pods, p.pod.isFinished = true) ∧
    (envState orc s).pods = s.pods.map (sweepPod orc) ∧ (envState orc s).clock = s.clock ∧
    (envState orc s).d = s.d ∧ (envState orc s).cfg = s.cfg ∧
    QGrow s.q (envState orc s).q := by
  obtain ⟨⟨rv', evs, hsw, hev⟩, hp⟩ := sweep_swept orc s h.pods.nodup
  rw [hp] at hsw hev
  have he : envState orc s =
      deliverAll { s with pods := s.pods.map (sweepPod orc), rv := rv', podEvs := s.podEvs ++ evs } := by
    rw [envState, deliverAll_idle s h.fresh.jobEvs h.fresh.podEvs, hsw]
  obtain ⟨d1, d2, d3, d4, d5, d6⟩ :=
    deliverAll_spec { s with pods := s.pods.map (sweepPod orc), rv := rv', podEvs := s.podEvs ++ evs }
      (by show (s.podEvs ++ evs).foldl applyPEv s.podCache = _
          rw [h.fresh.podEvs, h.fresh.podCache]; exact hev)
      (by show s.jobEvs.foldl applyJEv s.jobCache = s.job
          rw [h.fresh.jobEvs, h.fresh.jobCache, h.fresh.job]; rfl)
  rw [← he] at d1 d2 d3 d4 d5 d6
  have hpods : (envState orc s).pods = s.pods.map (sweepPod orc) := d5.pods
  have hd : (envState orc s).d = s.d := d5.d
  have hsteps : Steps ok j0 s (envState orc s) := env_steps hok orc s s (.refl s)
  -- every pod of the new state is a pod of the old one, finished by the kubelet if it was not
  have hmem : ∀ p ∈ (envState orc s).pods, ∃ p0 ∈ s.pods, p = sweepPod orc p0 := fun p hp => by
    rw [hpods] at hp
    obtain ⟨p0, hp0, rfl⟩ := List.mem_map.mp hp
    exact ⟨p0, hp0, rfl⟩
  have hkept : ∀ {P : PodObj → Prop}, (∀ p0 ∈ s.pods, P p0) → (∀ p0 o, P p0 → P (finishPod o p0)) →
      ∀ p ∈ (envState orc s).pods, P p := fun hP hfin p hp => by
    obtain ⟨p0, hp0, rfl⟩ := hmem p hp
    unfold sweepPod
    split
    · exact hP p0 hp0
    · exact hfin _ _ (hP p0 hp0)
  refine ⟨⟨h.reach.steps hsteps, by rw [hd]; exact h.nodash,
    ⟨d3.trans h.fresh.job, d5.job.trans h.fresh.job, d4.trans hpods.symm, d1, d2, d5.faults.trans h.fresh.faults⟩,
    h.spec, h.npos,
    ⟨hkept h.pods.owned fun _ _ h => h, hkept h.pods.sane fun _ _ h => h, hkept h.pods.nodel fun _ _ h => h, ?_⟩,
    d6.wf h.wf, h.retries, ?_, ?_, h.lbRefs, hkept h.lbPods fun _ _ h => h⟩,
    ?_, hpods, d5.clock, hd, d5.cfg, d6⟩
  · rw [hpods, podNames_map (sweepPod_name orc)]; exact h.pods.nodup
  · rw [hd]; exact hkept h.unrec fun _ _ h => h
  · have : nowT (envState orc s) = nowT s := by unfold nowT nowSec; rw [d5.clock]
    rw [this]; exact h.lbClock
  · intro p hp
    obtain ⟨p0, _, rfl⟩ := hmem p hp
    exact sweepPod_finished orc p0

/-- **the clock jump** keeps the invariant; afterwards every armed timer of an unfinished Job is due -/
theorem jump_stage (hok : ∀ s a, fairEnv s a → ok s a) (h : Canon ok j0 jo F0 s) :
    Canon ok j0 jo F0 (jump s) ∧ (jump s).pods = s.pods ∧ (jump s).q = s.q ∧ (jump s).d = s.d ∧
    (jump s).cfg = s.cfg ∧ s.clock ≤ (jump s).clock ∧
    (jo.job.status.condition.finished = none → ∀ x ∈ s.q.delayed, x.2 ≤ (jump s).clock) ∧
    (jo.job.status.condition.finished.isSome = true → jump s = s) := by
  have hun : jobUnfinished s = jo.job.status.condition.finished.isNone := by
    unfold jobUnfinished; rw [h.fresh.job]
  have hge := maxDl_ge s.q.delayed s.clock
  have hsteps : Steps ok j0 s (jump s) := jump_steps (fun s d => hok s _ trivial) s s (.refl s)
  rw [jump_eq]
  cases hf : jo.job.status.condition.finished with
  | some f =>
    have : jobUnfinished s = false := by rw [hun, hf]; rfl
    rw [this]
    exact ⟨h, rfl, rfl, rfl, rfl, Int.le_refl _, (fun hx => by cases hx), fun _ => rfl⟩
  | none =>
    have hu : jobUnfinished s = true := by rw [hun, hf]; rfl
    have hreach : Reach ok j0 ({ s with clock := maxDl s.q.delayed s.clock } : Sys) := by
      have := h.reach.steps hsteps
      rw [jump_eq, hu] at this
      exact this
    rw [hu]
    refine ⟨⟨hreach, h.nodash, ⟨h.fresh.jobCache, h.fresh.job, h.fresh.podCache, h.fresh.jobEvs, h.fresh.podEvs,
      h.fresh.faults⟩, h.spec, h.npos, ⟨h.pods.owned, h.pods.sane, h.pods.nodel, h.pods.nodup⟩, h.wf, h.retries,
      h.unrec, ?_, h.lbRefs, h.lbPods⟩, rfl, rfl, rfl, rfl, hge.1, fun _ => hge.2, (fun hx => by cases hx)⟩
    exact Int.le_trans h.lbClock (nowT_mono (s' := { s with clock := maxDl s.q.delayed s.clock }) hge.1)

end

theorem foldl_latest_attained (l : List TaskRef) : ∀ (a : Int),
    l.foldl latestStep a = a ∨ ∃ t ∈ l, t.finishTimestamp = some (l.foldl latestStep a) := by
  induction l with
  | nil => exact fun a => Or.inl rfl
  | cons y ys ih =>
    intro a
    simp only [List.foldl_cons, List.mem_cons]
    -- the rest attains its result, or keeps what the first step made of `a`
    rcases ih (latestStep a y) with h | ⟨t, ht, hf⟩
    · rw [h]
      cases hy : y.finishTimestamp with
      | none => exact Or.inl (latestStep_none a y hy)
      | some g =>
        rw [latestStep_some a y g hy]
        split
        · exact Or.inr ⟨y, Or.inl rfl, hy⟩
        · exact Or.inl rfl
    · exact Or.inr ⟨t, Or.inr ht, hf⟩

theorem foldl_latest_congr (a b : List TaskRef) (z : Int)
    (h1 : ∀ x ∈ a.map (·.finishTimestamp), x ∈ b.map (·.finishTimestamp))
    (h2 : ∀ x ∈ b.map (·.finishTimestamp), x ∈ a.map (·.finishTimestamp)) :
    a.foldl latestStep z = b.foldl latestStep z := by
  obtain ⟨a1, a2⟩ := foldl_latest_ge a z
  obtain ⟨b1, b2⟩ := foldl_latest_ge b z
  apply Int.le_antisymm
  · rcases foldl_latest_attained a z with h | ⟨t, ht, hf⟩
    · rw [h]; exact b1
    · obtain ⟨t', ht', hf'⟩ := List.mem_map.mp (h1 _ (List.mem_map.mpr ⟨t, ht, rfl⟩))
      exact b2 t' ht' _ (hf'.trans hf)
  · rcases foldl_latest_attained b z with h | ⟨t, ht, hf⟩
    · rw [h]; exact a1
    · obtain ⟨t', ht', hf'⟩ := List.mem_map.mp (h2 _ (List.mem_map.mpr ⟨t, ht, rfl⟩))
      exact a2 t' ht' _ (hf'.trans hf)

theorem latestFinished_ge (L : List TaskRef) (r : TaskRef) (hr : r ∈ L) (f : Time) (hf : r.finishTimestamp = some f) :
    ∃ g, latestFinished L = some g ∧ f ≤ g := by
  rw [latestFinished_eq_fold]
  obtain ⟨_, h2, _⟩ := foldl_timeMax_spec (L.map (·.finishTimestamp)) none
  have := h2 (some f) (List.mem_map.mpr ⟨r, hr, hf⟩)
  cases hg : (L.map (·.finishTimestamp)).foldl timeMax none with
  | none => rw [hg] at this; exact absurd this (by intro h; exact h)
  | some g => rw [hg] at this; exact ⟨g, rfl, this⟩

/-- the state right before the `work` step of a fair round: the invariant, every pod finished -/
structure PState (ok : Sys → Action → Prop) (j0 jo : JobObj) (F0 : Int) (s : Sys) : Prop where
  canon : Canon ok j0 jo F0 s
  podsFin : ∀ p ∈ s.pods, p.pod.isFinished = true

/-- every armed timer is due, and there is a ready key or a timer -/
structure Ready (s : Sys) : Prop where
  due : ∀ x ∈ s.q.delayed, x.2 ≤ s.clock
  armed : Armed s

section
variable {ok : Sys → Action → Prop} {j0 jo : JobObj} {F0 : Int} {s : Sys}

/-- a key is ready once the due timers have fired; no timer is left -/
theorem PState.ready (h0 : PState ok j0 jo F0 s) (h : Ready s) :
    Retry.WF (s.q.advance s.clock) ∧ (s.q.advance s.clock).delayed = [] ∧
    ∃ k rest, (s.q.advance s.clock).queue = k :: rest := by
  obtain ⟨a1, a2, a3, a4, a5, a6, a7⟩ := Retry.advance_facts s.q s.clock h0.canon.wf
  refine ⟨a1, ?_, ?_⟩
  · rw [a3]
    apply List.filter_eq_nil_iff.mpr
    intro x hx
    simp only [decide_not, Bool.not_eq_true', decide_eq_false_iff_not, Decidable.not_not]
    exact h.due x hx
  · have : ∃ x, x ∈ (s.q.advance s.clock).queue := by
      rcases h.armed with hq | hd
      · obtain ⟨x, hx⟩ := List.exists_mem_of_ne_nil _ hq
        exact ⟨x, a5 x hx⟩
      · obtain ⟨x, hx⟩ := List.exists_mem_of_ne_nil _ hd
        exact ⟨_, a6 x hx (h.due x hx)⟩
    obtain ⟨x, hx⟩ := this
    exact List.exists_cons_of_ne_nil (List.ne_nil_of_mem hx)

/-- the tasks a pass finds for the recorded refs -/
def foundTasks (s : Sys) (jo : JobObj) : List Task := jo.job.status.tasks.filterMap (fun r => lookTask s r.name)

/-- the refs a pass records over the tasks found: the recorded refs, each refreshed against its pod -/
def refreshedRefs (s : Sys) (jo : JobObj) : List TaskRef :=
  generateTaskRefs s.clock jo.job.status.tasks (foundTasks s jo)

/-- every task the server shows is read from a finished pod in good shape -/
theorem PState.task_facts (h : PState ok j0 jo F0 s) {n : String} {t : Task} (ht : lookTask s n = some t) :
    TaskGood t ∧ t.ref.finishTimestamp.isSome = true ∧ t.deletionTimestamp = none ∧
    (∀ f, t.ref.finishTimestamp = some f → F0 ≤ f) ∧
    ∃ p ∈ s.pods, p.pod.name = n ∧ podTask s.clock p = some t := by
  obtain ⟨p, hp, hpt⟩ := lookTask_some ht
  have hpm := findPod_some hp
  have hc := (h.canon.pods.sane p hpm.1).2
  refine ⟨podTask_taskGood hc hpt, podTask_finished hc hpt (h.podsFin p hpm.1), ?_, ?_, p, hpm.1, hpm.2, hpt⟩
  · rw [(podTask_fields hpt).2.1]; exact h.canon.pods.nodel p hpm.1
  · -- a pod that does not tell when it finished is recorded with the clock of the pass, itself at least `F0`
    exact podTask_finish_lb hpt h.canon.lbNow fun f hf => podFinLB_raw (h.canon.lbPods p hpm.1) hf

theorem PState.consistent (h : PState ok j0 jo F0 s) : Consistent s jo.job.status.tasks (foundTasks s jo) :=
  consistent_found s jo.job.status.tasks h.canon.nodupNames

theorem PState.found_facts (h : PState ok j0 jo F0 s) : ∀ t ∈ foundTasks s jo,
    TaskGood t ∧ t.ref.finishTimestamp.isSome = true ∧ t.deletionTimestamp = none := by
  intro t ht
  have := h.consistent.look t ht
  obtain ⟨a, b, c, _⟩ := h.task_facts this
  exact ⟨a, b, c⟩

/-- a refreshed ref, when every pod is finished -/
structure Refreshed (F0 : Int) (r g : TaskRef) : Prop where
  fin : g.finishTimestamp.isSome = true
  retry : g.retryIndex = r.retryIndex
  name : g.name = r.name
  lb : ∀ f, g.finishTimestamp = some f → F0 ≤ f
  /-- a dead ref stays dead, with its finish time -/
  dead : Dead r → Dead g ∧ g.finishTimestamp = r.finishTimestamp
  /-- a live ref ends dead or succeeded -/
  live : LiveRef r → Dead g ∨ g.status.result = .succeeded

theorem PState.refreshSrv_facts (h : PState ok j0 jo F0 s) {r : TaskRef} (hr : r ∈ jo.job.status.tasks) :
    Refreshed F0 r (refreshSrv s r) := by
  unfold refreshSrv
  cases hl : lookTask s r.name with
  | none =>
    have hret := (Furiko.Props.C11.lostRef_retains s.clock r).2.2
    refine ⟨hret.2.1, (lostRef_fields _ r).2.2.1, (lostRef_fields _ r).1, fun f hf => ?_, dead_lostRef _,
      fun hlv => Or.inl (live_lostRef _ hlv)⟩
    simp only [hret.1] at hf
    split at hf
    · exact h.canon.lbRefs r hr f hf
    · cases hf; exact h.canon.lbNow
  | some t =>
    obtain ⟨tg, tf, _, tlb, p, hp, hpn, hpt⟩ := h.task_facts hl
    obtain ⟨g1, _, g3, _⟩ := getTaskRef_fields (some r) t
    refine ⟨(getTaskRef_dom (some r) t).1 tf, ?_, by rw [g1, tg.ok, lookTask_name hl], fun f hf => ?_,
      fun hd => dead_getTaskRef hd tf, fun hlv => ?_⟩
    · -- the task of a recorded ref carries the ref's retry number: both are named after it
      obtain ⟨retry, hn, _, hri⟩ := h.canon.podName hp
      have h2 := (h.canon.refOK hr).2.1
      rw [← hpn, hn] at h2
      show (getTaskRef (some r) t).retryIndex = _
      rw [g3, (podTask_index hpt).2, hri, (taskName_inj h.canon.nodash h.canon.nodash h2).2]
      rfl
    · -- the recorded finish time when it is frozen, the task's own otherwise
      have hret := (Furiko.Props.C11.getTaskRef_retains r t).2.1
      simp only [tf, ↓reduceIte] at hret
      simp only [hret] at hf
      split at hf
      · exact h.canon.lbRefs r hr f hf
      · exact tlb f hf
    · obtain ⟨_, k2, k3⟩ := live_getTaskRef hlv tg tf
      by_cases hs : t.ref.status.result = .succeeded
      · exact Or.inr (by rw [k2]; exact hs)
      · exact Or.inl (k3 hs)

theorem PState.refreshSrv_hash (h : PState ok j0 jo F0 s) {r : TaskRef} (hr : r ∈ jo.job.status.tasks) :
    (refreshSrv s r).hash s.d = s.d.hash := by
  unfold refreshSrv TaskRef.hash TaskRef.index
  cases hl : lookTask s r.name with
  | none =>
    simp only
    rw [(lostRef_fields _ r).2.1, (h.canon.refOK hr).1]; rfl
  | some t =>
    simp only
    obtain ⟨_, _, _, _, p, hp, _, hpt⟩ := h.task_facts hl
    obtain ⟨retry, _, hpi, _⟩ := h.canon.podName hp
    rw [(getTaskRef_fields (some r) t).2.1, (podTask_index hpt).1, hpi]; rfl

end

end Furiko.JobCtl.Live
