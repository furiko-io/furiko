/-
Liveness of the job controller: the pass of a fair round on a simple Job.
* `pass_sync`: given what the creation stage `syncCreateTasks` returned — a task list `T1` with the facts
  `TasksOK` —, `Reconciler.sync` returns `recompute … jo.job T1`, whatever the fault list;
* the refs such a pass records, as a list: the recorded refs refreshed against the finished pods
  (`gen_found`, `after_found`), possibly plus the ref of one task that was not recorded (`gen_snoc`,
  `after_snoc`);
* `canon_after`: the invariant after the informers have delivered what the pass wrote;
* the FINAL states `Done`, and how the refs of consecutive rounds are related (`RefsStep`).
Core Lean only.
-/
import FurikoModel.Proofs.JobCtlLiveCanon

set_option linter.unusedSimpArgs false
set_option linter.unusedVariables false

namespace Furiko.JobCtl.Live
open Furiko Furiko.JobCtl Furiko.WQ Furiko.StatusLemmas Furiko.JobCtlPlan Furiko.Conv Furiko.ParallelLemmas

theorem eq_of_sameSpec {a b : Job} (h : SameSpec a b) : b = { a with status := b.status } := by
  obtain ⟨h1, h2, h3, h4, h5, h6⟩ := h
  cases a; cases b
  simp_all

theorem findTask_append_ne (T : List Task) (t : Task) (n : String) (h : t.name ≠ n) :
    findTask (T ++ [t]) n = findTask T n := by
  unfold findTask
  rw [List.find?_append]
  cases List.find? (fun t => t.name == n) T with
  | some x => rfl
  | none =>
    have : (t.name == n) = false := by simpa using h
    simp [this]

/-- the condition of the recomputed Job of a simple Job, in terms of the generated refs -/
theorem recompute_condition (now : Time) (d : PIndex) (rj : Job) (T1 : List Task) (hsp : SimpleSpec rj)
    (hhash : AllHash d (generateTaskRefs now rj.status.tasks T1)) :
    (AllFin (generateTaskRefs now rj.status.tasks T1) ∧
        (AnySucc (generateTaskRefs now rj.status.tasks T1) ∨
          (((generateTaskRefs now rj.status.tasks T1).countP refTerminal : Nat) : Int) ≥ rj.maxAttempts) →
      ∃ f, (recompute now d rj T1).status.condition.finished = some f ∧
        f.finishTimestamp = latestFinished (generateTaskRefs now rj.status.tasks T1) ∧
        (AnySucc (generateTaskRefs now rj.status.tasks T1) → f.result = .success) ∧
        (¬ AnySucc (generateTaskRefs now rj.status.tasks T1) → f.result = .failed)) ∧
    (¬ (AllFin (generateTaskRefs now rj.status.tasks T1) ∧
        (AnySucc (generateTaskRefs now rj.status.tasks T1) ∨
          (((generateTaskRefs now rj.status.tasks T1).countP refTerminal : Nat) : Int) ≥ rj.maxAttempts)) →
      (recompute now d rj T1).status.condition.finished = none) := by
  have hX' : SimpleSpec (updateJobTaskRefs now rj T1) := hsp.congr (updateJobTaskRefs_sameSpec _ _ _) rfl
  have hcondEq : (recompute now d rj T1).status.condition = getCondition now d (updateJobTaskRefs now rj T1) := by
    unfold recompute
    rw [statusOf_simple now d _ hX']
  rw [hcondEq]
  exact simple_condition now d (updateJobTaskRefs now rj T1) hX' hhash

/-- the state after the create call (if any) of a pass under faults, before the stage arms its timers: the
pass-start state plus the created pods; fault list, delete batch and call log aside -/
structure CreateOutF (sp s1 : Sys) (created : List PodObj) : Prop where
  clock : s1.clock = sp.clock
  d : s1.d = sp.d
  cfg : s1.cfg = sp.cfg
  job : s1.job = sp.job
  jobEvs : s1.jobEvs = sp.jobEvs
  jobCache : s1.jobCache = sp.jobCache
  podCache : s1.podCache = sp.podCache
  q : s1.q = sp.q
  pods : s1.pods = sp.pods ++ created
  podEvs : s1.podEvs = sp.podEvs ++ created.map PEv.upsert

theorem CreateOutF.refl (sp : Sys) : CreateOutF sp sp [] :=
  ⟨rfl, rfl, rfl, rfl, rfl, rfl, rfl, rfl, by simp, by simp⟩

/-- a pending Job upsert makes the key ready once the informers have delivered -/
theorem deliverAll_ready (s : Sys) (j : JobObj) (rest : List JEv) (he : s.jobEvs = .upsert j :: rest)
    (hwf : Retry.WF s.q) : (deliverAll s).q.queue ≠ [] := by
  unfold deliverAll
  rw [he]
  show (iter .deliverPod s.podEvs.length (iter .deliverJob rest.length (step s .deliverJob))).q.queue ≠ []
  have h1 : jobKey j ∈ (step s .deliverJob).q.queue := by
    show jobKey j ∈ (deliverJob s).q.queue
    rw [deliverJob_upsert s j rest he]
    exact Retry.mem_queue_add_self hwf _
  have hlen : (step s .deliverJob).jobEvs.length = rest.length := by
    show (deliverJob s).jobEvs.length = _
    rw [deliverJob_upsert s j rest he]
  obtain ⟨_, _, a3, _, a5, _⟩ := iter_deliverJob rest.length (step s .deliverJob) hlen
  have hpl : (iter .deliverJob rest.length (step s .deliverJob)).podEvs.length = s.podEvs.length := by
    rw [a5]
    show (deliverJob s).podEvs.length = _
    rw [(deliverJob_srv s).2.2.1]
  obtain ⟨_, _, b3, _, _, _⟩ := iter_deliverPod s.podEvs.length (iter .deliverJob rest.length (step s .deliverJob)) hpl
  have := b3.mono _ (a3.mono _ h1)
  intro hnil
  rw [hnil] at this
  cases this

theorem nowT_gt (s : Sys) : s.clock < nowT s + 1000000000 := by
  unfold nowT nowSec secs nsPerSec
  omega

/-- a positive pending timeout is at least one second -/
theorem pendingTimeout_ge (rj : Job) (cfg : ExecConfig) (pt : Int) (h : getPendingTimeout rj cfg = some pt)
    (hpos : 0 < pt) : 1000000000 ≤ pt := by
  unfold getPendingTimeout at h
  cases ht : rj.template with
  | none => rw [ht] at h; cases h
  | some t =>
    rw [ht] at h
    simp only [Option.some.injEq] at h
    subst h
    unfold secs nsPerSec at *
    omega

theorem applyPEv_fresh (pods : List PodObj) (p : PodObj) (h : findPod pods p.pod.name = none) :
    ([p].map PEv.upsert).foldl applyPEv pods = pods ++ [p] := by
  simp only [List.map_cons, List.map_nil, List.foldl_cons, List.foldl_nil, applyPEv]
  unfold setPod
  have : ¬ pods.any (·.pod.name = p.pod.name) = true := by
    intro ha
    obtain ⟨x, hx, hn⟩ := List.any_eq_true.mp ha
    exact findPod_none h x hx (by simpa using hn)
  rw [if_neg this]

theorem findPod_append_fresh (pods : List PodObj) (p : PodObj) (h : findPod pods p.pod.name = none) :
    findPod (pods ++ [p]) p.pod.name = some p := by
  unfold findPod at *
  rw [List.find?_append, h]
  simp

section
variable {ok : Sys → Action → Prop} {j0 jo : JobObj} {F0 : Int} {s : Sys}

/-- the refs generated from the tasks found: the recorded refs, each refreshed against its pod -/
theorem gen_found (h : PState ok j0 jo F0 s) :
    (generateTaskRefs s.clock jo.job.status.tasks (foundTasks s jo)).Perm (jo.job.status.tasks.map (refreshSrv s)) := by
  have := generate_consistent s jo.job.status.tasks (foundTasks s jo) h.canon.nodupNames h.consistent
  rw [show newTasks jo.job.status.tasks (foundTasks s jo) = [] from
    newTasks_found _ (lookTask s) (fun n t hl => lookTask_name hl)] at this
  simpa using this

theorem snoc_nodup (h : PState ok j0 jo F0 s) {t : Task} (hn : t.name ∉ refNames jo.job) :
    ((foundTasks s jo ++ [t]).map (·.name)).Nodup := by
  rw [List.map_append, List.nodup_append]
  refine ⟨h.consistent.nodup, by simp, ?_⟩
  intro a ha b hb
  simp only [List.map_cons, List.map_nil, List.mem_singleton] at hb
  subst hb
  intro e; subst e
  obtain ⟨t', ht', hn'⟩ := List.mem_map.mp ha
  obtain ⟨r, hr, hrt⟩ := List.mem_filterMap.mp ht'
  apply hn
  rw [← hn', lookTask_name hrt]
  exact List.mem_map.mpr ⟨r, hr, rfl⟩

/-- … and from the tasks found plus one task under a name that is not recorded -/
theorem gen_snoc (h : PState ok j0 jo F0 s) (t : Task) (hok : TaskOK t) (hn : t.name ∉ refNames jo.job) :
    (generateTaskRefs s.clock jo.job.status.tasks (foundTasks s jo ++ [t])).Perm
      (jo.job.status.tasks.map (refreshSrv s) ++ [getTaskRef none t]) := by
  have hc := h.consistent
  have hoks : ∀ t' ∈ foundTasks s jo ++ [t], TaskOK t' := by
    intro t' ht'
    rcases List.mem_append.mp ht' with h' | h'
    · exact hc.taskOK t' h'
    · rw [List.mem_singleton.mp h']; exact hok
  have hp := generateTaskRefs_perm_canon s.clock jo.job.status.tasks (foundTasks s jo ++ [t]) h.canon.nodupNames
    (snoc_nodup h hn) hoks
  unfold canonRefs at hp
  have h1 : jo.job.status.tasks.map (refresh s.clock (foundTasks s jo ++ [t])) = jo.job.status.tasks.map (refreshSrv s) := by
    apply List.map_congr_left
    intro r hr
    have : refresh s.clock (foundTasks s jo ++ [t]) r = refresh s.clock (foundTasks s jo) r := by
      unfold refresh
      rw [findTask_append_ne _ t r.name (fun e => hn (by rw [e]; exact List.mem_map.mpr ⟨r, hr, rfl⟩))]
    rw [this]
    exact hc.refresh_eq r hr
  have h2 : newTasks jo.job.status.tasks (foundTasks s jo ++ [t]) = [t] :=
    newTasks_snoc _ _ t (newTasks_found _ (lookTask s) (fun n t hl => lookTask_name hl)) hn
  rw [h1, h2] at hp
  simpa using hp

theorem PState.map_refreshSrv (h : PState ok j0 jo F0 s) :
    (jo.job.status.tasks.map (refreshSrv s)).map (·.retryIndex) = jo.job.status.tasks.map (·.retryIndex) ∧
    (jo.job.status.tasks.map (refreshSrv s)).map (·.name) = jo.job.status.tasks.map (·.name) := by
  simp only [List.map_map]
  exact ⟨List.map_congr_left fun r hr => (h.refreshSrv_facts hr).retry, List.map_congr_left fun r hr => (h.refreshSrv_facts hr).name⟩

/-- the task `t` a pass appends to the tasks found: the new task of the next attempt, or the unrecorded task
that already carries its name -/
structure NextTask (F0 : Int) (s : Sys) (jo : JobObj) (t : Task) : Prop where
  good : TaskGood t
  nodel : t.deletionTimestamp = none
  name : t.name = taskName jo.name s.d.hash jo.job.status.tasks.length
  retry : (getTaskRef none t).retryIndex = jo.job.status.tasks.length
  hash : (getTaskRef none t).hash s.d = s.d.hash
  lb : ∀ f, (getTaskRef none t).finishTimestamp = some f → F0 ≤ f
  quiet : ∀ pt, getPendingTimeout jo.job s.cfg = some pt → 0 < pt → PendQuiet s.clock pt t

theorem NextTask.fresh {t : Task} (hn : NextTask F0 s jo t) (h : PState ok j0 jo F0 s) : t.name ∉ refNames jo.job := by
  rw [hn.name]; exact h.canon.freshName

theorem recompute_found_tasks (s : Sys) (jo : JobObj) :
    (recompute s.clock s.d jo.job (foundTasks s jo)).status.tasks = refreshedRefs s jo :=
  (recompute_sameSpec s.clock s.d jo.job (foundTasks s jo)).2.1

/-- the refs a pass over the tasks found records: the recorded refs, refreshed -/
structure FoundRefs (ok : Sys → Action → Prop) (j0 jo : JobObj) (F0 : Int) (s : Sys) : Prop where
  length : (refreshedRefs s jo).length = jo.job.status.tasks.length
  retries : ((refreshedRefs s jo).map (·.retryIndex)).Perm
    ((List.range (refreshedRefs s jo).length).map (fun i : Nat => (i : Int)))
  names : ∀ n, n ∈ (refreshedRefs s jo).map (·.name) ↔ n ∈ refNames jo.job
  allFin : AllFin (refreshedRefs s jo)
  lb : ∀ g ∈ refreshedRefs s jo, ∀ f, g.finishTimestamp = some f → F0 ≤ f
  hash : AllHash s.d (refreshedRefs s jo)
  /-- dead refs stay dead, and the latest finish time is the same -/
  dead : (∀ r ∈ jo.job.status.tasks, Dead r) → (∀ g ∈ refreshedRefs s jo, Dead g) ∧
    latestFinishTime s.d (refreshedRefs s jo) s.d.hash = latestFinishTime s.d jo.job.status.tasks s.d.hash
  shape : DeadOrLive jo → ∀ g ∈ refreshedRefs s jo, Dead g ∨ g.status.result = .succeeded
  origin : ∀ g ∈ refreshedRefs s jo, ∃ r ∈ jo.job.status.tasks, g = refreshSrv s r

theorem after_found (h : PState ok j0 jo F0 s) : FoundRefs ok j0 jo F0 s := by
  have hp : (refreshedRefs s jo).Perm _ := gen_found h
  have hlen : (refreshedRefs s jo).length = jo.job.status.tasks.length := by rw [hp.length_eq, List.length_map]
  have hmem : ∀ g ∈ (refreshedRefs s jo), ∃ r ∈ jo.job.status.tasks, g = refreshSrv s r := by
    intro g hg
    obtain ⟨r, hr, e⟩ := List.mem_map.mp (hp.mem_iff.mp hg)
    exact ⟨r, hr, e.symm⟩
  have hhash : AllHash s.d (refreshedRefs s jo) := by
    intro g hg
    obtain ⟨r, hr, rfl⟩ := hmem g hg
    exact h.refreshSrv_hash hr
  refine ⟨hlen, ?_, ?_, ?_, ?_, hhash, ?_, ?_, hmem⟩
  · rw [hlen]
    exact ((hp.map _).trans (by rw [h.map_refreshSrv.1])).trans h.canon.retries
  · intro n
    have := (hp.map (·.name)).mem_iff (a := n)
    rw [h.map_refreshSrv.2] at this
    exact this
  · intro g hg
    obtain ⟨r, hr, rfl⟩ := hmem g hg
    exact (h.refreshSrv_facts hr).fin
  · intro g hg f hf
    obtain ⟨r, hr, rfl⟩ := hmem g hg
    exact (h.refreshSrv_facts hr).lb f hf
  · intro hdead
    refine ⟨?_, ?_⟩
    · intro g hg
      obtain ⟨r, hr, rfl⟩ := hmem g hg
      exact ((h.refreshSrv_facts hr).dead (hdead r hr)).1
    · unfold latestFinishTime
      rw [tasksOfHash_all hhash, tasksOfHash_all h.canon.allHash]
      have hfin : (jo.job.status.tasks.map (refreshSrv s)).map (·.finishTimestamp) =
          jo.job.status.tasks.map (·.finishTimestamp) := by
        rw [List.map_map]
        apply List.map_congr_left
        intro r hr
        exact ((h.refreshSrv_facts hr).dead (hdead r hr)).2
      have hpf := hp.map (·.finishTimestamp)
      rw [hfin] at hpf
      exact foldl_latest_congr _ _ _ (fun x hx => hpf.mem_iff.mp hx) (fun x hx => hpf.mem_iff.mpr hx)
  · intro hshape g hg
    obtain ⟨r, hr, rfl⟩ := hmem g hg
    rcases hshape r hr with hd | hl
    · exact Or.inl ((h.refreshSrv_facts hr).dead hd).1
    · exact (h.refreshSrv_facts hr).live hl

/-- the refs `L` a pass over the tasks found plus `t` records: the refreshed refs plus the ref of `t` -/
structure NextRefs (F0 : Int) (s : Sys) (jo : JobObj) (t : Task) (L : List TaskRef) : Prop where
  length : L.length = jo.job.status.tasks.length + 1
  retries : (L.map (·.retryIndex)).Perm ((List.range L.length).map (fun i : Nat => (i : Int)))
  names : ∀ n, n ∈ L.map (·.name) ↔ n ∈ refNames jo.job ∨ n = (getTaskRef none t).name
  lb : ∀ g ∈ L, ∀ f, g.finishTimestamp = some f → F0 ≤ f
  hash : AllHash s.d L
  origin : ∀ g ∈ L, (∃ r ∈ jo.job.status.tasks, g = refreshSrv s r) ∨ g = getTaskRef none t
  mem : getTaskRef none t ∈ L

theorem after_snoc (h : PState ok j0 jo F0 s) {t : Task} (hn : NextTask F0 s jo t) :
    NextRefs F0 s jo t (generateTaskRefs s.clock jo.job.status.tasks (foundTasks s jo ++ [t])) := by
  have hp := gen_snoc h t hn.good.ok (hn.fresh h)
  generalize generateTaskRefs s.clock jo.job.status.tasks (foundTasks s jo ++ [t]) = L at hp ⊢
  have hlen : L.length = jo.job.status.tasks.length + 1 := by
    rw [hp.length_eq, List.length_append, List.length_map]; rfl
  have hmem : ∀ g ∈ L, (∃ r ∈ jo.job.status.tasks, g = refreshSrv s r) ∨ g = getTaskRef none t := by
    intro g hg
    rcases List.mem_append.mp (hp.mem_iff.mp hg) with hg' | hg'
    · obtain ⟨r, hr, e⟩ := List.mem_map.mp hg'
      exact Or.inl ⟨r, hr, e.symm⟩
    · exact Or.inr (by simpa using hg')
  refine ⟨hlen, ?_, ?_, ?_, ?_, hmem, hp.mem_iff.mpr (by simp)⟩
  · rw [hlen, List.range_succ, List.map_append]
    have h1 := hp.map (·.retryIndex)
    rw [List.map_append, h.map_refreshSrv.1] at h1
    refine h1.trans ?_
    simp only [List.map_cons, List.map_nil, hn.retry]
    exact List.Perm.append_right _ h.canon.retries
  · intro n
    have := (hp.map (·.name)).mem_iff (a := n)
    rw [List.map_append, h.map_refreshSrv.2] at this
    rw [this]
    simp only [List.mem_append, List.map_cons, List.map_nil, List.mem_singleton]
    rfl
  · intro g hg f hf
    rcases hmem g hg with ⟨r, hr, rfl⟩ | rfl
    · exact (h.refreshSrv_facts hr).lb f hf
    · exact hn.lb f hf
  · intro g hg
    rcases hmem g hg with ⟨r, hr, rfl⟩ | rfl
    · exact h.refreshSrv_hash hr
    · exact hn.hash

/-- what a pass needs to know about the task list `T1` its creation stage returned -/
structure TasksOK (F0 : Int) (s : Sys) (jo : JobObj) (T1 : List Task) : Prop where
  nodup : (T1.map (·.name)).Nodup
  good : ∀ t ∈ T1, TaskGood t ∧ t.deletionTimestamp = none
  quiet : ∀ pt, getPendingTimeout jo.job s.cfg = some pt → 0 < pt → ∀ t ∈ T1, PendQuiet s.clock pt t
  hash : AllHash s.d (generateTaskRefs s.clock jo.job.status.tasks T1)
  lb : ∀ r ∈ generateTaskRefs s.clock jo.job.status.tasks T1, ∀ f, r.finishTimestamp = some f → F0 ≤ f

theorem PState.tasksOK_found (h : PState ok j0 jo F0 s) : TasksOK F0 s jo (foundTasks s jo) :=
  ⟨h.consistent.nodup, fun t ht => ⟨(h.found_facts t ht).1, (h.found_facts t ht).2.2⟩,
    fun _ _ _ t ht => Or.inl (h.found_facts t ht).2.1, (after_found h).hash, (after_found h).lb⟩

theorem NextTask.tasksOK {t : Task} (hn : NextTask F0 s jo t) (h : PState ok j0 jo F0 s) :
    TasksOK F0 s jo (foundTasks s jo ++ [t]) := by
  refine ⟨snoc_nodup h (hn.fresh h), ?_, ?_, (after_snoc h hn).hash, (after_snoc h hn).lb⟩
  · intro t' ht'
    rcases List.mem_append.mp ht' with ht' | ht'
    · exact ⟨(h.found_facts t' ht').1, (h.found_facts t' ht').2.2⟩
    · rw [List.mem_singleton.mp ht']; exact ⟨hn.good, hn.nodel⟩
  · intro pt hpt hpos t' ht'
    rcases List.mem_append.mp ht' with ht' | ht'
    · exact Or.inl (h.found_facts t' ht').2.1
    · rw [List.mem_singleton.mp ht']; exact hn.quiet pt hpt hpos

theorem PState.nextTask_new (h : PState ok j0 jo F0 s) :
    NextTask F0 s jo (newTask jo s.d jo.job.status.tasks.length (nowT s)) := by
  have hg : TaskGood (newTask jo s.d jo.job.status.tasks.length (nowT s)) :=
    ⟨rfl, (fun hx => by cases hx), (fun hx => by cases hx), rfl⟩
  have hlive := new_getTaskRef_unfinished hg rfl
  refine ⟨hg, rfl, rfl, by rw [(getTaskRef_fields none _).2.2.1]; rfl,
    by unfold TaskRef.hash TaskRef.index; rw [(getTaskRef_fields none _).2.1]; rfl,
    fun f hf => (by rw [hlive.unfin] at hf; cases hf), ?_⟩
  -- the new task is pending, but a positive pending timeout is at least a second
  intro pt hpt hpos
  right; right; left
  show (some (nowT s)).getD zeroTime + pt > s.clock
  simp only [Option.getD_some]
  exact Int.lt_of_lt_of_le (nowT_gt s) (Int.add_le_add_left (pendingTimeout_ge _ _ _ hpt hpos) _)

/-- the task of the unrecorded pod that carries the name of the next attempt: created by an earlier pass that
failed before recording it, and finished in the meantime -/
theorem PState.nextTask_adopted (h : PState ok j0 jo F0 s) {p : PodObj} {t : Task}
    (htaken : findPod s.pods (taskName jo.name s.d.hash jo.job.status.tasks.length) = some p)
    (ht : podTask s.clock p = some t) :
    NextTask F0 s jo t ∧ t.ref.finishTimestamp.isSome = true ∧
      lookTask s (taskName jo.name s.d.hash jo.job.status.tasks.length) = some t := by
  have hc := h.canon
  have hpm := findPod_some htaken
  have hlook : lookTask s (taskName jo.name s.d.hash jo.job.status.tasks.length) = some t := by
    unfold lookTask; rw [htaken]; exact ht
  obtain ⟨tg, tfin, tdel, tlb, _⟩ := h.task_facts hlook
  obtain ⟨retry, hn, hpi, hri⟩ := hc.podName hpm.1
  refine ⟨⟨tg, tdel, lookTask_name hlook, ?_, ?_, ?_, fun _ _ _ => Or.inl tfin⟩, tfin, hlook⟩
  · rw [(getTaskRef_fields none t).2.2.1, (podTask_index ht).2, hri]
    rw [hpm.2] at hn
    exact ((taskName_inj hc.nodash hc.nodash hn).2).symm
  · unfold TaskRef.hash TaskRef.index
    rw [(getTaskRef_fields none t).2.1, (podTask_index ht).1, hpi]; rfl
  · intro f hf
    rw [(getTaskRef_none_fields t).2.1] at hf
    exact tlb f hf

/-- **`Reconciler.sync` of a fair round**, uniformly in the outcome of the creation stage and in the fault list
(`sp` is the pass-start state): with `rjA` the cached Job or its recomputed version, `sync` returns
`recompute … jo.job T1` and only arms timers -/
theorem pass_sync (h : PState ok j0 jo F0 s) (sp X s1 : Sys) (created : List PodObj) (rjA : Job) (T1 : List Task)
    (hclk : sp.clock = s.clock) (hd : sp.d = s.d) (hcfg : sp.cfg = s.cfg)
    (hX : CreateOutF sp X created) (hs1 : TimersOnly (jobKey jo) X s1)
    (hcreate : syncCreateTasks sp jo jo.job (tasksForRefs sp jo jo.job.status.tasks) = (s1, some (rjA, T1)))
    (hrjA : rjA = jo.job ∨ rjA = recompute s.clock s.d jo.job T1) (hT : TasksOK F0 s jo T1)
    (hclockT : s.clock < F0 + getTTLAfterFinished jo.job s.cfg) :
    ∃ s', sync sp jo = (s', recompute s.clock s.d jo.job T1, jo.finalizer, true, false) ∧
      TimersOnly (jobKey jo) s1 s' ∧
      ((recompute s.clock s.d jo.job T1).status.condition.finished = none →
        (∀ t ∈ T1, t.ref.finishTimestamp.isSome = true ∨ t.ref.runningTimestamp.isSome = true) → s' = s1) := by
  have hc := h.canon
  have hstX := hs1.static
  have hclk1 : s1.clock = s.clock := by rw [hstX.clock, hX.clock, hclk]
  have hd1 : s1.d = s.d := by rw [hstX.d, hX.d, hd]
  have hcfg1 : s1.cfg = s.cfg := by rw [hstX.cfg, hX.cfg, hcfg]
  -- idempotence of the ref generation
  have hoks : ∀ t ∈ T1, TaskOK t := fun t ht => (hT.good t ht).1.ok
  have hfinal : ∀ t ∈ T1, TaskFinal t := fun t ht => (hT.good t ht).1.final
  have hgen0 := generateTaskRefs_idem_same s.clock s.clock jo.job.status.tasks T1 hc.nodupNames hT.nodup hoks hfinal
  have hsame := recompute_sameSpec s.clock s.d jo.job T1
  -- `rjA` is the cached Job or its recomputed version: recomputing it again gives the same Job
  obtain ⟨hA, hrjF, hgenA, hsameA⟩ : SimpleSpec rjA ∧ recompute s1.clock s1.d rjA T1 = recompute s.clock s.d jo.job T1 ∧
      generateTaskRefs s1.clock (generateTaskRefs s1.clock rjA.status.tasks T1) T1 =
        generateTaskRefs s1.clock rjA.status.tasks T1 ∧ SameSpec jo.job rjA := by
    rw [hclk1, hd1]
    rcases hrjA with rfl | rfl
    · exact ⟨hc.spec, rfl, hgen0, SameSpec.refl _⟩
    · refine ⟨hc.spec.recompute _ _ _, recompute_idem s.clock s.clock s.d jo.job T1 T1 hc.spec hgen0, ?_, hsame.1⟩
      rw [hsame.2.1]
      exact generateTaskRefs_idem_same s.clock s.clock _ T1
        (generateTaskRefs_names_nodup s.clock _ T1 hc.nodupNames hT.nodup hoks) hT.nodup hoks hfinal
  -- the TTL has not elapsed: a finished condition carries the finish time of some ref, which is at least `F0`
  have httl : ∀ fin, (recompute s1.clock s1.d rjA T1).status.condition.finished = some fin →
      fin.finishTimestamp.getD zeroTime + getTTLAfterFinished (recompute s1.clock s1.d rjA T1) sp.cfg > sp.clock := by
    rw [hrjF, hcfg, hclk]
    intro fin hfin
    have httlEq : getTTLAfterFinished (recompute s.clock s.d jo.job T1) s.cfg = getTTLAfterFinished jo.job s.cfg := by
      unfold getTTLAfterFinished; rw [hsame.1.ttl]
    rw [httlEq]
    obtain ⟨c1, c2⟩ := recompute_condition s.clock s.d jo.job T1 hc.spec hT.hash
    by_cases hcomp : AllFin (generateTaskRefs s.clock jo.job.status.tasks T1) ∧
        (AnySucc (generateTaskRefs s.clock jo.job.status.tasks T1) ∨
          (((generateTaskRefs s.clock jo.job.status.tasks T1).countP refTerminal : Nat) : Int) ≥ jo.job.maxAttempts)
    · obtain ⟨f, hf, hft, _, _⟩ := c1 hcomp
      rw [hf] at hfin
      cases hfin
      have hne : ∃ r, r ∈ generateTaskRefs s.clock jo.job.status.tasks T1 := by
        rcases hcomp.2 with ⟨r, hr, _⟩ | hge
        · exact ⟨r, hr⟩
        · have hpos := hc.npos
          cases hl : generateTaskRefs s.clock jo.job.status.tasks T1 with
          | nil => rw [hl] at hge; simp at hge; omega
          | cons r _ => exact ⟨r, List.mem_cons_self⟩
      obtain ⟨r, hr⟩ := hne
      have hrf := hcomp.1 r hr
      cases hrff : r.finishTimestamp with
      | none => rw [hrff] at hrf; cases hrf
      | some f0 =>
        obtain ⟨g, hg, hle⟩ := latestFinished_ge _ r hr f0 hrff
        rw [hft, hg]
        simp only [Option.getD_some]
        exact Int.lt_of_lt_of_le hclockT (Int.add_le_add_right (Int.le_trans (hT.lb r hr f0 hrff) hle) _)
    · rw [c2 hcomp] at hfin; cases hfin
  have := sync_simple (hT1fn := TasksFn.of_nodup hT.nodup hoks) sp jo s1 rjA T1 hc.spec hcreate hA
    (by rw [hcfg1, hcfg]) (by rw [hclk1, hclk])
    (by
      intro pt hpt hpos t ht
      rw [hclk1]
      apply hT.quiet pt _ hpos t ht
      rw [← getPendingTimeout_sameSpec hsameA, ← hcfg1]; exact hpt)
    (fun t ht => (hT.good t ht).2) hgenA httl
  rw [hrjF] at this
  exact this

/-- the state `W` after the controller half of a round whose pass started in `s` with the cached Job `jo` and
left the status `st` on the server: the invariant holds of `W` for the Job `jo'` that carries `st` -/
structure After (ok : Sys → Action → Prop) (j0 : JobObj) (F0 : Int) (s : Sys) (jo : JobObj) (st : JobStatus)
    (jo' : JobObj) (W : Sys) : Prop where
  name : jo'.name = jo.name
  job : jo'.job = { jo.job with status := st }
  canon : Canon ok j0 jo' F0 W
  clock : W.clock = s.clock
  d : W.d = s.d
  cfg : W.cfg = s.cfg

/-- **the invariant after a pass and `deliverAll`**, for any state `w` a path leads to that has the `PassOut`
facts (the `work` step itself, or the `work` step under a fault list with the unconsumed faults dropped) -/
theorem canon_after (hok : ∀ s a, fairEnv s a → ok s a) (h : PState ok j0 jo F0 s) (w : Sys)
    (hstepsw : Steps ok j0 s w) (st : JobStatus)
    (created : List PodObj) (hpo : PassOut jo s w st created)
    (hstart : st.startTime = jo.job.status.startTime)
    (hcreated : created = [] ∨
      (created = [newPod jo s.d jo.job.status.tasks.length (nowT s)] ∧
        findPod s.pods (taskName jo.name s.d.hash jo.job.status.tasks.length) = none))
    (hretries : (st.tasks.map (·.retryIndex)).Perm ((List.range st.tasks.length).map (fun i : Nat => (i : Int))))
    (hunrec : ∀ p ∈ s.pods ++ created, p.pod.name ∈ st.tasks.map (·.name) ∨
      (p.pod.name = taskName jo.name s.d.hash st.tasks.length ∧ (st.tasks.length : Int) < jo.job.maxAttempts ∧
        ∀ r ∈ st.tasks, Dead r))
    (hlbRefs : ∀ r ∈ st.tasks, ∀ f, r.finishTimestamp = some f → F0 ≤ f) :
    ∃ jo', After ok j0 F0 s jo st jo' (deliverAll w) ∧ QGrow w.q (deliverAll w).q ∧
      (deliverAll w).pods = s.pods ++ created := by
  have hc := h.canon
  obtain ⟨jo', hj, hname, huid, hfz, hjob⟩ := hpo.job
  obtain ⟨d1, d2, d3, d4, d5, d6⟩ := deliverAll_spec w hpo.psync hpo.jsync
  have hsteps : Steps ok j0 s (deliverAll w) :=
    deliverAll_steps (fun s => hok s _ trivial) (fun s => hok s _ trivial) s _ hstepsw
  have hd : (deliverAll w).d = s.d := by rw [d5.d, hpo.d]
  have hclock : (deliverAll w).clock = s.clock := by rw [d5.clock, hpo.clock]
  have hpods : (deliverAll w).pods = s.pods ++ created := by rw [d5.pods, hpo.pods]
  have hspec : SimpleSpec jo'.job := by
    rw [hjob]
    exact ⟨hc.spec.tmpl, hc.spec.kill, hc.spec.adm, hc.spec.del, by show st.startTime.isSome = true; rw [hstart]; exact hc.spec.started⟩
  have hmax : jo'.job.maxAttempts = jo.job.maxAttempts := by rw [hjob]; rfl
  have htasks : jo'.job.status.tasks = st.tasks := by rw [hjob]
  -- a pod of the server after the pass is an old one or the new pod of the next attempt
  have hpod : ∀ p ∈ (deliverAll w).pods, p ∈ s.pods ∨ p = newPod jo s.d jo.job.status.tasks.length (nowT s) := by
    intro p hp
    rw [hpods] at hp
    rcases List.mem_append.mp hp with hp | hp
    · exact Or.inl hp
    · rcases hcreated with e | ⟨e, _⟩ <;> rw [e] at hp
      · cases hp
      · exact Or.inr (List.mem_singleton.mp hp)
  refine ⟨jo', ⟨hname, hjob, ⟨hc.reach.steps hsteps, by rw [hd]; exact hc.nodash, ?_, hspec, by rw [hmax]; exact hc.npos,
    ⟨?_, ?_, ?_, ?_⟩, d6.wf hpo.wf, by rw [htasks]; exact hretries, ?_, ?_, by rw [htasks]; exact hlbRefs, ?_⟩, hclock, hd,
    by rw [d5.cfg, hpo.cfg]⟩, d6, hpods⟩
  · exact ⟨by rw [d3, hj], by rw [d5.job, hj], by rw [d4, d5.pods], d1, d2, by rw [d5.faults]; exact hpo.faults⟩
  · intro p hp
    rw [huid, hname]
    rcases hpod p hp with hp | rfl
    · exact hc.pods.owned p hp
    · exact ⟨rfl, rfl, rfl⟩
  · intro p hp
    rcases hpod p hp with hp | rfl
    · exact hc.pods.sane p hp
    · exact ⟨fun hx => by simp [newPod, reasonDeadlineExceeded] at hx, rfl⟩
  · intro p hp
    rcases hpod p hp with hp | rfl
    · exact hc.pods.nodel p hp
    · rfl
  · rw [hpods]
    rcases hcreated with e | ⟨e, hfree⟩
    · rw [e, List.append_nil]; exact hc.pods.nodup
    · rw [e]; exact nodup_append_pod hc.pods.nodup hfree
  · intro p hp
    rw [hpods] at hp
    rw [hd, hname, hmax]
    unfold refNames
    rw [htasks]
    exact hunrec p hp
  · have : nowT (deliverAll w) = nowT s := by unfold nowT nowSec; rw [hclock]
    rw [this]; exact hc.lbClock
  · intro p hp
    rcases hpod p hp with hp | rfl
    · exact hc.lbPods p hp
    · exact podFinLB_newPod F0 jo s.d _ _ hc.lbClock

end

/-- the Job is finished with the result its refs imply, every attempt and pod is over and recorded, and
the recorded status is what every further pass computes -/
structure Done (jo : JobObj) (s : Sys) : Prop where
  fin : ∃ f, jo.job.status.condition.finished = some f ∧
    (AnySucc jo.job.status.tasks → f.result = .success) ∧ (¬ AnySucc jo.job.status.tasks → f.result = .failed)
  allFin : AllFin jo.job.status.tasks
  complete : AnySucc jo.job.status.tasks ∨ (jo.job.status.tasks.length : Int) ≥ jo.job.maxAttempts
  podsFin : ∀ p ∈ s.pods, p.pod.isFinished = true
  recorded : ∀ p ∈ s.pods, p.pod.name ∈ refNames jo.job
  /-- whatever the clock `c` of a further pass (it reads the pods at ITS clock: a pod that does not tell
  when it finished is read with finish time `c`, and the first recorded finish time is kept) -/
  stable : ∀ c, recompute c s.d jo.job (foundTasks ({ s with clock := c } : Sys) jo) = jo.job


/-- how the refs and the pods of the state `w` after the controller half of a round come from the state `s`
the pass started in: every ref is a recorded ref refreshed against the (finished) pods, or the ref of
the task of the next attempt — which the server shows afterwards —, and at most that attempt's pod was
created -/
def RefsStep (s : Sys) (jo jo' : JobObj) (w : Sys) : Prop :=
  (∀ g ∈ jo'.job.status.tasks, (∃ r ∈ jo.job.status.tasks, g = refreshSrv s r) ∨
    (∃ t, g = getTaskRef none t ∧ lookTask w t.name = some t ∧
      t.name = taskName jo.name s.d.hash jo.job.status.tasks.length ∧ ∀ r ∈ jo.job.status.tasks, Dead r)) ∧
  (w.pods = s.pods ∨ w.pods = s.pods ++ [newPod jo s.d jo.job.status.tasks.length (nowT s)])

end Furiko.JobCtl.Live
