/-
`Inv3` is preserved by every step of histories inside the envelope `stabEnv` (no foreign pods, no user
kill / delete, `E-NoStaleCopyOnCreate`), hence holds in every reachable state.  Core Lean only.
-/
import FurikoModel.Proofs.JobCtlInvStabInv
import FurikoModel.Proofs.JobCtlInvCreate

set_option linter.unusedSimpArgs false
set_option linter.unusedVariables false

namespace Furiko.JobCtl
open Furiko Furiko.WQ

variable {j0 : JobObj} {s s' : Sys}

/-- what is fixed during the pass that starts in `sp` (= `s0` up to queue bookkeeping) on cached Job `jo` -/
structure PassFacts (j0 : JobObj) (s0 sp : Sys) (jo : JobObj) : Prop where
  frame : Frame s0 sp
  env : ∀ idx retry, CreateReq s0.d jo idx retry → taskName jo.name idx.hash retry ∉ podNames s0.pods →
    FreshName s0 (taskName jo.name idx.hash retry)
  res : SyncRes j0 sp.d sp.pods (passNames sp jo) jo.job (sync sp jo).2.1
  coh : Coh sp.d (sync sp jo).2.1
  leJo : ∀ j, s0.job = some j → ∀ n ∈ refNames jo.job, n ∈ refNames j.job

/-- an object a status write of the pass overwrites carries the status of the cached Job and, as far as
`GetCondition` reads the rest, the fields of the computed Job -/
theorem PassCur.fields {jo cur : JobObj} {sp : Sys} (h : PassCur jo sp cur)
    (hadm : (sync sp jo).2.1.admissionError = jo.job.admissionError) :
    cur.job.status = jo.job.status ∧ cur.job.deletionTimestamp = (sync sp jo).2.1.deletionTimestamp ∧
    cur.job.admissionError = (sync sp jo).2.1.admissionError ∧
    cur.job.killTimestamp = (sync sp jo).2.1.killTimestamp ∧ cur.job.template = (sync sp jo).2.1.template ∧
    cur.job.startPolicy = (sync sp jo).2.1.startPolicy := by
  have hle := (sync_spec sp jo sp (CreatePhase.refl _)).2
  rcases h with rfl | ⟨r0, rfl⟩
  · exact ⟨rfl, hle.del.symm, hadm.symm, hle.kill.symm, hle.template.symm, hle.startPolicy.symm⟩
  · exact ⟨rfl, hle.del.symm, rfl, rfl, rfl, rfl⟩

/-- `Coh` through the two Job writes of a pass, stated for arbitrary objects so that the big terms of the
pass are not unfolded when it is used -/
theorem Coh.specWrite {d : PIndex} {cur new : JobObj} (rv : Nat) (h : Coh d cur.job)
    (ha : cur.job.admissionError = false) (hadm : new.job.admissionError = cur.job.admissionError)
    (hkill : new.job.killTimestamp = cur.job.killTimestamp) (htmpl : new.job.template = cur.job.template)
    (hsp : new.job.startPolicy = cur.job.startPolicy) : Coh d (specWrite cur new rv).job :=
  h.congr ha hadm rfl hkill htmpl hsp rfl

theorem Coh.statusWrite {d : PIndex} {cur new : JobObj} (rv : Nat) (h : Coh d new.job)
    (ha : new.job.admissionError = false) (hadm : cur.job.admissionError = new.job.admissionError)
    (hkill : cur.job.killTimestamp = new.job.killTimestamp) (htmpl : cur.job.template = new.job.template)
    (hsp : cur.job.startPolicy = new.job.startPolicy)
    (hdel : cur.job.deletionTimestamp = new.job.deletionTimestamp) : Coh d (statusWrite cur new rv).job :=
  h.congr ha hadm rfl hkill htmpl hsp hdel

/-- One micro-step of the pass.  `hpp`: a pod of `s` stands for a pod the pass started with, or was created
by the pass — under a name that was fresh when it started (envelope `pf.env`). -/
theorem Inv3G.micro {j0 jo : JobObj} {s0 sp s s' : Sys} (hb : Base j0 s) (h3 : Inv3G s)
    (hc : s.jobCache = some jo) (pf : PassFacts j0 s0 sp jo) (hd : s.d = sp.d) (hcache : s.podCache = sp.podCache)
    (hjn : s0.job = none → s.job = none) (hpp : PodsFrom jo sp s) (hid : CachedIsCur jo (sync sp jo).1)
    (hm : Micro jo sp s s') :
    Inv3G s' ∧ (s0.job = none → s'.job = none) := by
  have hb' : Base j0 s' := hb.micro hc hm
  cases hm.change with
  | frame hf => exact ⟨fun hj => (h3 (hf.job ▸ hj)).frame hf, fun h0 => hf.job.trans (hjn h0)⟩
  | podAdd p a ha =>
    obtain ⟨idx, retry, hreq, hcp, rfl⟩ := a
    -- the name is new on the server, hence (envelope) fresh
    have hnot : taskName jo.name idx.hash retry ∉ podNames s.pods := (findPod_eq_none_iff _ _).mp ha.fresh
    have hfresh0 : FreshName s0 (taskName jo.name idx.hash retry) :=
      pf.env idx retry (by rw [← pf.frame.d, ← hd]; exact hreq)
        (fun hmem => hnot (hcp.sup _ (by rw [pf.frame.pods]; exact hmem)))
    have hfresh : FreshName s (newPod jo idx retry (nowT s)).pod.name := by
      refine ⟨fun j hj => hfresh0.1 j (by rw [← pf.frame.job, ← hcp.job]; exact hj), ?_, fun hmem => ?_⟩
      · rw [hcache, pf.frame.podCache]; exact hfresh0.2.1
      · rcases hcp.evs _ hmem with h | h
        · rw [pf.frame.podEvs] at h; exact hfresh0.2.2 h
        · exact hnot h
    exact ⟨fun hj => (h3 (ha.job ▸ hj)).podAdd ha (ha.job ▸ hj) rfl hfresh, fun h0 => ha.job.trans (hjn h0)⟩
  | podSet old p k hs =>
    exact ⟨fun hj => (h3 (hs.job ▸ hj)).podSet hs hb'.podsNodup k.fin, fun h0 => hs.job.trans (hjn h0)⟩
  | podDel p hs => exact ⟨fun hj => (h3 (hs.job ▸ hj)).podDel hs, fun h0 => hs.job.trans (hjn h0)⟩
  | jobGone cur _ _ hs => exact ⟨fun hj => (by rw [hs.job] at hj; cases hj), fun _ => hs.job⟩
  | jobWrite cur nj w hcur hs =>
    have h3' := h3 (by rw [hcur]; rfl)
    have hcv : cur ∈ allVers s := by unfold allVers; rw [hcur]; simp
    have hv := h3'.ver cur hcv
    have hle := (sync_spec sp jo sp (CreatePhase.refl _)).2
    refine ⟨fun _ => ?_, fun h0 => by rw [hjn h0] at hcur; cases hcur⟩
    rcases w.resolve hb hc hid hcur with ⟨_, _, rfl⟩ | ⟨rfl, _, rfl⟩ | ⟨hpc, _, rfl⟩
    · exact h3'.jobWrite hs hcur ⟨hv.rs, hv.noKill, hv.noAdm, coh_of_deleted rfl⟩ (h3'.fin cur hcv) (fun n hn => hn)
    · exact h3'.jobWrite hs hcur ⟨hv.rs, hle.kill.trans hv.noKill, pf.res.adm.trans hv.noAdm,
        hv.coh.specWrite _ hv.noAdm pf.res.adm hle.kill hle.template hle.startPolicy⟩ (h3'.fin cur hcv) (fun n hn => hn)
    · -- the Job existed when the pass started
      obtain ⟨j0', hj0'⟩ : ∃ j, s0.job = some j := by
        cases h0 : s0.job with
        | none => rw [hjn h0] at hcur; cases hcur
        | some j => exact ⟨j, rfl⟩
      obtain ⟨e1, e2, e3, e4, e5, e6⟩ := hpc.fields pf.res.adm
      refine h3'.jobWrite hs hcur ⟨pf.res.rs, hv.noKill, hv.noAdm, ?_⟩ ?_ ?_
      · rw [hd]
        exact pf.coh.statusWrite _ (e3 ▸ hv.noAdm) e3 e4 e5 e6 e2
      · -- a finished ref of the computed status: its pod is finished or gone
        intro r hr hf q hq hqn
        rcases hpp q hq with ⟨q0, hq0, hn0, _, hmono⟩ | ⟨hnew, idx, retry, hreq, hn, _⟩
        · exact hmono (pf.res.fin r hr hf q0 hq0 (hn0.trans hqn))
        · exfalso
          have hfr := pf.env idx retry (pf.frame.d ▸ hreq) (by rw [← hn, ← pf.frame.pods]; exact hnew)
          have hsrc := pf.res.src r hr hf
          unfold passNames at hsrc
          rw [← hqn, hn] at hsrc
          rcases List.mem_append.mp hsrc with h | h
          · exact hfr.1 j0' hj0' (pf.leJo j0' hj0' _ h)
          · rw [pf.frame.podCache] at h; exact hfr.2.1 h
      · intro n hn
        unfold refNames at hn
        rw [e1] at hn
        exact hle.names n hn

theorem Inv3G.micros {j0 jo : JobObj} {s0 sp s s' : Sys} (hb : Base j0 s) (h3 : Inv3G s)
    (hc : s.jobCache = some jo) (pf : PassFacts j0 s0 sp jo) (hd : s.d = sp.d) (hcache : s.podCache = sp.podCache)
    (hjn : s0.job = none → s.job = none) (hpp : PodsFrom jo sp s) (hid : CachedIsCur jo (sync sp jo).1)
    (hm : Micros jo sp s s') :
    Inv3G s' := by
  suffices h : Inv3G s' ∧ (s0.job = none → s'.job = none) from h.1
  induction hm with
  | refl => exact ⟨h3, hjn⟩
  | tail hms hm ih =>
    have hbm := hb.micros hc hms
    exact Inv3G.micro hbm.1 ih.1 hbm.2 pf (hms.static.d.trans hd) (hms.static.podCache.trans hcache)
      ih.2 (hpp.micros hd hms) hid hm

/-- what the invariants say of the cached Job and of the state `sp` (= `s` up to bookkeeping) a pass on it
starts in: the hypotheses of `sync_res` -/
theorem passCtx_of_inv {j0 jo : JobObj} {s sp : Sys} (hb : Base j0 s) (h2 : Inv2 j0 s) (ho : Owned j0 s) (h3 : Inv3 s)
    (hc : s.jobCache = some jo) (hf : Frame s sp) :
    VerOK j0 jo ∧ Good j0 sp.d jo.job ∧ VerOK3 sp.d jo ∧ PassCtx j0 sp ∧
    ∀ r ∈ jo.job.status.tasks, r.finishTimestamp.isSome = true → PodFinIn sp.pods r.name := by
  have hseen := mem_seenVers_cache hc
  have hall : jo ∈ allVers s := List.mem_append_right _ hseen
  have h2sp := h2.frame hf
  refine ⟨(hb.seenOK jo hseen).1, h2sp.seen jo (mem_seenVers_cache (hf.jobCache.trans hc)), hf.d ▸ h3.ver jo hall,
    ⟨h2sp.pods, ho.frame hf, by rw [hf.pods]; exact hb.podsNodup, ?_⟩, ?_⟩
  · intro c hcm hfin
    rw [hf.pods]
    exact h3.lin c (Or.inl (hf.podCache ▸ hcm)) hfin
  · intro r hr hfn; rw [hf.pods]; exact h3.fin jo hall r hr hfn

theorem passFacts_of_inv {j0 jo : JobObj} {s sp : Sys} (hb : Base j0 s) (h2 : Inv2 j0 s) (ho : Owned j0 s) (h3 : Inv3 s)
    (hwf : WF2 j0 s.d) (hwf3 : WF3 j0) (hc : s.jobCache = some jo) (hf : Frame s sp)
    (henv : NoStale s) : PassFacts j0 s sp jo := by
  obtain ⟨hjo, hg, hv, ctx, hfin⟩ := passCtx_of_inv hb h2 ho h3 hc hf
  have hres := sync_res sp jo ctx (hf.d ▸ hwf) hjo hg hv.rs hfin
    hv.coh hv.noAdm (by rw [hjo.template]; exact hwf3.tmpl)
  exact ⟨hf, fun idx retry hreq hn => henv jo idx retry hc hreq hn, hres.1, hres.2.2.1,
    fun j hj => h3.le jo (mem_seenVers_cache hc) j hj⟩

theorem Inv3.quiet (hb : Base j0 s) (h : Inv3 s) (hq : Quiet s s') : Inv3 s' := by
  have hall : ∀ v ∈ allVers s', v ∈ allVers s := by
    intro v hv
    unfold allVers at hv ⊢
    rw [hq.job] at hv
    rcases List.mem_append.mp hv with h1 | h1
    · exact List.mem_append_left _ h1
    · rcases hq.seen v h1 with h2 | h2
      · exact List.mem_append_right _ h2
      · exact List.mem_append_left _ (Option.mem_toList.mpr h2)
  refine ⟨?_, ?_, ?_, ?_⟩
  · intro v hv; rw [hq.d]; exact h.ver v (hall v hv)
  · intro v hv r hr hfn; rw [hq.pods]; exact h.fin v (hall v hv) r hr hfn
  · intro c hc hfn
    rw [hq.pods]
    rcases hq.anywhere c (.inr hc) with h1 | h1
    · exact podFinIn_of_mem hb.podsNodup h1 hfn
    · exact h.lin c h1 hfn
  · intro v hv j hj
    rw [hq.job] at hj
    rcases hq.seen v hv with h1 | h1
    · exact h.le v h1 j hj
    · cases h1.symm.trans hj
      exact fun n hn => hn

theorem Inv3G.init (hwf : WF j0) (hwf3 : WF3 j0) (clock : Int) (cfg : ExecConfig) (d : PIndex) :
    Inv3G (initSys clock cfg d j0) := by
  intro _
  have hv : VerOK3 d { j0 with rv := 0 + 1 } := by
    refine ⟨?_, hwf3.noKill, hwf3.noAdm, ?_⟩
    · intro r hr
      have : r ∈ j0.job.status.tasks := hr
      rw [hwf.noTasks] at this; cases this
    · intro _ f hf
      have : j0.job.status.condition.finished = some f := hf
      rw [hwf3.notFinished] at this; cases this
  unfold initSys userCreateJob
  refine ⟨?_, ?_, ?_, ?_⟩
  · intro v hv'
    simp only [allVers, seenVers, upserts, Option.toList_some, Option.toList_none, List.nil_append,
      List.filterMap_cons, List.filterMap_nil, List.singleton_append, List.mem_cons, List.mem_singleton,
      List.not_mem_nil, or_false, or_self] at hv'
    subst hv'
    exact hv
  · intro v hv' r hr
    simp only [allVers, seenVers, upserts, Option.toList_some, Option.toList_none, List.nil_append,
      List.filterMap_cons, List.filterMap_nil, List.singleton_append, List.mem_cons, List.mem_singleton,
      List.not_mem_nil, or_false, or_self] at hv'
    subst hv'
    have : r ∈ j0.job.status.tasks := hr
    rw [hwf.noTasks] at this; cases this
  · intro c hc
    rcases hc with hc | hc
    · cases hc
    · simp at hc
  · intro v hv' j hj
    simp only [Option.some.injEq] at hj
    simp only [seenVers, upserts, Option.toList_none, List.nil_append, List.filterMap_cons, List.filterMap_nil,
      List.mem_singleton] at hv'
    subst hv'; subst hj
    exact fun n hn => hn

theorem Inv3G.step (hb : Base j0 s) (h2 : Inv2 j0 s) (ho : Owned j0 s) (h3 : Inv3G s) (hwf : WF2 j0 s.d)
    (hwf3 : WF3 j0) (a : Action) (henv : stabEnv s a) (hal : Allowed j0 s a) : Inv3G (JobCtl.step s a) := by
  intro hj'
  -- the Job existed before the step
  have hj : s.job.isSome = true := by
    cases hjs : s.job with
    | none =>
      have := (job_moves hb a hal).none_stays hjs
      rw [this] at hj'; cases hj'
    | some j => rfl
  have h3' := h3 hj
  have hb' : Base j0 (JobCtl.step s a) := hb.step a hal
  rcases step_change hal with rfl | hq | hch
  · show Inv3 (work s).1
    cases hget : (s.q.advance s.clock).get with
    | none => exact h3'.frame (work_idle s hget)
    | some kq =>
    have hns : NoStale s := henv.2.2 rfl hj (by rw [hget]; rfl)
    cases hc : s.jobCache with
    | none => exact h3'.frame (work_frame s hc)
    | some jo =>
      obtain ⟨sp, hf, hm⟩ := work_micros s jo hc
      have pf := passFacts_of_inv hb h2 ho h3' hwf hwf3 hc hf hns
      have hcsp : sp.jobCache = some jo := hf.jobCache.trans hc
      exact Inv3G.micros (hb.frame hf) (fun _ => h3'.frame hf) hcsp pf rfl rfl (fun h0 => hf.job.trans h0)
        (fun q hq => Or.inl ⟨q, hq, rfl, rfl, fun h => h⟩) (cachedIsCur_sync (hb.frame hf) hcsp) hm hj'
  · exact h3'.quiet hb hq
  · -- the envelope leaves the kubelet and vanishing pods
    cases hch with
    | frame hf => exact h3'.frame hf
    | podAdd p hp _ => exact (hp.1 ▸ henv.1 : noForeign s (.createForeign p)).elim
    | podSet old p k hs => exact h3'.podSet hs hb'.podsNodup k.fin
    | podDel p hs => exact h3'.podDel hs
    | jobWrite cur nj w _ _ =>
      cases w with
      | kill t ha => exact (ha ▸ henv.2.1 : noUserEdit s (.kill t)).elim
      | delMark ha _ _ => exact (ha ▸ henv.2.1 : noUserEdit s .userDelete).elim
    | jobGone cur g _ _ => exact (g.1 ▸ henv.2.1 : noUserEdit s .userDelete).elim

/-- `Inv3` holds in every state reachable inside the envelope (while the Job object exists) -/
theorem inv3_of_reach {ok : Sys → Action → Prop} (hok : ∀ s a, ok s a → stabEnv s a)
    (hr : Reach ok j0 s) (hwf : WF2 j0 s.d) (hwf3 : WF3 j0) : Inv3G s := by
  induction hr with
  | init c cfg d hw => exact Inv3G.init hw hwf3 c cfg d
  | step a hr' hoka hal ih =>
    rw [step_d] at hwf
    have henv := hok _ a hoka
    exact (ih hwf).step (base_of_reach hr') (inv2_of_reach hr' hwf) (owned_of_reach (fun s a h => (hok s a h).1) hr') hwf hwf3 a henv hal

end Furiko.JobCtl
