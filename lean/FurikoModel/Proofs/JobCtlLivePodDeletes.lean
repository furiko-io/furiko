/-
Liveness of the job controller: pod deletes that succeed, and what they leave alone.  A graceful
`apiDeletePod` without a pending fault gives exactly the pod it names the deletion timestamp (`markDts`,
`apiDeletePod_graceful`), a forced one removes it (`keepPod`, `apiDeletePod_force`); `deleteTasks` does so for
the pods of all its tasks (`deleteTasks_graceful`, `deleteTasks_force`).  `Marked`, `MarkedT` (timers of the
key armed as well), `Removed` record the effect on the state, `Frame` what all of them — and every stage of
a pass before the Job API calls — leave alone, `SamePod` what they leave alone of a pod.  Core Lean only.
-/
import FurikoModel.Proofs.JobCtlLiveKillStatus

set_option linter.unusedSimpArgs false
set_option linter.unusedVariables false

namespace Furiko.JobCtl.Live
open Furiko Furiko.JobCtl Furiko.WQ Furiko.StatusLemmas Furiko.JobCtlPlan

/-- among pods with pairwise distinct names a name denotes one pod -/
theorem pod_eq_of_name {l : List PodObj} (hnd : (podNames l).Nodup) {p x : PodObj} (hp : p ∈ l) (hx : x ∈ l)
    (h : x.pod.name = p.pod.name) : x = p := by
  have h1 := findPod_of_mem_nodup hnd hx
  rw [h, findPod_of_mem_nodup hnd hp] at h1
  exact (Option.some.inj h1).symm

/-- the pod gets the deletion timestamp `c` if it is named in `N` and carries none yet -/
def markDts (c : Time) (N : List String) (p : PodObj) : PodObj :=
  if p.pod.name ∈ N ∧ p.pod.deletionTimestamp = none then { p with pod := { p.pod with deletionTimestamp := some c } } else p

theorem markDts_name (c : Time) (N : List String) (p : PodObj) : (markDts c N p).pod.name = p.pod.name := by
  unfold markDts; split <;> rfl

theorem markDts_isFinished (c : Time) (N : List String) (p : PodObj) :
    (markDts c N p).pod.isFinished = p.pod.isFinished := by
  unfold markDts; split <;> rfl

theorem markDts_nil (c : Time) (p : PodObj) : markDts c [] p = p := by
  unfold markDts; simp

theorem map_markDts_nil (c : Time) (l : List PodObj) : l = l.map (markDts c []) := by
  conv => lhs; rw [← List.map_id l]
  exact List.map_congr_left (fun p _ => (markDts_nil c p).symm)

theorem markDts_markDts (c : Time) (A B : List String) (p : PodObj) :
    markDts c B (markDts c A p) = markDts c (A ++ B) p := by
  unfold markDts
  by_cases hA : p.pod.name ∈ A
  · by_cases hd : p.pod.deletionTimestamp = none
    · simp [hA, hd]
    · simp [hA, hd]
  · by_cases hB : p.pod.name ∈ B
    · by_cases hd : p.pod.deletionTimestamp = none
      · simp [hA, hB, hd]
      · simp [hA, hB, hd]
    · simp [hA, hB]

theorem markDts_congr (c : Time) {A B : List String} (h : ∀ n, n ∈ A ↔ n ∈ B) (p : PodObj) : markDts c A p = markDts c B p := by
  unfold markDts; simp only [h p.pod.name]

theorem podNames_markDts (c : Time) (N : List String) (l : List PodObj) : podNames (l.map (markDts c N)) = podNames l := by
  unfold podNames
  rw [List.map_map]
  apply List.map_congr_left
  intro p _
  exact markDts_name c N p

/-- `p'` is `p` up to what a pod delete changes: owner, label, finish and creation time are kept, and `p'` is
readable if `p` is -/
def SamePod (p' p : PodObj) : Prop :=
  p'.ownerUid = p.ownerUid ∧ p'.ownerName = p.ownerName ∧ p'.jobLabel = p.jobLabel ∧
  p'.pod.finishTimestamp = p.pod.finishTimestamp ∧ p'.pod.creationTimestamp = p.pod.creationTimestamp ∧
  (NoPanic p → NoPanic p')

theorem SamePod.refl (p : PodObj) : SamePod p p := ⟨rfl, rfl, rfl, rfl, rfl, id⟩

theorem markDts_samePod (c : Time) (N : List String) (p : PodObj) : SamePod (markDts c N p) p := by
  unfold markDts
  split <;> exact ⟨rfl, rfl, rfl, rfl, rfl, id⟩

theorem markDts_image (c : Time) (N : List String) (l : List PodObj) :
    ∀ p' ∈ l.map (markDts c N), ∃ p ∈ l, SamePod p' p := fun p' hp' => by
  obtain ⟨p, hp, rfl⟩ := List.mem_map.mp hp'
  exact ⟨p, hp, markDts_samePod c N p⟩

/-- marking the unfinished pods of a list with pairwise distinct names: a finished pod is left as it is, an
unfinished one that is not being deleted gets the deletion timestamp -/
theorem markDts_of_unfinished (c : Time) {l : List PodObj} {N : List String} (hnd : (podNames l).Nodup)
    (hN : ∀ n, n ∈ N ↔ ∃ p ∈ l, p.pod.name = n ∧ p.pod.isFinished = false) {p : PodObj} (hp : p ∈ l) :
    (p.pod.isFinished = true → markDts c N p = p) ∧
    (p.pod.isFinished = false → p.pod.deletionTimestamp = none → (markDts c N p).pod.deletionTimestamp = some c) := by
  constructor
  · intro hf
    have : ¬ p.pod.name ∈ N := by
      intro hn
      obtain ⟨p2, hp2, hn2, hf2⟩ := (hN p.pod.name).mp hn
      rw [pod_eq_of_name hnd hp hp2 hn2, hf] at hf2
      cases hf2
    unfold markDts
    simp [this]
  · intro hf hd
    have hn : p.pod.name ∈ N := (hN p.pod.name).mpr ⟨p, hp, rfl, hf⟩
    unfold markDts
    simp [hn, hd]

/-- the effect of successful graceful deletes on the state: the pods named in `N` are marked, the caches
stay in sync, no fault appears, nothing else on the server changes -/
structure Marked (s s' : Sys) (N : List String) : Prop where
  pods : s'.pods = s.pods.map (markDts (nowT s) N)
  clock : s'.clock = s.clock
  d : s'.d = s.d
  cfg : s'.cfg = s.cfg
  job : s'.job = s.job
  jobEvs : s'.jobEvs = s.jobEvs
  jobCache : s'.jobCache = s.jobCache
  podCache : s'.podCache = s.podCache
  q : s'.q = s.q
  psync : PSync s → PSync s'
  nofault : NoFault s'
  evs : ∀ e ∈ s'.podEvs, e ∈ s.podEvs ∨
    ∃ p0 ∈ s.pods, ∃ p, e = PEv.upsert p ∧ p.ownerUid = p0.ownerUid ∧ p.ownerName = p0.ownerName

theorem Marked.refl (s : Sys) (h : NoFault s) : Marked s s [] :=
  ⟨map_markDts_nil _ _, rfl, rfl, rfl, rfl, rfl, rfl, rfl, rfl, id, h, fun e he => Or.inl he⟩

/-- pods marked, timers of `key` armed -/
structure MarkedT (key : String) (s s' : Sys) (N : List String) : Prop where
  pods : s'.pods = s.pods.map (markDts (nowT s) N)
  clock : s'.clock = s.clock
  d : s'.d = s.d
  cfg : s'.cfg = s.cfg
  job : s'.job = s.job
  jobEvs : s'.jobEvs = s.jobEvs
  jobCache : s'.jobCache = s.jobCache
  podCache : s'.podCache = s.podCache
  queue : s'.q.queue = s.q.queue
  dirty : s'.q.dirty = s.q.dirty
  processing : s'.q.processing = s.q.processing
  delayedNew : ∀ e ∈ s'.q.delayed, e ∈ s.q.delayed ∨ e.1 = key
  delayedMono : ∀ e ∈ s.q.delayed, ∃ e' ∈ s'.q.delayed, e'.1 = e.1 ∧ e'.2 ≤ e.2
  psync : PSync s → PSync s'
  nofault : NoFault s → NoFault s'
  evs : ∀ e ∈ s'.podEvs, e ∈ s.podEvs ∨
    ∃ p0 ∈ s.pods, ∃ p, e = PEv.upsert p ∧ p.ownerUid = p0.ownerUid ∧ p.ownerName = p0.ownerName

theorem MarkedT.trans {key : String} {a b c : Sys} {A B : List String} (h1 : MarkedT key a b A) (h2 : MarkedT key b c B) :
    MarkedT key a c (A ++ B) := by
  have hn : nowT b = nowT a := by unfold nowT nowSec; rw [h1.clock]
  refine ⟨?_, h2.clock.trans h1.clock, h2.d.trans h1.d, h2.cfg.trans h1.cfg, h2.job.trans h1.job,
    h2.jobEvs.trans h1.jobEvs, h2.jobCache.trans h1.jobCache, h2.podCache.trans h1.podCache,
    h2.queue.trans h1.queue, h2.dirty.trans h1.dirty, h2.processing.trans h1.processing, ?_, ?_,
    fun h => h2.psync (h1.psync h), fun h => h2.nofault (h1.nofault h), ?_⟩
  rotate_right
  · intro e he
    rcases h2.evs e he with h | ⟨p0, hp0, p, e1, e2, e3⟩
    · exact h1.evs e h
    · rw [h1.pods] at hp0
      obtain ⟨x, hx, rfl⟩ := List.mem_map.mp hp0
      obtain ⟨o1, o2, _⟩ := markDts_samePod (nowT a) A x
      exact Or.inr ⟨x, hx, p, e1, e2.trans o1, e3.trans o2⟩
  · rw [h2.pods, h1.pods, hn, List.map_map]
    apply List.map_congr_left
    intro p _
    exact markDts_markDts _ A B p
  · intro e he
    rcases h2.delayedNew e he with h | h
    · exact h1.delayedNew e h
    · exact Or.inr h
  · intro e he
    obtain ⟨e', he', hk, hd⟩ := h1.delayedMono e he
    obtain ⟨e'', he'', hk', hd'⟩ := h2.delayedMono e' he'
    exact ⟨e'', he'', hk'.trans hk, Int.le_trans hd' hd⟩

theorem MarkedT.of_marked {key : String} {s s' : Sys} {N : List String} (h : Marked s s' N) : MarkedT key s s' N :=
  ⟨h.pods, h.clock, h.d, h.cfg, h.job, h.jobEvs, h.jobCache, h.podCache, by rw [h.q], by rw [h.q], by rw [h.q],
   fun e he => Or.inl (by rw [← h.q]; exact he), fun e he => ⟨e, by rw [h.q]; exact he, rfl, Int.le_refl _⟩,
   h.psync, fun _ => h.nofault, h.evs⟩

/-- `Marked` is `MarkedT` with the whole queue left alone -/
theorem Marked.trans {a b c : Sys} {A B : List String} (h1 : Marked a b A) (h2 : Marked b c B) : Marked a c (A ++ B) :=
  have m := (MarkedT.of_marked (key := "") h1).trans (MarkedT.of_marked h2)
  ⟨m.pods, m.clock, m.d, m.cfg, m.job, m.jobEvs, m.jobCache, m.podCache, h2.q.trans h1.q, m.psync, h2.nofault, m.evs⟩

theorem apiDeletePod_graceful (s : Sys) (n : String) (hnf : NoFault s) (hnd : (podNames s.pods).Nodup) :
    (apiDeletePod s n false).2 = true ∧ Marked s (apiDeletePod s n false).1 [n] := by
  obtain ⟨f, fs, dr, he, hf⟩ := JobCtlPlan.apiDeletePod_eq s n false
  obtain ⟨hf1, hf2, hf3⟩ := hf hnf
  subst hf1
  subst hf2
  rw [he]
  unfold JobCtlPlan.delBody
  have hfail : isFailFault "" = false := by decide
  simp only [hfail, Bool.false_eq_true, ↓reduceIte]
  have hnf' : NoFault ({ s with faults := [], delRun := dr } : Sys) := ⟨rfl, hf3⟩
  have hid : ∀ (l : List PodObj), (∀ p ∈ l, p.pod.name = n → p.pod.deletionTimestamp ≠ none) →
      l = l.map (markDts (nowT s) [n]) := by
    intro l hl
    conv => lhs; rw [← List.map_id l]
    apply List.map_congr_left
    intro p hp
    unfold markDts
    by_cases hpn : p.pod.name = n
    · have := hl p hp hpn
      simp [hpn, this]
    · simp [hpn]
  cases hp : findPod s.pods n with
  | none =>
    simp only [log]
    refine ⟨trivial, ⟨?_, rfl, rfl, rfl, rfl, rfl, rfl, rfl, rfl, id, ⟨rfl, hf3⟩, fun e he => Or.inl he⟩⟩
    exact hid s.pods (fun p hp' hpn => absurd hpn (findPod_none hp p hp'))
  | some p =>
    have hpm := JobCtlPlan.findPod_some hp
    simp only [log, Bool.false_eq_true, ↓reduceIte]
    by_cases hdts : p.pod.deletionTimestamp.isSome = true
    · simp only [hdts, ↓reduceIte]
      refine ⟨by simp, ⟨?_, rfl, rfl, rfl, rfl, rfl, rfl, rfl, rfl, id, ⟨rfl, hf3⟩, fun e he => Or.inl he⟩⟩
      apply hid
      intro p' hp' hpn
      rw [pod_eq_of_name hnd hpm.1 hp' (hpn.trans hpm.2.symm)]
      intro e; rw [e] at hdts; cases hdts
    · simp only [hdts, Bool.false_eq_true, ↓reduceIte]
      have hnone : p.pod.deletionTimestamp = none := by
        cases hx : p.pod.deletionTimestamp with
        | none => rfl
        | some _ => rw [hx] at hdts; simp at hdts
      refine ⟨by simp, ⟨?_, rfl, rfl, rfl, rfl, rfl, rfl, rfl, rfl, ?_, ⟨rfl, hf3⟩, ?_⟩⟩
      rotate_left 2
      · intro e he
        have he' : e ∈ s.podEvs ++ [PEv.upsert { p with pod := { p.pod with deletionTimestamp := some (secs (nowSec s)) } }] := he
        rcases List.mem_append.mp he' with h | h
        · exact Or.inl h
        · simp only [List.mem_singleton] at h
          exact Or.inr ⟨p, hpm.1, _, h, rfl, rfl⟩
      · show setPod s.pods _ = _
        unfold setPod
        have hany : s.pods.any (·.pod.name = p.pod.name) = true :=
          List.any_eq_true.mpr ⟨p, hpm.1, by simp⟩
        simp only [hany, ↓reduceIte]
        apply List.map_congr_left
        intro x hx
        unfold markDts
        by_cases hxn : x.pod.name = n
        · have := pod_eq_of_name hnd hpm.1 hx (hxn.trans hpm.2.symm)
          subst this
          simp [hpm.2, hnone, nowT, nowSec]
        · have : ¬ x.pod.name = p.pod.name := by rw [hpm.2]; exact hxn
          simp [hxn, this]
      · intro hps
        unfold PSync at *
        show (s.podEvs ++ [PEv.upsert _]).foldl applyPEv s.podCache = setPod s.pods _
        rw [List.foldl_append, hps]
        rfl

theorem delFold_graceful : ∀ (names : List String) (s : Sys) (b : Bool), NoFault s → (podNames s.pods).Nodup →
    (names.foldl (fun (acc : Sys × Bool) n => ((apiDeletePod acc.1 n false).1, acc.2 && (apiDeletePod acc.1 n false).2)) (s, b)).2 = b ∧
    Marked s (names.foldl (fun (acc : Sys × Bool) n => ((apiDeletePod acc.1 n false).1, acc.2 && (apiDeletePod acc.1 n false).2)) (s, b)).1 names
  | [], s, b, hnf, _ => ⟨rfl, Marked.refl s hnf⟩
  | n :: rest, s, b, hnf, hnd => by
    obtain ⟨hok, hm⟩ := apiDeletePod_graceful s n hnf hnd
    have hnd1 : (podNames (apiDeletePod s n false).1.pods).Nodup := by rw [hm.pods, podNames_markDts]; exact hnd
    obtain ⟨h1, h2⟩ := delFold_graceful rest (apiDeletePod s n false).1 (b && (apiDeletePod s n false).2) hm.nofault hnd1
    simp only [List.foldl_cons]
    refine ⟨by rw [h1, hok]; simp, ?_⟩
    exact hm.trans h2

/-- **`deleteTasks` (graceful) with no fault pending**, for tasks that are not being deleted yet: the pods of
all of them get the deletion timestamp -/
theorem deleteTasks_graceful (s : Sys) (tasks : List Task) (hnf : NoFault s) (hnd : (podNames s.pods).Nodup)
    (hdts : ∀ t ∈ tasks, t.deletionTimestamp = none) :
    (deleteTasks s tasks false).2 = true ∧ ∃ N, Marked s (deleteTasks s tasks false).1 N ∧ ∀ n, n ∈ N ↔ n ∈ tasks.map (·.name) := by
  unfold deleteTasks
  simp only
  rw [List.filter_eq_self.mpr (fun t ht => by simp [hdts t ht])]
  obtain ⟨h1, h2⟩ := delFold_graceful (List.foldl (fun acc n => deleteTasks.ins n acc) [] (tasks.map (·.name))) s true hnf hnd
  refine ⟨h1, _, h2, ?_⟩
  intro n
  rw [JobCtlPlan.mem_foldl_ins]
  simp

theorem MarkedT.of_timers {key : String} {s s' : Sys} (h : TimersOnly key s s') : MarkedT key s s' [] := by
  obtain ⟨q', e, t1, t2, t3, _, t5, t6⟩ := h
  subst e
  exact ⟨map_markDts_nil _ _, rfl, rfl, rfl, rfl, rfl, rfl, rfl, t1, t2, t3, t5, t6, id, id, fun e he => Or.inl he⟩

theorem MarkedT.refl (key : String) (s : Sys) : MarkedT key s s [] := MarkedT.of_timers (TimersOnly.refl key s)

theorem MarkedT.congr {key : String} {s s' : Sys} {A B : List String} (h : MarkedT key s s' A) (hAB : ∀ n, n ∈ A ↔ n ∈ B) :
    MarkedT key s s' B :=
  ⟨by rw [h.pods]; exact List.map_congr_left (fun p _ => markDts_congr _ hAB p), h.clock, h.d, h.cfg, h.job, h.jobEvs,
   h.jobCache, h.podCache, h.queue, h.dirty, h.processing, h.delayedNew, h.delayedMono, h.psync, h.nofault, h.evs⟩

/-- the pod is not named in `N` -/
def keepPod (N : List String) (p : PodObj) : Bool := !(N.contains p.pod.name)

/-- the effect of successful forced deletes: the pods named in `N` are removed -/
structure Removed (s s' : Sys) (N : List String) : Prop where
  pods : s'.pods = s.pods.filter (keepPod N)
  clock : s'.clock = s.clock
  d : s'.d = s.d
  cfg : s'.cfg = s.cfg
  job : s'.job = s.job
  jobEvs : s'.jobEvs = s.jobEvs
  jobCache : s'.jobCache = s.jobCache
  podCache : s'.podCache = s.podCache
  q : s'.q = s.q
  psync : PSync s → PSync s'
  nofault : NoFault s'
  evs : ∀ e ∈ s'.podEvs, e ∈ s.podEvs ∨ ∃ p0 ∈ s.pods, e = PEv.delete p0

theorem keepPod_nil (p : PodObj) : keepPod [] p = true := by unfold keepPod; simp

theorem Removed.refl (s : Sys) (h : NoFault s) : Removed s s [] :=
  ⟨by
    symm
    apply List.filter_eq_self.mpr
    intro p _
    exact keepPod_nil p, rfl, rfl, rfl, rfl, rfl, rfl, rfl, rfl, id, h, fun e he => Or.inl he⟩

theorem Removed.trans {a b c : Sys} {A B : List String} (h1 : Removed a b A) (h2 : Removed b c B) : Removed a c (A ++ B) := by
  refine ⟨?_, h2.clock.trans h1.clock, h2.d.trans h1.d, h2.cfg.trans h1.cfg, h2.job.trans h1.job,
    h2.jobEvs.trans h1.jobEvs, h2.jobCache.trans h1.jobCache, h2.podCache.trans h1.podCache, h2.q.trans h1.q,
    fun h => h2.psync (h1.psync h), h2.nofault, ?_⟩
  · rw [h2.pods, h1.pods, List.filter_filter]
    apply List.filter_congr
    intro p _
    unfold keepPod
    simp only [List.contains_append, Bool.not_or]
    exact Bool.and_comm _ _
  · intro e he
    rcases h2.evs e he with h | ⟨p0, hp0, e1⟩
    · exact h1.evs e h
    · rw [h1.pods] at hp0
      exact Or.inr ⟨p0, (List.mem_filter.mp hp0).1, e1⟩

theorem apiDeletePod_force (s : Sys) (n : String) (hnf : NoFault s) :
    (apiDeletePod s n true).2 = true ∧ Removed s (apiDeletePod s n true).1 [n] := by
  obtain ⟨f, fs, dr, he, hf⟩ := JobCtlPlan.apiDeletePod_eq s n true
  obtain ⟨hf1, hf2, hf3⟩ := hf hnf
  subst hf1
  subst hf2
  rw [he]
  unfold JobCtlPlan.delBody
  have hfail : isFailFault "" = false := by decide
  simp only [hfail, Bool.false_eq_true, ↓reduceIte]
  have hdel : ∀ l : List PodObj, delPod l n = l.filter (keepPod [n]) := by
    intro l
    unfold delPod
    apply List.filter_congr
    intro x _
    unfold keepPod
    by_cases hx : x.pod.name = n
    · simp [hx]
    · have : ¬ n = x.pod.name := fun e => hx e.symm
      simp [hx, this]
  cases hp : findPod s.pods n with
  | none =>
    simp only [log]
    refine ⟨trivial, ⟨?_, rfl, rfl, rfl, rfl, rfl, rfl, rfl, rfl, id, ⟨rfl, hf3⟩, fun e he => Or.inl he⟩⟩
    show s.pods = _
    rw [← hdel, delPod_absent hp]
  | some p =>
    have hpm := JobCtlPlan.findPod_some hp
    simp only [log, ↓reduceIte]
    refine ⟨by simp, ⟨?_, rfl, rfl, rfl, rfl, rfl, rfl, rfl, rfl, ?_, ⟨rfl, hf3⟩, ?_⟩⟩
    · exact hdel s.pods
    · intro hps
      unfold PSync at *
      show (s.podEvs ++ [PEv.delete p]).foldl applyPEv s.podCache = delPod s.pods n
      rw [List.foldl_append, hps]
      show delPod s.pods p.pod.name = _
      rw [hpm.2]
    · intro e he
      have he' : e ∈ s.podEvs ++ [PEv.delete p] := he
      rcases List.mem_append.mp he' with h | h
      · exact Or.inl h
      · simp only [List.mem_singleton] at h
        exact Or.inr ⟨p, hpm.1, h⟩

theorem delFold_force : ∀ (names : List String) (s : Sys) (b : Bool), NoFault s →
    (names.foldl (fun (acc : Sys × Bool) n => ((apiDeletePod acc.1 n true).1, acc.2 && (apiDeletePod acc.1 n true).2)) (s, b)).2 = b ∧
    Removed s (names.foldl (fun (acc : Sys × Bool) n => ((apiDeletePod acc.1 n true).1, acc.2 && (apiDeletePod acc.1 n true).2)) (s, b)).1 names
  | [], s, b, hnf => ⟨rfl, Removed.refl s hnf⟩
  | n :: rest, s, b, hnf => by
    obtain ⟨hok, hm⟩ := apiDeletePod_force s n hnf
    obtain ⟨h1, h2⟩ := delFold_force rest (apiDeletePod s n true).1 (b && (apiDeletePod s n true).2) hm.nofault
    simp only [List.foldl_cons]
    refine ⟨by rw [h1, hok]; simp, ?_⟩
    exact hm.trans h2

theorem Removed.congr {s s' : Sys} {A B : List String} (h : Removed s s' A) (hAB : ∀ n, n ∈ A ↔ n ∈ B) : Removed s s' B :=
  ⟨by
    rw [h.pods]
    apply List.filter_congr
    intro p _
    unfold keepPod
    have := hAB p.pod.name
    by_cases ha : p.pod.name ∈ A
    · simp [ha, this.mp ha]
    · have hb : ¬ p.pod.name ∈ B := fun hb => ha (this.mpr hb)
      simp [ha, hb], h.clock, h.d, h.cfg, h.job, h.jobEvs, h.jobCache, h.podCache, h.q, h.psync, h.nofault, h.evs⟩

/-- **`deleteTasks` (forced) with no fault pending**: the pods of all the tasks are removed -/
theorem deleteTasks_force (s : Sys) (tasks : List Task) (hnf : NoFault s) :
    (deleteTasks s tasks true).2 = true ∧ Removed s (deleteTasks s tasks true).1 (tasks.map (·.name)) := by
  unfold deleteTasks
  simp only [Bool.true_or]
  rw [List.filter_eq_self.mpr (fun t _ => rfl)]
  obtain ⟨h1, h2⟩ := delFold_force (List.foldl (fun acc n => deleteTasks.ins n acc) [] (tasks.map (·.name))) s true hnf
  refine ⟨h1, h2.congr ?_⟩
  intro n
  rw [JobCtlPlan.mem_foldl_ins]
  simp

open Furiko.Conv

/-- what the stages of a pass before the Job API calls leave alone: the Job, its events and cache, the pod
cache, the clock, the ready part of the work queue; caches stay in sync, no fault appears -/
structure Frame (s s' : Sys) : Prop where
  clock : s'.clock = s.clock
  d : s'.d = s.d
  cfg : s'.cfg = s.cfg
  job : s'.job = s.job
  jobEvs : s'.jobEvs = s.jobEvs
  jobCache : s'.jobCache = s.jobCache
  podCache : s'.podCache = s.podCache
  queue : s'.q.queue = s.q.queue
  dirty : s'.q.dirty = s.q.dirty
  processing : s'.q.processing = s.q.processing
  psync : PSync s → PSync s'
  nofault : NoFault s → NoFault s'

theorem Frame.refl (s : Sys) : Frame s s := ⟨rfl, rfl, rfl, rfl, rfl, rfl, rfl, rfl, rfl, rfl, id, id⟩

theorem Frame.trans {a b c : Sys} (h1 : Frame a b) (h2 : Frame b c) : Frame a c :=
  ⟨h2.clock.trans h1.clock, h2.d.trans h1.d, h2.cfg.trans h1.cfg, h2.job.trans h1.job, h2.jobEvs.trans h1.jobEvs,
   h2.jobCache.trans h1.jobCache, h2.podCache.trans h1.podCache, h2.queue.trans h1.queue, h2.dirty.trans h1.dirty,
   h2.processing.trans h1.processing, fun h => h2.psync (h1.psync h), fun h => h2.nofault (h1.nofault h)⟩

theorem Frame.of_markedT {key : String} {s s' : Sys} {N : List String} (h : MarkedT key s s' N) : Frame s s' :=
  ⟨h.clock, h.d, h.cfg, h.job, h.jobEvs, h.jobCache, h.podCache, h.queue, h.dirty, h.processing, h.psync, h.nofault⟩

theorem Frame.of_timers {key : String} {s s' : Sys} (h : TimersOnly key s s') : Frame s s' :=
  Frame.of_markedT (MarkedT.of_timers h)

theorem Frame.of_removed {s s' : Sys} {N : List String} (h : Removed s s' N) : Frame s s' :=
  ⟨h.clock, h.d, h.cfg, h.job, h.jobEvs, h.jobCache, h.podCache, by rw [h.q], by rw [h.q], by rw [h.q], h.psync,
   fun _ => h.nofault⟩

end Furiko.JobCtl.Live
