/-
`refreshUpdatedJobConfigs` (`refresh`): each flush is Delete + Bump(now) of the lister's version; frame properties;
reduction of a tick with a non-empty channel to a tick with an empty one; the lister updates
`listerSet` / `listerDel` keep `ListerOK`.
-/
import FurikoModel.Proofs.CronKey

namespace Furiko.Cron
open Furiko

/-- the entry a flush at `now` leaves for a JobConfig version `cur` -/
def flushEntryOf (cur : JC) (now : Int) : Option Int :=
  if cur.sched.enabled && !cur.sched.parseErr then
    getNext cur.nxt cur.sched.notBefore cur.sched.notAfter now
  else none

/-- the entry a flush at `now` leaves for key `k`: computed from the lister's current version -/
def flushEntry (lister : List (String × JC)) (k : String) (now : Int) : Option Int :=
  match lookup lister k with
  | none => none
  | some cur => flushEntryOf cur now

theorem flushEntryOf_eq (cur : JC) (now : Int) :
    flushEntryOf cur now = bumpEnt cur (floorSec now) := by
  unfold flushEntryOf bumpEnt
  rw [getNext_eq_nextAfter]

/-- one flush: `Delete(key)`, then `Bump(cur, now)` of the lister's current version -/
def flushOne (heap : Heap.PQ) (lister : List (String × JC)) (jc : JC) (now : Int) : Heap.PQ :=
  match lookup lister jc.key with
  | none => schedDelete heap jc.key
  | some cur => (schedBump (schedDelete heap jc.key) cur now).1

theorem flushOne_spec {heap : Heap.PQ} {lister : List (String × JC)} (h : Heap.Inv heap)
    (hL : ListerOK lister) (jc : JC) (now : Int) :
    Heap.Inv (flushOne heap lister jc now) ∧
    ∀ k, Heap.search (flushOne heap lister jc now) k =
      if k = jc.key then flushEntry lister jc.key now else Heap.search heap k := by
  unfold flushOne flushEntry
  cases hlk : lookup lister jc.key with
  | none => exact ⟨schedDelete_inv h _, schedDelete_search h _⟩
  | some cur =>
    obtain ⟨hkey, hs⟩ := lookup_ok hL hlk
    have a := schedBump_spec (schedDelete_inv h jc.key) cur hs now
      (by rw [hkey, schedDelete_search h, if_pos rfl])
    refine ⟨a.1, fun k => ?_⟩
    simp only []
    rw [a.2, hkey, schedDelete_search h, flushEntryOf_eq]
    split <;> rfl

theorem refresh_cons (heap : Heap.PQ) (lister : List (String × JC)) (jc : JC) (rest : List JC)
    (now : Int) (limit : Nat) :
    refresh heap lister (jc :: rest) now (limit + 1)
      = refresh (flushOne heap lister jc now) lister rest now limit := by
  unfold flushOne
  cases hlk : lookup lister jc.key <;> simp [refresh, hlk]

theorem refresh_frame {lister : List (String × JC)} (hL : ListerOK lister) (now : Int) :
    ∀ (limit : Nat) (heap : Heap.PQ) (chan : List JC),
    Heap.Inv heap →
    Heap.Inv (refresh heap lister chan now limit).1 ∧
    (refresh heap lister chan now limit).2 = chan.drop limit ∧
    ∀ k, (∀ jc ∈ chan.take limit, jc.key ≠ k) →
      Heap.search (refresh heap lister chan now limit).1 k = Heap.search heap k := by
  intro limit
  induction limit with
  | zero =>
    intro heap chan h
    have : refresh heap lister chan now 0 = (heap, chan) := by simp [refresh]
    rw [this]
    exact ⟨h, rfl, fun _ _ => rfl⟩
  | succ limit ih =>
    intro heap chan h
    cases chan with
    | nil => exact ⟨h, rfl, fun _ _ => rfl⟩
    | cons jc rest =>
      rw [refresh_cons]
      have a := flushOne_spec h hL jc now
      have b := ih (flushOne heap lister jc now) rest a.1
      refine ⟨b.1, b.2.1, fun k hk => ?_⟩
      rw [b.2.2 k (fun jc' hjc' => hk jc' (by simp [List.take_succ_cons, hjc'])), a.2,
        if_neg (fun hkk => hk jc (by simp [List.take_succ_cons]) hkk.symm)]

/-- The last flush for a key within the flush limit re-bases the key to the LISTER's current
version (whatever object sits in the channel). -/
theorem refresh_rebases {lister : List (String × JC)} (hL : ListerOK lister) (now : Int)
    {jc : JC} {post : List JC} (hpost : ∀ jc' ∈ post, jc'.key ≠ jc.key) :
    ∀ (pre : List JC) (heap : Heap.PQ) (limit : Nat), Heap.Inv heap → pre.length + 1 ≤ limit →
      Heap.Inv (refresh heap lister (pre ++ [jc] ++ post) now limit).1 ∧
      Heap.search (refresh heap lister (pre ++ [jc] ++ post) now limit).1 jc.key
        = flushEntry lister jc.key now := by
  intro pre
  induction pre with
  | nil =>
    intro heap limit h hl
    obtain ⟨l, rfl⟩ : ∃ l, limit = l + 1 := ⟨limit - 1, by omega⟩
    simp only [List.nil_append, List.singleton_append]
    rw [refresh_cons]
    have a := flushOne_spec h hL jc now
    have b := refresh_frame hL now l (flushOne heap lister jc now) post a.1
    refine ⟨b.1, ?_⟩
    rw [b.2.2 jc.key (fun jc' hjc' => hpost jc' (List.mem_of_mem_take hjc')), a.2, if_pos rfl]
  | cons p pre ih =>
    intro heap limit h hl
    obtain ⟨l, rfl⟩ : ∃ l, limit = l + 1 := ⟨limit - 1, by simp at hl; omega⟩
    simp only [List.cons_append]
    rw [refresh_cons]
    have := ih (flushOne heap lister p now) l (flushOne_spec h hL p now).1 (by simp at hl; omega)
    simpa using this

/-- the worker at the start of the pop loop -/
def afterRefresh (w : Worker) (now : Int) (flushLimit : Nat) : Worker :=
  { w with heap := (refresh w.heap w.lister w.chan now flushLimit).1, chan := [] }

section
variable (w : Worker) (now : Int) (cap : Int) (flushLimit fuel : Nat)

theorem work_refresh :
    work w now cap flushLimit fuel =
      ({ (work (afterRefresh w now flushLimit) now cap flushLimit fuel).1 with
          chan := (refresh w.heap w.lister w.chan now flushLimit).2 },
       (work (afterRefresh w now flushLimit) now cap flushLimit fuel).2) := by
  rw [work_eq (afterRefresh w now flushLimit) now cap flushLimit fuel rfl]
  rfl

theorem work_fired_eq :
    (work w now cap flushLimit fuel).2
      = (work (afterRefresh w now flushLimit) now cap flushLimit fuel).2 := by
  rw [work_refresh]

theorem work_heap_eq :
    (work w now cap flushLimit fuel).1.heap
      = (work (afterRefresh w now flushLimit) now cap flushLimit fuel).1.heap := by
  rw [work_refresh]

theorem work_chan_eq (hInv : Heap.Inv w.heap) (hL : ListerOK w.lister) :
    (work w now cap flushLimit fuel).1.chan = w.chan.drop flushLimit := by
  rw [work_refresh]
  exact (refresh_frame hL now flushLimit w.heap w.chan hInv).2.1

end

theorem work_lister_eq (w : Worker) (now : Int) (cap : Int) (flushLimit fuel : Nat) :
    (work w now cap flushLimit fuel).1.lister = w.lister := rfl

theorem bumpEnt_gt {jc : JC} (hs : jc.SortedOK) (s e : Int) (h : bumpEnt jc s = some e) :
    s < e := by
  unfold bumpEnt at h
  split at h
  · exact ((JC.nextAfter_spec hs s).1 e h).1
  · cases h

theorem flushEntry_gt {lister : List (String × JC)} (hL : ListerOK lister) (k : String)
    (now e : Int) (h : flushEntry lister k now = some e) : now < e * 1000000000 := by
  unfold flushEntry at h
  cases hlk : lookup lister k with
  | none => rw [hlk] at h; cases h
  | some cur =>
    simp only [hlk, flushEntryOf_eq] at h
    exact (floorSec_lt_iff _ _).1 (bumpEnt_gt (lookup_ok hL hlk).2 _ e h)

theorem flushEntry_of_lookup {lister : List (String × JC)} {k : String} {cur : JC}
    (h : lookup lister k = some cur) (now : Int) :
    flushEntry lister k now = flushEntryOf cur now := by
  unfold flushEntry; rw [h]

theorem flushEntry_of_missing {lister : List (String × JC)} {k : String}
    (h : lookup lister k = none) (now : Int) : flushEntry lister k now = none := by
  unfold flushEntry; rw [h]

theorem flushEntryOf_active {cur : JC} (hen : cur.sched.enabled = true)
    (hpe : cur.sched.parseErr = false) (now : Int) :
    flushEntryOf cur now = getNext cur.nxt cur.sched.notBefore cur.sched.notAfter now := by
  simp [flushEntryOf, hen, hpe]

theorem flushEntryOf_off {cur : JC} (h : cur.sched.enabled = false ∨ cur.sched.parseErr = true)
    (now : Int) : flushEntryOf cur now = none := by
  unfold flushEntryOf
  rcases h with h | h <;> simp [h]

section tick
variable {w : Worker} {now : Int} {cap : Int} (flushLimit fuel : Nat)
  (hInv : Heap.Inv w.heap) (hL : ListerOK w.lister)
include hInv hL

/-- `work_key_absent` for any channel in which no flush for `k` is pending (`work_absent_general`,
`work_missing_general`, `work_inv_general` are `work_key_absent`, `work_key_missing`, `work_inv` of CronKey.lean
without `w.chan = []`) -/
theorem work_absent_general {k : String}
    (hchan : ∀ jc ∈ w.chan, jc.key ≠ k) (he : Heap.search w.heap k = none) :
    Heap.Inv (work w now cap flushLimit fuel).1.heap ∧
    outk (work w now cap flushLimit fuel).2.1 k = [] ∧
    Heap.search (work w now cap flushLimit fuel).1.heap k = none ∧
    (∀ jc ∈ (work w now cap flushLimit fuel).1.chan, jc.key ≠ k) := by
  have hr := refresh_frame hL now flushLimit w.heap w.chan hInv
  have he' : Heap.search (afterRefresh w now flushLimit).heap k = none := by
    show Heap.search (refresh w.heap w.lister w.chan now flushLimit).1 k = none
    rw [hr.2.2 k (fun jc hjc => hchan jc (List.mem_of_mem_take hjc))]; exact he
  have ha := work_key_absent (w := afterRefresh w now flushLimit) (now := now) (cap := cap)
    flushLimit fuel hr.1 hL rfl he'
  have hi := (work_keywise (w := afterRefresh w now flushLimit) (now := now) (cap := cap)
    flushLimit fuel hr.1 hL rfl (fun _ _ => True) (fun _ _ _ _ _ _ => trivial)
    (fun _ => trivial)).1
  rw [work_fired_eq, work_heap_eq, work_chan_eq _ _ _ _ _ hInv hL]
  exact ⟨hi, ha.1, ha.2, fun jc hjc => hchan jc (List.mem_of_mem_drop hjc)⟩

theorem work_inv_general :
    Heap.Inv (work w now cap flushLimit fuel).1.heap := by
  have hr := refresh_frame hL now flushLimit w.heap w.chan hInv
  rw [work_heap_eq]
  exact (work_inv (w := afterRefresh w now flushLimit) (now := now) (cap := cap) flushLimit fuel
    hr.1 hL rfl).1

theorem work_missing_general {k : String}
    (hlk : lookup w.lister k = none) :
    outk (work w now cap flushLimit fuel).2.1 k = [] := by
  have hr := refresh_frame hL now flushLimit w.heap w.chan hInv
  rw [work_fired_eq]
  obtain ⟨⟨_, h⟩, _⟩ := work_key (w := afterRefresh w now flushLimit) (now := now) (cap := cap)
    flushLimit fuel hr.1 hL rfl k (fun s => s.out = [])
    (fun s ts hs _ _ => by show (kstep (lookup w.lister k) _ _ _ _).out = []; rw [hlk]; exact hs) rfl
  exact h

/-- The tick that processes the (last) flush for `jc.key`: the key is re-based to `Next(now)` of
the lister's current version (or removed), and nothing is requested for it in this tick — in
particular an overdue entry of the old schedule is dropped unfired.  Any fuel. -/
theorem flush_tick {jc : JC}
    {pre post : List JC} (hchan : w.chan = pre ++ [jc] ++ post)
    (hpost : ∀ jc' ∈ post, jc'.key ≠ jc.key) (hlim : pre.length + 1 ≤ flushLimit) :
    Heap.search (refresh w.heap w.lister w.chan now flushLimit).1 jc.key
      = flushEntry w.lister jc.key now ∧
    outk (work w now cap flushLimit fuel).2.1 jc.key = [] ∧
    Heap.search (work w now cap flushLimit fuel).1.heap jc.key
      = flushEntry w.lister jc.key now ∧
    (∀ jc' ∈ (work w now cap flushLimit fuel).1.chan, jc'.key ≠ jc.key) := by
  have hr := refresh_rebases hL now hpost pre w.heap flushLimit hInv hlim
  rw [← hchan] at hr
  have hdrop : ∀ jc' ∈ w.chan.drop flushLimit, jc'.key ≠ jc.key := by
    intro jc' hm
    rw [hchan, List.drop_append] at hm
    have hnil : List.drop flushLimit (pre ++ [jc]) = [] :=
      List.drop_eq_nil_iff.2 (by simp; omega)
    rw [hnil, List.nil_append] at hm
    exact hpost jc' (List.mem_of_mem_drop hm)
  rw [work_fired_eq, work_heap_eq, work_chan_eq _ _ _ _ _ hInv hL]
  -- after the flushes the key is absent or re-based strictly after `now`: nothing is due for it
  have hquiet : outk (work (afterRefresh w now flushLimit) now cap flushLimit fuel).2.1 jc.key = [] ∧
      Heap.search (work (afterRefresh w now flushLimit) now cap flushLimit fuel).1.heap jc.key
        = flushEntry w.lister jc.key now := by
    cases hb : flushEntry w.lister jc.key now with
    | none =>
      exact work_key_absent (w := afterRefresh w now flushLimit) flushLimit fuel hr.1 hL rfl
        (hr.2.trans hb)
    | some e =>
      exact work_key_not_due (w := afterRefresh w now flushLimit) flushLimit fuel hr.1 hL rfl
        (hr.2.trans hb) ((floorSec_lt_iff _ _).2 (flushEntry_gt hL _ _ _ hb))
  exact ⟨hr.2, hquiet.1, hquiet.2, hdrop⟩

theorem flush_last {jc cur : JC} {pre : List JC}
    (hchan : w.chan = pre ++ [jc]) (hlk : lookup w.lister jc.key = some cur)
    (hlim : pre.length + 1 ≤ flushLimit) :
    Heap.search (work w now cap flushLimit fuel).1.heap jc.key = flushEntryOf cur now ∧
    outk (work w now cap flushLimit fuel).2.1 jc.key = [] := by
  have := flush_tick (now := now) (cap := cap) flushLimit fuel hInv hL (post := [])
    (by rw [hchan, List.append_nil]) (fun _ h => nomatch h) hlim
  rw [flushEntry_of_lookup hlk] at this
  exact ⟨this.2.2.1, this.2.1⟩

end tick

theorem lookup_listerSet (l : List (String × JC)) (k : String) (v : JC) (k' : String) :
    lookup (listerSet l k v) k' = if k' = k then some v else lookup l k' := by
  induction l with
  | nil => grind [listerSet, lookup]
  | cons p t ih => grind [listerSet, lookup]

theorem listerSet_mem (l : List (String × JC)) (k : String) (v : JC) :
    ∀ p ∈ listerSet l k v, p = (k, v) ∨ p ∈ l := by
  induction l with
  | nil => grind [listerSet]
  | cons q t ih => grind [listerSet]

theorem listerSet_keys (l : List (String × JC)) (k : String) (v : JC) :
    (listerSet l k v).map Prod.fst =
      if k ∈ l.map Prod.fst then l.map Prod.fst else l.map Prod.fst ++ [k] := by
  induction l with
  | nil => simp [listerSet]
  | cons p t ih => grind [listerSet]

theorem listerOK_set {l : List (String × JC)} (hl : ListerOK l) {v : JC} (hv : v.SortedOK) :
    ListerOK (listerSet l v.key v) := by
  refine ⟨fun p hp => (listerSet_mem l v.key v p hp).elim (fun h => h ▸ ⟨rfl, hv⟩) (hl.1 p), ?_⟩
  rw [listerSet_keys]
  split
  · exact hl.2
  · next hk => exact List.nodup_append.2 ⟨hl.2, List.pairwise_singleton _ _, fun a ha b hb => by
      rw [List.mem_singleton.1 hb]; exact fun e => hk (e ▸ ha)⟩

theorem lookup_listerDel (l : List (String × JC)) (k k' : String) :
    lookup (listerDel l k) k' = if k' = k then none else lookup l k' := by
  induction l with
  | nil => simp [listerDel, lookup]
  | cons p t ih => unfold listerDel at *; grind [lookup]

theorem listerOK_del {l : List (String × JC)} (hl : ListerOK l) (k : String) :
    ListerOK (listerDel l k) := by
  unfold listerDel
  refine ⟨fun p hp => hl.1 p (List.mem_filter.1 hp).1, ?_⟩
  exact List.Pairwise.sublist (List.Sublist.map _ (List.filter_sublist)) hl.2

end Furiko.Cron
