/-
The controller `Context` around the cron worker (`Ctl`: worker + `loadedConfigs`, finding F24):
the transition system of everything that reaches the cron controller after `CronWorker.Init`
(ticks, the informer's add notifications for the JobConfigs that existed at boot, runtime
add / update / delete events), and the reduction of a boot sequence — ticks interleaved in any
way with late initial adds — to the plain tick sequence of Proofs/CronRunWork.lean.
-/
import FurikoModel.Proofs.CronRunWork

namespace Furiko.Cron
open Furiko

theorem lookupUid_forget (l : List (String × String)) (k k' : String) :
    lookupUid (forget l k) k' = if k' = k then none else lookupUid l k' := by
  induction l with
  | nil => simp [forget, lookupUid]
  | cons p rest ih => unfold forget at *; grind [lookupUid]

theorem lookupUid_forget_self (l : List (String × String)) (k : String) :
    lookupUid (forget l k) k = none := by
  rw [lookupUid_forget]; simp

theorem lookupUid_forget_ne (l : List (String × String)) {k k' : String} (h : k' ≠ k) :
    lookupUid (forget l k) k' = lookupUid l k' := by
  rw [lookupUid_forget]; simp [h]

theorem lookupUid_forget_some {l : List (String × String)} {k k' u : String}
    (h : lookupUid (forget l k) k' = some u) : lookupUid l k' = some u := by
  rw [lookupUid_forget] at h
  by_cases hk : k' = k
  · simp [hk] at h
  · simpa [hk] using h

theorem lookupUid_recordLoaded {jcs : List JC} (hnd : (jcs.map (fun jc => jc.key)).Nodup)
    {jc : JC} (hjc : jc ∈ jcs) : lookupUid (recordLoaded jcs) jc.key = some jc.uid := by
  induction jcs with
  | nil => cases hjc
  | cons a rest ih =>
    simp only [List.map_cons, List.nodup_cons] at hnd
    rcases List.mem_cons.1 hjc with rfl | hmem
    · simp [recordLoaded, lookupUid]
    · have hne : jc.key ≠ a.key := by
        intro h
        exact hnd.1 (List.mem_map.2 ⟨jc, hmem, h⟩)
      have hne' : ¬ a.key = jc.key := fun h => hne h.symm
      simp only [recordLoaded, lookupUid, hne', if_false]
      rw [lookupUid_forget_ne _ hne]
      exact ih hnd.2 hmem

theorem lookupUid_recordLoaded_none {jcs : List JC} {k : String}
    (hk : ∀ jc ∈ jcs, jc.key ≠ k) : lookupUid (recordLoaded jcs) k = none := by
  induction jcs with
  | nil => rfl
  | cons a rest ih =>
    have h1 : ¬ a.key = k := hk a (List.mem_cons_self ..)
    simp only [recordLoaded, lookupUid, h1, if_false]
    rw [lookupUid_forget_ne _ (fun h => h1 h.symm)]
    exact ih (fun jc hjc => hk jc (List.mem_cons_of_mem _ hjc))

theorem handleAdd_loaded {c : Ctl} {jc : JC} (h : lookupUid c.loaded jc.key = some jc.uid) :
    handleAdd c jc true true = { c with loaded := forget c.loaded jc.key } := by
  simp [handleAdd, takeLoaded, h]

theorem handleAdd_not_loaded {c : Ctl} {jc : JC} (h : lookupUid c.loaded jc.key ≠ some jc.uid) :
    handleAdd c jc true true =
      { worker := { c.worker with chan := c.worker.chan ++ [jc] },
        loaded := forget c.loaded jc.key } := by
  have : (lookupUid c.loaded jc.key == some jc.uid) = false := by
    cases hb : lookupUid c.loaded jc.key == some jc.uid with
    | false => rfl
    | true => exact absurd (eq_of_beq hb) h
  simp [handleAdd, takeLoaded, this]

inductive CtlAct where
  /-- one `CronWorker.Work()` at the clock reading `now` -/
  | tick (now : Int)
  /-- the informer's add notification for a JobConfig that existed when the handler joined -/
  | initialAdd (jc : JC)
  /-- runtime events (cache applied, handler run) -/
  | add (jc : JC)
  | update (old new : JC)
  | delete (jc : JC)

/-- which shapes the source has: handler registrations and the three F24 shapes
(`Generated/Facts.lean`) -/
structure Shapes where
  regAdd    : Bool
  regUpdate : Bool
  regDelete : Bool
  takes     : Bool
  forgets   : Bool

/-- everything registered, `handleAdd` consults the record, `handleDelete` forgets it -/
def Shapes.fixed : Shapes := ⟨true, true, true, true, true⟩

def ctlStep (sh : Shapes) (cap : Int) (flushLimit fuel : Nat) (c : Ctl) :
    CtlAct → Ctl × Option (List (String × Int) × Bool)
  | .tick now => ((ctlWork c now cap flushLimit fuel).1,
      some ((ctlWork c now cap flushLimit fuel).2.1, (ctlWork c now cap flushLimit fuel).2.2))
  | .initialAdd jc => (ctlInitialAdd c jc sh.regAdd sh.takes, none)
  | .add jc => (ctlAdd c jc sh.regAdd sh.takes, none)
  | .update old new => (ctlUpdate c old new sh.regUpdate, none)
  | .delete jc => (ctlDelete c jc sh.regDelete sh.forgets, none)

/-- run a history; returns the final state, the request list of every tick, and whether every
tick's pop loop ended by itself -/
def ctlRun (sh : Shapes) (cap : Int) (flushLimit fuel : Nat) :
    Ctl → List CtlAct → Ctl × List (List (String × Int)) × Bool
  | c, [] => (c, [], true)
  | c, a :: rest =>
    match (ctlStep sh cap flushLimit fuel c a).2 with
    | none => ctlRun sh cap flushLimit fuel (ctlStep sh cap flushLimit fuel c a).1 rest
    | some (fired, done) =>
      ((ctlRun sh cap flushLimit fuel (ctlStep sh cap flushLimit fuel c a).1 rest).1,
       fired :: (ctlRun sh cap flushLimit fuel (ctlStep sh cap flushLimit fuel c a).1 rest).2.1,
       done && (ctlRun sh cap flushLimit fuel (ctlStep sh cap flushLimit fuel c a).1 rest).2.2)

theorem handleAdd_loaded_shrinks {c : Ctl} {jc : JC} {reg takes : Bool} {k u : String}
    (h : lookupUid (handleAdd c jc reg takes).loaded k = some u) : lookupUid c.loaded k = some u := by
  have hc : (handleAdd c jc reg takes).loaded = c.loaded ∨
      (handleAdd c jc reg takes).loaded = forget c.loaded jc.key := by
    unfold handleAdd takeLoaded
    cases reg
    · simp
    · cases takes
      · simp
      · cases lookupUid c.loaded jc.key == some jc.uid <;> simp
  rcases hc with he | he
  · rw [he] at h; exact h
  · rw [he] at h; exact lookupUid_forget_some h

theorem ctlStep_loaded_shrinks (sh : Shapes) (cap : Int) (flushLimit fuel : Nat) (c : Ctl)
    (a : CtlAct) {k u : String}
    (h : lookupUid (ctlStep sh cap flushLimit fuel c a).1.loaded k = some u) :
    lookupUid c.loaded k = some u := by
  cases a with
  | tick now => exact h
  | initialAdd jc => exact handleAdd_loaded_shrinks h
  | add jc =>
    exact handleAdd_loaded_shrinks (c := { c with worker := { c.worker with
      lister := listerSet c.worker.lister jc.key jc } }) h
  | update old new => exact h
  | delete jc =>
    simp only [ctlStep, ctlDelete] at h
    split at h
    · exact lookupUid_forget_some h
    · exact h

theorem ctlRun_loaded_shrinks (sh : Shapes) (cap : Int) (flushLimit fuel : Nat) :
    ∀ (acts : List CtlAct) (c : Ctl) {k u : String},
      lookupUid (ctlRun sh cap flushLimit fuel c acts).1.loaded k = some u →
      lookupUid c.loaded k = some u := by
  intro acts
  induction acts with
  | nil => intro c k u h; exact h
  | cons a rest ih =>
    intro c k u h
    apply ctlStep_loaded_shrinks sh cap flushLimit fuel c a
    unfold ctlRun at h
    split at h
    · exact ih _ h
    · exact ih _ h

def CtlAct.isBoot : CtlAct → Bool
  | .tick _ => true
  | .initialAdd _ => true
  | _ => false

def ticksOf : List CtlAct → List Int
  | [] => []
  | .tick now :: rest => now :: ticksOf rest
  | _ :: rest => ticksOf rest

def initialAddsOf : List CtlAct → List JC
  | [] => []
  | .initialAdd jc :: rest => jc :: initialAddsOf rest
  | _ :: rest => initialAddsOf rest

/-- The informer's contract for the boot: `acts` consists of ticks and initial adds only; every
initial add carries a JobConfig that `Init` loaded (`jcs`: the very object, hence its key and UID),
and each JobConfig is notified at most once (one add per existing object per registration). -/
structure BootOK (jcs : List JC) (acts : List CtlAct) : Prop where
  boot   : ∀ a ∈ acts, a.isBoot = true
  loaded : ∀ jc ∈ initialAddsOf acts, jc ∈ jcs
  once   : (initialAddsOf acts).Pairwise (fun a b => a.key ≠ b.key)

/-- the state `CronWorker.Init` leaves behind (repaired shape: the record is written) -/
def bootCtl (jcs : List JC) (pq : Heap.PQ) : Ctl :=
  { worker := ⟨pq, jcs.map (fun jc => (jc.key, jc)), []⟩, loaded := recordLoaded jcs }

/-- **Late initial adds are invisible.**  From any state whose record holds every JobConfig that is
still to be notified (with its UID), a sequence of ticks interleaved in ANY way with those
notifications requests exactly what the ticks alone request, ends in the same worker state, and
has consumed exactly the notified records. -/
theorem ctlRun_boot (cap : Int) (flushLimit fuel : Nat) :
    ∀ (acts : List CtlAct) (c : Ctl),
      (∀ a ∈ acts, a.isBoot = true) →
      (∀ jc ∈ initialAddsOf acts, lookupUid c.loaded jc.key = some jc.uid) →
      (initialAddsOf acts).Pairwise (fun a b => a.key ≠ b.key) →
      (ctlRun Shapes.fixed cap flushLimit fuel c acts).1.worker
        = (runTicks cap flushLimit fuel c.worker (ticksOf acts)).1 ∧
      (ctlRun Shapes.fixed cap flushLimit fuel c acts).2
        = (runTicks cap flushLimit fuel c.worker (ticksOf acts)).2 ∧
      (ctlRun Shapes.fixed cap flushLimit fuel c acts).1.loaded
        = (initialAddsOf acts).foldl (fun l jc => forget l jc.key) c.loaded := by
  intro acts
  induction acts with
  | nil => intro c _ _ _; exact ⟨rfl, rfl, rfl⟩
  | cons a rest ih =>
    intro c hb hl ho
    have hbr : ∀ a ∈ rest, a.isBoot = true := fun x hx => hb x (List.mem_cons_of_mem _ hx)
    have hboot := hb a (List.mem_cons_self ..)
    cases a with
    | tick now =>
      have ih' := ih (ctlWork c now cap flushLimit fuel).1 hbr hl ho
      simp only [ctlRun, ctlStep, ticksOf, runTicks, initialAddsOf]
      exact ⟨ih'.1, by rw [ih'.2.1]; rfl, ih'.2.2⟩
    | initialAdd jc =>
      have hjc : lookupUid c.loaded jc.key = some jc.uid := hl jc (List.mem_cons_self ..)
      have hstep : ctlInitialAdd c jc true true = { c with loaded := forget c.loaded jc.key } :=
        handleAdd_loaded hjc
      simp only [initialAddsOf, List.pairwise_cons] at ho
      have hl' : ∀ jc' ∈ initialAddsOf rest,
          lookupUid ({ c with loaded := forget c.loaded jc.key } : Ctl).loaded jc'.key
            = some jc'.uid := by
        intro jc' hm
        have hne : jc'.key ≠ jc.key := fun h => ho.1 jc' hm h.symm
        show lookupUid (forget c.loaded jc.key) jc'.key = some jc'.uid
        rw [lookupUid_forget_ne _ hne]
        exact hl jc' (List.mem_cons_of_mem _ hm)
      have ih' := ih { c with loaded := forget c.loaded jc.key } hbr hl' ho.2
      simp only [ctlRun, ctlStep, Shapes.fixed, ticksOf, initialAddsOf, List.foldl_cons]
      rw [hstep]
      exact ih'
    | add jc => cases hboot
    | update o n => cases hboot
    | delete jc => cases hboot

theorem ctlRun_bootCtl (cap : Int) (flushLimit fuel : Nat) {jcs : List JC} (pq : Heap.PQ)
    (hnd : (jcs.map (fun jc => jc.key)).Nodup) {acts : List CtlAct} (hok : BootOK jcs acts) :
    (ctlRun Shapes.fixed cap flushLimit fuel (bootCtl jcs pq) acts).1.worker
      = (runTicks cap flushLimit fuel ⟨pq, jcs.map (fun jc => (jc.key, jc)), []⟩ (ticksOf acts)).1 ∧
    (ctlRun Shapes.fixed cap flushLimit fuel (bootCtl jcs pq) acts).2
      = (runTicks cap flushLimit fuel ⟨pq, jcs.map (fun jc => (jc.key, jc)), []⟩ (ticksOf acts)).2 :=
  have h := ctlRun_boot cap flushLimit fuel acts (bootCtl jcs pq) hok.boot
    (fun jc hjc => lookupUid_recordLoaded hnd (hok.loaded jc hjc)) hok.once
  ⟨h.1, h.2.1⟩

end Furiko.Cron
