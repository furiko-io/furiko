/-
Deletion markers are kept (instance of `PassInv`, `Proofs/JobCtlInvC10Result.lean`).

The pending-timeout reaper, the kill sweep, the force-delete step and the finalizer record on the ref of
a task they delete a `deletedStatus` marker (state Terminated, result Killed, with a reason).  `GetTaskRef`
carries the marker over on every refresh and replaces it only when the task itself reports a finish time
(then the task's own terminal status is stored there); `GenerateTaskRefs` turns it into the status of a
task that has vanished.  Invariant proved here, for every pass and hence every history:
* `MarkerOK`: a ref's `deletedStatus` is a `Terminated / Killed` marker unless the ref is finished;
* `MarkKeep ex r`: the ref `r` that became of `ex` keeps `ex`'s finish timestamp, and if `ex` carried a
  marker then `r` carries one with the same state and result, unless `r` is finished.
Core Lean only.
-/
import FurikoModel.Proofs.JobCtlInvC10Result

set_option linter.unusedSimpArgs false
set_option linter.unusedVariables false

namespace Furiko.JobCtl
open Furiko Furiko.WQ Furiko.JobCtlPlan

/-- the `deletedStatus` of the ref is a `Terminated / Killed` marker, unless the ref is finished -/
def MarkerOK (r : TaskRef) : Prop :=
  ∀ ds, r.deletedStatus = some ds → (ds.state = .terminated ∧ ds.result = .killed) ∨ r.finishTimestamp.isSome = true

/-- `r` is what became of `ex`: same name, finish timestamp kept, marker kept (state and result) unless
`r` is finished -/
def MarkKeep (ex r : TaskRef) : Prop :=
  r.name = ex.name ∧ (ex.finishTimestamp.isSome = true → r.finishTimestamp.isSome = true) ∧
  ∀ ds, ex.deletedStatus = some ds → ∃ ds', r.deletedStatus = some ds' ∧
    ((ds'.state = ds.state ∧ ds'.result = ds.result) ∨ r.finishTimestamp.isSome = true)

theorem MarkKeep.refl (r : TaskRef) : MarkKeep r r := ⟨rfl, id, fun ds h => ⟨ds, h, Or.inl ⟨rfl, rfl⟩⟩⟩

theorem MarkKeep.trans {a b c : TaskRef} (h1 : MarkKeep a b) (h2 : MarkKeep b c) : MarkKeep a c := by
  refine ⟨h2.1.trans h1.1, fun h => h2.2.1 (h1.2.1 h), ?_⟩
  intro ds hds
  obtain ⟨ds1, hb, hk1⟩ := h1.2.2 ds hds
  obtain ⟨ds2, hc, hk2⟩ := h2.2.2 ds1 hb
  refine ⟨ds2, hc, ?_⟩
  rcases hk2 with ⟨e1, e2⟩ | hfin
  · rcases hk1 with ⟨f1, f2⟩ | hfb
    · exact Or.inl ⟨e1.trans f1, e2.trans f2⟩
    · exact Or.inr (h2.2.1 hfb)
  · exact Or.inr hfin

/-- one rewrite of the ref list: names are kept, markers are fine, every new ref with an old name relates
to an old ref of that name -/
structure RefStep (B B' : List TaskRef) : Prop where
  names : ∀ b ∈ B, ∃ r ∈ B', r.name = b.name
  ok : ∀ r ∈ B', MarkerOK r
  keep : ∀ r ∈ B', (∃ b ∈ B, b.name = r.name) → ∃ b ∈ B, b.name = r.name ∧ MarkKeep b r

/-- the Job value's refs are what became of the refs `a` -/
structure Marked (a : List TaskRef) (rj : Job) : Prop where
  ok : ∀ r ∈ rj.status.tasks, MarkerOK r
  names : ∀ ex ∈ a, ∃ r ∈ rj.status.tasks, r.name = ex.name
  keep : ∀ r ∈ rj.status.tasks, (∃ ex ∈ a, ex.name = r.name) → ∃ ex ∈ a, ex.name = r.name ∧ MarkKeep ex r

theorem Marked.refl (rj : Job) (h : ∀ r ∈ rj.status.tasks, MarkerOK r) : Marked rj.status.tasks rj :=
  ⟨h, fun ex hex => ⟨ex, hex, rfl⟩, fun r hr _ => ⟨r, hr, rfl, MarkKeep.refl r⟩⟩

theorem Marked.step {a : List TaskRef} {rj rj' : Job} (h : Marked a rj) (hs : RefStep rj.status.tasks rj'.status.tasks) :
    Marked a rj' := by
  refine ⟨hs.ok, ?_, ?_⟩
  · intro ex hex
    obtain ⟨b, hb, hbn⟩ := h.names ex hex
    obtain ⟨r, hr, hrn⟩ := hs.names b hb
    exact ⟨r, hr, hrn.trans hbn⟩
  · intro r hr ⟨ex, hex, hexn⟩
    obtain ⟨b0, hb0, hb0n⟩ := h.names ex hex
    obtain ⟨b, hb, hbn, hk⟩ := hs.keep r hr ⟨b0, hb0, hb0n.trans hexn⟩
    obtain ⟨ex', hex', hexn', hk'⟩ := h.keep b hb ⟨ex, hex, hexn.trans hbn.symm⟩
    exact ⟨ex', hex', hexn'.trans hbn, hk'.trans hk⟩

theorem Marked.of_tasks {a : List TaskRef} {rj rj' : Job} (h : Marked a rj) (e : rj'.status.tasks = rj.status.tasks) :
    Marked a rj' := ⟨by rw [e]; exact h.ok, by rw [e]; exact h.names, by rw [e]; exact h.keep⟩

theorem Marked.trans {a : List TaskRef} {rj rj' : Job} (h1 : Marked a rj) (h2 : Marked rj.status.tasks rj') : Marked a rj' :=
  h1.step ⟨h2.names, h2.ok, h2.keep⟩

theorem getTaskRef_some_marker (ex : TaskRef) (t : Task) :
    (getTaskRef (some ex) t).deletedStatus = ex.deletedStatus ∨
    ((getTaskRef (some ex) t).deletedStatus = some t.ref.status ∧ (getTaskRef (some ex) t).finishTimestamp.isSome = true) := by
  rw [getTaskRef_some]
  split
  · exact Or.inl rfl
  · cases t.ref.finishTimestamp with
    | none => exact Or.inl rfl
    | some v => exact Or.inr ⟨rfl, rfl⟩

theorem getTaskRef_none_marker (t : Task) :
    (getTaskRef none t).deletedStatus = t.ref.deletedStatus ∨
    ((getTaskRef none t).deletedStatus = some t.ref.status ∧ (getTaskRef none t).finishTimestamp.isSome = true) := by
  rw [getTaskRef_none]
  split
  · rename_i hf; exact Or.inr ⟨rfl, hf⟩
  · exact Or.inl rfl

theorem lostRef_deletedStatus (now : Time) (ex : TaskRef) : (lostRef now ex).deletedStatus = ex.deletedStatus := by
  unfold lostRef
  simp only
  repeat' split
  all_goals rfl

/-- what the refresh needs of a task: a pod task -/
def PodTaskLike (t : Task) : Prop := t.ref.name = t.name ∧ t.ref.deletedStatus = none

theorem refStep_refresh (now : Time) (B : List TaskRef) (tasks : List Task) (hB : ∀ b ∈ B, MarkerOK b)
    (ht : ∀ t ∈ tasks, PodTaskLike t) : RefStep B (generateTaskRefs now B tasks) := by
  refine ⟨?_, ?_, ?_⟩
  · intro b hb
    have := generateTaskRefs_names now B tasks (fun t h => (ht t h).1) b.name (List.mem_map_of_mem hb)
    obtain ⟨r, hr, hrn⟩ := List.mem_map.mp this
    exact ⟨r, hr, hrn⟩
  · intro r hr ds hds
    rcases mem_generateTaskRefs hr with ⟨t, htm, rfl⟩ | ⟨ex, hex, _, rfl⟩
    · cases he : lookupRef B t.name with
      | none =>
        rw [he] at hds
        rcases getTaskRef_none_marker t with h | ⟨_, hfin⟩
        · rw [h, (ht t htm).2] at hds; cases hds
        · exact Or.inr hfin
      | some b =>
        rw [he] at hds
        rcases getTaskRef_some_marker b t with h | ⟨_, hfin⟩
        · rw [h] at hds
          rcases hB b (lookupRef_some he).1 ds hds with hk | hf
          · exact Or.inl hk
          · exact Or.inr ((Furiko.Props.C11.getTaskRef_retains b t).2.2.2 hf)
        · exact Or.inr hfin
    · exact Or.inr (Furiko.Props.C11.lostRef_retains now ex).2.2.2.1
  · intro r hr ⟨b0, hb0, hb0n⟩
    rcases mem_generateTaskRefs hr with ⟨t, htm, rfl⟩ | ⟨ex, hex, _, rfl⟩
    · have hname : (getTaskRef (lookupRef B t.name) t).name = t.name := by
        rw [Furiko.StatusLemmas.getTaskRef_name]; exact (ht t htm).1
      rw [hname] at hb0n
      obtain ⟨b, he⟩ := lookupRef_of_mem hb0
      rw [hb0n] at he
      obtain ⟨hbm, hbn⟩ := lookupRef_some he
      refine ⟨b, hbm, by rw [hname]; exact hbn, ?_⟩
      rw [he]
      refine ⟨by rw [Furiko.StatusLemmas.getTaskRef_name, (ht t htm).1]; exact hbn.symm,
        (Furiko.Props.C11.getTaskRef_retains b t).2.2.2, ?_⟩
      intro ds hds
      rcases getTaskRef_some_marker b t with h | ⟨h, hfin⟩
      · exact ⟨ds, by rw [h]; exact hds, Or.inl ⟨rfl, rfl⟩⟩
      · exact ⟨_, h, Or.inr hfin⟩
    · refine ⟨ex, hex, (lostRef_fields now ex).1.symm, (lostRef_fields now ex).1, fun _ => (Furiko.Props.C11.lostRef_retains now ex).2.2.2.1, ?_⟩
      intro ds hds
      exact ⟨ds, by rw [lostRef_deletedStatus]; exact hds, Or.inl ⟨rfl, rfl⟩⟩

theorem refStep_map (B : List TaskRef) (g : TaskRef → TaskRef) (hB : ∀ b ∈ B, MarkerOK b)
    (hg : ∀ b, MarkerOK b → MarkerOK (g b) ∧ MarkKeep b (g b)) : RefStep B (B.map g) := by
  refine ⟨?_, ?_, ?_⟩
  · intro b hb
    exact ⟨g b, List.mem_map_of_mem hb, (hg b (hB b hb)).2.1⟩
  · intro r hr
    obtain ⟨b, hb, rfl⟩ := List.mem_map.mp hr
    exact (hg b (hB b hb)).1
  · intro r hr _
    obtain ⟨b, hb, rfl⟩ := List.mem_map.mp hr
    exact ⟨b, hb, (hg b (hB b hb)).2.1.symm, (hg b (hB b hb)).2⟩

theorem markFn_marker {f : TaskRef → TaskRef} (hf : MarkFn f) (b : TaskRef) (hb : MarkerOK b) :
    MarkerOK (f b) ∧ MarkKeep b (f b) := by
  obtain ⟨ds, he, hds⟩ := hf b
  rw [he]
  have hnew : (ds.state = .terminated ∧ ds.result = .killed) ∨ b.finishTimestamp.isSome = true := by
    rcases hds with h | ⟨ds0, h0, hs, hr⟩
    · exact Or.inl h
    · rcases hb ds0 h0 with ⟨k1, k2⟩ | hfin
      · exact Or.inl ⟨hs.trans k1, hr.trans k2⟩
      · exact Or.inr hfin
  refine ⟨?_, rfl, id, ?_⟩
  · intro ds' hds'
    simp only [Option.some.injEq] at hds'
    subst hds'
    exact hnew
  · intro ds0 h0
    refine ⟨ds, rfl, ?_⟩
    rcases hds with ⟨k1, k2⟩ | ⟨ds0', h0', hs, hr⟩
    · rcases hb ds0 h0 with ⟨m1, m2⟩ | hfin
      · exact Or.inl ⟨k1.trans m1.symm, k2.trans m2.symm⟩
      · exact Or.inr hfin
    · rw [h0] at h0'; cases h0'
      exact Or.inl ⟨hs, hr⟩

theorem marked_passInv (a : List TaskRef) : PassInv (Marked a) PodTaskLike where
  refresh := by
    intro now rj tasks hp ht
    exact hp.step (refStep_refresh now rj.status.tasks tasks hp.ok ht)
  status := by
    intro s key rj hp
    exact hp.of_tasks (JobCtlPlan.syncJobStatus_tasks s key rj)
  mark := by
    intro rj names f hf hp
    refine hp.step (refStep_map _ _ hp.ok ?_)
    intro b hb
    split
    · exact markFn_marker hf b hb
    · exact ⟨hb, MarkKeep.refl b⟩
  ifNotSet := by
    intro rj name st h1 h2 hp
    refine hp.step (refStep_map _ _ hp.ok ?_)
    intro b hb
    split
    · rename_i hc
      simp only [Bool.and_eq_true, Option.isNone_iff_eq_none] at hc
      refine ⟨?_, rfl, id, ?_⟩
      · intro ds hds
        simp only [Option.some.injEq] at hds
        subst hds
        exact Or.inl ⟨h1, h2⟩
      · intro ds0 h0
        rw [hc.2] at h0; cases h0
    · exact ⟨hb, MarkKeep.refl b⟩
  adm := fun rj hp => hp.of_tasks rfl

theorem taskSrc_podTaskLike {s : Sys} {jo : JobObj} {t : Task} (h : TaskSrc s jo t) : PodTaskLike t := by
  obtain ⟨p, hpt, _, _⟩ := h
  obtain ⟨f1, f2, _, f4, _, _⟩ := podTask_fields hpt
  exact ⟨f2.trans f1.symm, f4⟩

/-- markers are fine in every authoritative status of every history (all actions) -/
theorem markerOK_of_reach {ok : Sys → Action → Prop} {j0 : JobObj} {s : Sys} (hr : Reach ok j0 s) :
    ∀ j, s.job = some j → ∀ r ∈ j.job.status.tasks, MarkerOK r :=
  statusInv_of_reach hr (fun x => ∀ r ∈ x.status.tasks, MarkerOK r) (fun x y e h => by rw [e]; exact h)
    (fun hwf => by simp only [hwf.noTasks]; intro r hr; cases hr)
    (fun jo sp h => (sync_passInv (marked_passInv jo.job.status.tasks) sp jo (fun t ht => taskSrc_podTaskLike ht)
      (Marked.refl jo.job h)).ok)

/-- one step: the authoritative refs after the step are what became of the refs before it -/
theorem marked_step {ok : Sys → Action → Prop} {j0 : JobObj} {s : Sys} (hr : Reach ok j0 s) (a : Action)
    (hal : Allowed j0 s a) (j j' : JobObj) (hj : s.job = some j) (hj' : (step s a).job = some j') :
    Marked j.job.status.tasks j'.job := by
  have hok := markerOK_of_reach hr j hj
  have := jobMoves_rel (fun x y => (∀ r ∈ x.status.tasks, MarkerOK r) → Marked x.status.tasks y)
    (fun x h => Marked.refl x h) (fun _ _ _ h1 h2 h => (h1 h).trans (h2 (h1 h).ok))
    (fun jo sp _ _ h =>
      sync_passInv (marked_passInv jo.job.status.tasks) sp jo (fun t ht => taskSrc_podTaskLike ht)
        (Marked.refl jo.job h))
    (fun x y z h1 e h => (h1 h).of_tasks (by rw [e])) (job_moves (base_of_reach hr) a hal) j j' hj hj'
  exact this hok

/-- … and along every continuation of the history -/
theorem marked_steps {ok : Sys → Action → Prop} {j0 : JobObj} {s s' : Sys} (hr : Reach ok j0 s)
    (hs : Steps ok j0 s s') (j j' : JobObj) (hj : s.job = some j) (hj' : s'.job = some j') :
    Marked j.job.status.tasks j'.job := by
  have hok := markerOK_of_reach hr j hj
  have := steps_rel (ok := ok) (j0 := j0) (fun x y => (∀ r ∈ x.status.tasks, MarkerOK r) → Marked x.status.tasks y)
    (fun x h => Marked.refl x h) (fun _ _ _ h1 h2 h => (h1 h).trans (h2 (h1 h).ok))
    (fun s1 a _ hr1 _ hal j1 j1' h1 h1' _ => marked_step hr1 a hal j1 j1' h1 h1') hr hs j j' hj hj'
  exact this hok

end Furiko.JobCtl
