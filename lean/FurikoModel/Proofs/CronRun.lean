/-
The behaviour of one key, abstractly.  `dueList nx nowS e`: the times obtained by iterating a `Next`
function from the entry `e` while they have arrived (`≤ nowS`); under the `Next` contract it is the
strictly increasing enumeration of `{e} ∪ {m | M m ∧ e < m}` cut at `nowS`.  Over several ticks: the
per-tick output/entry functions `tickOut`, `tickEnt`, their fold `keyRun`, and the invariant
`RunInv` relating the accumulated stream to the match set.  Pure list/arithmetic reasoning; the
connection to `work` is in CronKey.lean and CronRunWork.lean.
-/
import FurikoModel.Proofs.CronLemmas

namespace Furiko.Cron
open Furiko

def dueFrom (nx : Int → Option Int) (nowS : Int) : Nat → Int → List Int
  | 0, _ => []
  | f + 1, e =>
    if e ≤ nowS then
      e :: (match nx e with
            | none => []
            | some e' => dueFrom nx nowS f e')
    else []

/-- enough fuel to walk from `e` to `nowS` one second at a time -/
def dueFuel (nowS e : Int) : Nat := (nowS + 1 - e).toNat

def dueList (nx : Int → Option Int) (nowS e : Int) : List Int :=
  dueFrom nx nowS (dueFuel nowS e) e

def rem (nx : Int → Option Int) (nowS : Int) : Option Int → List Int
  | none => []
  | some t => dueList nx nowS t

theorem dueList_of_gt (nx : Int → Option Int) {nowS e : Int} (h : nowS < e) :
    dueList nx nowS e = [] := by
  unfold dueList
  cases hf : dueFuel nowS e with
  | zero => rfl
  | succ f => simp [dueFrom, show ¬ e ≤ nowS by omega]

theorem rem_eq_nil_of_gt (nx : Int → Option Int) (nowS : Int) (ent : Option Int)
    (h : ∀ t, ent = some t → nowS < t) : rem nx nowS ent = [] := by
  cases ent with
  | none => rfl
  | some t => exact dueList_of_gt nx (h t rfl)

theorem sortedStrict_ext : ∀ {l1 l2 : List Int}, SortedStrict l1 → SortedStrict l2 →
    (∀ m, m ∈ l1 ↔ m ∈ l2) → l1 = l2 := by
  intro l1
  induction l1 with
  | nil =>
    intro l2 _ _ hm
    cases l2 with
    | nil => rfl
    | cons b t => exact absurd ((hm b).2 (by simp)) (by simp)
  | cons a t ih =>
    intro l2 h1 h2 hm
    cases l2 with
    | nil => exact absurd ((hm a).1 (by simp)) (by simp)
    | cons b t2 =>
      have ha := List.pairwise_cons.1 h1
      have hb := List.pairwise_cons.1 h2
      have hab : a = b := by
        have h1' := (hm a).1 (by simp)
        have h2' := (hm b).2 (by simp)
        rcases List.mem_cons.1 h1' with h | h
        · exact h
        · rcases List.mem_cons.1 h2' with h' | h'
          · exact h'.symm
          · have := hb.1 a h; have := ha.1 b h'; omega
      subst hab
      congr 1
      apply ih ha.2 hb.2
      intro m
      constructor
      · intro hmt
        rcases List.mem_cons.1 ((hm m).1 (List.mem_cons_of_mem _ hmt)) with h | h
        · have := ha.1 m hmt; omega
        · exact h
      · intro hmt
        rcases List.mem_cons.1 ((hm m).2 (List.mem_cons_of_mem _ hmt)) with h | h
        · have := hb.1 m hmt; omega
        · exact h

/-- requests of one tick for a key with entry `ent` -/
def tickOut (nx : Int → Option Int) (nowS : Int) (c : Nat) (ent : Option Int) : List Int :=
  (rem nx nowS ent).take c

/-- entry after one tick -/
def tickEnt (nx : Int → Option Int) (nowS : Int) (ent : Option Int) : Option Int :=
  match ent with
  | none => none
  | some e => if e ≤ nowS then nx nowS else some e

def keyRun (nx : Int → Option Int) (c : Nat) : Option Int → List Int → List (List Int) × Option Int
  | ent, [] => ([], ent)
  | ent, nowS :: rest =>
    (tickOut nx nowS c ent :: (keyRun nx c (tickEnt nx nowS ent) rest).1,
     (keyRun nx c (tickEnt nx nowS ent) rest).2)

def NoCapHit (nx : Int → Option Int) (c : Nat) : Option Int → List Int → Prop
  | _, [] => True
  | ent, nowS :: rest =>
    (rem nx nowS ent).length ≤ c ∧ NoCapHit nx c (tickEnt nx nowS ent) rest

/-- Invariant between ticks.  `hz` is the second of the latest tick, `S` the stream so far. -/
structure RunInv (M : Int → Prop) (e0 hz : Int) (ent : Option Int) (S : List Int) : Prop where
  sorted : SortedStrict S
  sound : ∀ m ∈ S, e0 ≤ m ∧ m ≤ hz ∧ (m = e0 ∨ M m)
  phase : (hz < e0 ∧ ent = some e0) ∨ (e0 ≤ hz ∧ NextAt M hz ent)

def RunComplete (M : Int → Prop) (e0 hz : Int) (S : List Int) : Prop :=
  ∀ m, e0 ≤ m → m ≤ hz → (m = e0 ∨ M m) → m ∈ S

section next
variable {M : Int → Prop} {nx : Int → Option Int} (hsp : NextSpec M nx)
include hsp

theorem dueFrom_spec (nowS : Int) :
    ∀ (f : Nat) (e : Int), dueFuel nowS e ≤ f →
      SortedStrict (dueFrom nx nowS f e) ∧
      ∀ m, m ∈ dueFrom nx nowS f e ↔ e ≤ m ∧ m ≤ nowS ∧ (m = e ∨ M m) := by
  intro f
  induction f with
  | zero =>
    intro e hf
    have he : ¬ e ≤ nowS := by unfold dueFuel at hf; omega
    refine ⟨List.Pairwise.nil, fun m => ?_⟩
    simp only [dueFrom, List.not_mem_nil, false_iff]
    omega
  | succ f ih =>
    intro e hf
    unfold dueFrom
    by_cases he : e ≤ nowS
    · simp only [he, if_true]
      cases hn : nx e with
      | none =>
        have hnone := (hsp e).2 hn
        refine ⟨List.pairwise_singleton _ _, fun m => ?_⟩
        simp only [List.mem_singleton]
        constructor
        · rintro rfl; exact ⟨Int.le_refl _, he, Or.inl rfl⟩
        · rintro ⟨h1, _, h3 | h3⟩
          · exact h3
          · have := hnone m h3; omega
      | some e' =>
        have hs := (hsp e).1 e' hn
        have hi := ih e' (by unfold dueFuel at *; omega)
        simp only []
        refine ⟨List.pairwise_cons.2 ⟨fun m hm => ?_, hi.1⟩, fun m => ?_⟩
        · have := ((hi.2 m).1 hm).1; omega
        · rw [List.mem_cons, hi.2 m]
          constructor
          · rintro (rfl | ⟨h1, h2, h3⟩)
            · exact ⟨Int.le_refl _, he, Or.inl rfl⟩
            · refine ⟨by omega, h2, Or.inr ?_⟩
              rcases h3 with rfl | h3
              · exact hs.2.1
              · exact h3
          · rintro ⟨h1, h2, h3 | h3⟩
            · exact Or.inl h3
            · by_cases hme : m = e
              · exact Or.inl hme
              · have := hs.2.2 m h3 (by omega)
                exact Or.inr ⟨this, h2, Or.inr h3⟩
    · simp only [he, if_false]
      refine ⟨List.Pairwise.nil, fun m => ?_⟩
      simp only [List.not_mem_nil, false_iff]
      omega

theorem dueList_spec (nowS e : Int) :
    SortedStrict (dueList nx nowS e) ∧
    ∀ m, m ∈ dueList nx nowS e ↔ e ≤ m ∧ m ≤ nowS ∧ (m = e ∨ M m) :=
  dueFrom_spec hsp nowS _ e (Nat.le_refl _)

theorem dueFrom_fuel_irrel (nowS : Int) (f1 f2 : Nat) (e : Int) (h1 : dueFuel nowS e ≤ f1) (h2 : dueFuel nowS e ≤ f2) :
    dueFrom nx nowS f1 e = dueFrom nx nowS f2 e :=
  have s1 := dueFrom_spec hsp nowS f1 e h1
  have s2 := dueFrom_spec hsp nowS f2 e h2
  sortedStrict_ext s1.1 s2.1 fun m => (s1.2 m).trans (s2.2 m).symm

theorem dueList_of_le {nowS e : Int} (he : e ≤ nowS) :
    dueList nx nowS e = e :: rem nx nowS (nx e) := by
  unfold dueList
  have hf : dueFuel nowS e = (dueFuel nowS e - 1) + 1 := by unfold dueFuel; omega
  rw [hf]
  simp only [dueFrom, he, if_true]
  congr 1
  cases hn : nx e with
  | none => rfl
  | some e' =>
    have := ((hsp e).1 e' hn).1
    simp only [rem, dueList]
    exact dueFrom_fuel_irrel hsp nowS _ _ e' (by unfold dueFuel at *; omega) (Nat.le_refl _)

theorem dueList_getLast_max (nowS e lf : Int) (hl : (dueList nx nowS e).getLast? = some lf) :
    e ≤ lf ∧ lf ≤ nowS ∧ (lf = e ∨ M lf) ∧ ∀ u, M u → lf < u → nowS < u := by
  have hsp := dueList_spec hsp nowS e
  have hmem : lf ∈ dueList nx nowS e := List.mem_of_getLast? hl
  have hm := (hsp.2 lf).1 hmem
  refine ⟨hm.1, hm.2.1, hm.2.2, fun u hu hlu => ?_⟩
  by_cases hun : nowS < u
  · exact hun
  · exfalso
    have humem : u ∈ dueList nx nowS e := (hsp.2 u).2 ⟨by omega, by omega, Or.inr hu⟩
    -- lf is the last element of a strictly increasing list, so u ≤ lf
    obtain ⟨pre, hpre⟩ : ∃ pre, dueList nx nowS e = pre ++ [lf] := by
      rcases List.getLast?_eq_some_iff.1 hl with ⟨pre, hpre⟩
      exact ⟨pre, hpre⟩
    have hs := hsp.1
    rw [hpre] at humem hs
    rcases List.mem_append.1 humem with hu' | hu'
    · have := (List.pairwise_append.1 hs).2.2 u hu' lf (by simp)
      omega
    · simp at hu'; omega

theorem tickOut_le (nowS : Int) (c : Nat) (ent : Option Int) : ∀ m ∈ tickOut nx nowS c ent, m ≤ nowS := by
  intro m hm
  have hm' := List.mem_of_mem_take hm
  cases ent with
  | none => simp [rem] at hm'
  | some e => exact ((dueList_spec hsp nowS e).2 m).1 hm' |>.2.1

theorem NextAt.tickEnt {hz nowS : Int} {ent : Option Int} (h : NextAt M hz ent) (hle : hz ≤ nowS) :
    NextAt M nowS (tickEnt nx nowS ent) := by
  cases ent with
  | none => exact ⟨nofun, fun _ u hu => by have := h.2 rfl u hu; omega⟩
  | some e =>
    have he := h.1 e rfl
    simp only [Cron.tickEnt]
    split
    · exact hsp nowS
    · refine ⟨fun m hm => ?_, nofun⟩
      cases hm
      exact ⟨by omega, he.2.1, fun u hu hsu => he.2.2 u hu (by omega)⟩

theorem mem_rem_of_nextAt {hz nowS : Int} {ent : Option Int} (h : NextAt M hz ent) (m : Int) :
    m ∈ rem nx nowS ent ↔ hz < m ∧ m ≤ nowS ∧ M m := by
  cases ent with
  | none =>
    simp only [rem, List.not_mem_nil, false_iff]
    intro ⟨h1, _, h3⟩
    have := h.2 rfl m h3
    omega
  | some e =>
    have he := h.1 e rfl
    rw [rem, (dueList_spec hsp nowS e).2]
    constructor
    · rintro ⟨h1, h2, h3⟩
      exact ⟨by omega, h2, h3.elim (fun h => h ▸ he.2.1) id⟩
    · rintro ⟨h1, h2, h3⟩
      exact ⟨he.2.2 m h3 h1, h2, Or.inr h3⟩

theorem runInv_step {e0 hz : Int} {ent : Option Int} {S : List Int} (c : Nat) (nowS : Int)
    (hI : RunInv M e0 hz ent S) (hord : hz < e0 ∨ hz ≤ nowS) :
    RunInv M e0 nowS (tickEnt nx nowS ent) (S ++ tickOut nx nowS c ent) ∧
    (RunComplete M e0 hz S → (rem nx nowS ent).length ≤ c →
      RunComplete M e0 nowS (S ++ tickOut nx nowS c ent)) := by
  have hsort : SortedStrict (rem nx nowS ent) := by
    cases ent with
    | none => exact List.Pairwise.nil
    | some e => exact (dueList_spec hsp nowS e).1
  -- in either phase the due times are the eligible ones in `(hz, nowS]`
  have hD : ∀ m, m ∈ rem nx nowS ent ↔ e0 ≤ m ∧ hz < m ∧ m ≤ nowS ∧ (m = e0 ∨ M m) := by
    intro m
    rcases hI.phase with ⟨hlt, rfl⟩ | ⟨hge, hnext⟩
    · rw [rem, (dueList_spec hsp nowS e0).2]
      exact ⟨fun ⟨a, b, c⟩ => ⟨a, by omega, b, c⟩, fun ⟨a, _, b, c⟩ => ⟨a, b, c⟩⟩
    · rw [mem_rem_of_nextAt hsp hnext]
      exact ⟨fun ⟨a, b, c⟩ => ⟨by omega, a, b, Or.inr c⟩,
        fun ⟨_, a, b, c⟩ => ⟨a, b, c.resolve_left (by omega)⟩⟩
  have hphase : (nowS < e0 ∧ tickEnt nx nowS ent = some e0) ∨
      (e0 ≤ nowS ∧ NextAt M nowS (tickEnt nx nowS ent)) := by
    rcases hI.phase with ⟨hlt, rfl⟩ | ⟨hge, hnext⟩
    · simp only [tickEnt]
      split
      · exact Or.inr ⟨by assumption, hsp nowS⟩
      · exact Or.inl ⟨by omega, rfl⟩
    · exact Or.inr ⟨by omega, hnext.tickEnt hsp (by omega)⟩
  refine ⟨⟨?_, fun m hm => ?_, hphase⟩, fun hc hlen m h1 h2 h3 => ?_⟩
  · refine List.pairwise_append.2 ⟨hI.sorted, hsort.sublist (List.take_sublist _ _),
      fun a ha b hb => ?_⟩
    have := hI.sound a ha
    have := (hD b).1 (List.mem_of_mem_take hb)
    omega
  · rcases List.mem_append.1 hm with hm | hm
    · have := hI.sound m hm
      exact ⟨this.1, by omega, this.2.2⟩
    · have := (hD m).1 (List.mem_of_mem_take hm)
      exact ⟨this.1, this.2.2.1, this.2.2.2⟩
  · rw [tickOut, List.take_of_length_le hlen]
    by_cases hm : m ≤ hz
    · exact List.mem_append_left _ (hc m h1 hm h3)
    · exact List.mem_append_right _ ((hD m).2 ⟨h1, by omega, h2, h3⟩)

theorem keyRun_inv (c : Nat)
    (e0 : Int) :
    ∀ (ss : List Int) (hz : Int) (ent : Option Int) (S : List Int),
      RunInv M e0 hz ent S → List.Pairwise (· ≤ ·) ss → (e0 ≤ hz → ∀ s ∈ ss, hz ≤ s) →
      RunInv M e0 (ss.getLast?.getD hz) (keyRun nx c ent ss).2
        (S ++ (keyRun nx c ent ss).1.flatten) ∧
      (RunComplete M e0 hz S → NoCapHit nx c ent ss →
        RunComplete M e0 (ss.getLast?.getD hz) (S ++ (keyRun nx c ent ss).1.flatten)) := by
  intro ss
  induction ss with
  | nil =>
    intro hz ent S hI _ _
    simp only [keyRun, List.flatten_nil, List.append_nil, List.getLast?_nil, Option.getD_none]
    exact ⟨hI, fun h _ => h⟩
  | cons s rest ih =>
    intro hz ent S hI hpw hchain
    have hpw' := List.pairwise_cons.1 hpw
    have hord : hz < e0 ∨ hz ≤ s := by
      by_cases h : e0 ≤ hz
      · exact Or.inr (hchain h s (by simp))
      · exact Or.inl (by omega)
    obtain ⟨hstep, hcomp⟩ := runInv_step hsp c s hI hord
    have := ih s (tickEnt nx s ent) (S ++ tickOut nx s c ent) hstep hpw'.2
      (fun _ s' hs' => hpw'.1 s' hs')
    have hlast : (s :: rest).getLast?.getD hz = rest.getLast?.getD s := by
      cases rest <;> simp [List.getLast?_eq_some_getLast]
    simp only [keyRun, List.flatten_cons, hlast]
    rw [← List.append_assoc]
    refine ⟨this.1, fun hc hno => ?_⟩
    exact this.2 (hcomp hc hno.1) hno.2

/-- A run of non-decreasing ticks from the entry `e0`.  Before the first tick the "latest tick" of
`RunInv` is the fictitious second `e0 - 1`, at which nothing is due yet. -/
theorem keyRun_inv_init (c : Nat)
    (e0 : Int) {ts : List Int} (hts : List.Pairwise (· ≤ ·) ts) :
    RunInv M e0 ((ts.map floorSec).getLast?.getD (e0 - 1))
      (keyRun nx c (some e0) (ts.map floorSec)).2 (keyRun nx c (some e0) (ts.map floorSec)).1.flatten ∧
    (NoCapHit nx c (some e0) (ts.map floorSec) →
      RunComplete M e0 ((ts.map floorSec).getLast?.getD (e0 - 1))
        (keyRun nx c (some e0) (ts.map floorSec)).1.flatten) := by
  have hrun := keyRun_inv hsp c e0 (ts.map floorSec) (e0 - 1) (some e0) []
    ⟨List.Pairwise.nil, fun m hm => (by cases hm), Or.inl ⟨by omega, rfl⟩⟩
    (List.pairwise_map.2 (hts.imp floorSec_mono)) (fun h => by omega)
  simp only [List.nil_append] at hrun
  exact ⟨hrun.1, hrun.2 (fun m h1 h2 _ => by omega)⟩

end next

theorem keyRun_arrived {M : Int → Prop} {nx : Int → Option Int} (hsp : NextSpec M nx) (c : Nat) :
    ∀ (ss : List Int) (ent : Option Int),
      ∀ p ∈ List.zip ss (keyRun nx c ent ss).1, ∀ m ∈ p.2, m ≤ p.1 := by
  intro ss
  induction ss with
  | nil => intro ent p hp; simp [keyRun] at hp
  | cons s rest ih =>
    intro ent p hp
    simp only [keyRun, List.zip_cons_cons, List.mem_cons] at hp
    rcases hp with rfl | hp
    · exact tickOut_le hsp s c ent
    · exact ih _ p hp

theorem keyRun_length (nx : Int → Option Int) (c : Nat) :
    ∀ (ss : List Int) (ent : Option Int), (keyRun nx c ent ss).1.length = ss.length := by
  intro ss
  induction ss with
  | nil => intro _; rfl
  | cons s rest ih => intro ent; simp [keyRun, ih]

theorem keyRun_none (nx : Int → Option Int) (c : Nat) :
    ∀ (ss : List Int), (keyRun nx c none ss).1.flatten = [] ∧ (keyRun nx c none ss).2 = none := by
  intro ss
  induction ss with
  | nil => exact ⟨rfl, rfl⟩
  | cons s rest ih =>
    simp only [keyRun, tickEnt, tickOut, rem, List.take_nil, List.flatten_cons, List.nil_append]
    exact ih

/-- observable sufficient condition: every tick requested fewer than `c` times -/
theorem noCapHit_of_lt (nx : Int → Option Int) (c : Nat) :
    ∀ (ss : List Int) (ent : Option Int), (∀ l ∈ (keyRun nx c ent ss).1, l.length < c) →
      NoCapHit nx c ent ss := by
  intro ss
  induction ss with
  | nil => intro _ _; trivial
  | cons s rest ih =>
    intro ent h
    simp only [keyRun, List.mem_cons] at h
    refine ⟨?_, ih _ (fun l hl => h l (Or.inr hl))⟩
    have := h _ (Or.inl rfl)
    simp only [tickOut, List.length_take] at this
    omega

end Furiko.Cron
