/-
Liveness of the job controller, pure facts: `SortTaskRefs` is canonical on refs with pairwise distinct
names (its result depends only on the SET of refs), `GetTaskRef` and the lost-ref rule are idempotent,
hence so is `GenerateTaskRefs`: refreshing a freshly refreshed ref list against the same tasks changes
nothing.  This is what makes a quiesced state of the job controller a fixpoint ("the next pass computes
the status it reads and writes nothing").  Then the status `UpdateJobStatusFromTaskRefs` computes for a
SIMPLE Job (started, one index, no kill timestamp, no admission error, not being deleted) in terms of
its refs: `Finished` exactly when every ref is finished and either one succeeded or `maxAttempts` of them
are recorded; the computation is idempotent (`recompute_idem`).  Core Lean only.
-/
import FurikoModel.Proofs.JobCtlInvStabPure
import FurikoModel.Proofs.JobCtlInvStabView
import FurikoModel.Proofs.JobCtlPlanPass

set_option linter.unusedSimpArgs false
set_option linter.unusedVariables false

namespace Furiko.JobCtl.Live
open Furiko Furiko.JobCtl Furiko.WQ Furiko.StatusLemmas

/-- `a` may stand before `b` in a sorted ref list -/
def refLe (a b : TaskRef) : Prop := refLt b a = false

/-- creation time of a ref as `SortTaskRefs` reads it -/
def ctime (a : TaskRef) : Int := a.creationTimestamp.getD zeroTime

theorem refLe_iff (a b : TaskRef) :
    refLe a b ↔ ctime a < ctime b ∨ (ctime a = ctime b ∧ a.name ≤ b.name) := by
  show (if ctime b ≠ ctime a then decide (ctime b < ctime a) else decide (b.name < a.name)) = false ↔ _
  by_cases hc : ctime b = ctime a
  · simp [hc, String.not_lt]
  · simp only [ne_eq, hc, not_false_eq_true, ↓reduceIte, decide_eq_false_iff_not]
    omega

theorem refLe_total (a b : TaskRef) : refLe a b ∨ refLe b a := by
  rw [refLe_iff, refLe_iff]
  rcases Int.lt_trichotomy (ctime a) (ctime b) with h | h | h
  · exact Or.inl (Or.inl h)
  · exact (String.le_total a.name b.name).imp (fun x => Or.inr ⟨h, x⟩) (fun x => Or.inr ⟨h.symm, x⟩)
  · exact Or.inr (Or.inl h)

theorem refLt_asymm {a b : TaskRef} (h : refLt a b = true) : refLe a b :=
  (refLe_total a b).resolve_right (by simp [refLe, h])

theorem refLe_trans {a b c : TaskRef} (h1 : refLe a b) (h2 : refLe b c) : refLe a c := by
  rw [refLe_iff] at *
  rcases h1 with h1 | ⟨h1, h1'⟩ <;> rcases h2 with h2 | ⟨h2, h2'⟩
  · exact Or.inl (by omega)
  · exact Or.inl (by omega)
  · exact Or.inl (by omega)
  · exact Or.inr ⟨by omega, String.le_trans h1' h2'⟩

theorem refLe_antisymm {a b : TaskRef} (h1 : refLe a b) (h2 : refLe b a) : a.name = b.name := by
  rw [refLe_iff] at *
  rcases h1 with h1 | ⟨h1, h1'⟩ <;> rcases h2 with h2 | ⟨h2, h2'⟩
  · omega
  · omega
  · omega
  · exact String.le_antisymm h1' h2'

theorem insertRef_sorted (x : TaskRef) (l : List TaskRef) (h : l.Pairwise refLe) : (insertRef x l).Pairwise refLe := by
  induction l with
  | nil => simp [insertRef]
  | cons y ys ih =>
    have hy := List.pairwise_cons.mp h
    unfold insertRef
    split
    · next hlt =>
      refine List.pairwise_cons.mpr ⟨fun z hz => ?_, h⟩
      rcases List.mem_cons.mp hz with rfl | hz'
      · exact refLt_asymm hlt
      · exact refLe_trans (refLt_asymm hlt) (hy.1 z hz')
    · next hlt =>
      refine List.pairwise_cons.mpr ⟨fun z hz => ?_, ih hy.2⟩
      rcases (mem_insertRef x z ys).mp hz with rfl | hz'
      · exact Bool.eq_false_iff.mpr hlt
      · exact hy.1 z hz'

theorem sortTaskRefs_sorted (l : List TaskRef) : (sortTaskRefs l).Pairwise refLe := by
  unfold sortTaskRefs
  suffices ∀ acc : List TaskRef, acc.Pairwise refLe →
      (l.foldl (fun acc x => insertRef x acc) acc).Pairwise refLe from this [] .nil
  induction l with
  | nil => exact fun _ h => h
  | cons x rest ih => exact fun acc h => ih _ (insertRef_sorted x acc h)

theorem eq_of_sorted_perm {l l' : List TaskRef} (hp : l.Perm l') (hs : l.Pairwise refLe) (hs' : l'.Pairwise refLe)
    (hnd : (l.map (·.name)).Nodup) : l = l' :=
  hp.eq_of_pairwise (fun a b ha hb hab hba => inj_on_of_nodup_map hnd ha (hp.mem_iff.mpr hb) (refLe_antisymm hab hba))
    hs hs'

/-- **`SortTaskRefs` is canonical**: on refs with pairwise distinct names the result depends only on
the set of refs, not on the order they are given in -/
theorem sortTaskRefs_perm_eq {l l' : List TaskRef} (hp : l.Perm l') (hnd : (l.map (·.name)).Nodup) :
    sortTaskRefs l = sortTaskRefs l' :=
  eq_of_sorted_perm ((sortTaskRefs_perm l).trans (hp.trans (sortTaskRefs_perm l').symm))
    (sortTaskRefs_sorted l) (sortTaskRefs_sorted l') (((sortTaskRefs_perm l).map _).nodup_iff.mpr hnd)

theorem sortTaskRefs_of_sorted {l : List TaskRef} (hs : l.Pairwise refLe) (hnd : (l.map (·.name)).Nodup) :
    sortTaskRefs l = l :=
  eq_of_sorted_perm (sortTaskRefs_perm l) (sortTaskRefs_sorted l) hs (((sortTaskRefs_perm l).map _).nodup_iff.mpr hnd)

theorem sortTaskRefs_idem {l : List TaskRef} (hnd : (l.map (·.name)).Nodup) :
    sortTaskRefs (sortTaskRefs l) = sortTaskRefs l :=
  sortTaskRefs_of_sorted (sortTaskRefs_sorted l) (((sortTaskRefs_perm l).map _).nodup_iff.mpr hnd)

def findTask (T : List Task) (n : String) : Option Task := T.find? (fun t => t.name == n)

/-- what `GenerateTaskRefs` makes of an existing ref: `GetTaskRef` against the task of its name, or the
lost-ref rule when no such task is listed -/
def refresh (now : Time) (T : List Task) (r : TaskRef) : TaskRef :=
  match findTask T r.name with
  | some t => getTaskRef (some r) t
  | none => lostRef now r

def newTasks (ex : List TaskRef) (T : List Task) : List Task :=
  T.filter (fun t => !(ex.map (·.name)).contains t.name)

/-- the refs `GenerateTaskRefs` produces, before sorting, existing refs first -/
def canonRefs (now : Time) (ex : List TaskRef) (T : List Task) : List TaskRef :=
  ex.map (refresh now T) ++ (newTasks ex T).map (getTaskRef none)

theorem findTask_some {T : List Task} {n : String} {t : Task} (h : findTask T n = some t) : t ∈ T ∧ t.name = n :=
  ⟨List.mem_of_find?_eq_some h, by simpa using List.find?_some h⟩

theorem findTask_eq_none {T : List Task} {n : String} : findTask T n = none ↔ n ∉ T.map (·.name) := by
  simp [findTask]

theorem findTask_of_mem {T : List Task} (hnd : (T.map (·.name)).Nodup) {t : Task} (ht : t ∈ T) :
    findTask T t.name = some t := by
  cases hf : findTask T t.name with
  | none => exact absurd (List.mem_map_of_mem ht) (findTask_eq_none.mp hf)
  | some t' => rw [inj_on_of_nodup_map hnd (findTask_some hf).1 ht (findTask_some hf).2]

theorem lookupRef_none {ex : List TaskRef} {n : String} (h : n ∉ ex.map (·.name)) : lookupRef ex n = none := by
  simpa [lookupRef] using h

theorem mem_newTasks {ex : List TaskRef} {T : List Task} {t : Task} :
    t ∈ newTasks ex T ↔ t ∈ T ∧ t.name ∉ ex.map (·.name) := by
  simp [newTasks]

theorem refresh_of_mem {T : List Task} (hnd : (T.map (·.name)).Nodup) {t : Task} (ht : t ∈ T) (now : Time) {r : TaskRef}
    (hn : r.name = t.name) : refresh now T r = getTaskRef (some r) t := by
  rw [refresh, hn, findTask_of_mem hnd ht]

theorem refresh_of_not_mem {T : List Task} (now : Time) {r : TaskRef} (hn : r.name ∉ T.map (·.name)) :
    refresh now T r = lostRef now r := by
  rw [refresh, findTask_eq_none.mpr hn]

theorem refresh_name (now : Time) (T : List Task) (hok : ∀ t ∈ T, TaskOK t) (r : TaskRef) :
    (refresh now T r).name = r.name := by
  unfold refresh
  cases h : findTask T r.name with
  | none => exact (lostRef_fields now r).1
  | some t => exact (getTaskRef_name _ t).trans ((hok t (findTask_some h).1).trans (findTask_some h).2)

theorem canonRefs_names (now : Time) (ex : List TaskRef) (T : List Task) (hok : ∀ t ∈ T, TaskOK t) :
    (canonRefs now ex T).map (·.name) = ex.map (·.name) ++ (newTasks ex T).map (·.name) := by
  unfold canonRefs
  rw [List.map_append, List.map_map, List.map_map]
  congr 1
  · exact List.map_congr_left fun r _ => refresh_name now T hok r
  · exact List.map_congr_left fun t ht => (getTaskRef_name _ t).trans (hok t (mem_newTasks.mp ht).1)

theorem canonRefs_names_nodup (now : Time) (ex : List TaskRef) (T : List Task) (hex : (ex.map (·.name)).Nodup)
    (hT : (T.map (·.name)).Nodup) (hok : ∀ t ∈ T, TaskOK t) : ((canonRefs now ex T).map (·.name)).Nodup := by
  rw [canonRefs_names now ex T hok, List.nodup_append]
  refine ⟨hex, (List.filter_sublist.map _).nodup hT, ?_⟩
  rintro a ha b hb rfl
  obtain ⟨t, ht, rfl⟩ := List.mem_map.mp hb
  exact (mem_newTasks.mp ht).2 ha

/-- **canonical form of `GenerateTaskRefs`**: with pairwise distinct names on both sides the result is
the sorted list of the refreshed existing refs and of the refs of the tasks that are new -/
theorem generateTaskRefs_canon (now : Time) (ex : List TaskRef) (T : List Task) (hex : (ex.map (·.name)).Nodup)
    (hT : (T.map (·.name)).Nodup) (hok : ∀ t ∈ T, TaskOK t) :
    generateTaskRefs now ex T = sortTaskRefs (canonRefs now ex T) := by
  have hcn := canonRefs_names_nodup now ex T hex hT hok
  have hgn := generateTaskRefs_names_nodup now ex T hex hT hok
  have hm := Furiko.Props.C11.generateTaskRefs_members now ex T
  refine eq_of_sorted_perm ?_ (sortTaskRefs_sorted _) (sortTaskRefs_sorted _) hgn
  rw [List.perm_ext_iff_of_nodup (nodup_of_nodup_map _ hgn)
    ((sortTaskRefs_perm _).nodup_iff.mpr (nodup_of_nodup_map _ hcn))]
  intro r
  rw [mem_sortTaskRefs, canonRefs, List.mem_append]
  constructor
  · intro hr
    rcases mem_generateTaskRefs hr with ⟨t, ht, rfl⟩ | ⟨e, he, hl, rfl⟩
    · by_cases hin : t.name ∈ ex.map (·.name)
      · obtain ⟨e, he, hen⟩ := List.mem_map.mp hin
        refine Or.inl (List.mem_map.mpr ⟨e, he, ?_⟩)
        rw [refresh_of_mem hT ht now hen, ← hen, lookupRef_of_nodup ex hex e he]
      · rw [lookupRef_none hin]
        exact Or.inr (List.mem_map_of_mem (mem_newTasks.mpr ⟨ht, hin⟩))
    · rw [← refresh_of_not_mem now hl]
      exact Or.inl (List.mem_map_of_mem he)
  · rintro (h | h)
    · obtain ⟨e, he, rfl⟩ := List.mem_map.mp h
      by_cases hin : e.name ∈ T.map (·.name)
      · obtain ⟨t, ht, htn⟩ := List.mem_map.mp hin
        rw [refresh_of_mem hT ht now htn.symm, ← lookupRef_of_nodup ex hex e he, ← htn]
        exact hm.2.1 t ht
      · rw [refresh_of_not_mem now hin]
        exact hm.1 e he hin
    · obtain ⟨t, ht, rfl⟩ := List.mem_map.mp h
      obtain ⟨ht, hl⟩ := mem_newTasks.mp ht
      rw [← lookupRef_none hl]
      exact hm.2.1 t ht

theorem generateTaskRefs_perm_canon (now : Time) (ex : List TaskRef) (T : List Task) (hex : (ex.map (·.name)).Nodup)
    (hT : (T.map (·.name)).Nodup) (hok : ∀ t ∈ T, TaskOK t) :
    (generateTaskRefs now ex T).Perm (canonRefs now ex T) := by
  rw [generateTaskRefs_canon now ex T hex hT hok]
  exact sortTaskRefs_perm _

/-! A pod that does not tell when it finished is recorded with the clock of the observing pass
(`Pod.recordedFinish`): two readings of one pod at different clocks agree, or both report a finish time
and differ only in it.  `GetTaskRef` keeps the FIRST recorded finish time of a finished task with a final
state (fix 6ab84c2), so the generated refs are a fixpoint against such a second reading too (F30 repaired). -/

/-- a task that reports a finish time reports a final state (true of every `PodTask`); the field `finFinal` of
`TaskGood` (`JobCtlLiveRefresh`) and of `TaskSem` (`JobCtlInvStabPure`) is this property -/
def TaskFinal (t : Task) : Prop := t.ref.finishTimestamp.isSome = true → isFinalTaskState t.ref.status.state = true

/-- `t'` is `t` read at another clock -/
def TaskSim (t t' : Task) : Prop :=
  t' = t ∨ (t.ref.finishTimestamp.isSome = true ∧
    ∃ f, t' = { t with ref := { t.ref with finishTimestamp := some f } })

def OptSim : Option Task → Option Task → Prop
  | none, none => True
  | some t, some t' => TaskSim t t'
  | _, _ => False

theorem OptSim.refl (o : Option Task) : OptSim o o := by
  cases o with
  | none => trivial
  | some t => exact Or.inl rfl

theorem OptSim.of_eq {a b : Option Task} (h : b = a) : OptSim a b := h ▸ OptSim.refl a

theorem TaskSim.name {t t' : Task} (h : TaskSim t t') : t'.name = t.name := by
  rcases h with rfl | ⟨_, f, rfl⟩ <;> rfl

theorem TaskSim.refName {t t' : Task} (h : TaskSim t t') : t'.ref.name = t.ref.name := by
  rcases h with rfl | ⟨_, f, rfl⟩ <;> rfl

theorem lostRef_idem (now now' : Time) (e : TaskRef) : lostRef now' (lostRef now e) = lostRef now e := by
  unfold lostRef
  cases hf : e.finishTimestamp <;> cases hd : e.deletedStatus <;> simp [hf, hd]

/-- refreshing a refreshed ref against the task again, read with the finish time `f'` in place of its own
(set if and only if its own is), changes nothing -/
theorem getTaskRef_idem (e : Option TaskRef) (t : Task) (hfin : TaskFinal t) (f' : Option Time)
    (hf : f'.isSome = t.ref.finishTimestamp.isSome) :
    getTaskRef (some (getTaskRef e t)) { t with ref := { t.ref with finishTimestamp := f' } } = getTaskRef e t := by
  rcases t with ⟨tn, ⟨n, c, r, f, ri, pi, st, ds⟩, dts⟩
  unfold getTaskRef
  cases f with
  | none =>
    cases f' with
    | some _ => cases hf
    | none =>
      cases e with
      | none => cases r <;> simp
      | some e => cases r <;> cases hef : e.finishTimestamp <;> simp [hef]
  | some f =>
    have hfinal : isFinalTaskState st.state = true := hfin rfl
    cases f' with
    | none => cases hf
    | some f' =>
      cases e with
      | none => cases r <;> simp [hfinal]
      | some e =>
        cases r <;> cases hef : e.finishTimestamp <;> cases hes : isFinalTaskState e.status.state <;>
          simp [hef, hes, hfinal]

theorem getTaskRef_idem_sim (e : Option TaskRef) {t t' : Task} (hfin : TaskFinal t) (hs : TaskSim t t') :
    getTaskRef (some (getTaskRef e t)) t' = getTaskRef e t := by
  rcases hs with rfl | ⟨hf, f, rfl⟩
  · exact getTaskRef_idem e _ hfin _ rfl
  · exact getTaskRef_idem e t hfin (some f) hf.symm

theorem generateTaskRefs_fix (now' : Time) (G : List TaskRef) (T' : List Task) (hG : (G.map (·.name)).Nodup)
    (hs : G.Pairwise refLe) (hT : (T'.map (·.name)).Nodup) (hok : ∀ t ∈ T', TaskOK t)
    (hsub : ∀ t ∈ T', t.name ∈ G.map (·.name)) (hfix : ∀ g ∈ G, refresh now' T' g = g) :
    generateTaskRefs now' G T' = G := by
  have h1 : newTasks G T' = [] := List.filter_eq_nil_iff.mpr fun t ht h => (mem_newTasks.mp (List.mem_filter.mpr ⟨ht, h⟩)).2 (hsub t ht)
  have h2 : G.map (refresh now' T') = G := (List.map_congr_left (g := id) hfix).trans (List.map_id G)
  rw [generateTaskRefs_canon now' G T' hG hT hok, canonRefs, h1, h2, List.map_nil, List.append_nil]
  exact sortTaskRefs_of_sorted hs hG

theorem refresh_generated_sim (now now' : Time) (ex : List TaskRef) (T T' : List Task)
    (hT : (T.map (·.name)).Nodup) (hok : ∀ t ∈ T, TaskOK t) (hfin : ∀ t ∈ T, TaskFinal t)
    (g : TaskRef) (hg : g ∈ canonRefs now ex T) (hagree : OptSim (findTask T g.name) (findTask T' g.name)) :
    refresh now' T' g = g := by
  rcases List.mem_append.mp hg with h | h
  · obtain ⟨e, he, rfl⟩ := List.mem_map.mp h
    have hn := refresh_name now T hok e
    rw [hn] at hagree
    rw [refresh, hn]
    unfold refresh
    cases hf : findTask T e.name <;> cases hf' : findTask T' e.name <;> rw [hf, hf'] at hagree
    · exact lostRef_idem now now' e
    · exact hagree.elim
    · exact hagree.elim
    · exact getTaskRef_idem_sim _ (hfin _ (findTask_some hf).1) hagree
  · obtain ⟨t, ht, rfl⟩ := List.mem_map.mp h
    have ht' := (mem_newTasks.mp ht).1
    have hn : (getTaskRef none t).name = t.name := (getTaskRef_name _ t).trans (hok t ht')
    rw [hn, findTask_of_mem hT ht'] at hagree
    rw [refresh, hn]
    cases hf' : findTask T' t.name <;> rw [hf'] at hagree
    · exact hagree.elim
    · exact getTaskRef_idem_sim _ (hfin t ht') hagree

/-- **`GenerateTaskRefs` is idempotent across observation times**: generating again from the generated
refs, against a second reading of the same tasks (`OptSim`), changes nothing -/
theorem generateTaskRefs_idem_sim (now now' : Time) (ex : List TaskRef) (T T' : List Task)
    (hex : (ex.map (·.name)).Nodup) (hT : (T.map (·.name)).Nodup) (hok : ∀ t ∈ T, TaskOK t)
    (hfin : ∀ t ∈ T, TaskFinal t) (hT' : (T'.map (·.name)).Nodup) (hok' : ∀ t ∈ T', TaskOK t)
    (hsub : ∀ t ∈ T', t.name ∈ (generateTaskRefs now ex T).map (·.name))
    (hagree : ∀ g ∈ generateTaskRefs now ex T, OptSim (findTask T g.name) (findTask T' g.name)) :
    generateTaskRefs now' (generateTaskRefs now ex T) T' = generateTaskRefs now ex T := by
  have hgn := generateTaskRefs_names_nodup now ex T hex hT hok
  refine generateTaskRefs_fix now' _ T' hgn ?_ hT' hok' hsub ?_
  · rw [generateTaskRefs_canon now ex T hex hT hok]
    exact sortTaskRefs_sorted _
  · intro g hg
    have hg' : g ∈ canonRefs now ex T := (generateTaskRefs_perm_canon now ex T hex hT hok).mem_iff.mp hg
    exact refresh_generated_sim now now' ex T T' hT hok hfin g hg' (hagree g hg)

theorem generateTaskRefs_idem_same (now now' : Time) (ex : List TaskRef) (T : List Task)
    (hex : (ex.map (·.name)).Nodup) (hT : (T.map (·.name)).Nodup) (hok : ∀ t ∈ T, TaskOK t)
    (hfin : ∀ t ∈ T, TaskFinal t) :
    generateTaskRefs now' (generateTaskRefs now ex T) T = generateTaskRefs now ex T := by
  refine generateTaskRefs_idem_sim now now' ex T T hex hT hok hfin hT hok ?_ (fun _ _ => OptSim.refl _)
  intro t ht
  have := (Furiko.Props.C11.generateTaskRefs_members now ex T).2.1 t ht
  exact List.mem_map.mpr ⟨_, this, (getTaskRef_name _ t).trans (hok t ht)⟩

open Furiko.JobCtlPlan


/-- the Job value `updateTaskRefStatus` returns: `UpdateJobTaskRefs`, then `UpdateJobStatusFromTaskRefs` -/
def recompute (now : Time) (d : PIndex) (rj : Job) (T : List Task) : Job := statusOf now d (updateJobTaskRefs now rj T)

theorem updateTaskRefStatus_snd (s : Sys) (key : String) (rj : Job) (T : List Task) :
    (updateTaskRefStatus s key rj T).2 = recompute s.clock s.d rj T := by
  unfold updateTaskRefStatus recompute
  exact syncJobStatus_snd s key _

/-- the spec side of a simple Job: template without parallelism, no kill timestamp, no admission error,
not being deleted, started -/
structure SimpleSpec (rj : Job) : Prop where
  tmpl : ∃ t, rj.template = some t ∧ t.parallelism = none
  kill : rj.killTimestamp = none
  adm : rj.admissionError = false
  del : rj.deletionTimestamp = none
  started : rj.status.startTime.isSome = true

theorem SimpleSpec.congr {a b : Job} (h : SimpleSpec a) (hs : SameSpec a b)
    (hst : b.status.startTime = a.status.startTime) : SimpleSpec b :=
  ⟨by rw [hs.template]; exact h.tmpl, by rw [hs.killTimestamp]; exact h.kill,
   by rw [hs.admissionError]; exact h.adm, by rw [hs.deletionTimestamp]; exact h.del, by rw [hst]; exact h.started⟩

theorem SimpleSpec.indexes {rj : Job} (h : SimpleSpec rj) (d : PIndex) : rj.indexes d = [d] := by
  obtain ⟨t, ht, hp⟩ := h.tmpl
  unfold Job.indexes Job.parallelism
  rw [ht]; simp [hp]

theorem SimpleSpec.strategy {rj : Job} (h : SimpleSpec rj) : rj.strategy = .allSuccessful := by
  obtain ⟨t, ht, hp⟩ := h.tmpl
  unfold Job.strategy Job.parallelism
  rw [ht]; simp [hp]

theorem statusOf_simple (now : Time) (d : PIndex) (rj : Job) (h : SimpleSpec rj) :
    statusOf now d rj =
      { rj with status := { rj.status with
          condition := getCondition now d rj
          state := getJobStateFromCondition (getCondition now d rj)
          phase := getPhase now { rj with status := { rj.status with
            condition := getCondition now d rj
            state := getJobStateFromCondition (getCondition now d rj) } } } } := by
  obtain ⟨t, ht, hp⟩ := h.tmpl
  unfold statusOf updateJobStatusFromTaskRefs updateJobStatusFromTaskRefsWith
  rw [ht]
  simp only [Option.getD_some, statusBeforePhase, hp, deletionOverrides, h.del, Option.isSome_none,
    Bool.false_and, Bool.false_eq_true, ↓reduceIte]

theorem statusOf_sameSpec (now : Time) (d : PIndex) (rj : Job) :
    SameSpec rj (statusOf now d rj) ∧ (statusOf now d rj).status.tasks = rj.status.tasks ∧
    (statusOf now d rj).status.startTime = rj.status.startTime ∧
    (statusOf now d rj).status.createdTasks = rj.status.createdTasks ∧
    (statusOf now d rj).status.runningTasks = rj.status.runningTasks := by
  unfold statusOf
  cases hu : updateJobStatusFromTaskRefs now d rj with
  | none => exact ⟨SameSpec.refl _, rfl, rfl, rfl, rfl⟩
  | some nj =>
    refine ⟨(updateStatus_some _ _ _ _ hu).1, (updateStatus_some _ _ _ _ hu).2, ?_⟩
    unfold updateJobStatusFromTaskRefs updateJobStatusFromTaskRefsWith at hu
    cases ht : rj.template with
    | none => rw [ht] at hu; cases hu
    | some t => rw [ht] at hu; cases hu; exact ⟨rfl, rfl, rfl⟩

theorem recompute_sameSpec (now : Time) (d : PIndex) (rj : Job) (T : List Task) :
    SameSpec rj (recompute now d rj T) ∧
    (recompute now d rj T).status.tasks = generateTaskRefs now rj.status.tasks T ∧
    (recompute now d rj T).status.startTime = rj.status.startTime := by
  unfold recompute
  obtain ⟨h1, h2, h3, _, _⟩ := statusOf_sameSpec now d (updateJobTaskRefs now rj T)
  exact ⟨(updateJobTaskRefs_sameSpec now rj T).trans h1, h2, h3⟩

theorem SimpleSpec.statusOf {rj : Job} (h : SimpleSpec rj) (now : Time) (d : PIndex) :
    SimpleSpec (Live.statusOf now d rj) :=
  h.congr (statusOf_sameSpec now d rj).1 (statusOf_sameSpec now d rj).2.2.1

theorem SimpleSpec.recompute {rj : Job} (h : SimpleSpec rj) (now : Time) (d : PIndex) (T : List Task) :
    SimpleSpec (Live.recompute now d rj T) :=
  h.congr (recompute_sameSpec now d rj T).1 (recompute_sameSpec now d rj T).2.2

/-- without kill timestamp `GetPhase` reads neither the clock nor the stored phase and state -/
theorem getPhase_congr (now now' : Time) (a b : Job) (hk : a.killTimestamp = none) (hk' : b.killTimestamp = none)
    (hc : b.status.condition = a.status.condition) (ht : b.status.tasks = a.status.tasks)
    (hp : b.status.parallelStatus = a.status.parallelStatus) (hcr : b.status.createdTasks = a.status.createdTasks) :
    getPhase now' b = getPhase now a := by
  unfold getPhase
  simp only [hc, ht, hp, hcr, hk, hk', isTimeSetAndEarlierOrEqual, Bool.false_eq_true, ↓reduceIte]

/-- **the status computation is idempotent** on simple Jobs, whatever the clock readings -/
theorem statusOf_idem (now now' : Time) (d : PIndex) (rj : Job) (h : SimpleSpec rj) :
    statusOf now' d (statusOf now d rj) = statusOf now d rj := by
  have h' := h.statusOf now d
  have hcond : getCondition now' d (statusOf now d rj) = getCondition now d rj := by
    obtain ⟨hs, ht, hst, _, _⟩ := statusOf_sameSpec now d rj
    rw [getCondition_now_irrel now' now d _ h'.adm h'.kill]
    exact getCondition_congr_fields now d rj _ h.adm hs.admissionError hst ht hs.killTimestamp hs.template hs.startPolicy
  rw [statusOf_simple now' d _ h', hcond]
  rw [statusOf_simple now d rj h]
  simp only
  congr 2
  exact getPhase_congr now now' _ _ h.kill h.kill rfl rfl rfl rfl

/-- recomputing from the recomputed Job changes nothing, provided `GenerateTaskRefs` is at its fixpoint -/
theorem recompute_idem (now now' : Time) (d : PIndex) (rj : Job) (T T' : List Task) (h : SimpleSpec rj)
    (hgen : generateTaskRefs now' (generateTaskRefs now rj.status.tasks T) T' = generateTaskRefs now rj.status.tasks T) :
    recompute now' d (recompute now d rj T) T' = recompute now d rj T := by
  have hX : SimpleSpec (updateJobTaskRefs now rj T) := h.congr (updateJobTaskRefs_sameSpec now rj T) rfl
  have hu : updateJobTaskRefs now' (recompute now d rj T) T' = recompute now d rj T := by
    unfold recompute
    rw [statusOf_simple now d _ hX]
    unfold updateJobTaskRefs
    simp only [hgen]
  unfold recompute at hu ⊢
  rw [hu]
  exact statusOf_idem now now' d _ hX

/-- every ref belongs to the default index -/
def AllHash (d : PIndex) (L : List TaskRef) : Prop := ∀ r ∈ L, r.hash d = d.hash

def AnySucc (L : List TaskRef) : Prop := ∃ r ∈ L, r.status.result = .succeeded
def AllFin (L : List TaskRef) : Prop := ∀ r ∈ L, r.finishTimestamp.isSome = true

theorem tasksOfHash_all {d : PIndex} {L : List TaskRef} (h : AllHash d L) : tasksOfHash d L d.hash = L := by
  unfold tasksOfHash
  apply List.filter_eq_self.mpr
  intro r hr
  simp [h r hr]

theorem countP_terminal_of_allFin {L : List TaskRef} (h : AllFin L) : L.countP refTerminal = L.length := by
  rw [List.countP_eq_length]
  intro r hr
  exact h r hr

/-- the summary of a simple Job is complete exactly when a ref succeeded or `maxAttempts` refs finished -/
theorem simple_summary (d : PIndex) (rj : Job) (L : List TaskRef) (h : SimpleSpec rj) (hh : AllHash d L) :
    ((getParallelTaskSummary d rj L).successful = some true ↔ AnySucc L) ∧
    ((getParallelTaskSummary d rj L).successful = some false ↔
      ¬ AnySucc L ∧ ((L.countP refTerminal : Nat) : Int) ≥ rj.maxAttempts) ∧
    ((getParallelTaskSummary d rj L).complete = true ↔
      AnySucc L ∨ ((L.countP refTerminal : Nat) : Int) ≥ rj.maxAttempts) := by
  obtain ⟨h1, h2, h3, _⟩ := summary_iff d rj L
  have hi : IndexSucceeded d L d ↔ AnySucc L :=
    ⟨fun ⟨t, ht, _, hr⟩ => ⟨t, ht, hr⟩, fun ⟨t, ht, hr⟩ => ⟨t, ht, hh t ht, hr⟩⟩
  have hs : Satisfied d rj L ↔ AnySucc L := by
    unfold Satisfied
    rw [h.strategy, h.indexes d]
    simp only [List.mem_singleton, forall_eq]
    exact hi
  have hu : Unsatisfiable d rj L ↔ ¬ AnySucc L ∧ ((L.countP refTerminal : Nat) : Int) ≥ rj.maxAttempts := by
    unfold Unsatisfiable
    rw [h.strategy, h.indexes d]
    simp only [List.mem_singleton, exists_eq_left]
    unfold IndexExhausted
    rw [tasksOfHash_all hh, hi]
  refine ⟨h1.trans hs, h2.trans hu, ?_⟩
  rw [h3, hs, hu]
  by_cases hx : AnySucc L <;> simp [hx]

theorem simple_terminated (d : PIndex) (rj : Job) (L : List TaskRef) (h : SimpleSpec rj) (hh : AllHash d L) :
    (getParallelStatusCounters (indexStatuses d rj L)).terminated ≥ ((rj.indexes d).length : Int) ↔ AllFin L := by
  rw [terminated_ge_iff, h.indexes d]
  simp only [List.mem_singleton, forall_eq]
  unfold IndexAllFinished AllFin
  constructor
  · intro hx r hr; exact hx r hr (hh r hr)
  · intro hx r hr _; exact hx r hr

/-- **the condition of a simple Job**: `Finished` exactly when every ref is finished and the summary is
complete; the result is `Success` when a ref succeeded and `Failed` otherwise -/
theorem simple_condition (now : Time) (d : PIndex) (rj : Job) (h : SimpleSpec rj) (hh : AllHash d rj.status.tasks) :
    (AllFin rj.status.tasks ∧
        (AnySucc rj.status.tasks ∨ ((rj.status.tasks.countP refTerminal : Nat) : Int) ≥ rj.maxAttempts) →
      ∃ f, (getCondition now d rj).finished = some f ∧ f.finishTimestamp = latestFinished rj.status.tasks ∧
        (AnySucc rj.status.tasks → f.result = .success) ∧ (¬ AnySucc rj.status.tasks → f.result = .failed)) ∧
    (¬ (AllFin rj.status.tasks ∧
        (AnySucc rj.status.tasks ∨ ((rj.status.tasks.countP refTerminal : Nat) : Int) ≥ rj.maxAttempts)) →
      (getCondition now d rj).finished = none) := by
  obtain ⟨s1, s2, s3⟩ := simple_summary d rj rj.status.tasks h hh
  have ht := simple_terminated d rj rj.status.tasks h hh
  have hstart : rj.status.startTime.isNone = false := by
    have := h.started
    cases hs : rj.status.startTime <;> simp_all
  unfold getCondition
  simp only [h.adm, hstart, h.kill, isTimeSetAndEarlierOrEqual, Bool.false_eq_true, ↓reduceIte, getParallelStatus]
  constructor
  · rintro ⟨hfin, hcomp⟩
    have hc : (getParallelTaskSummary d rj rj.status.tasks).complete = true := s3.mpr hcomp
    have hterm := ht.mpr hfin
    have hnlt : ¬ (getParallelStatusCounters (indexStatuses d rj rj.status.tasks)).terminated <
        ((rj.indexes d).length : Int) := by omega
    simp only [hc, Bool.not_true, Bool.false_eq_true, ↓reduceIte, hnlt]
    refine ⟨_, rfl, rfl, ?_, ?_⟩
    · intro hs
      simp only [finishedResult, h.kill, Option.isSome_none, Bool.false_eq_true, ↓reduceIte, s1.mpr hs]
    · intro hs
      have : (getParallelTaskSummary d rj rj.status.tasks).successful = some false :=
        s2.mpr ⟨hs, hcomp.resolve_left hs⟩
      simp only [finishedResult, h.kill, Option.isSome_none, Bool.false_eq_true, ↓reduceIte, this]
  · intro hn
    by_cases hc : (getParallelTaskSummary d rj rj.status.tasks).complete = true
    · have hlt : (getParallelStatusCounters (indexStatuses d rj rj.status.tasks)).terminated <
          ((rj.indexes d).length : Int) := by
        have := mt ht.mp fun hf => hn ⟨hf, s3.mp hc⟩
        omega
      simp only [hc, Bool.not_true, Bool.false_eq_true, ↓reduceIte, hlt]
    · have hc' : (getParallelTaskSummary d rj rj.status.tasks).complete = false := by simpa using hc
      simp only [hc', Bool.not_false, ↓reduceIte]
      by_cases c1 : (getParallelStatusCounters (indexStatuses d rj rj.status.tasks)).created < ((rj.indexes d).length : Int)
      · simp only [c1, ↓reduceIte]
      · by_cases c2 : (getParallelStatusCounters (indexStatuses d rj rj.status.tasks)).retryBackoff > 0
        · simp only [c1, c2, ↓reduceIte]
        · by_cases c3 : (getParallelStatusCounters (indexStatuses d rj rj.status.tasks)).starting > 0
          · simp only [c1, c2, c3, ↓reduceIte]
          · simp only [c1, c2, c3, ↓reduceIte]

end Furiko.JobCtl.Live
