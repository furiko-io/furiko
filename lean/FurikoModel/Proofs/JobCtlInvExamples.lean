/-
Concrete reachable states of the job-controller transition system, used by the `example`s that
show the hypotheses of the history theorems are satisfiable.  Core Lean only.
-/
import FurikoModel.Proofs.JobCtlInvRefsInv
import FurikoModel.Proofs.JobCtlInvGone
import FurikoModel.Proofs.JobCtlInvStabThm

namespace Furiko.JobCtl.Ex
open Furiko Furiko.JobCtl

/-- a started Job: one (default) index, two attempts, TTL 1000 s, with the finalizer -/
def job : JobObj :=
  { name := "job", uid := "u", finalizer := true, rv := 0
    job := { template := some { maxAttempts := some 2 }, ttlSecondsAfterFinished := some 1000,
             status := { startTime := some 0 } } }

def d : PIndex := { hash := "h" }

/-- the authoritative Job of a state (for examples) -/
def jobOf (s : Sys) : JobObj := s.job.getD default
/-- the cached Job of a state (for examples) -/
def cachedOf (s : Sys) : JobObj := s.jobCache.getD default

/-- right after creation -/
def s0 : Sys := initSys 0 {} d job

theorem wf_job : WF job := by decide +kernel

theorem s0_reach (ok : Sys → Action → Prop) : Reach ok job s0 := .init 0 {} d wf_job

/-- the strictest filter the run `s0 … sC` passes: each of its three stretches is evaluated once under it and
weakened to the filter a theorem asks for -/
def lagSt (s : Sys) (a : Action) : Prop := lagOnly s a ∧ stabCheckedF s a

instance (s : Sys) (a : Action) : Decidable (lagSt s a) := inferInstanceAs (Decidable (_ ∧ _))

theorem noForeign_of_lagSt (s : Sys) (a : Action) (h : lagSt s a) : noForeign s a := by
  cases a <;> first | trivial | exact h.1

/-- the Job event is delivered, the first pass creates pod `job-h-0` and records it, the status
update is delivered to the Job cache; the pod's creation event is still undelivered -/
def runA : List Action := [.deliverJob, .work, .deliverJob]
def sA : Sys := runActs s0 runA

theorem sA_reach_lagSt : Reach lagSt job sA := reach_run (s0_reach _) runA (by decide +kernel)
theorem sA_reach : Reach anyAction job sA := sA_reach_lagSt.mono (fun _ _ _ => trivial)

/-- the pod of `sA` -/
def podA : PodObj := (findPod sA.pods "job-h-0").getD default

/-- … reported Succeeded by the kubelet -/
def podSucceeded : PodObj := { podA with pod := { podA.pod with phase := .succeeded } }

/-- … the kubelet reports the pod Succeeded and the next pass (live GET: the pod is not in the pod
cache yet) records it: the Job is Finished / Success -/
def runB : List Action := [.kubelet podSucceeded, .work]
def sB : Sys := runActs sA runB

theorem sA_sB_lagSt : Steps lagSt job sA sB := steps_run sA runB (by decide +kernel)
theorem sB_reach_lagSt : Reach lagSt job sB := sA_reach_lagSt.steps sA_sB_lagSt
theorem sB_reach : Reach anyAction job sB := sB_reach_lagSt.mono (fun _ _ _ => trivial)
theorem sB_reach_lag : Reach lagOnly job sB := sB_reach_lagSt.mono (fun _ _ h => h.1)

/-- … then the status update and the pod's OLD creation event are delivered, and a pass runs -/
def runC : List Action := [.deliverJob, .deliverPod, .work]
def sC : Sys := runActs sB runC

theorem sB_sC_lagSt : Steps lagSt job sB sC := steps_run sB runC (by decide +kernel)
theorem sC_reach : Reach anyAction job sC := (sB_reach_lagSt.steps sB_sC_lagSt).mono (fun _ _ _ => trivial)
theorem sC_reach_nf : Reach noForeign job sC := (sB_reach_lagSt.steps sB_sC_lagSt).mono noForeign_of_lagSt
theorem sA_reach_st : Reach stabChecked job sA := sA_reach_lagSt.mono (fun _ _ h => h.2.1)
theorem sB_reach_st : Reach stabChecked job sB := sB_reach_lagSt.mono (fun _ _ h => h.2.1)
theorem sB_sC_st : Steps stabChecked job sB sC := sB_sC_lagSt.mono (fun _ _ h => h.2.1)
theorem sB_reach_stF : Reach stabCheckedF job sB := sB_reach_lagSt.mono (fun _ _ h => h.2)
theorem sB_sC_stF : Steps stabCheckedF job sB sC := sB_sC_lagSt.mono (fun _ _ h => h.2)
theorem wf3_job : WF3 job := ⟨by decide, by decide, by decide, by decide⟩
theorem sB_sC_lag : Steps lagOnly job sB sC := sB_sC_lagSt.mono (fun _ _ h => h.1)

/-- … and one more delivery + pass: a second pod is created -/
def runD : List Action := [.deliverJob, .work]
def sD : Sys := runActs sC runD
theorem sD_reach_lag : Reach lagOnly job sD := reach_run (sB_reach_lag.steps sB_sC_lag) runD (by decide +kernel)

/-- the same Job with a single attempt -/
def job1 : JobObj := { job with job := { job.job with template := some { maxAttempts := some 1 } } }
def t0 : Sys := initSys 0 {} d job1
def tB : Sys := runActs t0 (runA ++ runB)
def tC : Sys := runActs tB runC
theorem tB_reach_lag : Reach lagOnly job1 tB := reach_run (.init 0 {} d (by decide +kernel)) (runA ++ runB) (by decide +kernel)
theorem tB_tC_lag : Steps lagOnly job1 tB tC := steps_run tB runC (by decide +kernel)

/-! #### a pod that vanishes while its events are undelivered -/

def withPhase (p : PodObj) (ph : PodPhase) (fin : Option Time := none) : PodObj :=
  { p with pod := { p.pod with phase := ph, containers := match fin with
      | some f => [{ terminated := some { finishedAt := some f } }]
      | none => [] } }

def tA : Sys := runActs t0 runA
/-- the pod succeeds and is removed from the server; the pass sees neither the cache entry nor the
object: the ref is recorded lost, the single-attempt Job is Finished / Failed -/
def runL : List Action :=
  [.kubelet (withPhase ((findPod tA.pods "job-h-0").getD default) .succeeded), .externalDelete "job-h-0", .work]
def tL : Sys := runActs tA runL
theorem t0_reach : Reach lagAndLoss job1 t0 := .init 0 {} d (by decide +kernel)
theorem tA_reach : Reach lagAndLoss job1 tA := reach_run t0_reach runA (by decide +kernel)
theorem tL_reach : Reach lagAndLoss job1 tL := reach_run tA_reach runL (by decide +kernel)
/-- … then the pod's old events (creation, Succeeded) reach the cache and a pass runs -/
def runM : List Action := [.deliverJob, .deliverPod, .deliverPod, .work]
def tM : Sys := runActs tL runM
theorem tL_tM : Steps lagAndLoss job1 tL tM := steps_run tL runM (by decide +kernel)

/-- two indexes, two attempts, retry delay 10 s -/
def job2 : JobObj :=
  { name := "job", uid := "u", finalizer := true, rv := 0
    job := { template := some { maxAttempts := some 2, retryDelaySeconds := some 10,
                                parallelism := some { indexes := [{ hash := "a" }, { hash := "b" }] } },
             ttlSecondsAfterFinished := some 1000, status := { startTime := some 0 } } }
def u0 : Sys := initSys 0 {} d job2
def sec (n : Nat) : Nat := n * 1000000000
def runU1 : List Action := [.deliverJob, .work, .deliverJob, .deliverPod, .deliverPod]
def u1 : Sys := runActs u0 runU1
def podU (s : Sys) (n : String) : PodObj := (findPod s.pods n).getD default
/-- both first attempts fail (a-0 at 0 s — its pod does not tell when, the pass that observes it at
0 s records its own clock (F30 repaired) —, b-0 at 5 s), are recorded; at 10 s the retry a-1 is due
(b-1 only at 15 s), created and recorded -/
def runU2 : List Action :=
  [.kubelet (withPhase (podU u1 "job-a-0") .failed), .deliverPod, .work, .deliverJob, .advance (sec 5),
   .kubelet (withPhase (podU u1 "job-b-0") .failed (some (secs 5))), .deliverPod, .work, .deliverJob,
   .advance (sec 5), .work, .deliverJob]
def u2 : Sys := runActs u1 runU2
/-- a-1 succeeds and vanishes before any of its events is delivered; the pass records it lost:
index a has two finished, unsuccessful attempts (Failed), the Job is Finished / Failed -/
def runU3 : List Action := [.kubelet (withPhase (podU u2 "job-a-1") .succeeded), .externalDelete "job-a-1", .work]
def u3 : Sys := runActs u2 runU3
/-- … then a-1's old events reach the cache and a pass runs -/
def runU4 : List Action := [.deliverJob, .deliverPod, .deliverPod, .work]
def u4 : Sys := runActs u3 runU4
/-- The history `u0 … u4` is the dearest of the example histories to run (six passes on two indexes, and
the kernel re-runs the earlier passes for each later one): it is evaluated here once.  Four groups, one per
reader: the guards of its four runs (`u1_reach … u3_u4` below); for `C12Hist`, the run `u1 → u2` under
`anyAction` with its two clocks (stated for `job`, as that example is — only `createForeign` reads the Job
in a guard, and the run has none); for `C08Hist`, the refs of `u3`; for `C11Hist`, the results in `u3`, `u4`. -/
theorem u_history :
    (AllowedAll lagAndLoss job2 u0 runU1 ∧ AllowedAll lagAndLoss job2 u1 runU2 ∧
      AllowedAll lagAndLoss job2 u2 runU3 ∧ AllowedAll lagAndLoss job2 u3 runU4) ∧
    (AllowedAll anyAction job u1 runU2 ∧ u1.clock = 0 ∧ u2.clock = 10000000000) ∧
    u3.job.map (fun j => j.job.status.tasks.map (fun r => (r.name, r.retryIndex))) =
      some [("job-a-0", 0), ("job-b-0", 0), ("job-a-1", 1)] ∧
    ((u3.job.bind (fun j => j.job.status.condition.finished)).map (·.result) = some .failed ∧
      (u4.job.bind (fun j => j.job.status.condition.finished)).map (·.result) = some .failed) := by
  decide +kernel

theorem u1_reach : Reach lagAndLoss job2 u1 := reach_run (.init 0 {} d (by decide +kernel)) runU1 u_history.1.1
theorem u2_reach : Reach lagAndLoss job2 u2 := reach_run u1_reach runU2 u_history.1.2.1
theorem u3_reach : Reach lagAndLoss job2 u3 := reach_run u2_reach runU3 u_history.1.2.2.1
theorem u3_u4 : Steps lagAndLoss job2 u3 u4 := steps_run u3 runU4 u_history.1.2.2.2

/-! #### a task name that is created twice (stale Job cache + vanished pod) -/

/-- the first pass creates `job-h-0` and writes the status (the Job cache keeps the version without
refs); the pod's creation event is delivered -/
def runV1 : List Action := [.deliverJob, .work, .deliverPod]
/-- the pod succeeds (delivered to the pod cache) and vanishes from the server; a pass on the STALE
cached Job (no refs) creates `job-h-0` again — its status write conflicts; then the Job cache catches up
and a pass reads the OLD incarnation (Succeeded) from the pod cache: Job Finished / Success -/
def runV2 (s : Sys) : List Action :=
  [.kubelet (withPhase ((findPod s.pods "job-h-0").getD default) .succeeded), .deliverPod,
   .externalDelete "job-h-0", .work, .deliverJob, .work]
/-- the pod cache catches up with the second incarnation (alive) and a pass runs -/
def runV3 : List Action := [.deliverPod, .deliverPod, .deliverJob, .work]

def v1 : Sys := runActs t0 runV1
def v2 : Sys := runActs v1 (runV2 v1)
def v3 : Sys := runActs v2 runV3
theorem v1_reach : Reach lagAndLoss job1 v1 := reach_run t0_reach runV1 (by decide +kernel)
theorem v2_reach : Reach lagAndLoss job1 v2 := reach_run v1_reach (runV2 v1) (by decide +kernel)
theorem v2_v3 : Steps lagAndLoss job1 v2 v3 := steps_run v2 runV3 (by decide +kernel)

/-- the same with two attempts -/
def w1 : Sys := runActs s0 runV1
def w2 : Sys := runActs w1 (runV2 w1)
def w3 : Sys := runActs w2 runV3
theorem w1_reach : Reach lagAndLoss job w1 := reach_run (s0_reach _) runV1 (by decide +kernel)
theorem w2_reach : Reach lagAndLoss job w2 := reach_run w1_reach (runV2 w1) (by decide +kernel)
theorem w2_w3 : Steps lagAndLoss job w2 w3 := steps_run w2 runV3 (by decide +kernel)

/-! #### a foreign pod on the name of a recorded task -/

/-- a pod that is NOT controlled by the Job, reports Succeeded, and is called `job-h-0` -/
def foreignPod : PodObj :=
  { pod := { name := "job-h-0", creationTimestamp := some 0, phase := .succeeded }, ownerUid := some "other-uid",
    ownerName := some "other" }
/-- from `sA` (task `job-h-0` recorded, its pod alive): the pod vanishes, the foreign pod takes its name,
the three pod events are delivered, a pass runs -/
def runX : List Action :=
  [.externalDelete "job-h-0", .createForeign foreignPod, .deliverPod, .deliverPod, .deliverPod, .work]
def sX : Sys := runActs sA runX
theorem sX_reach : Reach anyAction job sX := reach_run sA_reach runX (by decide +kernel)

/-- the same on the one-attempt Job `job1` (from `tA`: task `job-h-0` recorded, its pod alive) -/
def tX : Sys := runActs tA runX
theorem tX_reach : Reach anyAction job1 tX := reach_run (tA_reach.mono (fun _ _ _ => trivial)) runX (by decide +kernel)

/-! #### a STALE foreign pod in the pod cache (a cache miss since the repair of F22) -/

/-- a pod without owner called `job-h-0` -/
def foreignEarly : PodObj := { pod := { name := "job-h-0", creationTimestamp := some 0 } }
/-- the foreign pod exists before the Job's first pass and reaches the pod cache; it is removed from the
server (deletion event undelivered); the first pass creates and records the Job's own `job-h-0`; the
status update is delivered; the next pass runs -/
def runY : List Action :=
  [.createForeign foreignEarly, .deliverPod, .externalDelete "job-h-0", .deliverJob, .work, .deliverJob, .work]
def tY : Sys := runActs t0 runY
theorem tY_reach : Reach anyAction job1 tY := reach_run (t0_reach.mono (fun _ _ _ => trivial)) runY (by decide +kernel)

/-! #### a delete issued from a STALE pod-cache copy hits a foreign pod (deletes are by name) -/

/-- from `sA`: the Job's own `job-h-0` reaches the pod cache; it vanishes from the server and a foreign
pod takes its name (both events undelivered); the user deletes the Job; the finalizer pass runs -/
def runZ : List Action :=
  [.deliverPod, .externalDelete "job-h-0", .createForeign foreignPod, .userDelete, .deliverJob, .work]
def sZ : Sys := runActs sA runZ
theorem sZ_reach : Reach anyAction job sZ := reach_run sA_reach runZ (by decide +kernel)

theorem wf2_job : WF2 job d := ⟨by decide +kernel, by decide +kernel⟩
theorem wf2_job2 : WF2 job2 d := ⟨by decide +kernel, by decide +kernel⟩

/-- from the finished state `sB`: the user deletes the Job, the events are delivered, a pass runs -/
def runE : List Action := [.userDelete, .deliverJob, .deliverJob, .work]
def sE : Sys := runActs sB runE
theorem sE_reach : Reach anyAction job sE := reach_run sB_reach runE (by decide +kernel)

/-- … the kubelet removes the pod, its four events are delivered: the state BEFORE the next pass -/
def runF : List Action := [.podGone "job-h-0", .deliverPod, .deliverPod, .deliverPod, .deliverPod]
def sF : Sys := runActs sE runF
theorem sF_reach : Reach anyAction job sF := reach_run sE_reach runF (by decide +kernel)

/-! #### a task that was created but not recorded, and the Job is deleted before the retry (F-C20-1) -/

/-- the first pass creates `job-h-0`, the status update that records it conflicts (pass fails, retry
pending); the pod's creation event reaches the pod cache; the user deletes the Job; the finalizer
pass runs on the Job whose status lists nothing -/
def runG : List Action := [.deliverJob, .setFaults ["", "conflict"], .work, .deliverPod, .userDelete, .deliverJob, .work]
def sG : Sys := runActs s0 runG
theorem sG_reach : Reach anyAction job sG := reach_run (s0_reach _) runG (by decide +kernel)

/-- … the kubelet removes the pod, the events are delivered: the state BEFORE the next pass -/
def runH : List Action := [.podGone "job-h-0", .deliverPod, .deliverPod, .deliverJob]
def sH : Sys := runActs sG runH
theorem sH_reach : Reach anyAction job sH := reach_run sG_reach runH (by decide +kernel)

theorem sA_sC : Steps anyAction job sA sC := (sA_sB_lagSt.trans sB_sC_lagSt).mono (fun _ _ _ => trivial)

end Furiko.JobCtl.Ex
