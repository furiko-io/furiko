/-
Preservation of `Inv` by the controller's writes and passes; hence every reachable state satisfies
the invariant (`Inv_step`, `Reachable.inv`).

C05 `never_over_limit` is a statement about the instrumented pass (`passLoopObs`, `syncConfigObs`,
`workConfigObs`): a copy of `passLoop` / `syncConfig` / `workConfig` defined HERE, not in
`Model/Queue.lean`, which also returns one `StartObs` per applied start write.  It is tied to the
real pass only by the erasure lemmas (`passLoopObs_fst`, `syncConfigObs_fst`, `workConfigObs_fst`);
`StartObs.activeBefore` is a ghost value: nothing in the controller computes it.
-/
import FurikoModel.Proofs.QueueInvSteps
import FurikoModel.Proofs.QueueWork

set_option linter.unusedSimpArgs false
set_option linter.unusedVariables false

namespace Furiko.Queue
open Furiko.WQ

theorem isQueued_iff (j : JobV) : j.isQueued = true ↔ j.isStarted = false ∧ j.terminal = false := by
  unfold JobV.isQueued; cases j.isStarted <;> cases j.terminal <;> simp

theorem Inv.nextFault_ne_applied {s : Sys} (h : Inv s) : nextFault s ≠ "applied-err" := by
  unfold nextFault
  cases hf : s.faults with
  | nil => decide
  | cons f rest =>
    simp only [List.headD_cons]
    rcases h.faultsOk f (by rw [hf]; simp) with rfl | rfl | rfl <;> decide

theorem Inv_failWrite {s : Sys} (h : Inv s) (verb name res : String) (c : List (String × Int))
    (hc : ∀ uid, getCtr c uid = getCtr s.counter uid) :
    Inv { failWrite s verb name res with counter := c } :=
  Inv_congr h rfl h.ind (e_ctr := hc) (e_faults := fun f hf => .inl (List.mem_of_mem_tail hf))

/-- a controller write applied to the authoritative version `cur`, keeping its spec: the update of
`Inv_update`, with the fault consumed and the call logged -/
theorem Inv_applyWrite {s : Sys} (h : Inv s) (verb name : String) {cur nj : JobV}
    (hf : findJob s.jobs nj.name = some cur) (hspec : sameSpec cur nj) (hrv : nj.rv = s.rv + 1)
    (hterm : cur.terminal = true → nj.terminal = true) (c : List (String × Int))
    (hc : ∀ uid, getCtr c uid
        = getCtr s.counter uid + (if cur.label = some uid then bonus cur nj else 0)) :
    Inv { applyWrite s verb name nj with counter := c } :=
  Inv_failWrite (Inv_update h hf hspec.fixed
    (wfJob_of_sameSpec hspec (h.verWf cur (Ver.jobs (findJob_some_mem hf)))) hrv hterm c hc)
    verb name "ok" c (fun _ => rfl)

/-- an applied reject write: it was decided on the cached queued version `j`, which is the
authoritative one since the resourceVersions agree; the Job stays unstarted, the counter is not
concerned -/
theorem Inv_applyReject {s : Sys} (h : Inv s) {j cur : JobV} (m : String × Int) (hj : j ∈ s.jobCache)
    (hq : j.isQueued = true) (hf : findJob s.jobs j.name = some cur) (hrv : cur.rv = j.rv) :
    cur = j ∧ Inv (applyWrite s "reject" j.name (rejectedJob s m j cur)) := by
  obtain rfl : cur = j := h.cached_eq_cur hj hf hrv
  obtain ⟨hst, hterm⟩ := (isQueued_iff cur).mp hq
  refine ⟨rfl, Inv_applyWrite h "reject" cur.name (nj := rejectedJob s m cur cur) hf ?_ rfl id
    s.counter (fun uid => ?_)⟩
  · simp [sameSpec, rejectedJob, rejectF]
  · have : bonus cur (rejectedJob s m cur cur) = 0 := by
      simp only [bonus, rejectedJob, rejectF, JobV.isActive, JobV.isStarted] at hst ⊢
      simp [hst]
    simp [this]

/-- an applied start write, likewise; the new counter `c` must account for the Job becoming active:
the per-config pass has reserved the slot, the independent worker only starts unlabelled Jobs -/
theorem Inv_applyStart {s : Sys} (h : Inv s) {j cur : JobV} (hj : j ∈ s.jobCache)
    (hq : j.isQueued = true) (hf : findJob s.jobs j.name = some cur) (hrv : cur.rv = j.rv)
    (c : List (String × Int))
    (hc : ∀ uid, getCtr c uid = getCtr s.counter uid + if j.label = some uid then 1 else 0) :
    cur = j ∧ Inv { applyWrite s "start" j.name (startedJob s j cur) with counter := c } := by
  obtain rfl : cur = j := h.cached_eq_cur hj hf hrv
  obtain ⟨hst, hterm⟩ := (isQueued_iff cur).mp hq
  refine ⟨rfl, Inv_applyWrite h "start" cur.name (nj := startedJob s cur cur) hf ?_ rfl id c
    (fun uid => ?_)⟩
  · simp [sameSpec, startedJob, startF]
  · have : bonus cur (startedJob s cur cur) = 1 := by
      simp only [bonus, startedJob, startF, JobV.isActive, JobV.isStarted] at hst ⊢
      simp [hst, hterm]
    rw [this]; exact hc uid

theorem getCtr_setCtr_succ {c : List (String × Int)} {k : String} {ac : Int}
    (h : getCtr c k = ac) (uid : String) (l : Option String) (hl : l = some k) :
    getCtr (setCtr c k (ac + 1)) uid = getCtr c uid + if l = some uid then 1 else 0 := by
  subst hl
  rw [getCtr_setCtr]
  by_cases hu : k = uid
  · subst hu; simp [h]
  · simp [hu]

theorem Inv_reject {s : Sys} (h : Inv s) {j : JobV} (m : String × Int) (hj : j ∈ s.jobCache)
    (hq : j.isQueued = true) : Inv (rejectJobWrite s j m).1 := by
  rcases rejectJobWrite_cases s j m with ⟨res, _, _, heq⟩ | ⟨cur, hf, hrv, _, _, heq⟩ |
      ⟨cur, _, _, _, _, heq⟩ <;> rw [heq]
  · exact Inv_failWrite h "reject" j.name res s.counter (fun _ => rfl)
  · exact (Inv_applyReject h m hj hq hf hrv).2
  · exact Inv_failWrite h "reject" j.name "ok" s.counter (fun _ => rfl)

/-- start write with compare-and-swap (per-config path) -/
theorem Inv_startJob {s : Sys} (h : Inv s) {jc : JCV} {j : JobV} (old : Int) (hj : j ∈ s.jobCache)
    (hq : j.isQueued = true) (hl : j.label = some jc.uid) : Inv (startJob s jc j old).1 := by
  rcases startJob_cases s jc j old with ⟨_, heq⟩ | ⟨hcas, res, _, _, heq⟩ |
      ⟨hcas, cur, hf, hrv, _, ⟨_, heq⟩ | ⟨hap, _⟩⟩
  · rw [heq]; exact h
  · rw [heq]
    exact Inv_failWrite h "start" j.name res _ (getCtr_rollback hcas)
  · rw [heq]
    exact (Inv_applyStart h hj hq hf hrv _ (fun uid => getCtr_setCtr_succ hcas uid _ hl)).2
  · exact absurd hap h.nextFault_ne_applied

theorem rejectJobWrite_cache (s : Sys) (j : JobV) (m : String × Int) :
    (rejectJobWrite s j m).1.jobCache = s.jobCache := by
  rcases rejectJobWrite_cases s j m with ⟨res, _, _, heq⟩ | ⟨cur, _, _, _, _, heq⟩ |
      ⟨cur, _, _, _, _, heq⟩ <;> rw [heq] <;> rfl

theorem startJob_cache (s : Sys) (jc : JCV) (j : JobV) (old : Int) :
    (startJob s jc j old).1.jobCache = s.jobCache := by
  rcases startJob_cases s jc j old with ⟨_, heq⟩ | ⟨_, res, _, _, heq⟩ |
      ⟨_, cur, _, _, _, ⟨_, heq⟩ | ⟨_, heq⟩⟩ <;> rw [heq] <;> rfl

/-- ghost observation of one applied start write of the per-config pass; `activeBefore` is read off
the authoritative state (`trueActive`), which the controller never sees -/
structure StartObs where
  job : JobV              -- the cached Job that was started
  uid : String            -- the JobConfig's uid
  activeBefore : Nat      -- `trueActive` of that uid in the state just before the write
  maxConc : Int           -- the limit the pass used
  deriving Repr

/-- a copy of `passLoop` (same state and result: `passLoopObs_fst`) that additionally reports every
start write that was APPLIED to the API (detected by the resourceVersion counter moving), whether
or not it was reported as successful. -/
def passLoopObs (jc : JCV) : List JobV → Sys → Int → (Sys × Bool) × List StartObs
  | [], s, _ => ((s, true), [])
  | j :: rest, s, activeCount =>
    match canStartJob s jc j activeCount with
    | (s1, .error) => ((s1, false), [])
    | (s1, .skip) => passLoopObs jc rest s1 activeCount
    | (s1, .start) =>
      let obs : List StartObs :=
        if (startJob s1 jc j activeCount).1.rv ≠ s1.rv
        then [⟨j, jc.uid, trueActive s1 jc.uid, jc.maxConc⟩] else []
      match startJob s1 jc j activeCount with
      | (s2, false) => ((s2, false), obs)
      | (s2, true) =>
        let r := passLoopObs jc rest s2 (getCtr s2.counter jc.uid)
        (r.1, obs ++ r.2)

def syncConfigObs (s : Sys) (name : String) : (Sys × Bool) × List StartObs :=
  match findJC s.jcCache name with
  | none => ((s, true), [])
  | some jc =>
    let rjs := listQueued s.jobCache jc
    if rjs.isEmpty then ((s, true), [])
    else passLoopObs jc rjs s (getCtr s.counter jc.uid)

def workConfigObs (s : Sys) : (Sys × String) × List StartObs :=
  let s := { s with cfgQ := s.cfgQ.advance s.clock, calls := [] }
  match s.cfgQ.get with
  | none => ((s, "idle"), [])
  | some (k, q1) =>
    let r := syncConfigObs { s with cfgQ := q1 } (keyName k)
    let s1 := r.1.1
    let ok := r.1.2
    let q2 := if ok then s1.cfgQ.forget k else s1.cfgQ.addRateLimited k s1.clock
    (({ s1 with cfgQ := q2.done k }, if ok then "ok" else "err"), r.2)

/-- erasure: the instrumented pass computes the same state and result -/
theorem passLoopObs_fst (jc : JCV) (rjs : List JobV) (s : Sys) (ac : Int) :
    (passLoopObs jc rjs s ac).1 = passLoop jc rjs s ac := by
  induction rjs generalizing s ac with
  | nil => simp [passLoopObs, passLoop]
  | cons j rest ih =>
    simp only [passLoopObs, passLoop]
    rcases hc : canStartJob s jc j ac with ⟨s1, v⟩
    cases v with
    | error => rfl
    | skip => exact ih s1 ac
    | start =>
      simp only
      rcases hs : startJob s1 jc j ac with ⟨s2, ok⟩
      cases ok with
      | false => rfl
      | true => exact ih s2 _

theorem syncConfigObs_fst (s : Sys) (name : String) : (syncConfigObs s name).1 = syncConfig s name := by
  unfold syncConfigObs syncConfig
  cases findJC s.jcCache name with
  | none => rfl
  | some jc =>
    simp only
    split
    · rfl
    · exact passLoopObs_fst _ _ _ _

theorem workConfigObs_fst (s : Sys) : (workConfigObs s).1 = workConfig s := by
  unfold workConfigObs workConfig
  simp only
  cases (s.cfgQ.advance s.clock).get with
  | none => rfl
  | some p =>
    obtain ⟨k, q1⟩ := p
    simp only [syncConfigObs_fst]

/-- what the invariant gives for every observation -/
def ObsOK (o : StartObs) : Prop :=
  o.job.label = some o.uid ∧
  (o.job.hasPolicy = true → (o.job.policy = 1 ∨ o.job.policy = 2) →
      (o.activeBefore : Int) + 1 ≤ o.maxConc)

theorem passLoopObs_inv (jc : JCV) (rjs : List JobV) (s : Sys) (ac : Int) (h : Inv s)
    (hrjs : ∀ j ∈ rjs, j ∈ s.jobCache ∧ j.label = some jc.uid ∧ j.isQueued = true) :
    Inv (passLoopObs jc rjs s ac).1.1 ∧ ∀ o ∈ (passLoopObs jc rjs s ac).2, ObsOK o := by
  induction rjs generalizing s ac with
  | nil => exact ⟨h, by simp [passLoopObs]⟩
  | cons j rest ih =>
    obtain ⟨hjc, hjl, hjq⟩ := hrjs j (by simp)
    have hrest : ∀ s' : Sys, s'.jobCache = s.jobCache →
        ∀ x ∈ rest, x ∈ s'.jobCache ∧ x.label = some jc.uid ∧ x.isQueued = true :=
      fun s' hs' x hx => hs' ▸ hrjs x (by simp [hx])
    simp only [passLoopObs]
    rcases canStartJob_cases s jc j ac with ⟨hsv, heq⟩ | ⟨_, _, heq⟩ | ⟨_, _, _, _, heq⟩ |
        ⟨_, _, _, _, heq⟩ <;> rw [heq]
    · simp only
      have hinv2 := Inv_startJob h (jc := jc) ac hjc hjq hjl
      have hcache2 := startJob_cache s jc j ac
      -- the observation, if any, is within the limit: the CAS succeeded, so the counter argument
      -- is the counter, which bounds the true number of active Jobs
      have hobs : ∀ o ∈ (if (startJob s jc j ac).1.rv ≠ s.rv
          then [(⟨j, jc.uid, trueActive s jc.uid, jc.maxConc⟩ : StartObs)] else []), ObsOK o := by
        intro o ho
        split at ho
        · rename_i hrvne
          simp only [List.mem_singleton] at ho; subst ho
          refine ⟨hjl, fun hp hpol => ?_⟩
          have hcas : getCtr s.counter jc.uid = ac := by
            rcases startJob_cases s jc j ac with ⟨_, heq⟩ | ⟨hcas, _⟩ | ⟨hcas, _⟩
            · rw [heq] at hrvne; exact absurd rfl hrvne
            · exact hcas
            · exact hcas
          have hup := h.counter_upper jc.uid
          have hnl : ¬ overLimit jc ac := fun hl => hsv.2 ⟨hp, hpol, hl⟩
          simp only [trueActive_eq]
          unfold overLimit at hnl
          omega
        · simp at ho
      rcases hs : startJob s jc j ac with ⟨s2, ok⟩
      rw [hs] at hinv2 hcache2 hobs
      cases ok with
      | false => exact ⟨hinv2, hobs⟩
      | true =>
        obtain ⟨hi, ho⟩ := ih s2 (getCtr s2.counter jc.uid) hinv2 (hrest s2 hcache2)
        exact ⟨hi, fun o hmem => (List.mem_append.mp hmem).elim (hobs o) (ho o)⟩
    · exact ih _ ac (Inv_congr h rfl h.ind) (hrest _ rfl)
    · have hinv1 := Inv_reject h (rejMsg jc ac) hjc hjq
      cases hb : (rejectJobWrite s j (rejMsg jc ac)).2
      · exact ⟨hinv1, by simp⟩
      · exact ih _ ac hinv1 (hrest _ (rejectJobWrite_cache s j _))
    · exact ih s ac h (hrest s rfl)


theorem listQueued_mem_props {cache : List JobV} {jc : JCV} {j : JobV}
    (h : j ∈ listQueued cache jc) :
    j ∈ cache ∧ j.label = some jc.uid ∧ j.isQueued = true := mem_listQueued.mp h

theorem syncConfigObs_inv (s : Sys) (name : String) (h : Inv s) :
    Inv (syncConfigObs s name).1.1 ∧ ∀ o ∈ (syncConfigObs s name).2, ObsOK o := by
  unfold syncConfigObs
  cases findJC s.jcCache name with
  | none => exact ⟨h, by simp⟩
  | some jc =>
    simp only
    split
    · exact ⟨h, by simp⟩
    · exact passLoopObs_inv jc _ s _ h (fun j hj => listQueued_mem_props hj)

theorem workConfigObs_inv (s : Sys) (h : Inv s) :
    Inv (workConfigObs s).1.1 ∧ ∀ o ∈ (workConfigObs s).2, ObsOK o := by
  unfold workConfigObs
  simp only
  have h0 : Inv { s with cfgQ := s.cfgQ.advance s.clock, calls := [] } :=
    Inv_congr h rfl h.ind
  cases (s.cfgQ.advance s.clock).get with
  | none => exact ⟨h0, by simp⟩
  | some p =>
    obtain ⟨k, q1⟩ := p
    simp only
    have h1 : Inv { s with cfgQ := q1, calls := [] } :=
      Inv_congr h rfl h.ind
    obtain ⟨h2, hobs⟩ := syncConfigObs_inv { s with cfgQ := q1, calls := [] } (keyName k) h1
    refine ⟨?_, hobs⟩
    exact Inv_congr h2 rfl h2.ind

theorem Inv_workConfig {s : Sys} (h : Inv s) : Inv (workConfig s).1 := by
  rw [← workConfigObs_fst]; exact (workConfigObs_inv s h).1

theorem Inv_indPre {s : Sys} (h : Inv s) {k : String} {q1 : WQ}
    (hg : (s.indQ.advance s.clock).get = some (k, q1)) :
    Inv (indPre s q1) ∧ k ∈ q1.processing ∧ k ∈ s.indQ.keys := by
  obtain ⟨hkq, hsub⟩ := mem_keys_get hg
  obtain ⟨rest, _, hq1⟩ := get_some hg
  refine ⟨?_, by rw [hq1]; simp, mem_keys_advance hkq⟩
  exact Inv_congr h rfl (h.ind_of_sub (fun k' hk' => mem_keys_advance (hsub k' hk')))

theorem Inv_indPost {s1 : Sys} (h : Inv s1) {k : String} (hp : k ∈ s1.indQ.processing)
    (ok : Bool) : Inv (indPost s1 k ok) := by
  have hk : k ∈ s1.indQ.keys := by simp [mem_keys, hp]
  refine Inv_congr h rfl (h.ind_of_sub fun k' hk' => ?_)
  rcases mem_keys_done hk' with hk' | rfl
  · cases ok
    · exact (mem_keys_addRateLimited hk').elim id (· ▸ hk)
    · exact hk'
  · exact hk

/-- A step of the independent worker from a state satisfying the invariant.  Either no Job is
written and no call is logged "ok"; or the cached Job `j` named by the key, queued and due, is
started: it is unlabelled (`Inv.ind`) and is the authoritative version (`Inv.cached_eq_cur`). -/
theorem Inv.workIndependent_step {s : Sys} (h : Inv s) :
    Inv (workIndependent s).1 ∧
    (((workIndependent s).1.jobs = s.jobs ∧ ∀ c ∈ (workIndependent s).1.calls, c.res ≠ "ok") ∨
     ∃ j, j ∈ s.jobCache ∧ j.isQueued = true ∧ due j s.clock ∧ j.label = none ∧
       findJob s.jobs j.name = some j ∧
       (workIndependent s).1.jobs = setJob s.jobs (startedJob s j j) ∧
       (workIndependent s).1.calls = [⟨"start", j.name, "ok"⟩]) := by
  rcases workIndependent_cases s with ⟨_, hw⟩ | ⟨k, q1, hg, hstep⟩
  · rw [hw]
    exact ⟨Inv_congr h rfl (h.ind_of_sub (fun k hk => mem_keys_advance hk)), .inl ⟨rfl, by simp⟩⟩
  obtain ⟨h1, hk1, hk⟩ := Inv_indPre h hg
  rcases hstep with ⟨_, hw⟩ | ⟨j, hj, _, _, _, hw⟩ |
      ⟨j, hj, hq, hd, ⟨res, hres, _, hw⟩ | ⟨cur, hcur, hrv, _, hw⟩⟩ <;> rw [hw]
  · exact ⟨Inv_indPost h1 hk1 true, .inl ⟨rfl, by simp [indPost, indPre]⟩⟩
  · refine ⟨Inv_indPost (s1 := indLater s q1 k j) ?_ hk1 true,
      .inl ⟨rfl, by simp [indPost, indLater, indPre]⟩⟩
    refine Inv_congr h1 rfl ?_
    intro k' hk' x hx hxn
    rcases mem_keys_addAfter hk' with hk' | rfl
    · exact h1.ind k' hk' x hx hxn
    · rw [keyName_ns] at hxn; exact h1.ind k (by simp [mem_keys, indPre, hk1]) x hx hxn
  · refine ⟨Inv_indPost (Inv_failWrite h1 "start" j.name res _ (fun _ => rfl)) hk1 false,
      .inl ⟨rfl, ?_⟩⟩
    simpa [indPost, failWrite, indPre] using hres
  · have hjc : j ∈ s.jobCache := findJob_some_mem hj
    have hlab : j.label = none := h.ind k hk j (Ver.cache hjc) (findJob_some_name hj)
    obtain ⟨rfl, h2⟩ := Inv_applyStart h1 hjc hq hcur hrv s.counter (fun uid => by simp [hlab, indPre])
    exact ⟨Inv_indPost h2 hk1 _, .inr ⟨cur, hjc, hq, hd, hlab, hcur, rfl, rfl⟩⟩

theorem Inv_workIndependent {s : Sys} (h : Inv s) : Inv (workIndependent s).1 :=
  h.workIndependent_step.1

theorem Inv_step {s : Sys} (h : Inv s) {a : Act} (ha : Allowed s a) : Inv (step s a) := by
  cases a with
  | addJC jc => exact Inv_addJC h jc
  | addJob j => exact Inv_addJob h ha
  | finishJob n | markRejected n => exact Inv_finish h n
  | removeJob n => exact Inv_removeJob h n
  | editStartAfter n t => exact Inv_editStartAfter h n t
  | setMaxConc n m => exact Inv_setMaxConc h n m
  | tick d => exact Inv_tick h d
  | deliverJob => exact Inv_deliverJob h
  | deliverJC => exact Inv_deliverJC h
  | notifyStore => exact Inv_notifyStore h
  | notifyCtrl => exact Inv_notifyCtrl h
  | resync => exact Inv_resync h
  | fault f => exact Inv_fault h ha
  | workConfig => exact Inv_workConfig h
  | workIndependent => exact Inv_workIndependent h
  | restart => exact Inv_restart h.apiOK

theorem Reachable.inv {s : Sys} (h : Reachable s) : Inv s := by
  induction h with
  | boot s hs => exact Inv_restart hs
  | step s a _ ha ih => exact Inv_step ih ha

theorem reachable_init : Reachable ({} : Sys) := by
  have h : ApiOK ({} : Sys) := ⟨by simp [names], by simp, by simp⟩
  have := Reachable.boot _ h
  exact this

end Furiko.Queue
