/-
Forward walk through `Reconciler.sync` for C09 (`created_stays_listed`, repair of F31): a `sync` that
returns without error has RECORDED every pod it created — every pod name that is on the server after
`sync` was there before, or is listed in the status of the Job `sync` returns.  (The converse direction —
where the recorded names come from — is `JobCtlInvNames`.)  Together with the write sequence of
`SyncOne` after the repair (`syncOne_writes`, below: a pass whose two writes are not hit by a fault and
that works on an up-to-date cached Job persists the metadata AND the status it computed) this gives the
pass-level form of "every task the Job ever created stays listed".  Core Lean only.
-/
import FurikoModel.Proofs.JobCtlPlanSync
import FurikoModel.Proofs.JobCtlInvWalk

namespace Furiko.JobCtl
open Furiko Furiko.WQ Furiko.JobCtlPlan Furiko.StatusLemmas

/-- every pod name of `s'` was a pod name of `s` or is in `N` -/
def NamesFrom (s s' : Sys) (N : List String) : Prop :=
  ∀ n ∈ podNames s'.pods, n ∈ podNames s.pods ∨ n ∈ N

theorem NamesFrom.refl (s : Sys) (N : List String) : NamesFrom s s N := fun _ h => Or.inl h

theorem NamesFrom.trans {a b c : Sys} {N M : List String} (h1 : NamesFrom a b N) (h2 : NamesFrom b c M)
    (hsub : ∀ n ∈ N, n ∈ M) : NamesFrom a c M := by
  intro n hn
  rcases h2 n hn with h | h
  · rcases h1 n h with h' | h'
    · exact Or.inl h'
    · exact Or.inr (hsub n h')
  · exact Or.inr h

theorem namesFrom_of_deletes {s s' : Sys} {l : List Call} (he : Ext s s' l) (hd : ∀ c ∈ l, c.verb = "delete")
    (N : List String) : NamesFrom s s' N := by
  intro n hn
  obtain ⟨p, hp, rfl⟩ := List.mem_map.mp hn
  rcases he.pods p hp with ⟨p0, hp0, hn0⟩ | ⟨c, hc, hv, _⟩
  · exact Or.inl (List.mem_map.mpr ⟨p0, hp0, hn0⟩)
  · rw [hd c hc] at hv; exact absurd hv (by decide)

/-- the names under which a task list is recorded -/
def taskRefNames (tasks : List Task) : List String := tasks.map (·.ref.name)

/-- the creation step: every pod it created is in the task list it hands on (each create call answered
`ok` appended the task of its pod) -/
theorem syncCreateTasks_listed (s : Sys) (jo : JobObj) (rj : Job) (tasks : List Task) (s1 : Sys) (rj1 : Job)
    (tasks1 : List Task) (h : syncCreateTasks s jo rj tasks = (s1, some (rj1, tasks1))) :
    NamesFrom s s1 (taskRefNames tasks1) := by
  obtain ⟨l, e, _, _, _, hres⟩ := syncCreateTasks_ext s jo rj tasks
  rw [h] at e hres
  obtain ⟨_, hlist, _⟩ := hres rj1 tasks1 rfl
  intro n hn
  obtain ⟨p, hp, rfl⟩ := List.mem_map.mp hn
  rcases e.pods p hp with ⟨p0, hp0, hn0⟩ | ⟨c, hc, _, _, ho, hcn⟩
  · exact Or.inl (List.mem_map.mpr ⟨p0, hp0, hn0⟩)
  · obtain ⟨t, ht, q, hq, hqn⟩ := hlist c hc ho
    have hok := podTask_ok hq
    exact Or.inr (List.mem_map.mpr ⟨t, ht, by rw [hok.1, hok.2, hqn, hcn]⟩)

theorem updateTaskRefStatus_lists (s : Sys) (key : String) (rj : Job) (tasks : List Task) :
    ∀ n ∈ taskRefNames tasks, n ∈ refNames (updateTaskRefStatus s key rj tasks).2 := by
  intro n hn
  obtain ⟨t, ht, rfl⟩ := List.mem_map.mp hn
  unfold refNames
  rw [updateTaskRefStatus_tasks]
  have hm := (Furiko.Props.C11.generateTaskRefs_members s.clock rj.status.tasks tasks).2.1 t ht
  have := List.mem_map_of_mem (f := (·.name)) hm
  simp only [getTaskRef_name] at this
  exact this

/-- **`syncJobTasks` records what it creates**: if it returns without error, every pod name on the server
afterwards was there before or is listed in the status of the Job it returns -/
theorem syncJobTasks_listed (s : Sys) (jo : JobObj) (rj rjOut : Job) (h : (syncJobTasks s jo rj).2 = some rjOut) :
    NamesFrom s (syncJobTasks s jo rj).1 (refNames rjOut) := by
  obtain ⟨s1, rj1, tasks1, s2, rj2, s3, rj3, s4, rj4, s5, rj5, hc, hu, hp, hk, hf, heq, _⟩ :=
    syncJobTasks_success s jo rj rjOut h
  rw [heq] at h ⊢
  simp only [Option.some.injEq] at h
  subst h
  have n1 := syncCreateTasks_listed s jo rj (tasks0 s jo rj) s1 rj1 tasks1 hc
  have p2 : s2.pods = s1.pods := by
    have := (updateTaskRefStatus_ext s1 (jobKey jo) rj1 tasks1).2.2; rw [hu] at this; exact this
  obtain ⟨lp, ep, hdp, _⟩ := handlePendingTasks_ext s2 jo rj2 tasks1
  rw [hp] at ep
  obtain ⟨lk, ek, _, hdk, _⟩ := handleKillJob_ext s3 jo rj3 tasks1
  rw [hk] at ek
  obtain ⟨lf, ef, hdf, _⟩ := handleForceDelete_ext s4 jo rj4 tasks1
  rw [hf] at ef
  have p6 : (updateTaskRefStatus s5 (jobKey jo) rj5 tasks1).1.pods = s5.pods :=
    (updateTaskRefStatus_ext s5 (jobKey jo) rj5 tasks1).2.2
  have n25 : NamesFrom s2 s5 (taskRefNames tasks1) :=
    ((namesFrom_of_deletes ep (fun c hc => (hdp c hc).1) _).trans
      (namesFrom_of_deletes ek (fun c hc => (hdk c hc).1) _) (fun _ h => h)).trans
      (namesFrom_of_deletes ef (fun c hc => (hdf c hc).1) _) (fun _ h => h)
  intro n hn
  simp only at hn
  rw [p6] at hn
  rcases n25 n hn with h' | h'
  · rw [p2] at h'
    rcases n1 n h' with h'' | h''
    · exact Or.inl h''
    · exact Or.inr (updateTaskRefStatus_lists s5 (jobKey jo) rj5 tasks1 n h'')
  · exact Or.inr (updateTaskRefStatus_lists s5 (jobKey jo) rj5 tasks1 n h')

/-- **`sync` records what it creates**: if `Reconciler.sync` returns without error, every pod name on the
server afterwards was there before or is listed in the status of the Job it returns (the one `SyncOne`
then writes) -/
theorem sync_lists_created (s : Sys) (jo : JobObj) (hok : (sync s jo).2.2.2.1 = true) :
    NamesFrom s (sync s jo).1 (refNames (sync s jo).2.1) := by
  rw [sync_eq] at hok ⊢
  have hst : (syncTasksStage s jo).2 = none ∨ ∃ rj1, (syncTasksStage s jo).2 = some rj1 := by
    cases (syncTasksStage s jo).2 with
    | none => exact Or.inl rfl
    | some x => exact Or.inr ⟨x, rfl⟩
  rcases hst with hnone | ⟨rj1, hsome⟩
  · rw [hnone] at hok; simp at hok
  · have n1 : NamesFrom s (syncTasksStage s jo).1 (refNames rj1) := by
      unfold syncTasksStage at hsome ⊢
      split at hsome
      · rename_i hc; rw [if_pos hc]; exact syncJobTasks_listed s jo jo.job rj1 hsome
      · rename_i hc; rw [if_neg hc]; exact NamesFrom.refl _ _
    rw [hsome] at hok ⊢
    simp only at hok ⊢
    obtain ⟨_, _, htasks, hpods⟩ := syncJobStatus_ext (syncTasksStage s jo).1 (jobKey jo) rj1
    generalize hu : syncJobStatusFromTaskRefs (syncTasksStage s jo).1 (jobKey jo) rj1 = u at hok htasks hpods ⊢
    obtain ⟨s2, rj2⟩ := u
    simp only at hok htasks hpods ⊢
    have hnames2 : refNames rj2 = refNames rj1 := by unfold refNames; rw [htasks]
    obtain ⟨lt, et, _, hpt, _⟩ := handleTTL_ext s2 jo rj2
    generalize hr : handleTTL s2 jo rj2 = r at hok et hpt ⊢
    obtain ⟨s3, b⟩ := r
    cases b with
    | false => simp at hok
    | true =>
      simp only at hok hpt ⊢
      obtain ⟨lf, ef, hdf, _⟩ := handleFinalizer_ext s3 jo rj2 jo.finalizer
      have hle := (handleFinalizer_spec s3 jo s3 rj2 jo.finalizer).2
      generalize hfz : handleFinalizer s3 jo rj2 jo.finalizer = f at hok ef hle ⊢
      obtain ⟨s4, o4⟩ := f
      cases o4 with
      | none => simp at hok
      | some pr =>
        obtain ⟨rj3, fin⟩ := pr
        simp only at ef ⊢
        have hn3 : ∀ n ∈ refNames rj1, n ∈ refNames rj3 := by
          intro n hn; rw [← hnames2] at hn; exact (hle rj3 fin rfl).names n hn
        have n34 : NamesFrom s3 s4 (refNames rj3) := namesFrom_of_deletes ef (fun c hc => (hdf c hc).1) _
        intro n hn
        rcases n34 n hn with h' | h'
        · rw [hpt, hpods] at h'
          rcases n1 n h' with h'' | h''
          · exact Or.inl h''
          · exact Or.inr (hn3 n h'')
        · exact Or.inr h'

/-! ### the two writes of `SyncOne` when no fault hits them (repair of F31) -/

theorem nextFault_nofault (s : Sys) (hf : s.faults = []) :
    nextFault s = ("", { s with delRun := none }) := by
  obtain ⟨clock, rv, cfg, d, job, pods, jobEvs, podEvs, jobCache, podCache, q, faults, delRun, calls⟩ := s
  simp only at hf
  subst hf
  rfl

/-- a Job `Update` that no fault hits, submitted with the resourceVersion of the stored object `cur`: it
returns without error, and the stored object is then `cur` with the written metadata (possibly unchanged:
no-op) — or gone, when the write dropped the finalizer of a Job being deleted -/
theorem apiUpdateJob_nofault (s : Sys) (cached new cur : JobObj) (hf : s.faults = []) (hj : s.job = some cur)
    (hrv : cur.rv = cached.rv) :
    (apiUpdateJob s cached new).2 = true ∧ (apiUpdateJob s cached new).1.faults = [] ∧
    (((apiUpdateJob s cached new).1.job = none ∧ cur.job.deletionTimestamp.isSome = true ∧ new.finalizer = false) ∨
     ∃ r, (apiUpdateJob s cached new).1.job = some (specWrite cur new r)) := by
  unfold apiUpdateJob
  rw [nextFault_nofault s hf]
  simp only [isFailFault, hj, hrv, ne_eq, not_true_eq_false, if_false, log]
  have hdec : ((decide ("" = "err") || decide ("" = "timeout") || decide ("" = "conflict")) = true) = False := by
    simp
  simp only [hdec, if_false]
  split
  · rename_i hnoop
    refine ⟨by simp, hf, Or.inr ⟨cur.rv, ?_⟩⟩
    show some cur = some (specWrite cur new cur.rv)
    rw [← hnoop]; rfl
  · split
    · rename_i hgone
      simp only [Bool.and_eq_true, Bool.not_eq_true'] at hgone
      exact ⟨by simp, hf, Or.inl ⟨rfl, hgone.1, hgone.2⟩⟩
    · exact ⟨by simp, hf, Or.inr ⟨s.rv + 1, rfl⟩⟩

/-- a Job `UpdateStatus` that no fault hits, submitted with the resourceVersion of the stored object `cur`:
it returns without error and the stored object is then `cur` with the written status -/
theorem apiUpdateJobStatus_nofault_cur (s : Sys) (cached new cur : JobObj) (hf : s.faults = [])
    (hj : s.job = some cur) (hrv : cur.rv = cached.rv) :
    (apiUpdateJobStatus s cached new).2 = true ∧
    ∃ r, (apiUpdateJobStatus s cached new).1.job = some (statusWrite cur new r) := by
  unfold apiUpdateJobStatus
  rw [nextFault_nofault s hf]
  simp only [isFailFault, hj, hrv, ne_eq, not_true_eq_false, if_false, log]
  have hdec : ((decide ("" = "err") || decide ("" = "timeout") || decide ("" = "conflict")) = true) = False := by
    simp
  simp only [hdec, if_false]
  split
  · rename_i hnoop
    refine ⟨by simp, cur.rv, ?_⟩
    show some cur = some (statusWrite cur new cur.rv)
    rw [← hnoop]; rfl
  · exact ⟨by simp, s.rv + 1, rfl⟩

/-- **the write sequence of `SyncOne` after the repair of F31** (`ExecutionControl.UpdateJobAndStatus`):
a pass whose two writes are not hit by a fault, and whose cached Job is the stored one when it comes to
write, returns what `sync` returned and PERSISTS WHAT `sync` COMPUTED — the metadata (admission-error
annotation, finalizer) AND the status, also when both have changed: the status write is submitted on top
of the object `Update` returned, so it cannot conflict with the pass's own `Update`.  (Before the repair
the status write of such a pass was refused as a Conflict.)  The one exception is the pass that drops the
finalizer of a Job being deleted: the object is gone, there is no status left to write. -/
theorem syncOne_writes (sp : Sys) (jo : JobObj) (hc : sp.jobCache = some jo)
    (hnf : (sync sp jo).1.faults = []) (hcur : (sync sp jo).1.job = some jo) :
    ((syncOne sp).1.job = none ∧ jo.job.deletionTimestamp.isSome = true ∧ (sync sp jo).2.2.1 = false) ∨
    ((syncOne sp).2 = (sync sp jo).2.2.2.1 ∧
     ∃ j', (syncOne sp).1.job = some j' ∧ j'.job.status = (sync sp jo).2.1.status ∧
      j'.job.admissionError = (sync sp jo).2.1.admissionError ∧ j'.finalizer = (sync sp jo).2.2.1) := by
  unfold syncOne
  simp only [hc]
  generalize sync sp jo = r at hnf hcur ⊢
  obtain ⟨s1, newJob, newFin, syncOk, nullTime⟩ := r
  simp only at hnf hcur ⊢
  by_cases hsd : (newJob.admissionError ≠ jo.job.admissionError || newFin ≠ jo.finalizer) = true
  · -- metadata differ
    simp only [hsd, ↓reduceIte, statusBase]
    obtain ⟨hok1, hf2, hjob2⟩ := apiUpdateJob_nofault s1 jo { jo with job := newJob, finalizer := newFin } jo hnf hcur rfl
    generalize apiUpdateJob s1 jo { jo with job := newJob, finalizer := newFin } = w1 at hok1 hf2 hjob2 ⊢
    obtain ⟨s2, ok1⟩ := w1
    simp only at hok1 hf2 hjob2 ⊢
    subst hok1
    simp only [Bool.not_true, Bool.false_eq_true, ↓reduceIte]
    rcases hjob2 with ⟨hgone, hdel, hfin⟩ | ⟨r0, hj2⟩
    · -- the object is gone: whatever follows, it stays gone
      left
      refine ⟨?_, hdel, hfin⟩
      have hst : ∀ (c n : JobObj), (apiUpdateJobStatus s2 c n).1.job = none := by
        intro c n
        rcases apiUpdateJobStatus_spec s2 c n with h | ⟨cur, hcur', _, _⟩
        · rw [h.job]; exact hgone
        · rw [hgone] at hcur'; cases hcur'
      split
      · generalize hw : apiUpdateJobStatus s2 { jo with rv := updatedRv s2 jo } { jo with job := newJob } = w2
        have := hst { jo with rv := updatedRv s2 jo } { jo with job := newJob }
        rw [hw] at this
        obtain ⟨s3, ok2⟩ := w2
        cases ok2 <;> exact this
      · exact hgone
    · right
      have hurv : updatedRv s2 jo = r0 := by unfold updatedRv; rw [hj2]; rfl
      by_cases hd : (decide (newJob.status ≠ jo.job.status) || nullTime) = true
      · simp only [hd, ↓reduceIte]
        obtain ⟨hok2, r1, hj3⟩ := apiUpdateJobStatus_nofault_cur s2 { jo with rv := updatedRv s2 jo }
          { jo with job := newJob } _ hf2 hj2 (by rw [hurv]; rfl)
        generalize apiUpdateJobStatus s2 { jo with rv := updatedRv s2 jo } { jo with job := newJob } = w2 at hok2 hj3 ⊢
        obtain ⟨s3, ok2⟩ := w2
        simp only at hok2 hj3 ⊢
        subst hok2
        simp only [Bool.not_true, Bool.false_eq_true, ↓reduceIte]
        exact ⟨trivial, _, hj3, rfl, rfl, rfl⟩
      · simp only [hd, Bool.false_eq_true, ↓reduceIte, Bool.not_true]
        obtain ⟨hst, _⟩ : newJob.status = jo.job.status ∧ nullTime = false := by simpa using hd
        exact ⟨trivial, _, hj2, hst.symm, rfl, rfl⟩
  · -- nothing to `Update`
    right
    have hadm : newJob.admissionError = jo.job.admissionError ∧ newFin = jo.finalizer := by simpa using hsd
    simp only [hsd, Bool.false_eq_true, ↓reduceIte, statusBase, Bool.not_true]
    by_cases hd : (decide (newJob.status ≠ jo.job.status) || nullTime) = true
    · simp only [hd, ↓reduceIte]
      obtain ⟨hok2, r1, hj3⟩ := apiUpdateJobStatus_nofault_cur s1 jo { jo with job := newJob } jo hnf hcur rfl
      generalize apiUpdateJobStatus s1 jo { jo with job := newJob } = w2 at hok2 hj3 ⊢
      obtain ⟨s3, ok2⟩ := w2
      simp only at hok2 hj3 ⊢
      subst hok2
      simp only [Bool.not_true, Bool.false_eq_true, ↓reduceIte]
      exact ⟨trivial, _, hj3, rfl, hadm.1.symm, hadm.2.symm⟩
    · simp only [hd, Bool.false_eq_true, ↓reduceIte, Bool.not_true]
      obtain ⟨hst, _⟩ : newJob.status = jo.job.status ∧ nullTime = false := by simpa using hd
      exact ⟨trivial, _, hcur, hst.symm, hadm.1.symm, hadm.2.symm⟩


end Furiko.JobCtl
