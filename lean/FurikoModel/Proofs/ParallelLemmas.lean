/- Helper lemmas about `Model/ParallelStatus.lean`. Core Lean only. -/
import FurikoModel.Model.ParallelStatus
namespace Furiko.ParallelLemmas
open Furiko

theorem hashesIdxFrom_not_mem (h : String) : ∀ (l : List PIndex) (pos acc : Nat),
    h ∉ l.map (·.hash) → hashesIdxFrom h l pos acc = acc
  | [], _, _, _ => rfl
  | i :: rest, pos, acc, hn => by
    simp only [List.map_cons, List.mem_cons, not_or] at hn
    have hne : (i.hash == h) = false := by
      simp only [beq_eq_false_iff_ne, ne_eq]
      exact fun e => hn.1 e.symm
    simp only [hashesIdxFrom, hne]
    exact hashesIdxFrom_not_mem h rest (pos + 1) acc hn.2

theorem hashesIdxFrom_last (h : String) (i : PIndex) (l2 : List PIndex) (hi : i.hash = h)
    (hn : h ∉ l2.map (·.hash)) : ∀ (l1 : List PIndex) (pos acc : Nat),
    hashesIdxFrom h (l1 ++ i :: l2) pos acc = pos + l1.length
  | [], pos, acc => by
    simp only [List.nil_append, hashesIdxFrom, hi, beq_self_eq_true, if_true, List.length_nil, Nat.add_zero]
    exact hashesIdxFrom_not_mem h l2 (pos + 1) pos hn
  | a :: l1, pos, acc => by
    simp only [List.cons_append, hashesIdxFrom, List.length_cons]
    rw [hashesIdxFrom_last h i l2 hi hn l1 (pos + 1)]
    omega

/-- hashes of the index list pairwise distinct (DESIGN §6/C08 `NoCollision`, cf. C14) -/
def NoCollision (indexes : List PIndex) : Prop := (indexes.map (·.hash)).Nodup

instance (indexes : List PIndex) : Decidable (NoCollision indexes) := by
  unfold NoCollision; infer_instance

theorem hashesIdx_getElem (indexes : List PIndex) (hnc : NoCollision indexes) (k : Nat) (hk : k < indexes.length) :
    hashesIdx indexes indexes[k].hash = k := by
  have hsplit : indexes = indexes.take k ++ indexes[k] :: indexes.drop (k + 1) := by
    rw [List.getElem_cons_drop hk, List.take_append_drop]
  have hn : indexes[k].hash ∉ (indexes.drop (k + 1)).map (·.hash) := by
    unfold NoCollision at hnc
    rw [hsplit, List.map_append, List.map_cons, List.nodup_append] at hnc
    exact (List.nodup_cons.mp hnc.2.1).1
  unfold hashesIdx
  have := hashesIdxFrom_last indexes[k].hash indexes[k] (indexes.drop (k + 1)) rfl hn (indexes.take k) 0 0
  rw [← hsplit] at this
  rw [this, List.length_take]
  omega

theorem getElem_hash_inj (indexes : List PIndex) (hnc : NoCollision indexes) (k q : Nat)
    (hk : k < indexes.length) (hq : q < indexes.length) (he : indexes[k].hash = indexes[q].hash) : k = q := by
  have h1 := hashesIdx_getElem indexes hnc k hk
  have h2 := hashesIdx_getElem indexes hnc q hq
  rw [he] at h1
  omega

/-- the request `ComputeMissingIndexesForCreation` builds for index `i` -/
def mkReq (d : PIndex) (job : Job) (i : PIndex) : CreationRequest :=
  { index := i, retryIndex := nextRetryIndex d job.status.tasks i.hash,
    earliest := latestFinishTime d job.status.tasks i.hash + job.retryDelay }

theorem mem_missingFrom (d : PIndex) (job : Job) (indexes : List PIndex) :
    ∀ (rest : List PIndex) (p : Nat) (r : CreationRequest),
      r ∈ missingFrom d job indexes rest p ↔
        ∃ k, ∃ hk : k < rest.length,
          foundAt d indexes job.status.tasks (p + k) = false ∧
          nextRetryIndex d job.status.tasks rest[k].hash < job.maxAttempts ∧
          r = mkReq d job rest[k]
  | [], p, r => by simp [missingFrom]
  | i :: rest, p, r => by
    have ih := mem_missingFrom d job indexes rest (p + 1) r
    constructor
    · intro h
      unfold missingFrom at h
      simp only at h
      split at h
      · obtain ⟨k, hk, h1, h2, h3⟩ := ih.mp h
        exact ⟨k + 1, by simp; omega, by rw [← h1]; congr 1; omega, by simpa using h2, by simpa using h3⟩
      · split at h
        · obtain ⟨k, hk, h1, h2, h3⟩ := ih.mp h
          exact ⟨k + 1, by simp; omega, by rw [← h1]; congr 1; omega, by simpa using h2, by simpa using h3⟩
        · rename_i hf hm
          rcases List.mem_cons.mp h with h | h
          · exact ⟨0, by simp, by simpa using hf, by simp only [List.getElem_cons_zero]; omega, by simpa [mkReq] using h⟩
          · obtain ⟨k, hk, h1, h2, h3⟩ := ih.mp h
            exact ⟨k + 1, by simp; omega, by rw [← h1]; congr 1; omega, by simpa using h2, by simpa using h3⟩
    · rintro ⟨k, hk, h1, h2, h3⟩
      unfold missingFrom
      simp only
      cases k with
      | zero =>
        simp only [Nat.add_zero] at h1
        simp only [List.getElem_cons_zero] at h2 h3
        rw [if_neg (by simp [h1]), if_neg (by omega)]
        exact List.mem_cons.mpr (Or.inl (by simpa [mkReq] using h3))
      | succ k =>
        have hk' : k < rest.length := by simpa using hk
        have hin : r ∈ missingFrom d job indexes rest (p + 1) :=
          ih.mpr ⟨k, hk', by rw [← h1]; congr 1; omega, by simpa using h2, by simpa using h3⟩
        split
        · exact hin
        · split
          · exact hin
          · exact List.mem_cons_of_mem _ hin

/-- `max(acc, x+1)` fold of `nextRetryIndex` on plain integers -/
def maxSucc (l : List Int) : Int := l.foldl (fun acc x => if acc < x + 1 then x + 1 else acc) 0

theorem foldl_dominates {α : Type} (step : Int → α → Int) (bound : α → Int → Prop)
    (hacc : ∀ a x, a ≤ step a x) (hb : ∀ a x b, bound x b → b ≤ step a x) :
    ∀ (l : List α) (a : Int), a ≤ l.foldl step a ∧ ∀ x ∈ l, ∀ b, bound x b → b ≤ l.foldl step a
  | [], a => ⟨Int.le_refl a, fun _ h => nomatch h⟩
  | y :: ys, a => by
    obtain ⟨h1, h2⟩ := foldl_dominates step bound hacc hb ys (step a y)
    refine ⟨Int.le_trans (hacc a y) h1, fun x hx b hxb => ?_⟩
    rcases List.mem_cons.mp hx with rfl | hx
    · exact Int.le_trans (hb a x b hxb) h1
    · exact h2 x hx b hxb

theorem foldl_maxSucc_ge (l : List Int) : ∀ (a : Int),
    a ≤ l.foldl (fun acc x => if acc < x + 1 then x + 1 else acc) a ∧
    (∀ x ∈ l, x + 1 ≤ l.foldl (fun acc x => if acc < x + 1 then x + 1 else acc) a) := by
  intro a
  obtain ⟨h1, h2⟩ := foldl_dominates (fun acc x => if acc < x + 1 then x + 1 else acc) (fun x b => b = x + 1)
    (fun a x => by split <;> omega) (fun a x b h => by subst h; split <;> omega) l a
  exact ⟨h1, fun x hx => h2 x hx _ rfl⟩

theorem foldl_maxSucc_attained (l : List Int) : ∀ (a : Int),
    l.foldl (fun acc x => if acc < x + 1 then x + 1 else acc) a = a ∨
    ∃ x ∈ l, l.foldl (fun acc x => if acc < x + 1 then x + 1 else acc) a = x + 1 := by
  induction l with
  | nil => intro a; simp
  | cons y ys ih =>
    intro a
    simp only [List.foldl_cons, List.mem_cons]
    rcases ih (if a < y + 1 then y + 1 else a) with h | ⟨x, hx, h⟩
    · by_cases hc : a < y + 1
      · right; exact ⟨y, Or.inl rfl, by rw [h, if_pos hc]⟩
      · left; rw [h, if_neg hc]
    · right; exact ⟨x, Or.inr hx, h⟩

theorem nextRetryIndex_eq_maxSucc (d : PIndex) (tasks : List TaskRef) (h : String) :
    nextRetryIndex d tasks h = maxSucc ((tasksOfHash d tasks h).map (·.retryIndex)) := by
  unfold nextRetryIndex maxSucc
  rw [List.foldl_map]
  rfl

/-- pigeonhole: a duplicate-free list of naturals below `n` has at most `n` elements -/
theorem nodup_lt_length_le : ∀ (n : Nat) (l : List Nat), l.Nodup → (∀ x ∈ l, x < n) → l.length ≤ n := by
  intro n
  induction n with
  | zero =>
    intro l _ h
    cases l with
    | nil => simp
    | cons a _ => exact absurd (h a (List.mem_cons_self ..)) (Nat.not_lt_zero _)
  | succ n ih =>
    intro l hnd h
    have h1 : (l.erase n).length ≤ n := by
      apply ih _ (hnd.erase n)
      intro x hx
      have := (hnd.mem_erase_iff).mp hx
      have := h x this.2
      omega
    by_cases hm : n ∈ l
    · rw [List.length_erase_of_mem hm] at h1; omega
    · rw [List.erase_of_not_mem hm] at h1; omega

theorem maxSucc_eq_length (l : List Int) (hnd : l.Nodup) (hr : ∀ x ∈ l, 0 ≤ x ∧ x < l.length) :
    maxSucc l = l.length := by
  have hge := foldl_maxSucc_ge l 0
  have hat := foldl_maxSucc_attained l 0
  -- upper bound from attainment
  have hub : maxSucc l ≤ l.length := by
    unfold maxSucc
    rcases hat with h | ⟨x, hx, h⟩
    · rw [h]; omega
    · rw [h]; have := (hr x hx).2; omega
  -- lower bound from pigeonhole on the naturals `x.toNat`
  have hlb : (l.length : Int) ≤ maxSucc l := by
    have hnd' : (l.map Int.toNat).Nodup := by
      unfold List.Nodup at *
      rw [List.pairwise_map]
      refine List.Pairwise.imp_of_mem ?_ hnd
      intro a b ha hb hab hc
      have := (hr a ha).1; have := (hr b hb).1
      omega
    have hlt : ∀ x ∈ l.map Int.toNat, x < (maxSucc l).toNat := by
      intro x hx
      obtain ⟨y, hy, rfl⟩ := List.mem_map.mp hx
      have := hge.2 y hy
      have := (hr y hy).1
      unfold maxSucc
      omega
    have := nodup_lt_length_le _ _ hnd' hlt
    rw [List.length_map] at this
    have h0 : 0 ≤ maxSucc l := hge.1
    omega
  omega

theorem latestStep_none (a : Int) (t : TaskRef) (h : t.finishTimestamp = none) : latestStep a t = a := by
  unfold latestStep; rw [h]

theorem latestStep_some (a : Int) (t : TaskRef) (f : Int) (h : t.finishTimestamp = some f) :
    latestStep a t = if a < f then f else a := by
  unfold latestStep; rw [h]

theorem foldl_latest_ge (l : List TaskRef) : ∀ (a : Int),
    a ≤ l.foldl latestStep a ∧
    (∀ t ∈ l, ∀ f, t.finishTimestamp = some f →
      f ≤ l.foldl latestStep a) :=
  foldl_dominates latestStep (fun t f => t.finishTimestamp = some f)
    (fun a t => by
      cases h : t.finishTimestamp with
      | none => rw [latestStep_none a t h]; exact Int.le_refl a
      | some f => rw [latestStep_some a t f h]; split <;> omega)
    (fun a t f h => by rw [latestStep_some a t f h]; split <;> omega) l

theorem foldl_latest_none (l : List TaskRef) (hn : ∀ t ∈ l, t.finishTimestamp = none) : ∀ (a : Int),
    l.foldl latestStep a = a := by
  induction l with
  | nil => intro a; rfl
  | cons y ys ih =>
    intro a
    simp only [List.foldl_cons]
    rw [latestStep_none a y (hn y (List.mem_cons_self ..))]
    exact ih (fun t ht => hn t (List.mem_cons_of_mem _ ht)) a

end Furiko.ParallelLemmas
