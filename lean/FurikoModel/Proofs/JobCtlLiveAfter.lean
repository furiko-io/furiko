/-
Liveness of the job controller: THE STATE AFTER THE CONTROLLER HALF OF A ROUND on an unfinished simple Job.
* For ANY state `w` with the `PassOut` facts (the `work` step under a fault list, the unconsumed faults dropped),
  by what the pass left on the server: the refreshed refs (`core_complete`, `core_refreshed`), the refreshed refs
  plus the ref of the next attempt, created (`core_created`) or adopted (`core_adopted`), or the status it had
  (`unwritten`).
* The variant of these states (`mu_refreshed`, `mu_next`) against the variant read at pass time (`muP`), which is
  at most the variant of the round's first state (`muP_le`, `round_front`: the environment half of a round).
Core Lean only.
-/
import FurikoModel.Proofs.JobCtlLivePass

set_option linter.unusedSimpArgs false
set_option linter.unusedVariables false

namespace Furiko.JobCtl.Live
open Furiko Furiko.JobCtl Furiko.WQ Furiko.StatusLemmas Furiko.JobCtlPlan Furiko.Conv Furiko.ParallelLemmas

/-- the variant, read at pass time (after the clock jump every armed timer is due) -/
def muP (jo : JobObj) (s : Sys) : Nat :=
  if jo.job.status.tasks.all (fun r => r.finishTimestamp.isSome) then
    3 * (jo.job.maxAttempts - jo.job.status.tasks.length).toNat + 2 -
      (if DueReq s.clock (theReq s.d jo.job).earliest then 1 else 0)
  else 3 * (jo.job.maxAttempts - jo.job.status.tasks.length).toNat + 3

theorem all_fin_iff {L : List TaskRef} : L.all (fun r => r.finishTimestamp.isSome) = true ↔ AllFin L :=
  List.all_eq_true

/-- the key will be worked on again: the pass wrote the status (its watch event re-queues the key) or left
a timer -/
theorem armed_of {jo : JobObj} {s w : Sys} {st : JobStatus} {created : List PodObj} (hpo : PassOut jo s w st created)
    (hx : st ≠ jo.job.status ∨ w.q.delayed ≠ []) : Armed (deliverAll w) := by
  rcases hx with hne | hdl
  · obtain ⟨j, rest, hev⟩ := hpo.wrote hne
    exact Or.inl (deliverAll_ready w j rest hev hpo.wf)
  · have := (deliverAll_spec w hpo.psync hpo.jsync).2.2.2.2.2
    exact Or.inr (by rw [this.delayed]; exact hdl)

section
variable {ok : Sys → Action → Prop} {j0 jo : JobObj} {F0 : Int} {s : Sys}

/-- the state after a pass that left the Job finished over a task list consistent with the server and
created nothing is final -/
theorem done_after (h : PState ok j0 jo F0 s) (T1 : List Task) (hcons : Consistent s jo.job.status.tasks T1)
    (hT1 : ∀ t ∈ T1, TaskGood t) (w : Sys) (jo' : JobObj)
    (hjo' : jo'.job = { jo.job with status := (recompute s.clock s.d jo.job T1).status }) (hpods : w.pods = s.pods)
    (hd : w.d = s.d) (hhash : AllHash s.d (generateTaskRefs s.clock jo.job.status.tasks T1))
    (hfin : AllFin (generateTaskRefs s.clock jo.job.status.tasks T1))
    (hcomp : AnySucc (generateTaskRefs s.clock jo.job.status.tasks T1) ∨
      (((generateTaskRefs s.clock jo.job.status.tasks T1).countP refTerminal : Nat) : Int) ≥ jo.job.maxAttempts)
    (hrec : ∀ p ∈ s.pods, p.pod.name ∈ (generateTaskRefs s.clock jo.job.status.tasks T1).map (·.name)) :
    Done jo' w := by
  have hc := h.canon
  have hsame := recompute_sameSpec s.clock s.d jo.job T1
  rw [← eq_of_sameSpec hsame.1] at hjo'
  have htasks : jo'.job.status.tasks = generateTaskRefs s.clock jo.job.status.tasks T1 := by rw [hjo']; exact hsame.2.1
  have hmax : jo'.job.maxAttempts = jo.job.maxAttempts := by
    rw [hjo']; exact maxAttempts_of_template hsame.1.template
  obtain ⟨c1, _⟩ := recompute_condition s.clock s.d jo.job T1 hc.spec hhash
  obtain ⟨f, hf, _, hs1, hs2⟩ := c1 ⟨hfin, hcomp⟩
  refine ⟨⟨f, by rw [hjo']; exact hf, by rw [htasks]; exact hs1, by rw [htasks]; exact hs2⟩, by rw [htasks]; exact hfin,
    ?_, by rw [hpods]; exact h.podsFin, ?_, ?_⟩
  · rw [htasks, hmax]
    rcases hcomp with hx | hx
    · exact Or.inl hx
    · rw [countP_terminal_of_allFin hfin] at hx; exact Or.inr hx
  · intro p hp
    rw [hpods] at hp
    unfold refNames; rw [htasks]; exact hrec p hp
  · intro c
    have hlook : ∀ n, OptSim (lookTask s n) (lookTask ({ w with clock := c } : Sys) n) :=
      fun n => lookTask_sim (s := s) (s' := ({ w with clock := c } : Sys)) hpods n
    have hgen := generate_stable s ({ w with clock := c } : Sys) s.clock jo.job.status.tasks T1 hc.nodupNames hcons
      (fun t ht => (hT1 t ht).final) hlook
    have hfound : foundTasks ({ w with clock := c } : Sys) jo' =
        (generateTaskRefs s.clock jo.job.status.tasks T1).filterMap (fun r => lookTask ({ w with clock := c } : Sys) r.name) := by
      unfold foundTasks; rw [htasks]
    rw [hfound, hjo', hd]
    exact recompute_idem s.clock c s.d jo.job T1 _ hc.spec hgen

/-- a complete summary of the refreshed refs: every pod is recorded -/
theorem complete_facts (h : PState ok j0 jo F0 s)
    (hcomp : (getParallelTaskSummary s.d jo.job (refreshedRefs s jo)).complete = true) :
    (AnySucc (refreshedRefs s jo) ∨
      (((refreshedRefs s jo).countP refTerminal : Nat) : Int) ≥
        jo.job.maxAttempts) ∧
    ∀ p ∈ s.pods, p.pod.name ∈ refNames jo.job := by
  have hcomp' := (simple_summary s.d jo.job _ h.canon.spec (after_found h).hash).2.2.mp hcomp
  refine ⟨hcomp', fun p hp => ?_⟩
  rcases h.canon.unrec p hp with hx | ⟨_, hlt, hdead⟩
  · exact hx
  · exfalso
    obtain ⟨b1, b2, _⟩ := allDead_facts ((after_found h).dead hdead).1
    rcases hcomp' with hx | hx
    · exact b1 hx
    · rw [countP_terminal_of_allFin b2, (after_found h).length] at hx; omega

/-- without a complete summary the refreshed refs are all dead and fewer than `maxAttempts` -/
theorem notcomplete_facts (h : PState ok j0 jo F0 s) (hshape : DeadOrLive jo)
    (hc' : (getParallelTaskSummary s.d jo.job (refreshedRefs s jo)).complete = false) :
    (∀ g ∈ refreshedRefs s jo, Dead g) ∧
    (jo.job.status.tasks.length : Int) < jo.job.maxAttempts ∧
    ¬ (AllFin (refreshedRefs s jo) ∧
        (AnySucc (refreshedRefs s jo) ∨
          (((refreshedRefs s jo).countP refTerminal : Nat) : Int) ≥
            jo.job.maxAttempts)) := by
  have hn : ¬ (AnySucc (refreshedRefs s jo) ∨
      (((refreshedRefs s jo).countP refTerminal : Nat) : Int) ≥
        jo.job.maxAttempts) := by
    intro hx
    rw [(simple_summary s.d jo.job _ h.canon.spec (after_found h).hash).2.2.mpr hx] at hc'; cases hc'
  refine ⟨?_, ?_, fun hx => hn hx.2⟩
  · intro g hg
    rcases (after_found h).shape hshape g hg with hd | hs
    · exact hd
    · exact absurd (Or.inl ⟨g, hg, hs⟩) hn
  · have : ¬ ((((refreshedRefs s jo).countP refTerminal : Nat) : Int) ≥
        jo.job.maxAttempts) := fun hx => hn (Or.inr hx)
    rw [countP_terminal_of_allFin (after_found h).allFin, (after_found h).length] at this
    omega

theorem allDead_of_notfound (hshape : DeadOrLive jo)
    (hf : jo.job.status.tasks.any refActiveOrSuccessful = false) : ∀ r ∈ jo.job.status.tasks, Dead r := by
  intro r hr
  rcases hshape r hr with hd | hl
  · exact hd
  · have : jo.job.status.tasks.any refActiveOrSuccessful = true :=
      List.any_eq_true.mpr ⟨r, hr, hl.activeOrSuccessful⟩
    rw [hf] at this; cases this

theorem live_of_found (hshape : DeadOrLive jo)
    (hfound : jo.job.status.tasks.any refActiveOrSuccessful = true) : ∃ r ∈ jo.job.status.tasks, LiveRef r := by
  obtain ⟨r0, hr0, hact⟩ := List.any_eq_true.mp hfound
  rcases hshape r0 hr0 with hd | hl
  · rw [hd.not_activeOrSuccessful] at hact; cases hact
  · exact ⟨r0, hr0, hl⟩

/-- refreshing changes the status when a live attempt is recorded: it is finished now -/
theorem refreshed_ne (h : PState ok j0 jo F0 s) {r0 : TaskRef} (hr0 : r0 ∈ jo.job.status.tasks) (hlive : LiveRef r0) :
    (recompute s.clock s.d jo.job (foundTasks s jo)).status ≠ jo.job.status := by
  intro e
  have := (after_found h).allFin r0 (by rw [← recompute_found_tasks, e]; exact hr0)
  rw [hlive.unfin] at this; cases this

/-- recording the next attempt changes the status: one more ref -/
theorem next_ne (h : PState ok j0 jo F0 s) {t : Task} (hn : NextTask F0 s jo t) :
    (recompute s.clock s.d jo.job (foundTasks s jo ++ [t])).status ≠ jo.job.status := by
  intro e
  have := (after_snoc h hn).length
  rw [← (recompute_sameSpec s.clock s.d jo.job (foundTasks s jo ++ [t])).2.1, e] at this
  omega

section
variable (hok : ∀ s a, fairEnv s a → ok s a) (h : PState ok j0 jo F0 s) (w : Sys) (hstepsw : Steps ok j0 s w)
include hok h hstepsw

/-- the pass left the refreshed refs on the server and created nothing -/
theorem after_refresh (hpo : PassOut jo s w (recompute s.clock s.d jo.job (foundTasks s jo)).status [])
    (hunrec : ∀ p ∈ s.pods, p.pod.name ∈ refNames jo.job ∨
      ∀ g ∈ refreshedRefs s jo, Dead g) :
    ∃ jo', After ok j0 F0 s jo (recompute s.clock s.d jo.job (foundTasks s jo)).status jo' (deliverAll w) ∧
      jo'.job.status.tasks = refreshedRefs s jo ∧
      (deliverAll w).pods = s.pods ∧ RefsStep s jo jo' (deliverAll w) := by
  have hsame := recompute_sameSpec s.clock s.d jo.job (foundTasks s jo)
  obtain ⟨jo', haf, _, hpods⟩ := canon_after hok h w hstepsw _ [] hpo hsame.2.2 (Or.inl rfl)
    (by rw [recompute_found_tasks]; exact (after_found h).retries)
    (by
      intro p hp
      rw [List.append_nil] at hp
      rw [recompute_found_tasks, (after_found h).length]
      rcases hunrec p hp with hx | hdead
      · exact Or.inl (((after_found h).names _).mpr hx)
      · rcases h.canon.unrec p hp with hx | ⟨hn, hl, _⟩
        · exact Or.inl (((after_found h).names _).mpr hx)
        · exact Or.inr ⟨hn, hl, hdead⟩)
    (by rw [recompute_found_tasks]; exact (after_found h).lb)
  rw [List.append_nil] at hpods
  have htasks : jo'.job.status.tasks = refreshedRefs s jo := by
    rw [haf.job]; exact recompute_found_tasks s jo
  exact ⟨jo', haf, htasks, hpods, fun g hg => Or.inl ((after_found h).origin g (htasks ▸ hg)), Or.inl hpods⟩

/-- the summary is complete: the Job is finished, the state final -/
theorem core_complete (hcomp : (getParallelTaskSummary s.d jo.job (refreshedRefs s jo)).complete = true)
    (hpo : PassOut jo s w (recompute s.clock s.d jo.job (foundTasks s jo)).status []) :
    ∃ jo', After ok j0 F0 s jo (recompute s.clock s.d jo.job (foundTasks s jo)).status jo' (deliverAll w) ∧
      Done jo' (deliverAll w) ∧ RefsStep s jo jo' (deliverAll w) ∧ (deliverAll w).pods = s.pods := by
  obtain ⟨hcomp', hrec⟩ := complete_facts h hcomp
  obtain ⟨jo', haf, _, hpods, hrs⟩ := after_refresh hok h w hstepsw hpo (fun p hp => Or.inl (hrec p hp))
  exact ⟨jo', haf, done_after h (foundTasks s jo) h.consistent (fun t ht => (h.found_facts t ht).1) _ jo' haf.job
    hpods haf.d (after_found h).hash (after_found h).allFin hcomp' (fun p hp => ((after_found h).names _).mpr (hrec p hp)),
    hrs, hpods⟩

/-- not complete, nothing created: the Job is unfinished, all recorded attempts are dead -/
theorem core_refreshed (hshape : DeadOrLive jo)
    (hc' : (getParallelTaskSummary s.d jo.job (refreshedRefs s jo)).complete = false)
    (hpo : PassOut jo s w (recompute s.clock s.d jo.job (foundTasks s jo)).status [])
    (hArmed : Armed (deliverAll w)) :
    ∃ jo', After ok j0 F0 s jo (recompute s.clock s.d jo.job (foundTasks s jo)).status jo' (deliverAll w) ∧
      Busy jo' (deliverAll w) ∧ RefsStep s jo jo' (deliverAll w) := by
  obtain ⟨hdeadL, _, hnfin⟩ := notcomplete_facts h hshape hc'
  obtain ⟨jo', haf, htasks, _, hrs⟩ := after_refresh hok h w hstepsw hpo (fun _ _ => Or.inr hdeadL)
  refine ⟨jo', haf, ⟨?_, fun r hr => Or.inl (hdeadL r (htasks ▸ hr)), hArmed⟩, hrs⟩
  rw [haf.job]
  exact (recompute_condition s.clock s.d jo.job (foundTasks s jo) h.canon.spec (after_found h).hash).2 hnfin

/-- the pass left the refreshed refs plus the ref of the task `t` of the next attempt, whose pod was created by
this pass or exists already -/
theorem after_next {t : Task} (hn : NextTask F0 s jo t) (created : List PodObj)
    (hpo : PassOut jo s w (recompute s.clock s.d jo.job (foundTasks s jo ++ [t])).status created)
    (hcreated : (created = [] ∧ lookTask s (taskName jo.name s.d.hash jo.job.status.tasks.length) = some t) ∨
      (created = [newPod jo s.d jo.job.status.tasks.length (nowT s)] ∧
        findPod s.pods (taskName jo.name s.d.hash jo.job.status.tasks.length) = none ∧
        t = newTask jo s.d jo.job.status.tasks.length (nowT s)))
    (hdead : ∀ r ∈ jo.job.status.tasks, Dead r) :
    ∃ jo', After ok j0 F0 s jo (recompute s.clock s.d jo.job (foundTasks s jo ++ [t])).status jo' (deliverAll w) ∧
      jo'.job.status.tasks = generateTaskRefs s.clock jo.job.status.tasks (foundTasks s jo ++ [t]) ∧
      (deliverAll w).pods = s.pods ++ created ∧ RefsStep s jo jo' (deliverAll w) := by
  have hsame := recompute_sameSpec s.clock s.d jo.job (foundTasks s jo ++ [t])
  have hxname : taskName jo.name s.d.hash jo.job.status.tasks.length = (getTaskRef none t).name := by
    rw [(getTaskRef_fields none t).1, hn.good.ok, hn.name]
  obtain ⟨jo', haf, _, hpods⟩ := canon_after hok h w hstepsw _ created hpo hsame.2.2
    (by
      rcases hcreated with ⟨e, _⟩ | ⟨e, hfree, _⟩
      · exact Or.inl e
      · exact Or.inr ⟨e, hfree⟩)
    (by rw [hsame.2.1]; exact (after_snoc h hn).retries)
    (by
      -- every pod is recorded now: the pods that were, and the pod of `t`
      intro p hp
      rw [hsame.2.1]
      left
      rcases List.mem_append.mp hp with hp | hp
      · rcases h.canon.unrec p hp with hx | ⟨hx, _, _⟩
        · exact ((after_snoc h hn).names _).mpr (Or.inl hx)
        · exact ((after_snoc h hn).names _).mpr (Or.inr (hx.trans hxname))
      · rcases hcreated with ⟨e, _⟩ | ⟨e, _, _⟩ <;> rw [e] at hp
        · cases hp
        · rw [List.mem_singleton.mp hp]; exact ((after_snoc h hn).names _).mpr (Or.inr hxname))
    (by rw [hsame.2.1]; exact (after_snoc h hn).lb)
  have htasks : jo'.job.status.tasks = generateTaskRefs s.clock jo.job.status.tasks (foundTasks s jo ++ [t]) := by
    rw [haf.job]; exact hsame.2.1
  refine ⟨jo', haf, htasks, hpods, ?_, ?_⟩
  · intro g hg
    rcases (after_snoc h hn).origin g (htasks ▸ hg) with hx | rfl
    · exact Or.inl hx
    · refine Or.inr ⟨t, rfl, ?_, hn.name, hdead⟩
      unfold lookTask
      rw [hpods, hn.name]
      rcases hcreated with ⟨e, hlook⟩ | ⟨e, hfree, rfl⟩
      · rw [e, List.append_nil, haf.clock]; exact hlook
      · rw [e, show findPod (s.pods ++ [newPod jo s.d jo.job.status.tasks.length (nowT s)])
          (taskName jo.name s.d.hash jo.job.status.tasks.length) = some (newPod jo s.d jo.job.status.tasks.length (nowT s))
          from findPod_append_fresh s.pods _ hfree]
        exact podTask_newPod jo s.d _ (nowT s)
  · rcases hcreated with ⟨e, _⟩ | ⟨e, _, _⟩
    · exact Or.inl (by rw [hpods, e, List.append_nil])
    · exact Or.inr (by rw [hpods, e])

/-- not complete, the next attempt was created and recorded: the Job is unfinished, its last attempt live -/
theorem core_created (hdead : ∀ r ∈ jo.job.status.tasks, Dead r)
    (hfree : findPod s.pods (taskName jo.name s.d.hash jo.job.status.tasks.length) = none)
    (hpo : PassOut jo s w (recompute s.clock s.d jo.job
      (foundTasks s jo ++ [newTask jo s.d jo.job.status.tasks.length (nowT s)])).status
      [newPod jo s.d jo.job.status.tasks.length (nowT s)])
    (hArmed : Armed (deliverAll w)) :
    ∃ jo', After ok j0 F0 s jo (recompute s.clock s.d jo.job
        (foundTasks s jo ++ [newTask jo s.d jo.job.status.tasks.length (nowT s)])).status jo' (deliverAll w) ∧
      Busy jo' (deliverAll w) ∧ RefsStep s jo jo' (deliverAll w) := by
  have hn := h.nextTask_new
  have hxlive : LiveRef (getTaskRef none (newTask jo s.d jo.job.status.tasks.length (nowT s))) :=
    new_getTaskRef_unfinished hn.good rfl
  obtain ⟨jo', haf, htasks, _, hrs⟩ := after_next hok h w hstepsw hn _ hpo (Or.inr ⟨rfl, hfree, rfl⟩) hdead
  refine ⟨jo', haf, ⟨?_, ?_, hArmed⟩, hrs⟩
  · rw [haf.job]
    refine (recompute_condition s.clock s.d jo.job _ h.canon.spec (after_snoc h hn).hash).2 (fun hx => ?_)
    have := hx.1 _ (after_snoc h hn).mem
    rw [hxlive.unfin] at this; cases this
  · intro r hr
    rcases (after_snoc h hn).origin r (htasks ▸ hr) with ⟨r0, hr0, rfl⟩ | rfl
    · exact Or.inl ((h.refreshSrv_facts hr0).dead (hdead r0 hr0)).1
    · exact Or.inr hxlive

/-- not complete, the task of the next attempt was adopted and recorded with its outcome: that decides the Job,
or all attempts are dead and another one may be made -/
theorem core_adopted (hdead : ∀ r ∈ jo.job.status.tasks, Dead r) (p : PodObj) (t : Task)
    (htaken : findPod s.pods (taskName jo.name s.d.hash jo.job.status.tasks.length) = some p)
    (ht : podTask s.clock p = some t)
    (hpo : PassOut jo s w (recompute s.clock s.d jo.job (foundTasks s jo ++ [t])).status [])
    (hArmed : Armed (deliverAll w)) :
    ∃ jo', After ok j0 F0 s jo (recompute s.clock s.d jo.job (foundTasks s jo ++ [t])).status jo' (deliverAll w) ∧
      ((Busy jo' (deliverAll w) ∧ AllFin jo'.job.status.tasks) ∨ Done jo' (deliverAll w)) ∧
      RefsStep s jo jo' (deliverAll w) := by
  obtain ⟨hn, tfin, hlook⟩ := h.nextTask_adopted htaken ht
  obtain ⟨x1, x2, x3⟩ := new_getTaskRef_finished hn.good tfin
  obtain ⟨jo', haf, htasks, hpods, hrs⟩ := after_next hok h w hstepsw hn [] hpo (Or.inl ⟨rfl, hlook⟩) hdead
  rw [List.append_nil] at hpods
  have hallfin : AllFin (generateTaskRefs s.clock jo.job.status.tasks (foundTasks s jo ++ [t])) := by
    intro g hg
    rcases (after_snoc h hn).origin g hg with ⟨r0, hr0, rfl⟩ | rfl
    · exact (h.refreshSrv_facts hr0).fin
    · exact x1
  refine ⟨jo', haf, ?_, hrs⟩
  by_cases hdecided : t.ref.status.result = .succeeded ∨ (jo.job.status.tasks.length : Int) + 1 ≥ jo.job.maxAttempts
  · right
    refine done_after h (foundTasks s jo ++ [t]) ?_ (fun t' ht' => ((hn.tasksOK h).good t' ht').1) _ jo' haf.job hpods
      haf.d (after_snoc h hn).hash hallfin ?_ ?_
    · refine h.consistent.snoc t (by rw [hn.name]; exact hlook) (fun hm => ?_)
      exact (List.nodup_append.mp (by simpa using snoc_nodup h (hn.fresh h))).2.2 _ hm _ (List.mem_singleton.mpr rfl) rfl
    · rcases hdecided with hs | hge
      · exact Or.inl ⟨_, (after_snoc h hn).mem, by rw [x2]; exact hs⟩
      · right
        rw [countP_terminal_of_allFin hallfin, (after_snoc h hn).length]
        omega
    · intro q hq
      rcases h.canon.unrec q hq with hx | ⟨hx, _, _⟩
      · exact ((after_snoc h hn).names _).mpr (Or.inl hx)
      · exact ((after_snoc h hn).names _).mpr (Or.inr (by rw [hx, (getTaskRef_fields none t).1, hn.good.ok, hn.name]))
  · left
    have hdeadNew : ∀ g ∈ generateTaskRefs s.clock jo.job.status.tasks (foundTasks s jo ++ [t]), Dead g := by
      intro g hg
      rcases (after_snoc h hn).origin g hg with ⟨r0, hr0, rfl⟩ | rfl
      · exact ((h.refreshSrv_facts hr0).dead (hdead r0 hr0)).1
      · exact x3 (fun e => hdecided (Or.inl e))
    refine ⟨⟨?_, fun r hr => Or.inl (hdeadNew r (htasks ▸ hr)), hArmed⟩, htasks ▸ hallfin⟩
    rw [haf.job]
    refine (recompute_condition s.clock s.d jo.job _ h.canon.spec (after_snoc h hn).hash).2 ?_
    rintro ⟨_, hx | hx⟩
    · exact (allDead_facts hdeadNew).1 hx
    · rw [countP_terminal_of_allFin hallfin, (after_snoc h hn).length] at hx
      exact hdecided (Or.inr (by omega))

/-- **a pass that wrote nothing** (it failed before or at its status update; the pod of the next attempt may
have been created): the invariant is kept with the same recorded status, the Job stays unfinished -/
theorem unwritten (hunf : jo.job.status.condition.finished = none) (hshape : DeadOrLive jo)
    (created : List PodObj) (hpo : PassOut jo s w jo.job.status created)
    (hcreated : created = [] ∨
      (created = [newPod jo s.d jo.job.status.tasks.length (nowT s)] ∧
        findPod s.pods (taskName jo.name s.d.hash jo.job.status.tasks.length) = none ∧
        (jo.job.status.tasks.length : Int) < jo.job.maxAttempts ∧ ∀ r ∈ jo.job.status.tasks, Dead r))
    (hArmed : Armed (deliverAll w)) :
    ∃ jo', After ok j0 F0 s jo jo.job.status jo' (deliverAll w) ∧ Busy jo' (deliverAll w) ∧
      (deliverAll w).pods = s.pods ++ created := by
  have hc := h.canon
  obtain ⟨jo', haf, _, hpods⟩ := canon_after hok h w hstepsw jo.job.status created hpo rfl
    (by
      rcases hcreated with e | ⟨e, hfree, _⟩
      · exact Or.inl e
      · exact Or.inr ⟨e, hfree⟩)
    hc.retries
    (by
      intro p hp
      rcases List.mem_append.mp hp with hp | hp
      · exact hc.unrec p hp
      · rcases hcreated with e | ⟨e, _, hlt, hdead⟩ <;> rw [e] at hp
        · cases hp
        · rw [List.mem_singleton.mp hp]
          exact Or.inr ⟨rfl, hlt, hdead⟩)
    hc.lbRefs
  have hjob' : jo'.job = jo.job := haf.job
  exact ⟨jo', haf, ⟨by rw [hjob']; exact hunf, by rw [hjob']; exact hshape, hArmed⟩, hpods⟩

end

/-- the summary is complete: nothing to create, nothing to adopt -/
theorem create_complete (h : PState ok j0 jo F0 s) (sp : Sys) (hpc : sp.podCache = s.pods) (hd : sp.d = s.d)
    (hclk : sp.clock = s.clock)
    (hcomp : (getParallelTaskSummary s.d jo.job (refreshedRefs s jo)).complete = true) :
    syncCreateTasks sp jo jo.job (foundTasks s jo) = (sp, some (jo.job, foundTasks s jo)) := by
  rw [syncCreateTasks_complete sp jo (foundTasks s jo) h.canon.spec (by rw [hd, hclk]; exact hcomp),
    adopt_none sp jo (foundTasks s jo) (fun p hp => (complete_facts h hcomp).2 p (hpc ▸ hp))]

theorem mu_refreshed (h : PState ok j0 jo F0 s) {jo' : JobObj} {W : Sys}
    (haf : After ok j0 F0 s jo (recompute s.clock s.d jo.job (foundTasks s jo)).status jo' W) :
    mu jo' W = 3 * (jo.job.maxAttempts - jo.job.status.tasks.length).toNat + 2 -
      (if dueOrArmed W (theReq W.d jo'.job).earliest then 1 else 0) := by
  have htasks : jo'.job.status.tasks = refreshedRefs s jo := by
    rw [haf.job]; exact (recompute_sameSpec _ _ _ _).2.1
  unfold mu
  rw [if_pos (all_fin_iff.mpr (by rw [htasks]; exact (after_found h).allFin)), htasks, (after_found h).length,
    show jo'.job.maxAttempts = jo.job.maxAttempts by rw [haf.job]; rfl]

theorem mu_next (h : PState ok j0 jo F0 s) {t : Task} (hn : NextTask F0 s jo t) {jo' : JobObj} {W : Sys}
    (haf : After ok j0 F0 s jo (recompute s.clock s.d jo.job (foundTasks s jo ++ [t])).status jo' W) :
    mu jo' W ≤ 3 * (jo.job.maxAttempts - ((jo.job.status.tasks.length + 1 : Nat) : Int)).toNat + 3 := by
  have htasks : jo'.job.status.tasks = generateTaskRefs s.clock jo.job.status.tasks (foundTasks s jo ++ [t]) := by
    rw [haf.job]; exact (recompute_sameSpec _ _ _ _).2.1
  unfold mu
  rw [htasks, (after_snoc h hn).length, show jo'.job.maxAttempts = jo.job.maxAttempts by rw [haf.job]; rfl]
  split
  · exact Nat.le_trans (Nat.sub_le _ _) (Nat.le_succ _)
  · exact Nat.le_refl _

theorem muP_live {r0 : TaskRef} (hr0 : r0 ∈ jo.job.status.tasks) (hlive : LiveRef r0) :
    muP jo s = 3 * (jo.job.maxAttempts - jo.job.status.tasks.length).toNat + 3 := by
  unfold muP
  rw [if_neg (fun hx => by have := all_fin_iff.mp hx r0 hr0; rw [hlive.unfin] at this; cases this)]

theorem muP_dead (hdead : ∀ r ∈ jo.job.status.tasks, Dead r) :
    muP jo s = 3 * (jo.job.maxAttempts - jo.job.status.tasks.length).toNat + 2 -
      (if DueReq s.clock (theReq s.d jo.job).earliest then 1 else 0) := by
  unfold muP
  rw [if_pos (all_fin_iff.mpr (fun r hr => (hdead r hr).fin))]

theorem work_steps (hok : ∀ s a, fairEnv s a → ok s a) (s : Sys) : Steps ok j0 s (work s).1 :=
  .step .work (.refl s) (hok s _ trivial) trivial

/-- the earliest time of the next attempt's creation request does not change when dead refs are refreshed -/
theorem earliest_same (h : PState ok j0 jo F0 s) (hdead : ∀ r ∈ jo.job.status.tasks, Dead r) {jo' : JobObj} {W : Sys}
    (haf : After ok j0 F0 s jo (recompute s.clock s.d jo.job (foundTasks s jo)).status jo' W) :
    (theReq W.d jo'.job).earliest = (theReq s.d jo.job).earliest := by
  have htasks : jo'.job.status.tasks = refreshedRefs s jo := by
    rw [haf.job]; exact (recompute_sameSpec _ _ _ _).2.1
  have hdelay : jo'.job.retryDelay = jo.job.retryDelay := by rw [haf.job]; rfl
  unfold theReq
  simp only
  rw [haf.d, htasks, ((after_found h).dead hdead).2, hdelay]

end

theorem work_clock (s : Sys) : (work s).1.clock = s.clock := by
  cases hg : (s.q.advance s.clock).get with
  | none => rw [work_none s hg]
  | some v =>
    obtain ⟨k, q1⟩ := v
    rw [work_some s k q1 hg]
    obtain ⟨l, hk⟩ := (syncOne_good (passStart s q1)).kept
    exact hk.clock

theorem deliverAll_clock (s : Sys) : (deliverAll s).clock = s.clock := by
  unfold deliverAll
  have h1 := (iter_deliverJob s.jobEvs.length s rfl).2.1
  have h2 := (iter_deliverPod s.podEvs.length (iter .deliverJob s.jobEvs.length s)
    (by rw [(iter_deliverJob s.jobEvs.length s rfl).2.2.2.2.1])).2.1
  rw [h2.clock, h1.clock]

theorem round_clock (orc : String → Outcome) (s : Sys) : (round orc s).clock = (jump (envState orc s)).clock := by
  show (deliverAll (work (jump (envState orc s))).1).clock = _
  rw [deliverAll_clock, work_clock]


section
variable {ok : Sys → Action → Prop} {j0 jo : JobObj} {F0 : Int} {s : Sys}

theorem muP_le (e : Sys) (hd : e.d = s.d) (hclk : s.clock ≤ e.clock) (hdue : ∀ x ∈ s.q.delayed, x.2 ≤ e.clock) :
    muP jo e ≤ mu jo s := by
  unfold muP mu
  rw [hd]
  split
  · have : dueOrArmed s (theReq s.d jo.job).earliest = true → DueReq e.clock (theReq s.d jo.job).earliest := by
      intro hx
      unfold dueOrArmed at hx
      rcases Bool.or_eq_true _ _ |>.mp hx with h1 | h1
      · have h1' : DueReq s.clock (theReq s.d jo.job).earliest := by simpa using h1
        rcases h1' with hz | hle
        · exact Or.inl hz
        · exact Or.inr (Int.le_trans hle hclk)
      · obtain ⟨x, hx, hle⟩ := List.any_eq_true.mp h1
        have hle' : (theReq s.d jo.job).earliest ≤ x.2 := by simpa using hle
        exact Or.inr (Int.le_trans hle' (hdue x hx))
    by_cases hda : dueOrArmed s (theReq s.d jo.job).earliest = true
    · simp only [hda, this hda, ↓reduceIte]
      exact Nat.le_refl _
    · have hda' : dueOrArmed s (theReq s.d jo.job).earliest = false := by simpa using hda
      simp only [hda', Bool.false_eq_true, ↓reduceIte]
      split <;> omega
  · exact Nat.le_refl _

/-- **the environment half of a fair round** on an unfinished Job: every pod is finished, every armed timer is
due and the key ready when the pass starts; the variant read then is at most the variant of the round's first
state -/
theorem round_front (hok : ∀ s a, fairEnv s a → ok s a) (orc : String → Outcome) (h : Canon ok j0 jo F0 s)
    (hb : Busy jo s) :
    PState ok j0 jo F0 (jump (envState orc s)) ∧ Ready (jump (envState orc s)) ∧
    (jump (envState orc s)).pods = s.pods.map (sweepPod orc) ∧ (jump (envState orc s)).d = s.d ∧
    (jump (envState orc s)).cfg = s.cfg ∧ muP jo (jump (envState orc s)) ≤ mu jo s := by
  obtain ⟨he, hfin, hpods, hclk0, hd0, hcfg0, hqg⟩ := env_stage hok orc h
  obtain ⟨hj, jpods, jq, jd, jcfg, jclk, jdue, _⟩ := jump_stage hok he
  have hdue : ∀ x ∈ s.q.delayed, x.2 ≤ (jump (envState orc s)).clock := by
    intro x hx
    exact jdue hb.unfinished x (by rw [hqg.delayed]; exact hx)
  refine ⟨⟨hj, by rw [jpods]; exact hfin⟩, ⟨by rw [jq, hqg.delayed]; exact hdue, ?_⟩, jpods.trans hpods, jd.trans hd0,
    jcfg.trans hcfg0, muP_le _ (jd.trans hd0) (by rw [← hclk0]; exact jclk) hdue⟩
  unfold Armed
  rw [jq]
  rcases hb.armed with hq | hdl
  · left
    cases hqq : s.q.queue with
    | nil => exact absurd hqq hq
    | cons x r =>
      have := hqg.mono x (by rw [hqq]; exact List.mem_cons_self)
      intro e; rw [e] at this; cases this
  · right; rw [hqg.delayed]; exact hdl

end

end Furiko.JobCtl.Live
