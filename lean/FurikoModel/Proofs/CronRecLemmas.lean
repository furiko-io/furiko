/-
Helper lemmas for Props/C02.lean: key codec round trips, decomposition of generated names at the
last `-`, identity fields of a produced Job, and the inductive invariant of the transition system.
Core Lean only.
-/
import FurikoModel.Model.CronRec
import FurikoModel.Proofs.StrLemmas

namespace Furiko.CronRec
open Furiko.Str

theorem splitKey_joinKey_eq (k : Str) (t : Int) :
    splitKey (joinKey k t) =
      match atoi (showInt t) with
      | none => .error .badTs
      | some ts => .ok (k, ts) := by
  unfold splitKey joinKey
  have hsep : Facts.cronKeyJoinSep = '.' := rfl
  have hsep2 : Facts.cronKeySplitSep = '.' := rfl
  have hsep3 : Facts.cronKeyRejoinSep = '.' := rfl
  have hmin : Facts.cronKeyMinTokens = 2 := rfl
  rw [hsep, hsep2, hsep3, hmin, splitOn_snoc_token k (showInt t) (not_mem_showInt t (by decide) (by decide))]
  have hne := splitOn_ne_nil '.' k
  have hlen : ¬ ((splitOn '.' k ++ [showInt t]).length < 2) := by
    cases h : splitOn '.' k with
    | nil => exact absurd h hne
    | cons a as => simp
  simp only [hlen, if_false, List.getLastD_eq_getLast?, List.getLast?_concat, Option.getD_some,
    parseUnix, List.dropLast_concat, join_splitOn]
  cases atoi (showInt t) <;> rfl

theorem splitKey_joinKey (k : Str) {t : Int} (ht : InInt64 t) : splitKey (joinKey k t) = .ok (k, t) := by
  rw [splitKey_joinKey_eq, atoi_showInt ht]

/-- outside the int64 range the round trip fails (`time.Time.Unix()` never produces such a value) -/
theorem splitKey_joinKey_out_of_range (k : Str) {t : Int} (ht : ¬ InInt64 t) :
    splitKey (joinKey k t) = .error .badTs := by
  rw [splitKey_joinKey_eq, atoi_showInt_out_of_range ht]

theorem splitNsKey_jobConfigKey {ns name : Str} (t : Int) (hns : '/' ∉ ns) (hname : '/' ∉ name) :
    splitNsKey (jobConfigKey ns name t) = some (ns, joinKey name t) := by
  have hj : '/' ∉ joinKey name t := by
    unfold joinKey
    have hsep : Facts.cronKeyJoinSep = '.' := rfl
    rw [hsep]
    intro h
    rcases List.mem_append.mp h with h | h
    · exact hname h
    · rcases List.mem_cons.mp h with h | h
      · exact absurd h (by decide)
      · exact not_mem_showInt t (by decide) (by decide) h
  unfold splitNsKey jobConfigKey metaNsKey
  cases ns with
  | nil =>
    simp only [List.length_nil, Nat.lt_irrefl, if_false, gt_iff_lt]
    rw [splitOn_of_not_mem hj]
  | cons c cs =>
    simp only [List.length_cons, gt_iff_lt, Nat.zero_lt_succ, if_true]
    have : joinKey ((c :: cs) ++ '/' :: name) t = (c :: cs) ++ '/' :: joinKey name t := by
      simp [joinKey]
    rw [this, splitOn_append_sep, splitOn_of_not_mem hns, splitOn_of_not_mem hj]
    rfl

/-- the name of the Job for a non-zero schedule time: a pure function of (JobConfig name, time) -/
def jobName (cfgName : Str) (t : Int) : Str := cfgName ++ '-' :: showInt t

theorem generateName_eq_jobName (now : Int) (c : Str) {t : Int} (h : t ≠ zeroUnix) :
    generateName now c t = jobName c t := by
  simp [generateName, jobName, h, show Facts.jobNameSep = '-' from rfl]

theorem generateName_zero (now : Int) (c : Str) : generateName now c zeroUnix = jobName c now := by
  simp [generateName, jobName, show Facts.jobNameSep = '-' from rfl]

theorem split_at_last_dash {p p' d d' : Str} (hd : '-' ∉ d) (hd' : '-' ∉ d')
    (h : p ++ '-' :: d = p' ++ '-' :: d') : p = p' ∧ d = d' := by
  induction p generalizing p' with
  | nil =>
    cases p' with
    | nil => simpa using h
    | cons x q =>
      simp only [List.nil_append, List.cons_append, List.cons.injEq] at h
      exact absurd (h.2 ▸ (by simp : '-' ∈ q ++ '-' :: d')) hd
  | cons y r ih =>
    cases p' with
    | nil =>
      simp only [List.nil_append, List.cons_append, List.cons.injEq] at h
      exact absurd (h.2 ▸ (by simp : '-' ∈ r ++ '-' :: d)) hd'
    | cons x q =>
      simp only [List.cons_append, List.cons.injEq] at h
      obtain ⟨rfl, h2⟩ := h
      obtain ⟨rfl, rfl⟩ := ih h2
      exact ⟨rfl, rfl⟩

theorem dash_not_mem_natDigits (n : Nat) : '-' ∉ natDigits n :=
  fun h => ne_of_isDigit (natDigits_isDigit h) (by decide) rfl

/-- prefix of a name before the final `-<digits>`: the JobConfig name, plus the sign if negative -/
def namePrefix (c : Str) (t : Int) : Str := if t < 0 then c ++ ['-'] else c

theorem jobName_decomp (c : Str) (t : Int) : jobName c t = namePrefix c t ++ '-' :: natDigits t.natAbs := by
  unfold jobName namePrefix showInt
  by_cases h : t < 0 <;> simp [h]

theorem jobName_eq_iff (c c' : Str) (t t' : Int) :
    jobName c t = jobName c' t' ↔
      (c = c' ∧ t = t') ∨ (c = c' ++ ['-'] ∧ 0 < t ∧ t' = -t) ∨ (c' = c ++ ['-'] ∧ 0 < t' ∧ t = -t') := by
  constructor
  · intro h
    rw [jobName_decomp, jobName_decomp] at h
    obtain ⟨hp, hdig⟩ := split_at_last_dash (dash_not_mem_natDigits _) (dash_not_mem_natDigits _) h
    have habs : t.natAbs = t'.natAbs := natDigits_injective hdig
    unfold namePrefix at hp
    by_cases h1 : t < 0 <;> by_cases h2 : t' < 0 <;> simp only [h1, h2, if_true, if_false] at hp
    · left; exact ⟨List.append_cancel_right hp, by omega⟩
    · right; right; exact ⟨hp.symm, by omega, by omega⟩
    · right; left; exact ⟨hp, by omega, by omega⟩
    · left; exact ⟨hp, by omega⟩
  · rintro (⟨rfl, rfl⟩ | ⟨rfl, h1, rfl⟩ | ⟨rfl, h1, rfl⟩)
    · rfl
    · rw [jobName_decomp, jobName_decomp]
      have a : ¬ (t < 0) := by omega
      simp [namePrefix, a, h1]
    · rw [jobName_decomp, jobName_decomp]
      have a : ¬ (t' < 0) := by omega
      simp [namePrefix, a, h1]

theorem mapGet_mapSet_self (m : KV) (k v : Str) : mapGet (mapSet m k v) k = some v := by
  unfold mapGet mapSet
  have : (m.filter (fun e => e.1 ≠ k)).find? (fun e => decide (e.1 = k)) = none := by
    rw [List.find?_eq_none]
    intro x hx
    have := (List.mem_filter.mp hx).2
    simpa using this
  rw [List.find?_append, this]
  simp

theorem mapGet_mapSet_other (m : KV) {k k' : Str} (v : Str) (h : k' ≠ k) :
    mapGet (mapSet m k v) k' = mapGet m k' := by
  unfold mapGet mapSet
  have h1 : ([(k, v)] : KV).find? (fun e => decide (e.1 = k')) = none := by
    simp [h.symm]
  have hp : (fun a : Str × Str => decide (decide (a.1 ≠ k) = true ∧ decide (a.1 = k') = true)) = (fun a => decide (a.1 = k')) := by
    funext a
    by_cases hk' : a.1 = k' <;> simp [hk', h]
  rw [List.find?_append, h1, List.find?_filter, hp]
  simp

theorem mapCopyInto_single (m : KV) (k v : Str) : mapCopyInto m [(k, v)] = mapSet m k v := rfl
theorem mapCopyInto_nil (m : KV) : mapCopyInto m [] = m := rfl

/-- the Job that `processCron` submits for `(c, t)` when it reaches the create call -/
def scheduledJob (now : Int) (c : JobConfig) (t : Int) (vars : KV) : Job :=
  { ns := c.ns, name := generateName now c.name t, labels := makeLabels c,
    annots := makeAnnotations c typeScheduled t,
    finalizers := [Facts.deleteDependentsFinalizer.toList], owners := [controllerRef c],
    jobType := typeScheduled, startPolicy := some c.policy, subst := vars, tmpl := c.tmpl }

section scheduledJob
variable (now : Int) (c : JobConfig) (t : Int) (vars : KV)

theorem schedAnnot_scheduledJob :
    (scheduledJob now c t vars).schedAnnot = some (showInt t) := by
  simp [scheduledJob, Job.schedAnnot, makeAnnotations, mapCopyInto_single, mapGet_mapSet_self]

theorem ownerUid_scheduledJob :
    (scheduledJob now c t vars).ownerUid = some c.uid := by
  simp [scheduledJob, Job.ownerUid, controllerRef]

theorem uidLabel_scheduledJob :
    mapGet (scheduledJob now c t vars).labels labelKeyUID = some c.uid := by
  simp [scheduledJob, makeLabels, mapCopyInto_single, mapGet_mapSet_self]

end scheduledJob

/-- a Job produced by the reconciler from a JobConfig version of the world -/
def Made (world : JobConfig → Prop) (j : Job) : Prop :=
  ∃ c t now vars, world c ∧ j = scheduledJob now c t vars

theorem processCron_create {now : Int} {jc : Option JobConfig} {active : Int} {mx : Option Int}
    {inCache : Str → Str → Bool} {t : Int} {j : Job}
    (h : processCron now jc active mx inCache t = .create j) :
    ∃ c vars, jc = some c ∧ c.subst = some vars ∧ j = scheduledJob now c t vars ∧ inCache j.ns j.name = false := by
  unfold processCron at h
  cases jc with
  | none => simp at h
  | some c =>
    simp only at h
    split at h
    · simp at h
    · split at h
      · simp at h
      · unfold newJobFromJobConfig at h
        cases hs : c.subst with
        | none => simp [hs] at h
        | some vars =>
          simp only [hs] at h
          split at h
          · simp at h
          · rename_i hc
            simp only [Decision.create.injEq] at h
            subst h
            refine ⟨c, vars, rfl, hs, rfl, ?_⟩
            simpa using hc

theorem apiCreate_api (api : Api) (j : Job) (inj : Inject) :
    (apiCreate api j inj).1 = api ∨ ((apiCreate api j inj).1 = api ++ [j] ∧ api.has j.ns j.name = false) := by
  cases h : api.has j.ns j.name <;> cases inj <;> simp [apiCreate, h]

section sync
variable (now : Int) (api : Api) (lookup : Str → Str → Option JobConfig) (active : JobConfig → Int)
  (mx : Option Int) (inCache : Str → Str → Bool) (inj : Inject)

theorem syncOne_api (ns name : Str) :
    (syncOne now api lookup active mx inCache inj ns name).api = api ∨
    ∃ cfgName t c vars, splitKey name = .ok (cfgName, t) ∧ lookup ns cfgName = some c ∧
      (syncOne now api lookup active mx inCache inj ns name).api = api ++ [scheduledJob now c t vars] ∧
      api.has c.ns (generateName now c.name t) = false := by
  unfold syncOne
  cases hk : splitKey name with
  | error e => left; rfl
  | ok p =>
    obtain ⟨cfgName, t⟩ := p
    simp only
    cases hd : processCron now (lookup ns cfgName)
        (match lookup ns cfgName with | some c => active c | none => 0) mx inCache t with
    | done r evs => left; rfl
    | create j =>
      obtain ⟨c, vars, hjc, _, hj, _⟩ := processCron_create hd
      simp only
      rcases apiCreate_api api j inj with h | ⟨h, hfree⟩
      · left
        cases hc : apiCreate api j inj
        rw [hc] at h
        simpa using h
      · right
        refine ⟨cfgName, t, c, vars, rfl, hjc, ?_, ?_⟩
        · cases hc : apiCreate api j inj
          rw [hc] at h
          simp only at h ⊢
          rw [h, hj]
        · rw [hj] at hfree
          exact hfree

theorem syncItem_api (key : Str) :
    (syncItem now api lookup active mx inCache inj key).api = api ∨
    ∃ ns cfgName t c vars, lookup ns cfgName = some c ∧
      (syncItem now api lookup active mx inCache inj key).api = api ++ [scheduledJob now c t vars] ∧
      api.has c.ns (generateName now c.name t) = false := by
  unfold syncItem
  cases hs : splitNsKey key with
  | none => left; rfl
  | some p =>
    obtain ⟨ns, name⟩ := p
    simp only
    rcases syncOne_api now api lookup active mx inCache inj ns name with h | ⟨cfgName, t, c, vars, _, hl, h, hf⟩
    · left; exact h
    · right; exact ⟨ns, cfgName, t, c, vars, hl, h, hf⟩

end sync

theorem listerGet_mem {cache : List JobConfig} {ns name : Str} {c : JobConfig}
    (h : listerGet cache ns name = some c) : c ∈ cache :=
  List.mem_of_find?_eq_some h

def sameKey (a b : Job) : Prop := a.ns = b.ns ∧ a.name = b.name

structure Inv (world : JobConfig → Prop) (s : Sys) : Prop where
  /-- the API server's name uniqueness -/
  distinct : s.api.Pairwise (fun a b => ¬ sameKey a b)
  /-- every Job on the server was produced by the reconciler from a JobConfig of the world -/
  made : ∀ j ∈ s.api, Made world j
  /-- the JobConfig lister only ever holds (possibly stale) versions of real JobConfigs -/
  cache : ∀ c ∈ s.jcCache, world c

theorem has_false_iff {api : Api} {ns name : Str} :
    api.has ns name = false ↔ ∀ a ∈ api, ¬ (a.ns = ns ∧ a.name = name) := by
  unfold Api.has
  rw [List.any_eq_false]
  constructor
  · intro h a ha; simpa using h a ha
  · intro h a ha; simpa using h a ha

theorem inv_step {world : JobConfig → Prop} {s s' : Sys} (a : Action)
    (hinv : Inv world s) (hstep : step world s a s') : Inv world s' := by
  cases a with
  | request c t =>
    obtain ⟨_, rfl⟩ := hstep
    exact ⟨hinv.distinct, hinv.made, hinv.cache⟩
  | crash =>
    have : s' = { s with queue := [] } := hstep
    subst this
    exact ⟨hinv.distinct, hinv.made, hinv.cache⟩
  | deliver jcs jobs =>
    obtain ⟨hw, rfl⟩ := hstep
    exact ⟨hinv.distinct, hinv.made, hw⟩
  | delete ns name =>
    have : s' = { s with api := s.api.filter (fun j => ¬ (j.ns = ns ∧ j.name = name)) } := hstep
    subst this
    refine ⟨hinv.distinct.sublist List.filter_sublist, ?_, hinv.cache⟩
    intro j hj
    exact hinv.made j (List.mem_filter.mp hj).1
  | process key now active mx inj requeue =>
    obtain ⟨_, rfl⟩ := hstep
    rcases syncItem_api now s.api (listerGet s.jcCache) active mx (jobLister s.jobCache) inj key with
      h | ⟨ns, cfgName, t, c, vars, hl, h, hfree⟩
    · refine ⟨?_, ?_, hinv.cache⟩
      · simp only [h]; exact hinv.distinct
      · simp only [h]; exact hinv.made
    · have hw : world c := hinv.cache c (listerGet_mem hl)
      refine ⟨?_, ?_, hinv.cache⟩
      · simp only [h]
        rw [List.pairwise_append]
        refine ⟨hinv.distinct, List.pairwise_singleton _ _, ?_⟩
        intro a ha b hb
        rw [List.mem_singleton] at hb
        subst hb
        exact has_false_iff.mp hfree a ha
      · simp only [h]
        intro j hj
        rcases List.mem_append.mp hj with hj | hj
        · exact hinv.made j hj
        · rw [List.mem_singleton] at hj
          exact ⟨c, t, now, vars, hw, hj⟩

theorem inv_reachable {world : JobConfig → Prop} {s : Sys} (h : Reachable world s) : Inv world s := by
  induction h with
  | init => exact ⟨List.Pairwise.nil, (by intro j h; cases h), (by intro c h; cases h)⟩
  | step a _ hs ih => exact inv_step a ih hs

theorem length_le_one_of_pairwise {α} {R : α → α → Prop} {l : List α} (hp : l.Pairwise R)
    (hn : ∀ a ∈ l, ∀ b ∈ l, ¬ R a b) : l.length ≤ 1 := by
  match l, hp with
  | [], _ => simp
  | [_], _ => simp
  | a :: b :: r, hp =>
    have := (List.pairwise_cons.mp hp).1 b (by simp)
    exact absurd this (hn a (by simp) b (by simp))

end Furiko.CronRec
