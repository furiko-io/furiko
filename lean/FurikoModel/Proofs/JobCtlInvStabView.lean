/-
From "finished refs are frozen and no name is added" to "same per-index status and same latest
finish time" (the inputs of `getCondition_finKey_congr`).  Core Lean only.
-/
import FurikoModel.Proofs.JobCtlInvStabCond

set_option linter.unusedSimpArgs false
set_option linter.unusedVariables false

namespace Furiko.JobCtl
open Furiko Furiko.WQ Furiko.StatusLemmas

variable {j0 : JobObj} {s s' : Sys}

/-- `b` has exactly the names of `a`, and every ref of `a` is finished and frozen in `b` -/
structure SameFinished (j0 : JobObj) (d : PIndex) (a b : Job) : Prop where
  ga : Good j0 d a
  gb : Good j0 d b
  sub1 : ∀ n ∈ refNames a, n ∈ refNames b
  sub2 : ∀ n ∈ refNames b, n ∈ refNames a
  froz : Froz a.status.tasks b.status.tasks
  allFin : ∀ r ∈ a.status.tasks, r.finishTimestamp.isSome = true

theorem SameFinished.to {d : PIndex} {a b : Job} (h : SameFinished j0 d a b) :
    ∀ ex ∈ a.status.tasks, ∃ r ∈ b.status.tasks, FrozRef ex r :=
  fun ex hex => h.froz ex hex (h.allFin ex hex)

theorem SameFinished.from {d : PIndex} {a b : Job} (h : SameFinished j0 d a b) :
    ∀ r ∈ b.status.tasks, ∃ ex ∈ a.status.tasks, FrozRef ex r := by
  intro r hr
  obtain ⟨ex, hex, hn⟩ := List.mem_map.mp (h.sub2 r.name (List.mem_map_of_mem hr))
  obtain ⟨r', hr', hfz⟩ := h.to ex hex
  have : r' = r := inj_on_of_nodup_map h.gb.nodup hr' hr (hfz.1.trans hn)
  subst this
  exact ⟨ex, hex, hfz⟩

theorem SameFinished.allFin' {d : PIndex} {a b : Job} (h : SameFinished j0 d a b) :
    ∀ r ∈ b.status.tasks, r.finishTimestamp.isSome = true := by
  intro r hr
  obtain ⟨ex, hex, hfz⟩ := h.from r hr
  rw [hfz.2.1]; exact h.allFin ex hex

theorem length_filter_le_of_names {d : PIndex} (hwf : WF2 j0 d) {A B : List TaskRef}
    (hA : (A.map (·.name)).Nodup) (hAok : ∀ r ∈ A, RefOK j0 d r) (hBok : ∀ r ∈ B, RefOK j0 d r)
    (hto : ∀ ex ∈ A, ∃ r ∈ B, r.name = ex.name) (h : String) :
    (tasksOfHash d A h).length ≤ (tasksOfHash d B h).length := by
  have hsub : ∀ n ∈ (tasksOfHash d A h).map (·.name), n ∈ (tasksOfHash d B h).map (·.name) := by
    intro n hn
    obtain ⟨ex, hex, rfl⟩ := List.mem_map.mp hn
    have hex' := (mem_tasksOfHash d A h ex).mp hex
    obtain ⟨r, hr, hrn⟩ := hto ex hex'.1
    have hh := (RefOK.same_name hwf (hBok r hr) (hAok ex hex'.1) hrn).1
    exact List.mem_map.mpr ⟨r, (mem_tasksOfHash d B h r).mpr ⟨hr, hh.trans hex'.2⟩, hrn⟩
  have hnd : ((tasksOfHash d A h).map (·.name)).Nodup := by
    unfold tasksOfHash
    exact (List.filter_sublist.map _).nodup hA
  have := hnd.length_le_of_subset (fun n hn => hsub n hn)
  simpa using this

theorem any_succ_of_names {d : PIndex} (hwf : WF2 j0 d) {A B : List TaskRef}
    (hAok : ∀ r ∈ A, RefOK j0 d r) (hBok : ∀ r ∈ B, RefOK j0 d r)
    (hto : ∀ ex ∈ A, ∃ r ∈ B, r.name = ex.name ∧ (ex.status.result = .succeeded → r.status.result = .succeeded))
    (h : String) (hany : (tasksOfHash d A h).any refSucceeded = true) : (tasksOfHash d B h).any refSucceeded = true := by
  obtain ⟨ex, hex, hs⟩ := List.any_eq_true.mp hany
  have hex' := (mem_tasksOfHash d A h ex).mp hex
  obtain ⟨r, hr, hrn, hsucc⟩ := hto ex hex'.1
  have hh := (RefOK.same_name hwf (hBok r hr) (hAok ex hex'.1) hrn).1
  refine List.any_eq_true.mpr ⟨r, (mem_tasksOfHash d B h r).mpr ⟨hr, hh.trans hex'.2⟩, ?_⟩
  unfold refSucceeded at hs ⊢
  simp only [beq_iff_eq] at hs ⊢
  exact hsucc hs

/-- the inputs of `getCondition_finKey_congr` -/
theorem SameFinished.view {d : PIndex} (hwf : WF2 j0 d) {a b : Job} (h : SameFinished j0 d a b)
    (m : Int) :
    (∀ i : PIndex, getIndexStatus i i.hash (tasksOfHash d b.status.tasks i.hash) m =
      getIndexStatus i i.hash (tasksOfHash d a.status.tasks i.hash) m) ∧
    latestFinished b.status.tasks = latestFinished a.status.tasks := by
  have hto := h.to
  have hfrom := h.from
  constructor
  · intro i
    apply getIndexStatus_congr
    · intro r hr; exact h.allFin' r ((mem_tasksOfHash d _ _ r).mp hr).1
    · intro r hr; exact h.allFin r ((mem_tasksOfHash d _ _ r).mp hr).1
    · apply Nat.le_antisymm
      · exact length_filter_le_of_names hwf h.gb.nodup h.gb.refs h.ga.refs
          (fun r hr => by obtain ⟨ex, hex, hfz⟩ := hfrom r hr; exact ⟨ex, hex, hfz.1.symm⟩) i.hash
      · exact length_filter_le_of_names hwf h.ga.nodup h.ga.refs h.gb.refs
          (fun ex hex => by obtain ⟨r, hr, hfz⟩ := hto ex hex; exact ⟨r, hr, hfz.1⟩) i.hash
    · rw [Bool.eq_iff_iff]
      constructor
      · exact any_succ_of_names hwf h.gb.refs h.ga.refs
          (fun r hr => by obtain ⟨ex, hex, hfz⟩ := hfrom r hr; exact ⟨ex, hex, hfz.1.symm, hfz.2.2.mp⟩) i.hash
      · exact any_succ_of_names hwf h.ga.refs h.gb.refs
          (fun ex hex => by obtain ⟨r, hr, hfz⟩ := hto ex hex; exact ⟨r, hr, hfz.1, hfz.2.2.mpr⟩) i.hash
  · apply latestFinished_congr
    · intro x hx
      obtain ⟨r, hr, rfl⟩ := List.mem_map.mp hx
      obtain ⟨ex, hex, hfz⟩ := hfrom r hr
      exact List.mem_map.mpr ⟨ex, hex, hfz.2.1.symm⟩
    · intro x hx
      obtain ⟨ex, hex, rfl⟩ := List.mem_map.mp hx
      obtain ⟨r, hr, hfz⟩ := hto ex hex
      exact List.mem_map.mpr ⟨r, hr, hfz.2.1⟩

theorem getCondition_now_irrel (now now' : Time) (d : PIndex) (rj : Job) (ha : rj.admissionError = false)
    (hk : rj.killTimestamp = none) : getCondition now d rj = getCondition now' d rj := by
  unfold getCondition
  simp only [ha, hk, isTimeSetAndEarlierOrEqual, Bool.false_eq_true, ↓reduceIte]

end Furiko.JobCtl
