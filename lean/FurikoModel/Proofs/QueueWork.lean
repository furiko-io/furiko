/-
The worker steps (`syncConfig`, `workConfig`, `syncIndependent`, `workIndependent`) in terms of
`Pass`; timers armed by a pass; the quiet pass; draining the controller's notification queue.
-/
import FurikoModel.Proofs.QueueRun

set_option linter.unusedSimpArgs false
set_option linter.unusedVariables false

namespace Furiko.Queue
open Furiko.WQ

variable {jc : JCV} {rjs : List JobV} {s : Sys} {ac : Int} {cs : List Call} {s' : Sys} {ok : Bool}

theorem syncConfig_eq (s : Sys) (name : String) :
    syncConfig s name =
      match findJC s.jcCache name with
      | none => (s, true)
      | some jc => passLoop jc (listQueued s.jobCache jc) s (getCtr s.counter jc.uid) := by
  unfold syncConfig
  cases findJC s.jcCache name with
  | none => rfl
  | some jc =>
    simp only
    split
    · rename_i h
      simp only [List.isEmpty_iff] at h
      rw [h]; rfl
    · rfl

theorem syncConfig_Pass {s : Sys} {name : String} {jc : JCV}
    (hjc : findJC s.jcCache name = some jc) :
    ∃ cs, Pass jc (listQueued s.jobCache jc) s (getCtr s.counter jc.uid) cs
      (syncConfig s name).1 (syncConfig s name).2 := by
  rw [syncConfig_eq, hjc]
  exact passLoop_Pass _ _ _ _

/-- the state a per-config pass starts from: timers fired, key taken, call log reset -/
def cfgPre (s : Sys) (q1 : WQ) : Sys := { s with cfgQ := q1, calls := [] }

/-- bookkeeping of the work queue after the pass -/
def cfgPost (s1 : Sys) (k : String) (ok : Bool) : Sys :=
  { s1 with cfgQ := (if ok then s1.cfgQ.forget k else s1.cfgQ.addRateLimited k s1.clock).done k }

theorem workConfig_idle {s : Sys} (hg : (s.cfgQ.advance s.clock).get = none) :
    workConfig s = ({ s with cfgQ := s.cfgQ.advance s.clock, calls := [] }, "idle") := by
  unfold workConfig
  simp only [hg]

theorem workConfig_get {s : Sys} {k : String} {q1 : WQ}
    (hg : (s.cfgQ.advance s.clock).get = some (k, q1)) :
    workConfig s = (cfgPost (syncConfig (cfgPre s q1) (keyName k)).1 k
        (syncConfig (cfgPre s q1) (keyName k)).2,
      if (syncConfig (cfgPre s q1) (keyName k)).2 then "ok" else "err") := by
  unfold workConfig
  simp only [hg]
  rfl

theorem workConfig_noJC {s : Sys} {k : String} {q1 : WQ}
    (hg : (s.cfgQ.advance s.clock).get = some (k, q1))
    (hjc : findJC s.jcCache (keyName k) = none) :
    workConfig s = (cfgPost (cfgPre s q1) k true, "ok") := by
  rw [workConfig_get hg, syncConfig_eq]
  have : findJC (cfgPre s q1).jcCache (keyName k) = none := hjc
  rw [this]; rfl

/-- a worker step that found its JobConfig is a `Pass` from `cfgPre` followed by `cfgPost` -/
theorem workConfig_Pass {s : Sys} {k : String} {q1 : WQ} {jc : JCV}
    (hg : (s.cfgQ.advance s.clock).get = some (k, q1))
    (hjc : findJC s.jcCache (keyName k) = some jc) :
    ∃ s1 ok, Pass jc (listQueued s.jobCache jc) (cfgPre s q1) (getCtr s.counter jc.uid)
        s1.calls s1 ok ∧
      workConfig s = (cfgPost s1 k ok, if ok then "ok" else "err") := by
  have hjc' : findJC (cfgPre s q1).jcCache (keyName k) = some jc := hjc
  obtain ⟨cs, hp⟩ := syncConfig_Pass hjc'
  have hc : (syncConfig (cfgPre s q1) (keyName k)).1.calls = [] ++ cs := hp.calls
  rw [List.nil_append] at hc
  refine ⟨_, _, ?_, workConfig_get hg⟩
  rw [hc]; exact hp

theorem workConfig_cases (s : Sys) :
    ((workConfig s).1.calls = [] ∧ (workConfig s).2 ≠ "err" ∧ (workConfig s).1.jobs = s.jobs) ∨
    ∃ k q1 jc, (s.cfgQ.advance s.clock).get = some (k, q1) ∧
      findJC s.jcCache (keyName k) = some jc := by
  cases hg : (s.cfgQ.advance s.clock).get with
  | none => left; rw [workConfig_idle hg]; exact ⟨rfl, by simp, rfl⟩
  | some p =>
    obtain ⟨k, q1⟩ := p
    cases hjc : findJC s.jcCache (keyName k) with
    | none => left; rw [workConfig_noJC hg hjc]; exact ⟨rfl, by simp, rfl⟩
    | some jc => right; exact ⟨k, q1, jc, rfl, hjc⟩

/-- the `Run` of a worker step: its whole call log, from the cached queued Jobs -/
theorem workConfig_Run (s : Sys) :
    ((workConfig s).1.calls = [] ∧ (workConfig s).2 ≠ "err" ∧ (workConfig s).1.jobs = s.jobs) ∨
    ∃ jc ok acf, Run jc s.clock (listQueued s.jobCache jc) (getCtr s.counter jc.uid)
        (workConfig s).1.calls ok acf ∧ (workConfig s).2 = (if ok then "ok" else "err") ∧
        (∀ c ∈ (workConfig s).1.calls, c.res = "ok" → Written (workConfig s).1 c) ∧
        (workConfig s).1.clock = s.clock := by
  rcases workConfig_cases s with h | ⟨k, q1, jc, hg, hjc⟩
  · exact Or.inl h
  · right
    obtain ⟨s1, ok, hp, hw⟩ := workConfig_Pass hg hjc
    obtain ⟨acf, hr, hc⟩ := hp.toRun
    rw [hw]
    exact ⟨jc, ok, acf, hr, rfl, hp.ok_written, hp.clock⟩

theorem HasDeadline.weaken {d : List (String × Int)} {k : String} {b b' : Int}
    (h : HasDeadline d k b) (hle : b ≤ b') : HasDeadline d k b' := by
  obtain ⟨d', hm, hd⟩ := h
  exact ⟨d', hm, Int.le_trans hd hle⟩

/-- an ok pass has called `AddAfter` for every Job it deferred -/
theorem Pass.deferred_deadline (h : Pass jc rjs s ac cs s' ok) : ok = true →
    ∀ j ∈ rjs, j.hasPolicy = true → startAfterLater j s.clock = true →
      HasDeadline s'.cfgQ.delayed ("ns/" ++ jc.name)
        (max (s.clock + 1000000000) ((j.startAfter.getD 0) * 1000000000)) := by
  -- a head Job that was not deferred is not concerned; the others by induction
  have tail : ∀ {j : JobV} {rest : List JobV} {clock : Int} {Q : JobV → Prop},
      ¬ (j.hasPolicy = true ∧ startAfterLater j clock = true) →
      (∀ x ∈ rest, x.hasPolicy = true → startAfterLater x clock = true → Q x) →
      ∀ x ∈ j :: rest, x.hasPolicy = true → startAfterLater x clock = true → Q x := by
    intro j rest clock Q hj ih x hx h1 h2
    rcases List.mem_cons.mp hx with rfl | hx
    · exact absurd ⟨h1, h2⟩ hj
    · exact ih x hx h1 h2
  induction h with
  | nil => simp
  | @defer j rest s ac cs s' ok h1 h2 hp ih =>
    intro hok x hx hx1 hx2
    rcases List.mem_cons.mp hx with rfl | hx
    · apply hp.deadline_mono
      exact HasDeadline.weaken (hasDeadline_addAfter_self s.cfgQ _ _ _) (by split <;> omega)
    · exact ih hok x hx hx1 hx2
  | wait _ h2 _ _ _ ih | rejectOk _ _ h2 _ _ _ _ _ _ _ ih | rejectNoop _ _ h2 _ _ _ _ _ _ _ _ ih =>
    exact fun hok => tail (by simp [h2]) (ih hok)
  | startOk _ hv _ _ _ _ _ _ ih => exact fun hok => tail hv.1 (ih hok)
  | rejectFail | rejectLost | rejectNoopLost | casFail | startFail | startLost => intro h; cases h

theorem startAfterLater_some {j : JobV} {clock : Int} (h : startAfterLater j clock = true) :
    ∃ t, j.startAfter = some t ∧ t * 1000000000 > clock := by
  unfold startAfterLater at h
  split at h
  · rename_i t ht; exact ⟨t, ht, by simpa using h⟩
  · cases h

theorem delayed_done (q : WQ) (k : String) : (q.done k).delayed = q.delayed := by
  unfold WQ.done; simp only; split <;> rfl

theorem cfgPost_delayed_ok (s1 : Sys) (k : String) :
    (cfgPost s1 k true).cfgQ.delayed = s1.cfgQ.delayed := by
  simp [cfgPost, delayed_done, WQ.forget]

theorem cfgPost_delayed_err (s1 : Sys) (k : String) :
    HasDeadline (cfgPost s1 k false).cfgQ.delayed k (s1.clock + 320000000) := by
  simp only [cfgPost, Bool.false_eq_true, if_false, delayed_done]
  exact hasDeadline_addRateLimited_self _ _ _

theorem not_faultBlocks_of_nil {s : Sys} (h : s.faults = []) : ¬ faultBlocks s := by
  unfold faultBlocks nextFault; rw [h]; decide

theorem nextFault_of_nil {s : Sys} (h : s.faults = []) : nextFault s = "" := by
  unfold nextFault; rw [h]; rfl

theorem not_writeRefused {s : Sys} {j cur : JobV} (hf : s.faults = [])
    (hc : findJob s.jobs j.name = some cur) (hrv : cur.rv = j.rv) : ¬ writeRefused s j := by
  intro h
  rcases h with h | h | ⟨c, h1, h2⟩
  · exact not_faultBlocks_of_nil hf h
  · rw [hc] at h; cases h
  · rw [hc] at h1; cases h1; exact h2 hrv

/-- without faults, with an accurate counter argument and cached versions matching the
authoritative ones, a pass cannot fail -/
theorem Pass.quiet (h : Pass jc rjs s ac cs s' ok) :
    s.faults = [] → ac = getCtr s.counter jc.uid → (rjs.map (·.name)).Nodup →
    (∀ j ∈ rjs, ∃ cur, findJob s.jobs j.name = some cur ∧ cur.rv = j.rv) → ok = true := by
  -- what is left of the last two hypotheses after a step that changed at most the Job `j.name`
  have tail : ∀ {j : JobV} {rest : List JobV} {jobs jobs' : List JobV},
      ((j :: rest).map (·.name)).Nodup → (∀ n, n ≠ j.name → findJob jobs' n = findJob jobs n) →
      (∀ x ∈ j :: rest, ∃ cur, findJob jobs x.name = some cur ∧ cur.rv = x.rv) →
      (rest.map (·.name)).Nodup ∧
        ∀ x ∈ rest, ∃ cur, findJob jobs' x.name = some cur ∧ cur.rv = x.rv := by
    intro j rest jobs jobs' hnd hfr hcur
    simp only [List.map_cons, List.nodup_cons, List.mem_map, not_exists, not_and] at hnd
    refine ⟨hnd.2, fun x hx => ?_⟩
    rw [hfr x.name (fun he => hnd.1 x hx he)]
    exact hcur x (List.mem_cons_of_mem _ hx)
  have lost : ∀ {s : Sys} {P : Prop}, nextFault s = "applied-err" → s.faults = [] → P :=
    fun ha hf => by rw [nextFault_of_nil hf] at ha; exact absurd ha (by decide)
  induction h with
  | nil => intros; rfl
  | defer _ _ _ ih | wait _ _ _ _ _ ih =>
    intro hf hac hnd hcur
    obtain ⟨a, b⟩ := tail hnd (fun _ _ => rfl) hcur
    exact ih hf hac a b
  | rejectOk cur _ _ _ _ hfj _ _ _ _ ih =>
    intro hf hac hnd hcur
    obtain ⟨a, b⟩ := tail hnd
      (fun _ => findJob_applyWrite_other _ "reject" (nj := rejectedJob _ _ _ cur) hfj rfl) hcur
    exact ih (by simp [applyWrite, hf]) hac a b
  | rejectNoop _ _ _ _ _ _ _ _ _ _ _ ih =>
    intro hf hac hnd hcur
    obtain ⟨a, b⟩ := tail hnd (fun _ _ => rfl) hcur
    exact ih (by simp [failWrite, hf]) hac a b
  | casFail _ hne => intro _ hac; exact absurd hac.symm hne
  | @rejectFail j rest s ac res _ _ _ _ _ hwhy | @startFail j rest s ac res _ _ _ hwhy =>
    intro hf hac hnd hcur
    obtain ⟨cur, hc, hrv⟩ := hcur j (by simp)
    exact absurd hwhy (not_writeRefused hf hc hrv)
  | startOk cur _ _ hfj _ _ _ _ ih =>
    intro hf hac hnd hcur
    obtain ⟨a, b⟩ := tail hnd
      (fun _ => findJob_applyWrite_other _ "start" (nj := startedJob _ _ cur) hfj rfl) hcur
    exact ih (by simp [applyWrite, hf]) (by simp [getCtr_setCtr]) a b
  | rejectLost _ _ _ _ _ _ _ _ ha | rejectNoopLost _ _ _ _ _ _ _ _ ha _ | startLost _ _ _ _ _ _ ha =>
    exact lost ha

theorem syncConfig_quiet (s : Sys) (name : String) (hf : s.faults = [])
    (hcache : s.jobCache = s.jobs) (hnd : (names s.jobCache).Nodup) :
    (syncConfig s name).2 = true := by
  cases hjc : findJC s.jcCache name with
  | none => rw [syncConfig_eq, hjc]
  | some jc =>
    obtain ⟨cs, hp⟩ := syncConfig_Pass hjc
    refine hp.quiet hf rfl (nodup_names_listQueued jc hnd) (fun j hj => ?_)
    have hm := (mem_listQueued.mp hj).1
    exact ⟨j, by rw [← hcache]; exact findJob_of_mem_nodup hnd hm, rfl⟩

def indPre (s : Sys) (q1 : WQ) : Sys := { s with indQ := q1, calls := [] }

def indPost (s1 : Sys) (k : String) (ok : Bool) : Sys :=
  { s1 with indQ := (if ok then s1.indQ.forget k else s1.indQ.addRateLimited k s1.clock).done k }

theorem workIndependent_idle {s : Sys} (hg : (s.indQ.advance s.clock).get = none) :
    workIndependent s = ({ s with indQ := s.indQ.advance s.clock, calls := [] }, "idle") := by
  unfold workIndependent
  simp only [hg]

theorem workIndependent_get {s : Sys} {k : String} {q1 : WQ}
    (hg : (s.indQ.advance s.clock).get = some (k, q1)) :
    workIndependent s = (indPost (syncIndependent (indPre s q1) (keyName k)).1 k
        (syncIndependent (indPre s q1) (keyName k)).2,
      if (syncIndependent (indPre s q1) (keyName k)).2 then "ok" else "err") := by
  unfold workIndependent
  simp only [hg]
  rfl

theorem syncIndependent_due {s : Sys} {name : String} {j : JobV}
    (h : findJob s.jobCache name = some j) (hq : j.isQueued = true) (hd : due j s.clock) :
    syncIndependent s name = startJobWrite s j := by
  unfold syncIndependent; rw [h]
  unfold due at hd
  have : (j.hasPolicy && startAfterLater j s.clock) = false := by
    cases h1 : j.hasPolicy <;> cases h2 : startAfterLater j s.clock <;> simp_all
  simp [hq, this]

def drainN : Nat → Sys → Sys
  | 0, s => s
  | n + 1, s => drainN n (notifyCtrl s)

def drainCtrl (s : Sys) : Sys := drainN s.ctrlQ.length s

theorem notifyCtrl_cons {s : Sys} {n : Note} {rest : List Note} (h : s.ctrlQ = n :: rest) :
    notifyCtrl s = ctrlNotify { s with ctrlQ := rest } (noteJob n) := by
  unfold notifyCtrl; rw [h]

/-- what the handler leaves alone; dirty keys stay dirty -/
def Woken (s s' : Sys) : Prop :=
  s'.jcCache = s.jcCache ∧ (∀ x, x ∈ s.cfgQ.dirty → x ∈ s'.cfgQ.dirty) ∧
    (∀ x, x ∈ s.indQ.dirty → x ∈ s'.indQ.dirty)

theorem ctrlNotify_frame (s : Sys) (j : JobV) :
    (ctrlNotify s j).ctrlQ = s.ctrlQ ∧ Woken s (ctrlNotify s j) := by
  unfold ctrlNotify
  split
  · exact ⟨rfl, rfl, fun _ h => h, fun _ h => h⟩
  · exact ⟨rfl, rfl, fun _ h => dirty_add_mono h, fun _ h => h⟩
  · exact ⟨rfl, rfl, fun _ h => h, fun _ h => dirty_add_mono h⟩

theorem ctrlNotify_wakes (s : Sys) (j : JobV) :
    (∀ jc, lookupOwner s.jcCache j = some (some jc) →
      ("ns/" ++ jc.name) ∈ (ctrlNotify s j).cfgQ.dirty) ∧
    (lookupOwner s.jcCache j = some none → ("ns/" ++ j.name) ∈ (ctrlNotify s j).indQ.dirty) := by
  unfold ctrlNotify
  constructor
  · intro jc h; rw [h]; exact dirty_add_self _ _
  · intro h; rw [h]; exact dirty_add_self _ _

theorem notifyCtrl_ctrlQ (s : Sys) : (notifyCtrl s).ctrlQ = s.ctrlQ.tail := by
  cases h : s.ctrlQ with
  | nil => unfold notifyCtrl; rw [h]; exact h
  | cons n rest => rw [notifyCtrl_cons h, (ctrlNotify_frame _ _).1]; rfl

theorem drainN_ctrlQ (m : Nat) (s : Sys) : (drainN m s).ctrlQ = s.ctrlQ.drop m := by
  induction m generalizing s with
  | zero => simp [drainN]
  | succ m ih => simp [drainN, ih, notifyCtrl_ctrlQ, List.drop_tail]

theorem drainN_preserve {P : Sys → Prop} (hn : ∀ s j, P s → P (ctrlNotify s j))
    (hq : ∀ s q, P s → P { s with ctrlQ := q }) (m : Nat) {s : Sys} (h : P s) : P (drainN m s) := by
  induction m generalizing s with
  | zero => exact h
  | succ m ih =>
    refine ih ?_
    unfold notifyCtrl
    split
    · exact h
    · exact hn _ _ (hq _ _ h)

theorem drainN_woken (m : Nat) (s : Sys) : Woken s (drainN m s) :=
  drainN_preserve (P := Woken s)
    (fun x j h => have f := (ctrlNotify_frame x j).2
      ⟨f.1.trans h.1, fun k hk => f.2.1 k (h.2.1 k hk), fun k hk => f.2.2 k (h.2.2 k hk)⟩)
    (fun _ _ h => h) m ⟨rfl, fun _ h => h, fun _ h => h⟩

/-- every notification among the first `m` has marked its key dirty after `m` handler runs -/
theorem drainN_wakes (m : Nat) (s : Sys) (note : Note) (hn : note ∈ s.ctrlQ.take m) :
    (∀ jc, lookupOwner s.jcCache (noteJob note) = some (some jc) →
      ("ns/" ++ jc.name) ∈ (drainN m s).cfgQ.dirty) ∧
    (lookupOwner s.jcCache (noteJob note) = some none →
      ("ns/" ++ (noteJob note).name) ∈ (drainN m s).indQ.dirty) := by
  induction m generalizing s with
  | zero => simp at hn
  | succ m ih =>
    cases h : s.ctrlQ with
    | nil => rw [h] at hn; simp at hn
    | cons n rest =>
      rw [h, List.take_succ_cons] at hn
      simp only [drainN]
      rcases List.mem_cons.mp hn with rfl | hn
      · -- woken by this run of the handler, and dirty ever after
        obtain ⟨_, b4, b5⟩ := drainN_woken m (notifyCtrl s)
        rw [notifyCtrl_cons h] at b4 b5 ⊢
        obtain ⟨w1, w2⟩ := ctrlNotify_wakes { s with ctrlQ := rest } (noteJob note)
        exact ⟨fun jc hl => b4 _ (w1 jc hl), fun hl => b5 _ (w2 hl)⟩
      · have := ih (notifyCtrl s) (by rw [notifyCtrl_ctrlQ, h]; exact hn)
        rw [show (notifyCtrl s).jcCache = s.jcCache from (drainN_woken 1 s).1] at this
        exact this

theorem drainCtrl_wakes (s : Sys) (note : Note) (hn : note ∈ s.ctrlQ) :
    (∀ jc, lookupOwner s.jcCache (noteJob note) = some (some jc) →
      ("ns/" ++ jc.name) ∈ (drainCtrl s).cfgQ.dirty) ∧
    (lookupOwner s.jcCache (noteJob note) = some none →
      ("ns/" ++ (noteJob note).name) ∈ (drainCtrl s).indQ.dirty) := by
  unfold drainCtrl
  exact drainN_wakes _ s note (by simpa using hn)

theorem passLoop_calls (jc : JCV) (rjs : List JobV) (s : Sys) (ac : Int) :
    ∃ cs, (passLoop jc rjs s ac).1.calls = s.calls ++ cs :=
  (passLoop_Pass jc rjs s ac).imp fun _ hp => hp.calls

/-- everything known about a `passLoop` whose new calls are `cs` (the final log determines them):
they form a `Run`, the final count is the counter, the clock is the same, and applied calls are
visible in the authoritative state -/
theorem passLoop_Run_of_calls {jc : JCV} {rjs : List JobV} {s : Sys} {ac : Int} {cs : List Call}
    (h : (passLoop jc rjs s ac).1.calls = s.calls ++ cs) :
    ∃ acf, Run jc s.clock rjs ac cs (passLoop jc rjs s ac).2 acf ∧
      (ac = getCtr s.counter jc.uid → acf = getCtr (passLoop jc rjs s ac).1.counter jc.uid) ∧
      (passLoop jc rjs s ac).1.clock = s.clock ∧
      (∀ c ∈ cs, c.res = "ok" → Written (passLoop jc rjs s ac).1 c) := by
  obtain ⟨cs', hp⟩ := passLoop_Pass jc rjs s ac
  obtain rfl := List.append_cancel_left (hp.calls.symm.trans h)
  obtain ⟨acf, hr, hc⟩ := hp.toRun
  exact ⟨acf, hr, hc, hp.clock, hp.ok_written⟩

/-- with an accurate counter argument the CAS never fails: an aborted pass logged a call -/
theorem Pass.no_cas_fail (h : Pass jc rjs s ac cs s' ok) :
    ac = getCtr s.counter jc.uid → ok = false → cs ≠ [] := by
  induction h with
  | nil => intro _ h; cases h
  | defer _ _ _ ih => exact ih
  | wait _ _ _ _ _ ih => exact ih
  | casFail _ hne => intro hac; exact absurd hac.symm hne
  | rejectFail | rejectOk | rejectLost | rejectNoop | rejectNoopLost | startFail | startOk
    | startLost => intros; simp

theorem canStartJob_forbid (s : Sys) (jc : JCV) (j : JobV) (ac : Int)
    (h1 : j.hasPolicy = true) (h2 : j.policy = 1) (h3 : ac + 1 > jc.maxConc)
    (h4 : startAfterLater j s.clock = false) :
    canStartJob s jc j ac = ((rejectJobWrite s j (rejMsg jc ac)).1,
      if (rejectJobWrite s j (rejMsg jc ac)).2 then .skip else .error) := by
  rcases canStartJob_cases s jc j ac with ⟨hv, _⟩ | ⟨_, hl, _⟩ | ⟨_, _, _, _, heq⟩ | ⟨_, _, hpol, _⟩
  · exact absurd ⟨h1, Or.inl h2, h3⟩ hv.2
  · rw [h4] at hl; cases hl
  · exact heq
  · omega

/-- state after `syncIndependent` deferred the Job -/
def indLater (s : Sys) (q1 : WQ) (k : String) (j : JobV) : Sys :=
  { indPre s q1 with indQ := q1.addAfter ("ns/" ++ keyName k) ((j.startAfter.getD 0) * 1000000000) s.clock }

/-- what a worker step does with the key `k` it took from the queue (leaving `q1`): nothing (no
queued Job of that name is cached); a timer for a Job that must wait; or a start write of the due
Job, refused or applied -/
def IndStep (s : Sys) (k : String) (q1 : WQ) : Prop :=
  ((findJob s.jobCache (keyName k) = none ∨
        ∃ j, findJob s.jobCache (keyName k) = some j ∧ j.isQueued = false) ∧
      workIndependent s = (indPost (indPre s q1) k true, "ok")) ∨
  (∃ j, findJob s.jobCache (keyName k) = some j ∧ j.isQueued = true ∧
      j.hasPolicy = true ∧ startAfterLater j s.clock = true ∧
      workIndependent s = (indPost (indLater s q1 k j) k true, "ok")) ∨
  (∃ j, findJob s.jobCache (keyName k) = some j ∧ j.isQueued = true ∧ due j s.clock ∧
      ((∃ res, res ≠ "ok" ∧ writeRefused s j ∧
          workIndependent s =
            (indPost (failWrite (indPre s q1) "start" j.name res) k false, "err")) ∨
       (∃ cur, findJob s.jobs j.name = some cur ∧ cur.rv = j.rv ∧ ¬ faultBlocks s ∧
          workIndependent s =
            (indPost (applyWrite (indPre s q1) "start" j.name (startedJob s j cur)) k
                (decide (nextFault s ≠ "applied-err")),
              if nextFault s ≠ "applied-err" then "ok" else "err"))))

theorem workIndependent_cases_of_get {s : Sys} {k : String} {q1 : WQ}
    (hg : (s.indQ.advance s.clock).get = some (k, q1)) : IndStep s k q1 := by
  unfold IndStep
  rw [workIndependent_get hg]
  cases hj : findJob s.jobCache (keyName k) with
  | none =>
    left; refine ⟨Or.inl rfl, ?_⟩
    have hj' : findJob (indPre s q1).jobCache (keyName k) = none := hj
    rw [show syncIndependent (indPre s q1) (keyName k) = (indPre s q1, true) by
      unfold syncIndependent; rw [hj']]
    rfl
  | some j =>
    have hj' : findJob (indPre s q1).jobCache (keyName k) = some j := hj
    cases hq : j.isQueued with
    | false =>
      left; refine ⟨Or.inr ⟨j, rfl, hq⟩, ?_⟩
      rw [show syncIndependent (indPre s q1) (keyName k) = (indPre s q1, true) by
        unfold syncIndependent; rw [hj']; simp [hq]]
      rfl
    | true =>
      right
      by_cases hd : due j s.clock
      · right; refine ⟨j, rfl, hq, hd, ?_⟩
        rw [syncIndependent_due hj' hq hd, startJobWrite_eq]
        rcases apiWriteJob_cases (indPre s q1) "start" j (startF (indPre s q1).clock j) with
          ⟨res, hres, hwhy, hw⟩ | ⟨cur, hf, hrv, hnb, hw⟩ <;> rw [hw]
        · exact .inl ⟨res, hres, hwhy, rfl⟩
        · have : nextFault (indPre s q1) = nextFault s := rfl
          exact .inr ⟨cur, hf, hrv, hnb, by
            by_cases ha : nextFault s = "applied-err" <;> simp [ha, this] <;> rfl⟩
      · left
        have hd' : j.hasPolicy = true ∧ startAfterLater j s.clock = true := Decidable.not_not.mp hd
        refine ⟨j, rfl, hq, hd'.1, hd'.2, ?_⟩
        rw [show syncIndependent (indPre s q1) (keyName k) = (indLater s q1 k j, true) by
          unfold syncIndependent; rw [hj']; simp [hq, hd'.1, hd'.2, indLater, indPre]]
        rfl

theorem workIndependent_cases (s : Sys) :
    ((s.indQ.advance s.clock).get = none ∧
      workIndependent s = ({ s with indQ := s.indQ.advance s.clock, calls := [] }, "idle")) ∨
    ∃ k q1, (s.indQ.advance s.clock).get = some (k, q1) ∧ IndStep s k q1 := by
  cases hg : (s.indQ.advance s.clock).get with
  | none => exact .inl ⟨rfl, workIndependent_idle hg⟩
  | some p => exact .inr ⟨p.1, p.2, rfl, workIndependent_cases_of_get hg⟩

theorem due_startAfter {j : JobV} {clock : Int} (hd : due j clock)
    (hwf : j.hasPolicy = false → j.startAfter = none) :
    ∀ t, j.startAfter = some t → t * 1000000000 ≤ clock := by
  intro t ht
  unfold due startAfterLater at hd
  cases hp : j.hasPolicy <;> simp_all

end Furiko.Queue
