/-
Pure lemmas behind the "recorded refs stay well-formed" invariant of the job controller:
task names are injective in (hash, retry) when hashes contain no `-`; `GenerateTaskRefs` keeps names
pairwise distinct, keeps every ref well-named, and never clears a recorded timestamp.
Core Lean only.
-/
import FurikoModel.Proofs.JobCtlInvJob
import FurikoModel.Proofs.StrLemmas
import FurikoModel.Proofs.LookupLemmas

set_option linter.unusedSimpArgs false
set_option linter.unusedVariables false

namespace Furiko.JobCtl
open Furiko Furiko.WQ Furiko.StatusLemmas Furiko.ParallelLemmas

theorem int_repr_toList (r : Int) : (toString r).toList = Str.showInt r := by
  show (Int.repr r).toList = Str.showInt r
  cases r with
  | ofNat m =>
    show (Nat.repr m).toList = _
    rw [Nat.repr_eq_ofList_toDigits, String.toList_ofList]
    unfold Str.showInt Str.natDigits
    have : ¬ ((Int.ofNat m) < 0) := Int.not_lt.mpr (Int.natCast_nonneg m)
    rw [if_neg this]
    rfl
  | negSucc m =>
    show ("-" ++ (Nat.repr (m + 1))).toList = _
    rw [String.toList_append, Nat.repr_eq_ofList_toDigits]
    simp only [String.toList_ofList]
    unfold Str.showInt Str.natDigits
    have : (Int.negSucc m) < 0 := Int.negSucc_lt_zero m
    rw [if_pos this]
    rfl

theorem taskName_toList (n h : String) (r : Int) :
    (taskName n h r).toList = n.toList ++ ('-' :: (h.toList ++ ('-' :: Str.showInt r))) := by
  show (toString n ++ "-" ++ toString h ++ "-" ++ toString r).toList = _
  rw [String.toList_append, String.toList_append, String.toList_append, String.toList_append, int_repr_toList]
  show (n.toList ++ ['-'] ++ h.toList ++ ['-']) ++ Str.showInt r = _
  simp [List.append_assoc]

theorem append_cons_inj {α : Type} {c : α} : ∀ {a b x y : List α}, c ∉ a → c ∉ b →
    a ++ c :: x = b ++ c :: y → a = b ∧ x = y := by
  intro a
  induction a with
  | nil =>
    intro b x y _ hb e
    cases b with
    | nil => simp only [List.nil_append, List.cons.injEq, true_and] at e; exact ⟨rfl, e⟩
    | cons b0 bs =>
      simp only [List.nil_append, List.cons_append, List.cons.injEq] at e
      exact absurd (e.1 ▸ List.mem_cons_self) hb
  | cons a0 as ih =>
    intro b x y ha hb e
    cases b with
    | nil =>
      simp only [List.nil_append, List.cons_append, List.cons.injEq] at e
      exact absurd (e.1 ▸ List.mem_cons_self) ha
    | cons b0 bs =>
      simp only [List.cons_append, List.cons.injEq] at e
      have := ih (fun h => ha (List.mem_cons_of_mem _ h)) (fun h => hb (List.mem_cons_of_mem _ h)) e.2
      exact ⟨by rw [e.1, this.1], this.2⟩

theorem taskName_inj {n h h' : String} {r r' : Int} (hh : '-' ∉ h.toList) (hh' : '-' ∉ h'.toList)
    (e : taskName n h r = taskName n h' r') : h = h' ∧ r = r' := by
  have e1 := congrArg String.toList e
  rw [taskName_toList, taskName_toList] at e1
  have e2 := List.append_cancel_left e1
  simp only [List.cons.injEq, true_and] at e2
  have := append_cons_inj hh hh' e2
  exact ⟨String.toList_inj.mp this.1, Str.showInt_injective this.2⟩

theorem insertRef_perm (x : TaskRef) : ∀ (l : List TaskRef), (insertRef x l).Perm (x :: l)
  | [] => List.Perm.refl _
  | y :: ys => by
    unfold insertRef
    split
    · exact List.Perm.refl _
    · exact ((insertRef_perm x ys).cons y).trans (List.Perm.swap x y ys)

theorem sortTaskRefs_perm (l : List TaskRef) : (sortTaskRefs l).Perm l := by
  simpa [sortTaskRefs] using List.foldl_insert_perm insertRef insertRef_perm l []

/-- the ref carries one of the Job's indexes, is named after it and its retry number, and has a
creation timestamp -/
def RefOK (j0 : JobObj) (d : PIndex) (r : TaskRef) : Prop :=
  (∃ idx ∈ j0.job.indexes d, r.parallelIndex = some idx ∧ r.name = taskName j0.name idx.hash r.retryIndex) ∧
  r.creationTimestamp.isSome = true

/-- index hashes can be told apart and are usable in names -/
structure WF2 (j0 : JobObj) (d : PIndex) : Prop where
  noCollision : NoCollision (j0.job.indexes d)
  noDash : ∀ i ∈ j0.job.indexes d, '-' ∉ i.hash.toList

/-- a working Job value whose recorded refs are fine -/
structure Good (j0 : JobObj) (d : PIndex) (rj : Job) : Prop where
  nodup : (refNames rj).Nodup
  refs : ∀ r ∈ rj.status.tasks, RefOK j0 d r
  created : rj.status.createdTasks = rj.status.tasks.length

/-- a task list whose names are pairwise distinct and well-formed -/
structure TasksGood (j0 : JobObj) (d : PIndex) (tasks : List Task) : Prop where
  nodup : (tasks.map (·.name)).Nodup
  ok : ∀ t ∈ tasks, TaskOK t ∧ RefOK j0 d t.ref

/-- `r` is what became of `ex`: same name, no recorded timestamp cleared -/
def RefKeep (ex r : TaskRef) : Prop :=
  r.name = ex.name ∧ (ex.creationTimestamp.isSome = true → r.creationTimestamp.isSome = true) ∧
  (ex.runningTimestamp.isSome = true → r.runningTimestamp.isSome = true) ∧
  (ex.finishTimestamp.isSome = true → r.finishTimestamp.isSome = true)

def RefsKeep (a b : List TaskRef) : Prop := ∀ ex ∈ a, ∃ r ∈ b, RefKeep ex r

theorem RefsKeep.refl (a : List TaskRef) : RefsKeep a a := fun ex h => ⟨ex, h, rfl, id, id, id⟩

theorem RefsKeep.trans {a b c : List TaskRef} (h1 : RefsKeep a b) (h2 : RefsKeep b c) : RefsKeep a c := by
  intro ex hex
  obtain ⟨r, hr, k1⟩ := h1 ex hex
  obtain ⟨r', hr', k2⟩ := h2 r hr
  exact ⟨r', hr', k2.1.trans k1.1, fun h => k2.2.1 (k1.2.1 h), fun h => k2.2.2.1 (k1.2.2.1 h),
    fun h => k2.2.2.2 (k1.2.2.2 h)⟩

theorem RefsKeep.of_map {a : List TaskRef} (f : TaskRef → TaskRef) (hf : ∀ r, RefKeep r (f r)) :
    RefsKeep a (a.map f) := fun ex h => ⟨f ex, List.mem_map_of_mem h, hf ex⟩

theorem RefOK.same_name {j0 : JobObj} {d : PIndex} (hwf : WF2 j0 d) {r r' : TaskRef} (h : RefOK j0 d r)
    (h' : RefOK j0 d r') (e : r.name = r'.name) : r.hash d = r'.hash d ∧ r.retryIndex = r'.retryIndex := by
  obtain ⟨⟨i, hi, hp, hn⟩, _⟩ := h
  obtain ⟨⟨i', hi', hp', hn'⟩, _⟩ := h'
  rw [hn, hn'] at e
  have := taskName_inj (hwf.noDash i hi) (hwf.noDash i' hi') e
  unfold TaskRef.hash TaskRef.index
  rw [hp, hp']
  exact ⟨this.1, this.2⟩

theorem fresh_name {j0 : JobObj} {d : PIndex} (hwf : WF2 j0 d) {refs : List TaskRef}
    (hrefs : ∀ r ∈ refs, RefOK j0 d r) {idx : PIndex} (hidx : idx ∈ j0.job.indexes d) :
    taskName j0.name idx.hash (nextRetryIndex d refs idx.hash) ∉ refs.map (·.name) := by
  intro hmem
  obtain ⟨r, hr, hn⟩ := List.mem_map.mp hmem
  obtain ⟨⟨i, hi, hp, hn'⟩, _⟩ := hrefs r hr
  rw [hn'] at hn
  have := taskName_inj (hwf.noDash i hi) (hwf.noDash idx hidx) hn
  have hh : r.hash d = idx.hash := by
    unfold TaskRef.hash TaskRef.index; rw [hp]; exact this.1
  have hin : r ∈ tasksOfHash d refs idx.hash := (mem_tasksOfHash d refs idx.hash r).mpr ⟨hr, hh⟩
  have hge := (foldl_maxSucc_ge ((tasksOfHash d refs idx.hash).map (·.retryIndex)) 0).2 r.retryIndex
    (List.mem_map_of_mem hin)
  rw [nextRetryIndex_eq_maxSucc] at this
  unfold maxSucc at this
  omega


theorem getTaskRef_fields (e : Option TaskRef) (t : Task) :
    (getTaskRef e t).name = t.ref.name ∧ (getTaskRef e t).parallelIndex = t.ref.parallelIndex ∧
    (getTaskRef e t).retryIndex = t.ref.retryIndex ∧
    (getTaskRef e t).creationTimestamp = t.ref.creationTimestamp := by
  cases e with
  | none => rw [getTaskRef_none]; split <;> exact ⟨rfl, rfl, rfl, rfl⟩
  | some ex => rw [getTaskRef_some]; split <;> exact ⟨rfl, rfl, rfl, rfl⟩

theorem getTaskRef_refOK {j0 : JobObj} {d : PIndex} (e : Option TaskRef) (t : Task) (h : RefOK j0 d t.ref) :
    RefOK j0 d (getTaskRef e t) := by
  obtain ⟨h1, h2, h3, h4⟩ := getTaskRef_fields e t
  obtain ⟨⟨i, hi, hp, hn⟩, hc⟩ := h
  exact ⟨⟨i, hi, h2.trans hp, by rw [h1, h3]; exact hn⟩, by rw [h4]; exact hc⟩

theorem lostRef_fields (now : Time) (ex : TaskRef) :
    (lostRef now ex).name = ex.name ∧ (lostRef now ex).parallelIndex = ex.parallelIndex ∧
    (lostRef now ex).retryIndex = ex.retryIndex ∧ (lostRef now ex).creationTimestamp = ex.creationTimestamp := by
  unfold lostRef
  cases ex.finishTimestamp <;> cases ex.deletedStatus <;> exact ⟨rfl, rfl, rfl, rfl⟩

theorem lostRef_refOK {j0 : JobObj} {d : PIndex} (now : Time) (ex : TaskRef) (h : RefOK j0 d ex) :
    RefOK j0 d (lostRef now ex) := by
  obtain ⟨h1, h2, h3, h4⟩ := lostRef_fields now ex
  obtain ⟨⟨i, hi, hp, hn⟩, hc⟩ := h
  exact ⟨⟨i, hi, h2.trans hp, by rw [h1, h3]; exact hn⟩, by rw [h4]; exact hc⟩

theorem mem_generateTaskRefs {now : Time} {existing : List TaskRef} {tasks : List Task} {r : TaskRef}
    (h : r ∈ generateTaskRefs now existing tasks) :
    (∃ t ∈ tasks, r = getTaskRef (lookupRef existing t.name) t) ∨
    (∃ ex ∈ existing, ex.name ∉ tasks.map (·.name) ∧ r = lostRef now ex) := by
  unfold generateTaskRefs at h
  rw [mem_sortTaskRefs] at h
  rcases List.mem_append.mp h with h | h
  · obtain ⟨t, ht, rfl⟩ := List.mem_map.mp h
    exact Or.inl ⟨t, ht, rfl⟩
  · obtain ⟨ex, hex, rfl⟩ := List.mem_map.mp h
    have := List.mem_filter.mp hex
    refine Or.inr ⟨ex, this.1, ?_, rfl⟩
    have h2 := this.2
    simp only [Bool.not_eq_true', ← Bool.not_eq_true] at h2
    rw [List.contains_iff_mem] at h2
    exact h2

theorem generateTaskRefs_names_nodup (now : Time) (existing : List TaskRef) (tasks : List Task)
    (hex : (existing.map (·.name)).Nodup) (hts : (tasks.map (·.name)).Nodup) (hok : ∀ t ∈ tasks, TaskOK t) :
    ((generateTaskRefs now existing tasks).map (·.name)).Nodup := by
  unfold generateTaskRefs
  simp only
  have hperm := (sortTaskRefs_perm (tasks.map (fun t => getTaskRef (lookupRef existing t.name) t) ++
      (existing.filter (fun ex => !(tasks.map (·.name)).contains ex.name)).map (lostRef now))).map (·.name)
  rw [hperm.nodup_iff, List.map_append, List.nodup_append]
  have h1 : (tasks.map (fun t => getTaskRef (lookupRef existing t.name) t)).map (·.name) = tasks.map (·.name) := by
    rw [List.map_map]
    apply List.map_congr_left
    intro t ht
    simp only [Function.comp]
    rw [getTaskRef_name, hok t ht]
  have h2 : ((existing.filter (fun ex => !(tasks.map (·.name)).contains ex.name)).map (lostRef now)).map (·.name) =
      (existing.filter (fun ex => !(tasks.map (·.name)).contains ex.name)).map (·.name) := by
    rw [List.map_map]
    apply List.map_congr_left
    intro ex _
    exact (lostRef_fields now ex).1
  rw [h1, h2]
  refine ⟨hts, (List.filter_sublist.map _).nodup hex, ?_⟩
  intro a ha b hb e
  subst e
  obtain ⟨ex, hexm, rfl⟩ := List.mem_map.mp hb
  have := (List.mem_filter.mp hexm).2
  simp only [Bool.not_eq_true', ← Bool.not_eq_true] at this
  rw [List.contains_iff_mem] at this
  exact this ha

theorem generateTaskRefs_keep (now : Time) (existing : List TaskRef) (tasks : List Task)
    (hex : (existing.map (·.name)).Nodup) (hok : ∀ t ∈ tasks, TaskOK t)
    (hct : ∀ t ∈ tasks, t.ref.creationTimestamp.isSome = true) :
    RefsKeep existing (generateTaskRefs now existing tasks) := by
  intro ex hexm
  have hm := Furiko.Props.C11.generateTaskRefs_members now existing tasks
  by_cases hin : ex.name ∈ tasks.map (·.name)
  · obtain ⟨t, ht, htn⟩ := List.mem_map.mp hin
    refine ⟨getTaskRef (lookupRef existing t.name) t, hm.2.1 t ht, ?_, ?_, ?_⟩
    · rw [getTaskRef_name, hok t ht, htn]
    · intro _; rw [(getTaskRef_fields _ t).2.2.2]; exact hct t ht
    · rw [htn, lookupRef_of_nodup existing hex ex hexm]
      have := Furiko.Props.C11.getTaskRef_retains ex t
      exact ⟨this.2.2.1, this.2.2.2⟩
  · refine ⟨lostRef now ex, hm.1 ex hexm hin, ?_⟩
    have := Furiko.Props.C11.lostRef_retains now ex
    refine ⟨this.1, ?_, ?_, fun _ => this.2.2.2.1⟩
    · rw [(lostRef_fields now ex).2.2.2]; exact id
    · rw [this.2.1]; exact id

theorem updateJobTaskRefs_good {j0 : JobObj} {d : PIndex} (now : Time) (rj : Job) (tasks : List Task)
    (hg : Good j0 d rj) (ht : TasksGood j0 d tasks) :
    Good j0 d (updateJobTaskRefs now rj tasks) ∧
    RefsKeep rj.status.tasks (updateJobTaskRefs now rj tasks).status.tasks := by
  refine ⟨⟨?_, ?_, rfl⟩, ?_⟩
  · exact generateTaskRefs_names_nodup now _ _ hg.nodup ht.nodup (fun t h => (ht.ok t h).1)
  · intro r hr
    rcases mem_generateTaskRefs hr with ⟨t, htm, rfl⟩ | ⟨ex, hexm, _, rfl⟩
    · exact getTaskRef_refOK _ t (ht.ok t htm).2
    · exact lostRef_refOK now ex (hg.refs ex hexm)
  · exact generateTaskRefs_keep now _ _ hg.nodup (fun t h => (ht.ok t h).1) (fun t h => (ht.ok t h).2.2)

/-- a transformation that rewrites refs in place, keeping name, index, retry number and creation
timestamp -/
theorem Good.map {j0 : JobObj} {d : PIndex} {rj : Job} (hg : Good j0 d rj) (f : TaskRef → TaskRef)
    (hf : ∀ r, (f r).name = r.name ∧ (f r).parallelIndex = r.parallelIndex ∧ (f r).retryIndex = r.retryIndex ∧
      (f r).creationTimestamp = r.creationTimestamp) :
    Good j0 d { rj with status := { rj.status with tasks := rj.status.tasks.map f } } := by
  refine ⟨?_, ?_, ?_⟩
  · have : refNames { rj with status := { rj.status with tasks := rj.status.tasks.map f } } = refNames rj := by
      unfold refNames
      simp only [List.map_map]
      apply List.map_congr_left
      intro r _
      exact (hf r).1
    rw [this]; exact hg.nodup
  · intro r hr
    obtain ⟨r0, hr0, rfl⟩ := List.mem_map.mp hr
    obtain ⟨⟨i, hi, hp, hn⟩, hc⟩ := hg.refs r0 hr0
    obtain ⟨h1, h2, h3, h4⟩ := hf r0
    exact ⟨⟨i, hi, h2.trans hp, by rw [h1, h3]; exact hn⟩, by rw [h4]; exact hc⟩
  · show rj.status.createdTasks = ((rj.status.tasks.map f).length : Int)
    rw [List.length_map]; exact hg.created

theorem filterMap_names_sublist {α β : Type} (f : α → Option β) (g : β → String) (h : α → String)
    (hfg : ∀ x y, f x = some y → g y = h x) : ∀ (l : List α), ((l.filterMap f).map g).Sublist (l.map h)
  | [] => List.Sublist.slnil
  | x :: rest => by
    rw [List.filterMap_cons]
    cases hx : f x with
    | none => simp only [List.map_cons]; exact (filterMap_names_sublist f g h hfg rest).cons _
    | some y =>
      simp only [List.map_cons]
      rw [hfg x y hx]
      exact (filterMap_names_sublist f g h hfg rest).cons_cons _

end Furiko.JobCtl
