/-
Where pods come from: in a controller pass every pod name that is new on the server was created for
a request `ComputeMissingIndexesForCreation` computed from the CACHED Job; no other action except
`createForeign` adds a pod name.  Core Lean only.
-/
import FurikoModel.Proofs.JobCtlInvGone
import FurikoModel.Props.C08

set_option linter.unusedSimpArgs false
set_option linter.unusedVariables false

namespace Furiko.JobCtl
open Furiko Furiko.WQ Furiko.ParallelLemmas

/-- a pod after (part of) a pass stands for a pod that was there before — same name and index, finished if
that one was — or was created in this pass for a request of the cached Job -/
def PodsFrom (jo : JobObj) (s s' : Sys) : Prop :=
  ∀ q' ∈ s'.pods,
    (∃ q ∈ s.pods, q.pod.name = q'.pod.name ∧ q.pod.parallelIndex = q'.pod.parallelIndex ∧
      (q.pod.isFinished = true → q'.pod.isFinished = true)) ∨
    (q'.pod.name ∉ podNames s.pods ∧ ∃ idx retry, CreateReq s.d jo idx retry ∧
      q'.pod.name = taskName jo.name idx.hash retry ∧ q'.pod.parallelIndex = some idx)

theorem PodsFrom.micro {jo : JobObj} {sp s s' : Sys} (h : PodsFrom jo sp s) (hd : s.d = sp.d)
    (hm : Micro jo sp s s') : PodsFrom jo sp s' := by
  intro q' hq
  rcases hm.change.pods_from q' hq with hq | ⟨q, hq, hn, k⟩ | ⟨⟨idx, retry, hreq, hcp, rfl⟩, hnew⟩
  · exact h q' hq
  · rcases h q hq with ⟨q0, hq0, h1, h2, h3⟩ | ⟨h1, idx, retry, hreq, h2, h3⟩
    · exact .inl ⟨q0, hq0, h1.trans hn, h2.trans k.parallelIndex.symm, fun hf => k.fin (h3 hf)⟩
    · exact .inr ⟨hn ▸ h1, idx, retry, hreq, hn ▸ h2, k.parallelIndex.trans h3⟩
  · exact .inr ⟨fun hmem => hnew (hcp.sup _ hmem), idx, retry, hd ▸ hreq, rfl, rfl⟩

theorem PodsFrom.micros {jo : JobObj} {sp s s' : Sys} (h : PodsFrom jo sp s) (hd : s.d = sp.d)
    (hm : Micros jo sp s s') : PodsFrom jo sp s' := by
  induction hm with
  | refl => exact h
  | tail hms hm ih => exact ih.micro (hms.static.d.trans hd) hm

theorem podsFrom_work (s : Sys) (jo : JobObj) (hc : s.jobCache = some jo) : PodsFrom jo s (work s).1 := by
  obtain ⟨sp, hf, hm⟩ := work_micros s jo hc
  have h0 : PodsFrom jo sp sp := fun q hq => Or.inl ⟨q, hq, rfl, rfl, fun h => h⟩
  have := h0.micros rfl hm
  intro q hq
  rcases this q hq with ⟨q0, hq0, h1, h2, h3⟩ | ⟨h1, idx, retry, hreq, h2, h3⟩
  · exact Or.inl ⟨q0, hf.pods ▸ hq0, h1, h2, h3⟩
  · exact Or.inr ⟨hf.pods ▸ h1, idx, retry, hf.d ▸ hreq, h2, h3⟩

/-- every pod name that a pass adds to the server stands for a creation request computed from the
cached Job -/
theorem work_new_pod_names (s : Sys) (n : String) (hn : n ∈ podNames (work s).1.pods) (hnew : n ∉ podNames s.pods) :
    ∃ jo idx retry, s.jobCache = some jo ∧ CreateReq s.d jo idx retry ∧ n = taskName jo.name idx.hash retry := by
  cases hc : s.jobCache with
  | none => rw [(work_frame s hc).pods] at hn; exact absurd hn hnew
  | some jo =>
    obtain ⟨q', hq', rfl⟩ := List.mem_map.mp hn
    rcases podsFrom_work s jo hc q' hq' with ⟨q, hq, h1, _⟩ | ⟨_, idx, retry, hreq, h2, _⟩
    · exact absurd (List.mem_map.mpr ⟨q, hq, h1⟩) hnew
    · exact ⟨jo, idx, retry, rfl, hreq, h2⟩

/-- no action other than a controller pass and `createForeign` adds a pod name -/
theorem step_pod_names (s : Sys) (a : Action) (hw : a ≠ .work) (hf : ∀ p, a ≠ .createForeign p) :
    ∀ n ∈ podNames (step s a).pods, n ∈ podNames s.pods := by
  intro n hn
  rcases step_kind s a with rfl | hq | hch
  · exact absurd rfl hw
  · rwa [hq.pods] at hn
  · obtain ⟨q', hq', rfl⟩ := List.mem_map.mp hn
    rcases hch.pods_from q' hq' with h | ⟨q, hq, he, _⟩ | ⟨ha, _⟩
    · exact List.mem_map_of_mem h
    · exact List.mem_map.mpr ⟨q, hq, he⟩
    · exact absurd ha (hf q')

/-- what a creation request says, under `NoCollision` (from `C08.computeMissing_sound`) -/
theorem createReq_sound {d : PIndex} {jo : JobObj} {idx : PIndex} {retry : Int} (h : CreateReq d jo idx retry)
    (hnc : NoCollision (jo.job.indexes d)) :
    isStarted jo.job = true ∧ isDeleted jo.job = false ∧ canCreateTask jo.job = true ∧
    idx ∈ jo.job.indexes d ∧
    (∀ t ∈ jo.job.status.tasks, t.hash d = idx.hash → t.finishTimestamp.isSome = true ∧ t.status.result ≠ .succeeded) ∧
    retry = nextRetryIndex d jo.job.status.tasks idx.hash ∧ 0 ≤ retry ∧ retry < jo.job.maxAttempts := by
  obtain ⟨h1, h2, h3, reqs, e, hreqs, hmem⟩ := h
  have hs := Furiko.Props.C08.computeMissing_sound d jo.job _ reqs hnc hreqs _ hmem
  have hf := createReq_facts (⟨h1, h2, h3, reqs, e, hreqs, hmem⟩ : CreateReq d jo idx retry)
  refine ⟨h1, h2, h3, hs.1, ?_, hs.2.2.1, hf.2.2.1, hs.2.2.2.1⟩
  intro t ht hh
  have hnb := hs.2.1 t ht hh
  unfold Furiko.Props.C08.Blocking at hnb
  constructor
  · cases hft : t.finishTimestamp with
    | none => exact absurd (Or.inl hft) hnb
    | some _ => rfl
  · intro hr; exact hnb (Or.inr hr)

end Furiko.JobCtl
