/-
Pure-layer facts used by the history invariants of the job controller: what every transformation
that `Reconciler.sync` applies to the Job value keeps (`JobLe`), list lemmas about the pod store
(`findPod` / `setPod` / `delPod`), the finish time a Pod is recorded with (`Pod.recordedFinish`)
and the ref lookup by name (`lookupRef`).  Core Lean only.
-/
import FurikoModel.Proofs.JobCtlSys
import FurikoModel.Proofs.JobCtlPlan
import FurikoModel.Proofs.ConditionLemmas
import FurikoModel.Props.C11

set_option linter.unusedSimpArgs false
set_option linter.unusedVariables false

namespace Furiko.JobCtl
open Furiko Furiko.WQ Furiko.StatusLemmas Furiko.ConditionLemmas

def podNames (l : List PodObj) : List String := l.map (·.pod.name)

def podEvNames (l : List PEv) : List String :=
  l.map (fun e => match e with
    | .upsert p => p.pod.name
    | .delete p => p.pod.name)

export Furiko.JobCtlPlan (findPod_some)

theorem findPod_none {l : List PodObj} {n : String} (h : findPod l n = none) :
    ∀ p ∈ l, p.pod.name ≠ n := by
  unfold findPod at h
  intro p hp
  have := List.find?_eq_none.mp h p hp
  simpa using this

theorem findPod_isSome_iff (l : List PodObj) (n : String) :
    (findPod l n).isSome = true ↔ n ∈ podNames l := by
  unfold findPod podNames
  rw [List.find?_isSome]
  simp only [decide_eq_true_eq, List.mem_map]

theorem findPod_eq_none_iff (l : List PodObj) (n : String) :
    findPod l n = none ↔ n ∉ podNames l := by
  rw [← findPod_isSome_iff]
  cases findPod l n <;> simp

theorem findPod_of_mem_nodup {l : List PodObj} (hnd : (podNames l).Nodup) {p : PodObj} (hp : p ∈ l) :
    findPod l p.pod.name = some p := by
  induction l with
  | nil => cases hp
  | cons x rest ih =>
    unfold podNames at hnd
    simp only [List.map_cons, List.nodup_cons] at hnd
    unfold findPod
    rw [List.find?_cons]
    by_cases hx : x.pod.name = p.pod.name
    · simp only [hx, decide_true]
      rcases List.mem_cons.mp hp with rfl | hr
      · rfl
      · exact absurd (List.mem_map.mpr ⟨p, hr, hx.symm⟩) hnd.1
    · simp only [hx, decide_false]
      rcases List.mem_cons.mp hp with rfl | hr
      · exact absurd rfl hx
      · exact ih hnd.2 hr

theorem mem_setPod {l : List PodObj} {p q : PodObj} (h : q ∈ setPod l p) : q = p ∨ q ∈ l := by
  unfold setPod at h
  split at h
  · obtain ⟨x, hx, rfl⟩ := List.mem_map.mp h
    split
    · exact Or.inl rfl
    · exact Or.inr hx
  · rcases List.mem_append.mp h with h | h
    · exact Or.inr h
    · exact Or.inl (by simpa using h)

theorem podNames_setPod_of_mem {l : List PodObj} {p : PodObj} (h : p.pod.name ∈ podNames l) :
    podNames (setPod l p) = podNames l := by
  unfold setPod
  have : l.any (·.pod.name = p.pod.name) = true := by
    obtain ⟨x, hx, hn⟩ := List.mem_map.mp h
    exact List.any_eq_true.mpr ⟨x, hx, by simpa using hn⟩
  rw [if_pos this]
  unfold podNames
  rw [List.map_map]
  apply List.map_congr_left
  intro x _
  simp only [Function.comp]
  split
  · rename_i hx; exact hx.symm
  · rfl

theorem podNames_setPod_of_not_mem {l : List PodObj} {p : PodObj} (h : p.pod.name ∉ podNames l) :
    podNames (setPod l p) = podNames l ++ [p.pod.name] := by
  unfold setPod
  have : ¬ l.any (·.pod.name = p.pod.name) = true := by
    intro ha
    obtain ⟨x, hx, hn⟩ := List.any_eq_true.mp ha
    exact h (List.mem_map.mpr ⟨x, hx, by simpa using hn⟩)
  rw [if_neg this]
  simp [podNames]

theorem nodup_setPod {l : List PodObj} (p : PodObj) (hnd : (podNames l).Nodup) :
    (podNames (setPod l p)).Nodup := by
  by_cases h : p.pod.name ∈ podNames l
  · rw [podNames_setPod_of_mem h]; exact hnd
  · rw [podNames_setPod_of_not_mem h]
    rw [List.nodup_append]
    refine ⟨hnd, by simp, ?_⟩
    intro a ha b hb
    simp only [List.mem_singleton] at hb
    subst hb
    intro he; subst he; exact h ha

theorem nodup_delPod {l : List PodObj} (n : String) (hnd : (podNames l).Nodup) :
    (podNames (delPod l n)).Nodup := by
  unfold podNames delPod at *
  exact (List.filter_sublist.map _).nodup hnd

theorem nodup_append_pod {l : List PodObj} {p : PodObj} (hnd : (podNames l).Nodup)
    (h : findPod l p.pod.name = none) : (podNames (l ++ [p])).Nodup := by
  have hn := (findPod_eq_none_iff l p.pod.name).mp h
  unfold podNames at *
  rw [List.map_append, List.nodup_append]
  refine ⟨hnd, by simp, ?_⟩
  intro a ha b hb
  simp only [List.map_cons, List.map_nil, List.mem_singleton] at hb
  subst hb
  intro he; subst he; exact hn ha

/-- `GetTaskRef().Name` of a task is its `GetName()` (true for every `PodTask`) -/
def TaskOK (t : Task) : Prop := t.ref.name = t.name

/-- the finish time `GetTaskRef` records is set exactly when `GetFinishTimestamp` is: the
observation time only replaces a fallback value -/
theorem _root_.Furiko.Pod.recordedFinish_isSome (now : Time) (p : Pod) (fin : Option Time) :
    (p.recordedFinish now fin).isSome = fin.isSome := by
  unfold Pod.recordedFinish
  split
  · rename_i h
    simp only [Bool.and_eq_true] at h
    rw [h.1]; rfl
  · rfl

theorem _root_.Furiko.Pod.recordedFinish_none (now : Time) (p : Pod) : p.recordedFinish now none = none := by
  simp [Pod.recordedFinish]

theorem _root_.Furiko.Pod.recordedFinish_of_reported {now : Time} {p : Pod} (fin : Option Time)
    (h : p.hasFinishTimestamp = true) : p.recordedFinish now fin = fin := by
  simp [Pod.recordedFinish, h]

theorem _root_.Furiko.Pod.recordedFinish_cases (now : Time) (p : Pod) (fin : Option Time) :
    p.recordedFinish now fin = fin ∨
      (p.recordedFinish now fin = some now ∧ fin.isSome = true ∧ p.hasFinishTimestamp = false) := by
  unfold Pod.recordedFinish
  split
  · rename_i h
    simp only [Bool.and_eq_true, Bool.not_eq_true'] at h
    exact Or.inr ⟨rfl, h.1, h.2⟩
  · exact Or.inl rfl

theorem _root_.Furiko.Pod.recordedFinish_some {now : Time} {p : Pod} {fin : Option Time} {f : Time}
    (h : p.recordedFinish now fin = some f) : fin = some f ∨ f = now := by
  unfold Pod.recordedFinish at h
  split at h
  · exact Or.inr (Option.some.inj h).symm
  · exact Or.inl h

theorem podTask_ok {now : Time} {p : PodObj} {t : Task} (h : podTask now p = some t) : TaskOK t ∧ t.name = p.pod.name := by
  unfold podTask Pod.task at h
  cases hr : p.pod.taskRef now with
  | none => simp [hr] at h
  | some r =>
    simp only [hr, Option.some.injEq] at h
    subst h
    unfold Pod.taskRef at hr
    cases hf : p.pod.finishTimestamp with
    | none => simp [hf] at hr
    | some fin =>
      simp only [hf, Option.some.injEq] at hr
      subst hr
      exact ⟨rfl, rfl⟩

def refNames (j : Job) : List String := j.status.tasks.map (·.name)

/-- `b` can be what `sync` turns `a` into: the spec is untouched except that the admission-error
annotation may be added, the start time is kept, and no task name is dropped from the status. -/
structure JobLe (a b : Job) : Prop where
  template : b.template = a.template
  kill : b.killTimestamp = a.killTimestamp
  ttl : b.ttlSecondsAfterFinished = a.ttlSecondsAfterFinished
  startPolicy : b.startPolicy = a.startPolicy
  del : b.deletionTimestamp = a.deletionTimestamp
  adm : a.admissionError = true → b.admissionError = true
  startTime : b.status.startTime = a.status.startTime
  names : ∀ n ∈ refNames a, n ∈ refNames b

theorem JobLe.refl (a : Job) : JobLe a a := ⟨rfl, rfl, rfl, rfl, rfl, id, rfl, fun _ h => h⟩

theorem JobLe.trans {a b c : Job} (h1 : JobLe a b) (h2 : JobLe b c) : JobLe a c :=
  ⟨h2.template.trans h1.template, h2.kill.trans h1.kill, h2.ttl.trans h1.ttl,
   h2.startPolicy.trans h1.startPolicy, h2.del.trans h1.del, fun h => h2.adm (h1.adm h),
   h2.startTime.trans h1.startTime, fun n h => h2.names n (h1.names n h)⟩

theorem generateTaskRefs_names (now : Time) (existing : List TaskRef) (tasks : List Task)
    (htask : ∀ t ∈ tasks, TaskOK t) :
    ∀ n ∈ existing.map (·.name), n ∈ (generateTaskRefs now existing tasks).map (·.name) := by
  intro n hn
  obtain ⟨ex, hex, rfl⟩ := List.mem_map.mp hn
  have hm := Furiko.Props.C11.generateTaskRefs_members now existing tasks
  by_cases hin : ex.name ∈ tasks.map (·.name)
  · obtain ⟨t, ht, htn⟩ := List.mem_map.mp hin
    refine List.mem_map.mpr ⟨getTaskRef (lookupRef existing t.name) t, hm.2.1 t ht, ?_⟩
    rw [getTaskRef_name, htask t ht, htn]
  · refine List.mem_map.mpr ⟨lostRef now ex, hm.1 ex hex hin, ?_⟩
    exact (Furiko.Props.C11.lostRef_retains now ex).1

theorem updateJobTaskRefs_le (now : Time) (rj : Job) (tasks : List Task) (htask : ∀ t ∈ tasks, TaskOK t) :
    JobLe rj (updateJobTaskRefs now rj tasks) :=
  ⟨rfl, rfl, rfl, rfl, rfl, id, rfl, generateTaskRefs_names now rj.status.tasks tasks htask⟩

theorem updateJobStatusFromTaskRefs_le {now : Time} {d : PIndex} {rj nj : Job}
    (h : updateJobStatusFromTaskRefs now d rj = some nj) : JobLe rj nj := by
  unfold updateJobStatusFromTaskRefs updateJobStatusFromTaskRefsWith at h
  cases ht : rj.template with
  | none => simp [ht] at h
  | some t =>
    simp only [ht, Option.some.injEq] at h
    subst h
    refine ⟨ht.symm, rfl, rfl, rfl, rfl, id, ?_, ?_⟩
    · simp [statusBeforePhase]
    · intro n hn; simpa [refNames, statusBeforePhase] using hn

theorem markDeleted_le (rj : Job) (names : List String) (f : TaskRef → TaskRef)
    (hf : ∀ r, (f r).name = r.name) : JobLe rj (markDeleted rj names f) := by
  refine ⟨rfl, rfl, rfl, rfl, rfl, id, rfl, ?_⟩
  intro n hn
  unfold refNames markDeleted at *
  simp only [List.map_map]
  obtain ⟨r, hr, rfl⟩ := List.mem_map.mp hn
  refine List.mem_map.mpr ⟨r, hr, ?_⟩
  simp only [Function.comp]
  split
  · exact hf r
  · rfl

theorem updateTaskRefDeletedStatusIfNotSet_le (rj : Job) (name : String) (st : TaskStatus) :
    JobLe rj (updateTaskRefDeletedStatusIfNotSet rj name st) := by
  refine ⟨rfl, rfl, rfl, rfl, rfl, id, rfl, ?_⟩
  intro n hn
  unfold refNames updateTaskRefDeletedStatusIfNotSet at *
  simp only [List.map_map]
  obtain ⟨r, hr, rfl⟩ := List.mem_map.mp hn
  refine List.mem_map.mpr ⟨r, hr, ?_⟩
  simp only [Function.comp]
  split <;> rfl

theorem _root_.Furiko.lookupRef_some {existing : List TaskRef} {n : String} {ex : TaskRef}
    (h : lookupRef existing n = some ex) : ex ∈ existing ∧ ex.name = n := by
  unfold lookupRef at h
  exact ⟨List.mem_reverse.mp (List.mem_of_find?_eq_some h), by simpa using List.find?_some h⟩

theorem _root_.Furiko.lookupRef_of_mem {B : List TaskRef} {b : TaskRef} (hb : b ∈ B) :
    ∃ b', lookupRef B b.name = some b' := by
  unfold lookupRef
  cases h : B.reverse.find? (fun r => r.name == b.name) with
  | some b' => exact ⟨b', rfl⟩
  | none =>
    exfalso
    have := List.find?_eq_none.mp h b (List.mem_reverse.mpr hb)
    simp at this

/-- A refresh shows at least what was recorded before: if the ref `GenerateTaskRefs` lists under the name of a
listed task `t` shows neither a running nor a finish timestamp, neither does the ref recorded under that
name before — the refreshed ref is `GetTaskRef` of a listed task of that name over the recorded one. -/
theorem generateTaskRefs_pending_before {now : Time} {ex : List TaskRef} {tasks : List Task} {t : Task}
    (hok : ∀ x ∈ tasks, TaskOK x) (ht : t ∈ tasks)
    (h : ∀ b, lookupRef (generateTaskRefs now ex tasks) t.name = some b →
      b.runningTimestamp = none ∧ b.finishTimestamp = none) :
    ∀ e, lookupRef ex t.name = some e → e.runningTimestamp = none ∧ e.finishTimestamp = none := by
  intro e he
  have hm : getTaskRef (lookupRef ex t.name) t ∈ generateTaskRefs now ex tasks := by
    unfold generateTaskRefs
    rw [mem_sortTaskRefs]
    exact List.mem_append_left _ (List.mem_map.mpr ⟨t, ht, rfl⟩)
  obtain ⟨b, hb⟩ := lookupRef_of_mem hm
  rw [getTaskRef_name, hok t ht] at hb
  obtain ⟨hbm, hbn⟩ := lookupRef_some hb
  obtain ⟨hbr, hbf⟩ := h b hb
  unfold generateTaskRefs at hbm
  rw [mem_sortTaskRefs] at hbm
  rcases List.mem_append.mp hbm with h' | h'
  · obtain ⟨t'', ht'', rfl⟩ := List.mem_map.mp h'
    rw [getTaskRef_name, hok t'' ht''] at hbn
    have he'' : lookupRef ex t''.name = some e := by rw [hbn]; exact he
    exact ⟨((getTaskRef_running_none _ t'').mp hbr).2 e he'', ((getTaskRef_finish_none _ t'').mp hbf).2 e he''⟩
  · -- a tombstone is only listed for a name no listed task carries
    exfalso
    obtain ⟨e0, he0, rfl⟩ := List.mem_map.mp h'
    have hnot := (List.mem_filter.mp he0).2
    rw [(Furiko.Props.C11.lostRef_retains now e0).1] at hbn
    simp only [Bool.not_eq_true', ← Bool.not_eq_true] at hnot
    rw [List.contains_iff_mem] at hnot
    exact hnot (List.mem_map.mpr ⟨t, ht, hbn.symm⟩)

theorem updateJobStatusFromTaskRefs_isSome {now : Time} {d : PIndex} {rj : Job} (h : rj.template.isSome = true) :
    ∃ nj, updateJobStatusFromTaskRefs now d rj = some nj := by
  unfold updateJobStatusFromTaskRefs updateJobStatusFromTaskRefsWith
  cases ht : rj.template with
  | none => rw [ht] at h; cases h
  | some t => exact ⟨_, rfl⟩

theorem adm_le (rj : Job) : JobLe rj { rj with admissionError := true } :=
  ⟨rfl, rfl, rfl, rfl, rfl, fun _ => rfl, rfl, fun _ h => h⟩

end Furiko.JobCtl
