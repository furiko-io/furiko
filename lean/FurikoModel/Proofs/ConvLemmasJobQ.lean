/-
Helpers for Props/C20Inst: one pass of the job controller (`Model/JobCtl.lean`) is
* QUEUE-OBLIVIOUS: what it reads, the API calls it issues and what it returns do not depend on the
  contents of the work queue; its only effect on the queue is a list of deferred adds
  (`Retry.QOp.addAfter`) — which is exactly the `SyncResult.during` of the retry-loop model
  `Model/Retry.lean`;
* CALL-ACCOUNTED (`Kept`): the call log only grows, a pod that existed before still exists (by name)
  afterwards unless a logged, successful, forced pod delete names it, and a pass that logged no call
  changed nothing but the work queue.
Both are proved by one walk through `Reconciler.sync`: `Good` is closed under sequencing (`Good.bind`),
post-processing (`Good.map`), branching on anything but the queue (`Good.ite`, `Good.optionCases`) and list
iteration (`Good.foldl`); the leaves are the API calls (`ite_setQ`) and `enqueueAfter`.  Core Lean only.
-/
import FurikoModel.Proofs.JobCtlInvWalk
import FurikoModel.Proofs.JobCtlPlanSync
import FurikoModel.Model.Retry

set_option linter.unusedVariables false
set_option linter.unusedSimpArgs false

namespace Furiko.Conv
open Furiko Furiko.JobCtl Furiko.WQ Furiko.Retry

/-- the state with another work queue -/
def setQ (s : Sys) (q : WQ) : Sys := { s with q := q }

theorem setQ_self (s : Sys) : setQ s s.q = s := rfl
theorem setQ_setQ (s : Sys) (a b : WQ) : setQ (setQ s a) b = setQ s b := rfl
theorem setQ_q (s : Sys) (q : WQ) : (setQ s q).q = q := rfl

/-- the logged call `c` is a successful forced delete of the pod named `n` -/
def ForceDelOk (c : Call) (n : String) : Prop :=
  c.verb = "delete" ∧ c.res = "pods" ∧ c.name = n ∧ c.out = "ok" ∧ c.force = true

/-- `s'` is `s` after controller code that logged exactly `l` -/
structure Kept (s s' : Sys) (l : List Call) : Prop where
  calls : s'.calls = s.calls ++ l
  clock : s'.clock = s.clock
  pods : ∀ n ∈ podNames s.pods, n ∈ podNames s'.pods ∨ ∃ c ∈ l, ForceDelOk c n
  nocall : l = [] → s' = setQ s s'.q

theorem Kept.refl (s : Sys) : Kept s s [] := ⟨by simp, rfl, fun n h => Or.inl h, fun _ => rfl⟩

theorem Kept.trans {a b c : Sys} {l1 l2 : List Call} (h1 : Kept a b l1) (h2 : Kept b c l2) : Kept a c (l1 ++ l2) := by
  refine ⟨by rw [h2.calls, h1.calls, List.append_assoc], h2.clock.trans h1.clock, ?_, ?_⟩
  · intro n hn
    rcases h1.pods n hn with h | ⟨x, hx, hd⟩
    · rcases h2.pods n h with h' | ⟨x, hx, hd⟩
      · exact Or.inl h'
      · exact Or.inr ⟨x, List.mem_append_right _ hx, hd⟩
    · exact Or.inr ⟨x, List.mem_append_left _ hx, hd⟩
  · intro hl
    obtain ⟨e1, e2⟩ := List.append_eq_nil_iff.mp hl
    rw [h2.nocall e2, h1.nocall e1]; rfl

theorem Kept.of_setQ (s : Sys) (q : WQ) : Kept s (setQ s q) [] :=
  ⟨by simp [setQ], rfl, fun n h => Or.inl h, fun _ => rfl⟩

/-- a single call that keeps every pod name -/
theorem Kept.single {s s' : Sys} {c : Call} (hc : s'.calls = s.calls ++ [c]) (hk : s'.clock = s.clock)
    (hp : ∀ n ∈ podNames s.pods, n ∈ podNames s'.pods) : Kept s s' [c] :=
  ⟨hc, hk, fun n h => Or.inl (hp n h), fun h => by cases h⟩

/-- `f` at `s`: call-accounted and queue-oblivious (the deferred adds are `ops`) -/
structure Good {α : Type} (f : Sys → Sys × α) (s : Sys) : Prop where
  kept : ∃ l, Kept s (f s).1 l
  obl : ∃ ops : List QOp, ∀ q', f (setQ s q') = (setQ (f s).1 (applyOps q' s.clock ops), (f s).2)

theorem applyOps_append (q : WQ) (now : Int) (a b : List QOp) :
    applyOps q now (a ++ b) = applyOps (applyOps q now a) now b := by
  unfold applyOps; rw [List.foldl_append]

theorem applyOps_nil (q : WQ) (now : Int) : applyOps q now [] = q := rfl

theorem Good.pure {α : Type} (a : Sys → α) (s : Sys) (ha : ∀ q', a (setQ s q') = a s) :
    Good (fun t => (t, a t)) s :=
  ⟨⟨[], Kept.refl s⟩, ⟨[], fun q' => by simp only [applyOps_nil, ha]⟩⟩

theorem Good.ret {α : Type} (a : α) (s : Sys) : Good (fun t => (t, a)) s := Good.pure (fun _ => a) s fun _ => rfl

theorem Good.of_eq {α : Type} {f g : Sys → Sys × α} {s : Sys} (h : ∀ q', f (setQ s q') = g (setQ s q'))
    (hg : Good g s) : Good f s := by
  have hs : f s = g s := by have := h s.q; rwa [setQ_self] at this
  obtain ⟨⟨l, hk⟩, ⟨ops, ho⟩⟩ := hg
  exact ⟨⟨l, by rw [hs]; exact hk⟩, ⟨ops, fun q' => by rw [h q', hs]; exact ho q'⟩⟩

theorem Good.of_eq_all {α : Type} {f g : Sys → Sys × α} {s : Sys} (h : ∀ t, f t = g t)
    (hg : Good g s) : Good f s := Good.of_eq (fun q' => h _) hg

/-- sequential composition -/
theorem Good.bind {α β : Type} {g : Sys → Sys × α} {h : α → Sys → Sys × β} {s : Sys}
    (hg : Good g s) (hh : Good (h (g s).2) (g s).1) : Good (fun t => h (g t).2 (g t).1) s := by
  obtain ⟨⟨l1, k1⟩, ⟨ops1, o1⟩⟩ := hg
  obtain ⟨⟨l2, k2⟩, ⟨ops2, o2⟩⟩ := hh
  refine ⟨⟨l1 ++ l2, k1.trans k2⟩, ⟨ops1 ++ ops2, fun q' => ?_⟩⟩
  simp only [o1 q']
  rw [o2, k1.clock, applyOps_append]

/-- post-processing of the result by a function that may read the state afterwards, but not its queue -/
theorem Good.mapS {α β : Type} {g : Sys → Sys × α} {s : Sys} (hg : Good g s) (m : Sys → α → β)
    (hm : ∀ t q' a, m (setQ t q') a = m t a) : Good (fun t => ((g t).1, m (g t).1 (g t).2)) s := by
  obtain ⟨⟨l1, k1⟩, ⟨ops1, o1⟩⟩ := hg
  refine ⟨⟨l1, k1⟩, ⟨ops1, fun q' => ?_⟩⟩
  simp only [o1 q', hm]

theorem Good.map {α β : Type} {g : Sys → Sys × α} {s : Sys} (hg : Good g s) (m : α → β) :
    Good (fun t => ((g t).1, m (g t).2)) s :=
  hg.mapS (fun _ => m) fun _ _ _ => rfl

/-- a branch on a condition that does not look at the queue -/
theorem Good.ite {α : Type} {c : Sys → Prop} [DecidablePred c] {A B : Sys → Sys × α} {s : Sys}
    (hc : ∀ q', c (setQ s q') ↔ c s) (hA : c s → Good A s) (hB : ¬ c s → Good B s) :
    Good (fun t => if c t then A t else B t) s := by
  by_cases h : c s
  · exact Good.of_eq (fun q' => by simp only [(hc q').mpr h, if_true]) (hA h)
  · exact Good.of_eq (fun q' => by
      have : ¬ c (setQ s q') := fun hx => h ((hc q').mp hx)
      simp only [this, Bool.false_eq_true, ↓reduceIte, if_false]) (hB h)

/-- `Good.ite` in the usual case: both arms good, and the condition reads nothing of the queue by definition -/
theorem Good.branch {α : Type} {c : Sys → Prop} [DecidablePred c] {A B : Sys → Sys × α} {s : Sys}
    (hA : Good A s) (hB : Good B s) (hc : ∀ q', c (setQ s q') ↔ c s := by exact fun _ => Iff.rfl) :
    Good (fun t => if c t then A t else B t) s :=
  Good.ite hc (fun _ => hA) (fun _ => hB)

/-- a case split on an optional value that does not depend on the queue -/
theorem Good.optionCases {α γ : Type} {o : Sys → Option γ} {A : Sys → Sys × α} {B : γ → Sys → Sys × α} {s : Sys}
    (ho : ∀ q', o (setQ s q') = o s) (hA : o s = none → Good A s) (hB : ∀ x, o s = some x → Good (B x) s) :
    Good (fun t => match o t with | none => A t | some x => B x t) s := by
  cases h : o s with
  | none => exact Good.of_eq (fun q' => by simp only [ho q', h]) (hA h)
  | some x => exact Good.of_eq (fun q' => by simp only [ho q', h]) (hB x h)

theorem enqueueAfter_setQ (s : Sys) (q' : WQ) (k : String) (t : Int) :
    enqueueAfter (setQ s q') k t = setQ (enqueueAfter s k t) (applyOps q' s.clock [.addAfter k t]) := rfl

theorem enqueueAfter_good {α : Type} (k : String) (t : Int) (a : α) (s : Sys) :
    Good (fun u => (enqueueAfter u k t, a)) s :=
  ⟨⟨[], Kept.of_setQ s _⟩, ⟨[.addAfter k t], fun q' => rfl⟩⟩

/-- a branch whose arms commute with `setQ` commutes with `setQ`; applied with `refine … <;> rfl` it lets
the unifier walk an API call's `if`s without `simp` touching the 14-field record updates in the arms -/
theorem ite_setQ {α : Type} {q : WQ} {c : Prop} [Decidable c] {a b a' b' : Sys × α}
    (ha : a' = (setQ a.1 q, a.2)) (hb : b' = (setQ b.1 q, b.2)) :
    (if c then a' else b') = (setQ (if c then a else b).1 q, (if c then a else b).2) := by
  split <;> assumption

theorem popFault_setQ (s : Sys) (q : WQ) : popFault (setQ s q) = ((popFault s).1, setQ (popFault s).2 q) := by
  unfold popFault setQ
  cases h : s.faults <;> simp only [h]

theorem nextFault_setQ (s : Sys) (q : WQ) : nextFault (setQ s q) = ((nextFault s).1, setQ (nextFault s).2 q) := by
  unfold nextFault
  rw [popFault_setQ]
  rfl

theorem apiUpdateJob_setQ (s : Sys) (q : WQ) (c n : JobObj) :
    apiUpdateJob (setQ s q) c n = (setQ (apiUpdateJob s c n).1 q, (apiUpdateJob s c n).2) := by
  unfold apiUpdateJob
  rw [nextFault_setQ]
  generalize nextFault s = r
  obtain ⟨f, ⟨clock, rv, cfg, d, job, pods, jobEvs, podEvs, jobCache, podCache, q0, faults, delRun, calls⟩⟩ := r
  cases job <;> dsimp only
  · refine ite_setQ ?_ ?_ <;> rfl
  · refine ite_setQ ?_ (ite_setQ ?_ (ite_setQ ?_ (ite_setQ ?_ ?_))) <;> rfl

theorem apiUpdateJobStatus_setQ (s : Sys) (q : WQ) (c n : JobObj) :
    apiUpdateJobStatus (setQ s q) c n = (setQ (apiUpdateJobStatus s c n).1 q, (apiUpdateJobStatus s c n).2) := by
  unfold apiUpdateJobStatus
  rw [nextFault_setQ]
  generalize nextFault s = r
  obtain ⟨f, ⟨clock, rv, cfg, d, job, pods, jobEvs, podEvs, jobCache, podCache, q0, faults, delRun, calls⟩⟩ := r
  cases job <;> dsimp only
  · refine ite_setQ ?_ ?_ <;> rfl
  · refine ite_setQ ?_ (ite_setQ ?_ (ite_setQ ?_ ?_)) <;> rfl

theorem apiDeleteJob_setQ (s : Sys) (q : WQ) (c : JobObj) :
    apiDeleteJob (setQ s q) c = (setQ (apiDeleteJob s c).1 q, (apiDeleteJob s c).2) := by
  unfold apiDeleteJob
  rw [nextFault_setQ]
  generalize nextFault s = r
  obtain ⟨f, ⟨clock, rv, cfg, d, job, pods, jobEvs, podEvs, jobCache, podCache, q0, faults, delRun, calls⟩⟩ := r
  cases job <;> dsimp only
  · refine ite_setQ ?_ ?_ <;> rfl
  · refine ite_setQ ?_ (ite_setQ (ite_setQ ?_ ?_) ?_) <;> rfl

theorem apiCreatePod_setQ (s : Sys) (q : WQ) (jo : JobObj) (i : PIndex) (r : Int) :
    apiCreatePod (setQ s q) jo i r = (setQ (apiCreatePod s jo i r).1 q, (apiCreatePod s jo i r).2) := by
  unfold apiCreatePod
  rw [nextFault_setQ]
  refine ite_setQ ?_ (ite_setQ ?_ ?_) <;> rfl

theorem delBody_setQ (f : String) (s : Sys) (q : WQ) (n : String) (force : Bool) :
    JobCtlPlan.delBody f (setQ s q) n force = (setQ (JobCtlPlan.delBody f s n force).1 q, (JobCtlPlan.delBody f s n force).2) := by
  unfold JobCtlPlan.delBody
  rw [show (setQ s q).pods = s.pods from rfl]
  cases findPod s.pods n with
  | none => refine ite_setQ ?_ ?_ <;> rfl
  | some p =>
    refine ite_setQ rfl ?_
    dsimp only
    refine ite_setQ ?_ (ite_setQ ?_ ?_) <;> rfl

theorem apiDeletePod_setQ (s : Sys) (q : WQ) (n : String) (f : Bool) :
    apiDeletePod (setQ s q) n f = (setQ (apiDeletePod s n f).1 q, (apiDeletePod s n f).2) := by
  rw [apiDeletePod_eq, apiDeletePod_eq, show (setQ s q).delRun = s.delRun from rfl, popFault_setQ]
  cases s.delRun with
  | some g => exact delBody_setQ g s q n f
  | none => exact delBody_setQ _ { (popFault s).2 with delRun := some (popFault s).1 } q n f

/-- a leaf that commutes with `setQ` and whose calls keep the pod names (`Kept`: up to a forced delete) -/
theorem Good.leaf {α : Type} {f : Sys → Sys × α} {s : Sys}
    (hq : ∀ q', f (setQ s q') = (setQ (f s).1 q', (f s).2)) (hk : ∃ l, Kept s (f s).1 l) : Good f s :=
  ⟨hk, ⟨[], fun q' => by rw [hq q']; rfl⟩⟩

/-- … in particular one whose call leaves the pods alone -/
theorem Good.leaf_ext {α : Type} {f : Sys → Sys × α} {s : Sys} {c : Call}
    (hq : ∀ q', f (setQ s q') = (setQ (f s).1 q', (f s).2)) (e : JobCtlPlan.Ext s (f s).1 [c])
    (hp : (f s).1.pods = s.pods) : Good f s :=
  Good.leaf hq ⟨[c], Kept.single e.calls e.clock (by rw [hp]; exact fun _ h => h)⟩

theorem apiUpdateJob_good (c n : JobObj) (s : Sys) : Good (fun t => apiUpdateJob t c n) s := by
  obtain ⟨x, e, _, _, _, _, _, hp⟩ := JobCtlPlan.apiUpdateJob_ext s c n
  exact Good.leaf_ext (fun q' => apiUpdateJob_setQ s q' c n) e hp

theorem apiUpdateJobStatus_good (c n : JobObj) (s : Sys) : Good (fun t => apiUpdateJobStatus t c n) s := by
  obtain ⟨x, e, _, _, _, _, _, hp⟩ := JobCtlPlan.apiUpdateJobStatus_ext s c n
  exact Good.leaf_ext (fun q' => apiUpdateJobStatus_setQ s q' c n) e hp

/-- the status write of `UpdateJobAndStatus`: on top of the object `Update` returned (`statusBase`,
which does not look at the queue) -/
theorem apiUpdateJobStatusOn_good (jo n : JobObj) (b : Bool) (s : Sys) :
    Good (fun t => apiUpdateJobStatus t (statusBase t jo b) n) s :=
  Good.of_eq (fun _ => rfl) (apiUpdateJobStatus_good (statusBase s jo b) n s)

theorem apiDeleteJob_good (c : JobObj) (s : Sys) : Good (fun t => apiDeleteJob t c) s := by
  obtain ⟨x, e, _, _, _, _, hp⟩ := JobCtlPlan.apiDeleteJob_ext s c
  exact Good.leaf_ext (fun q' => apiDeleteJob_setQ s q' c) e hp

theorem apiCreatePod_good (jo : JobObj) (i : PIndex) (r : Int) (s : Sys) : Good (fun t => apiCreatePod t jo i r) s := by
  refine Good.leaf (fun q' => apiCreatePod_setQ s q' jo i r) ?_
  obtain ⟨x, e, _⟩ := JobCtlPlan.apiCreatePod_ext s jo i r
  refine ⟨[x], Kept.single e.calls e.clock ?_⟩
  rcases apiCreatePod_spec s jo i r with h | h
  · rw [h.1.pods]; exact fun _ h => h
  · rw [h.1.pods]; intro n hn; unfold podNames at hn ⊢; simp only [List.map_append, List.mem_append]; exact Or.inl hn


theorem mem_podNames_delPod {l : List PodObj} {n name : String} (h : n ∈ podNames l) (hne : n ≠ name) :
    n ∈ podNames (delPod l name) := by
  unfold podNames at h ⊢
  obtain ⟨x, hx, hn⟩ := List.mem_map.mp h
  refine List.mem_map.mpr ⟨x, ?_, hn⟩
  unfold delPod
  refine List.mem_filter.mpr ⟨hx, ?_⟩
  have : x.pod.name ≠ name := by rw [hn]; exact hne
  simpa using this

/-- a call that is only logged, in a state that shares call log, clock and pods with `s` -/
theorem Kept.log {s s0 : Sys} (hc : s0.calls = s.calls) (hk : s0.clock = s.clock) (hp : s0.pods = s.pods)
    (c : Call) : Kept s (log s0 c) [c] :=
  Kept.single (by rw [← hc]; rfl) hk (by simp [JobCtl.log, hp])

theorem delBody_kept (s s0 : Sys) (hc : s0.calls = s.calls) (hk : s0.clock = s.clock) (hp : s0.pods = s.pods)
    (f name : String) (force : Bool) : ∃ c, Kept s (JobCtlPlan.delBody f s0 name force).1 [c] := by
  unfold JobCtlPlan.delBody
  by_cases h1 : isFailFault f = true
  · rw [if_pos h1]
    exact ⟨_, Kept.log hc hk hp _⟩
  · rw [if_neg h1]
    cases hf : findPod s0.pods name with
    | none =>
      simp only
      exact ⟨_, Kept.log hc hk hp _⟩
    | some p =>
      simp only
      have hpn : p.pod.name = name := (findPod_some hf).2
      by_cases hfo : force = true
      · rw [if_pos hfo]
        refine ⟨⟨"delete", "pods", name, "ok", false, force⟩, ⟨by rw [← hc]; rfl, hk, ?_, fun h => by cases h⟩⟩
        intro n hn
        by_cases hne : n = name
        · exact Or.inr ⟨_, List.mem_singleton.mpr rfl, rfl, rfl, hne.symm, rfl, hfo⟩
        · left
          show n ∈ podNames (delPod (log s0 _).pods name)
          simp only [log, hp]
          exact mem_podNames_delPod hn hne
      · rw [if_neg hfo]
        by_cases hd : p.pod.deletionTimestamp.isSome = true
        · rw [if_pos hd]
          exact ⟨_, Kept.log hc hk hp _⟩
        · rw [if_neg hd]
          refine ⟨_, Kept.single (by rw [← hc]; rfl) hk ?_⟩
          intro n hn
          show n ∈ podNames (setPod (log s0 _).pods _)
          simp only [log, hp]
          rw [podNames_setPod_of_mem]
          · exact hn
          · show p.pod.name ∈ podNames s.pods
            rw [← hp]
            exact List.mem_map.mpr ⟨p, (findPod_some hf).1, rfl⟩

theorem apiDeletePod_good (name : String) (force : Bool) (s : Sys) : Good (fun t => apiDeletePod t name force) s := by
  refine Good.leaf (fun q' => apiDeletePod_setQ s q' name force) ?_
  show ∃ l, Kept s (apiDeletePod s name force).1 l
  rw [apiDeletePod_eq]
  cases hd : s.delRun with
  | some f =>
    obtain ⟨c, h⟩ := delBody_kept s s rfl rfl rfl f name force
    exact ⟨_, h⟩
  | none =>
    simp only
    have hfr := popFault_frame s
    have hcalls : (popFault s).2.calls = s.calls := by unfold popFault; cases s.faults <;> rfl
    obtain ⟨c, h⟩ := delBody_kept s { (popFault s).2 with delRun := some (popFault s).1 } hcalls hfr.clock hfr.pods
      (popFault s).1 name force
    exact ⟨_, h⟩

/-- a left fold whose step is `Good` for every accumulator value -/
theorem Good.foldl {α β : Type} (step : Sys × β → α → Sys × β)
    (hstep : ∀ (b : β) (a : α) (s : Sys), Good (fun t => step (t, b) a) s) :
    ∀ (l : List α) (b : β) (s : Sys), Good (fun t => l.foldl step (t, b)) s := by
  intro l
  induction l with
  | nil => intro b s; exact Good.ret b s
  | cons a rest ih =>
    intro b s
    exact Good.of_eq (fun _ => rfl)
      (Good.bind (h := fun b' t' => rest.foldl step (t', b')) (hstep b a s) (ih _ _))

/-- a step that may fail, then the rest of the pass: on `none` the pass stops there with the result `d` -/
def orElse {β γ : Type} (g : Sys → Sys × Option β) (d : γ) (k : β → Sys → Sys × γ) (t : Sys) : Sys × γ :=
  match (g t).2 with
  | none => ((g t).1, d)
  | some x => k x (g t).1

theorem Good.orElse {β γ : Type} {g : Sys → Sys × Option β} {d : γ} {k : β → Sys → Sys × γ} {s : Sys}
    (hg : Good g s) (hk : ∀ x, Good (k x) (g s).1) : Good (orElse g d k) s :=
  Good.bind (h := fun o t => match o with | none => (t, d) | some x => k x t) hg (by
    cases (g s).2 with
    | none => exact Good.ret d _
    | some x => exact hk x)

/-- the names `deleteTasks` deletes, in the order it deletes them -/
def delNames (clock : Int) (tasks : List Task) (force : Bool) : List String :=
  ((tasks.filter (fun t =>
      force || !(match t.deletionTimestamp with | some ts => decide (ts < clock) | none => false))).map (·.name)).foldl
    (fun acc n => deleteTasks.ins n acc) []

theorem deleteTasks_good (tasks : List Task) (force : Bool) (s : Sys) : Good (fun t => deleteTasks t tasks force) s :=
  -- the names are chosen by the clock, which every `setQ s q'` shares with `s`
  Good.of_eq (g := fun t => (delNames s.clock tasks force).foldl (fun (acc : Sys × Bool) n =>
      ((apiDeletePod acc.1 n force).1, acc.2 && (apiDeletePod acc.1 n force).2)) (t, true)) (fun _ => rfl)
    (Good.foldl _ (fun b n s => Good.map (apiDeletePod_good n force s) (b && ·)) _ true s)

theorem syncJobStatus_good (key : String) (rj : Job) (s : Sys) :
    Good (fun t => syncJobStatusFromTaskRefs t key rj) s := by
  unfold syncJobStatusFromTaskRefs
  cases h : updateJobStatusFromTaskRefs s.clock s.d rj with
  | none => exact Good.of_eq (fun q' => by simp only [setQ, h]) (Good.ret rj s)
  | some newRj =>
    cases hfin : newRj.status.condition.finished with
    | none => exact Good.of_eq (fun q' => by simp only [setQ, h, hfin]) (Good.ret newRj s)
    | some fin =>
      by_cases hdel : isDeleted newRj = true
      · exact Good.of_eq (fun q' => by simp [setQ, h, hfin, hdel]) (Good.ret newRj s)
      · cases httl : newRj.ttlSecondsAfterFinished with
        | none => exact Good.of_eq (fun q' => by simp [setQ, h, hfin, hdel, httl]) (Good.ret newRj s)
        | some ttl =>
          exact Good.of_eq (fun q' => by simp [setQ, h, hfin, hdel, httl])
            (enqueueAfter_good key (fin.finishTimestamp.getD zeroTime + secs ttl) newRj s)

theorem updateTaskRefStatus_good (key : String) (rj : Job) (tasks : List Task) (s : Sys) :
    Good (fun t => updateTaskRefStatus t key rj tasks) s := by
  unfold updateTaskRefStatus
  exact Good.of_eq (fun q' => rfl) (syncJobStatus_good key (updateJobTaskRefs s.clock rj tasks) s)


/-- what `syncCreateTask` returns, as a function of the state after the create and its result -/
def createOut (now : Time) (jo : JobObj) (rj : Job) (tasks : List Task) (idx : PIndex) (retry : Int) (s1 : Sys) :
    CreateRes → Option (Job × List Task)
  | .ok p => (podTask now p).map (fun t => (rj, tasks ++ [t]))
  | .err => none
  | .exists =>
    match findPod s1.podCache (taskName jo.name idx.hash retry) with
    | none => none
    | some p =>
      if p.ownerUid = some jo.uid then (podTask now p).map (fun t => (rj, tasks ++ [t]))
      else some ({ rj with admissionError := true }, tasks)

theorem syncCreateTask_eq (s : Sys) (jo : JobObj) (rj : Job) (tasks : List Task) (idx : PIndex) (retry : Int) :
    syncCreateTask s jo rj tasks idx retry =
      ((apiCreatePod s jo idx retry).1,
       createOut s.clock jo rj tasks idx retry (apiCreatePod s jo idx retry).1 (apiCreatePod s jo idx retry).2) := by
  unfold syncCreateTask createOut
  generalize apiCreatePod s jo idx retry = r
  obtain ⟨s1, res⟩ := r
  cases res with
  | ok p => rfl
  | err => rfl
  | «exists» =>
    simp only
    cases findPod s1.podCache (taskName jo.name idx.hash retry) with
    | none => rfl
    | some p => by_cases hp : p.ownerUid = some jo.uid <;> simp [hp]

theorem syncCreateTask_good (jo : JobObj) (rj : Job) (tasks : List Task) (idx : PIndex) (retry : Int) (s : Sys) :
    Good (fun t => syncCreateTask t jo rj tasks idx retry) s :=
  Good.of_eq (fun q' => syncCreateTask_eq (setQ s q') jo rj tasks idx retry)
    (Good.mapS (apiCreatePod_good jo idx retry s) (createOut s.clock jo rj tasks idx retry) (fun _ _ a => by cases a <;> rfl))

theorem createLoop_consK (jo : JobObj) (r : CreationRequest) (rest : List CreationRequest) (s : Sys) (rj : Job)
    (tasks : List Task) (minE : Option Time) :
    createLoop jo (r :: rest) s rj tasks minE =
      if skipReq r s = true then createLoop jo rest s rj tasks (JobCtlPlan.minNonZero r minE)
      else orElse (fun t => syncCreateTask t jo rj tasks r.index r.retryIndex) none
        (fun p t => createLoop jo rest t p.1 p.2 (JobCtlPlan.minNonZero r minE)) s := by
  rw [createLoop_cons]
  dsimp only [orElse]
  generalize syncCreateTask s jo rj tasks r.index r.retryIndex = res
  obtain ⟨s1, _ | pr⟩ := res <;> rfl

theorem createLoop_good (jo : JobObj) : ∀ (reqs : List CreationRequest) (rj : Job) (tasks : List Task)
    (minE : Option Time) (s : Sys), Good (fun t => createLoop jo reqs t rj tasks minE) s := by
  intro reqs
  induction reqs with
  | nil =>
    intro rj tasks minE s
    exact Good.of_eq (fun q' => by unfold createLoop; rfl) (Good.ret (some (rj, tasks, minE)) s)
  | cons r rest ih =>
    intro rj tasks minE s
    refine Good.of_eq_all (fun t => createLoop_consK jo r rest t rj tasks minE) ?_
    exact Good.branch (ih rj tasks _ s)
      (Good.orElse (syncCreateTask_good jo rj tasks r.index r.retryIndex s) fun p => ih p.1 p.2 _ _)

theorem armMin_good {α : Type} (key : String) (minE : Option Time) (a : α) (s : Sys) :
    Good (fun t => (JobCtlPlan.armMin t key minE, a)) s := by
  cases minE with
  | none => exact Good.ret a s
  | some t0 => exact enqueueAfter_good key t0 a s

/-- what `syncCreateTasks` does with the result of the creation loop -/
def createTasksK (jo : JobObj) (p : Job × List Task × Option Time) (s1 : Sys) : Sys × Option (Job × List Task) :=
  ((updateTaskRefStatus (JobCtlPlan.armMin s1 (jobKey jo) p.2.2) (jobKey jo) p.1 p.2.1).1,
   some ((updateTaskRefStatus (JobCtlPlan.armMin s1 (jobKey jo) p.2.2) (jobKey jo) p.1 p.2.1).2, p.2.1))

theorem createTasksK_good (jo : JobObj) (p : Job × List Task × Option Time) (s : Sys) :
    Good (createTasksK jo p) s :=
  Good.map (Good.bind (h := fun _ t => updateTaskRefStatus t (jobKey jo) p.1 p.2.1)
      (armMin_good _ _ () s) (updateTaskRefStatus_good _ _ _ _))
    fun rj2 => some (rj2, p.2.1)

theorem syncCreateTasks_good (jo : JobObj) (rj : Job) (tasks : List Task) (s : Sys) :
    Good (fun t => syncCreateTasks t jo rj tasks) s := by
  refine Good.of_eq_all (fun t => JobCtlPlan.syncCreateTasks_eq t jo rj tasks) ?_
  have hadopt : Good (fun t => (t, some (rj, adoptUnrecordedTasks t jo tasks))) s :=
    Good.pure (fun t => some (rj, adoptUnrecordedTasks t jo tasks)) s fun _ => rfl
  refine Good.branch hadopt ?_
  refine Good.branch hadopt ?_
  -- the requests are computed from the default index, which every `setQ s q'` shares with `s`
  cases hcm : computeMissingIndexesForCreation s.d rj (rj.indexes s.d) with
  | none =>
    exact Good.of_eq (fun q' => by
      rw [show computeMissingIndexesForCreation (setQ s q').d rj (rj.indexes (setQ s q').d) = none from hcm])
      (Good.ret none s)
  | some reqs =>
    refine Good.of_eq (fun q' => ?_)
      (Good.orElse (d := none) (createLoop_good jo reqs rj tasks none s) fun p => createTasksK_good jo p _)
    rw [show computeMissingIndexesForCreation (setQ s q').d rj (rj.indexes (setQ s q').d) = some reqs from hcm]
    dsimp only [orElse]
    cases (createLoop jo reqs (setQ s q') rj tasks none).2 with
    | none => rfl
    | some pr => rfl


theorem handleKillJob_good (jo : JobObj) (rj : Job) (tasks : List Task) (s : Sys) :
    Good (fun t => handleKillJob t jo rj tasks) s := by
  refine Good.of_eq_all (fun t => JobCtlPlan.handleKillJob_eq t jo rj tasks) ?_
  refine Good.branch ?_ ?_
  · exact Good.branch (Good.ret _ s) <|
      Good.map (deleteTasks_good _ false s)
        fun ok => if ok = true then some (JobCtlPlan.killMark rj tasks) else none
  · -- not to be killed (yet): a kill timestamp in the future arms a timer for it, nothing else
    cases rj.killTimestamp with
    | none => exact Good.ret _ s
    | some ts => exact enqueueAfter_good _ ts _ s

theorem pendStep_good (key : String) (T : Int) (rj : Job) (nd : List Task) (task : Task) (s : Sys) :
    Good (fun t => JobCtlPlan.pendStep key T rj (t, nd) task) s := by
  unfold JobCtlPlan.pendStep
  dsimp only
  refine Good.branch (Good.ret _ s) ?_
  refine Good.branch (Good.ret _ s) ?_
  refine Good.branch (enqueueAfter_good _ _ _ s) ?_
  exact Good.branch (Good.ret _ s) <| Good.ret _ s

/-- the continuation of `handlePendingTasks` after its loop -/
def pendK (rj : Job) (nd : List Task) (t : Sys) : Sys × Option Job :=
  if nd.isEmpty = true then (t, some rj)
  else ((deleteTasks t nd false).1,
        if (deleteTasks t nd false).2 = true then
          some (markDeleted rj (nd.map (·.name)) (fun x => { x with deletedStatus := some JobCtlPlan.pendingStatus }))
        else none)

theorem pendK_good (rj : Job) (nd : List Task) (s : Sys) : Good (pendK rj nd) s := by
  show Good (fun t => pendK rj nd t) s
  unfold pendK
  exact Good.branch (Good.ret _ s) <|
    Good.map (deleteTasks_good nd false s) fun ok => if ok = true then
        some (markDeleted rj (nd.map (·.name)) (fun x => { x with deletedStatus := some JobCtlPlan.pendingStatus }))
      else none

theorem handlePendingTasks_good (jo : JobObj) (rj : Job) (tasks : List Task) (s : Sys) :
    Good (fun t => handlePendingTasks t jo rj tasks) s := by
  refine Good.of_eq_all (fun t => JobCtlPlan.handlePendingTasks_eq t jo rj tasks) ?_
  -- the timeout is read from the configuration, which every `setQ s q'` shares with `s`
  cases hT : getPendingTimeout rj s.cfg with
  | none =>
    exact Good.of_eq (fun q' => by rw [show getPendingTimeout rj (setQ s q').cfg = none from hT]) (Good.ret (some rj) s)
  | some T =>
    exact Good.of_eq (fun q' => by rw [show getPendingTimeout rj (setQ s q').cfg = some T from hT]; rfl)
      (Good.branch (c := fun _ => T ≤ 0) (Good.ret (some rj) s)
        (Good.bind (h := pendK rj) (Good.foldl (JobCtlPlan.pendStep (jobKey jo) T rj) (pendStep_good _ T rj) tasks [] s)
          (pendK_good rj _ _)))

theorem forceStep_good (key : String) (F : Int) (nd : List Task) (task : Task) (s : Sys) :
    Good (fun t => JobCtlPlan.forceStep key F (t, nd) task) s := by
  unfold JobCtlPlan.forceStep
  cases task.deletionTimestamp with
  | none => exact Good.ret _ s
  | some dts =>
    dsimp only
    exact Good.branch (Good.ret _ s) <| enqueueAfter_good _ _ _ s

/-- the continuation of `handleForceDelete` after its loop -/
def forceK (rj : Job) (tasks : List Task) (nd : List Task) (t : Sys) : Sys × Option Job :=
  if nd.isEmpty = true then (t, some rj)
  else ((deleteTasks t nd true).1,
        if (deleteTasks t nd true).2 = true then
          some (updateJobTaskRefs t.clock (markDeleted rj (nd.map (·.name)) JobCtlPlan.forceMarkRef) tasks)
        else none)

theorem forceK_good (rj : Job) (tasks nd : List Task) (s : Sys) : Good (forceK rj tasks nd) s := by
  show Good (fun t => forceK rj tasks nd t) s
  unfold forceK
  refine Good.branch (Good.ret _ s) ?_
  -- the refs are refreshed at the clock of `s`, whatever its queue
  refine Good.of_eq (fun q' => ?_) (Good.map (deleteTasks_good nd true s) fun ok => if ok = true then
      some (updateJobTaskRefs s.clock (markDeleted rj (nd.map (·.name)) JobCtlPlan.forceMarkRef) tasks)
    else none)
  rw [show (setQ s q').clock = s.clock from rfl]

theorem handleForceDelete_good (jo : JobObj) (rj : Job) (tasks : List Task) (s : Sys) :
    Good (fun t => handleForceDelete t jo rj tasks) s := by
  refine Good.of_eq_all (fun t => JobCtlPlan.handleForceDelete_eq t jo rj tasks) ?_
  refine Good.branch (Good.ret _ s) ?_
  refine Good.branch (Good.ret _ s) ?_
  exact Good.of_eq (fun _ => rfl)
    (Good.bind (h := forceK rj tasks)
      (Good.foldl (JobCtlPlan.forceStep (jobKey jo) (getForceDeleteTimeout s.cfg)) (forceStep_good _ _) tasks [] s)
      (forceK_good rj tasks _ _))


/-- `syncJobTasks` after the creation step: status refresh, then three handlers that may fail, then the
final status refresh -/
def tasksK (jo : JobObj) (p : Job × List Task) : Sys → Sys × Option Job :=
  orElse (fun t => handlePendingTasks (updateTaskRefStatus t (jobKey jo) p.1 p.2).1 jo
      (updateTaskRefStatus t (jobKey jo) p.1 p.2).2 p.2) none fun rj3 =>
  orElse (fun t => handleKillJob t jo rj3 p.2) none fun rj4 =>
  orElse (fun t => handleForceDelete t jo rj4 p.2) none fun rj5 t =>
    ((updateTaskRefStatus t (jobKey jo) rj5 p.2).1, some (updateTaskRefStatus t (jobKey jo) rj5 p.2).2)

theorem syncJobTasks_eqK (s : Sys) (jo : JobObj) (rj : Job) :
    syncJobTasks s jo rj =
      orElse (fun t => syncCreateTasks t jo rj (tasksForRefs s jo rj.status.tasks)) none (tasksK jo) s := by
  unfold syncJobTasks tasksK
  dsimp only [orElse]
  generalize syncCreateTasks s jo rj (tasksForRefs s jo rj.status.tasks) = r1
  obtain ⟨s1, _ | ⟨rj1, tasks1⟩⟩ := r1
  · rfl
  dsimp only
  generalize updateTaskRefStatus s1 (jobKey jo) rj1 tasks1 = r2
  obtain ⟨s2, rj2⟩ := r2
  dsimp only
  generalize handlePendingTasks s2 jo rj2 tasks1 = r3
  obtain ⟨s3, _ | rj3⟩ := r3
  · rfl
  dsimp only
  generalize handleKillJob s3 jo rj3 tasks1 = r4
  obtain ⟨s4, _ | rj4⟩ := r4
  · rfl
  dsimp only
  generalize handleForceDelete s4 jo rj4 tasks1 = r5
  obtain ⟨s5, _ | rj5⟩ := r5 <;> rfl

theorem tasksK_good (jo : JobObj) (p : Job × List Task) (s : Sys) : Good (tasksK jo p) s :=
  Good.orElse (Good.bind (h := fun rj2 t => handlePendingTasks t jo rj2 p.2)
      (updateTaskRefStatus_good (jobKey jo) p.1 p.2 s) (handlePendingTasks_good jo _ p.2 _)) fun rj3 =>
    Good.orElse (handleKillJob_good jo rj3 p.2 _) fun rj4 =>
      Good.orElse (handleForceDelete_good jo rj4 p.2 _) fun rj5 =>
        Good.map (updateTaskRefStatus_good (jobKey jo) rj5 p.2 _) some

theorem syncJobTasks_good (jo : JobObj) (rj : Job) (s : Sys) : Good (fun t => syncJobTasks t jo rj) s :=
  Good.of_eq (fun q' => syncJobTasks_eqK (setQ s q') jo rj)
    (Good.orElse (syncCreateTasks_good jo rj (tasksForRefs s jo rj.status.tasks) s) fun p => tasksK_good jo p _)

theorem handleTTL_good (jo : JobObj) (rj : Job) (s : Sys) : Good (fun t => handleTTL t jo rj) s := by
  unfold handleTTL
  refine Good.branch (Good.ret _ s) ?_
  cases rj.status.condition.finished with
  | none => exact Good.ret _ s
  | some fin =>
    -- not yet expired: the timer for the expiry (finish + effective TTL), nothing else
    exact Good.branch
      (Good.of_eq (fun _ => rfl)
        (enqueueAfter_good _ (fin.finishTimestamp.getD zeroTime + getTTLAfterFinished rj s.cfg) true s))
      <| apiDeleteJob_good jo s

/-- the continuation of `handleFinalizer` after the status refresh, when tasks remain -/
def finK (tasks : List Task) (fz : Bool) (rj2 : Job) (s1 : Sys) : Sys × Option (Job × Bool) :=
  ((deleteTasks s1 tasks false).1, if (deleteTasks s1 tasks false).2 = true then some (rj2, fz) else none)

theorem handleFinalizer_good (jo : JobObj) (rj : Job) (fz : Bool) (s : Sys) :
    Good (fun t => handleFinalizer t jo rj fz) s := by
  unfold handleFinalizer
  refine Good.branch (Good.ret _ s) (Good.branch (Good.ret _ s) ?_)
  -- the tasks to delete are looked up outside the queue: under every queue they are those of `s`
  exact Good.of_eq (fun _ => rfl) (Good.branch (c := fun _ => (!(finalizerTasks s jo rj).isEmpty) = true)
    (Good.bind (h := finK (finalizerTasks s jo rj) fz)
      (updateTaskRefStatus_good (jobKey jo) (finalizerMark (finalizerTasks s jo rj) rj) (finalizerTasks s jo rj) s)
      (Good.map (deleteTasks_good (finalizerTasks s jo rj) false _) fun ok => if ok = true then some (_, fz) else none))
    (Good.map (updateTaskRefStatus_good (jobKey jo) rj [] s) fun rj1 => some (rj1, false)))


theorem syncTasksStage_good (jo : JobObj) (s : Sys) : Good (fun t => JobCtlPlan.syncTasksStage t jo) s := by
  unfold JobCtlPlan.syncTasksStage
  exact Good.branch (syncJobTasks_good jo jo.job s) <| Good.ret _ s

/-- `null3` of `sync`, computed in the state the finalizer step starts in -/
def null3Of (jo : JobObj) (rj2 : Job) (null2 : Bool) (s3 : Sys) : Bool :=
  match finalizerStatusInput s3 jo rj2 jo.finalizer with
  | some inp => statusHasNullTime s3 inp
  | none => null2

/-- `sync` after the TTL step, which did not fail iff `b`: the finalizer step -/
def syncK3 (jo : JobObj) (rj2 : Job) (null2 : Bool) (b : Bool) (s3 : Sys) : Sys × Job × Bool × Bool × Bool :=
  match b with
  | false => (s3, rj2, jo.finalizer, false, null2)
  | true => orElse (fun t => handleFinalizer t jo rj2 jo.finalizer) (rj2, jo.finalizer, false, null2)
      (fun p t => (t, p.1, p.2, true, null3Of jo rj2 null2 s3)) s3

def syncK2 (jo : JobObj) (null2 : Bool) (rj2 : Job) (s2 : Sys) : Sys × Job × Bool × Bool × Bool :=
  syncK3 jo rj2 null2 (handleTTL s2 jo rj2).2 (handleTTL s2 jo rj2).1

theorem sync_eqK (s : Sys) (jo : JobObj) :
    sync s jo = orElse (fun t => JobCtlPlan.syncTasksStage t jo) (jo.job, jo.finalizer, false, false)
      (fun rj1 s1 => syncK2 jo (statusHasNullTime s1 rj1) (syncJobStatusFromTaskRefs s1 (jobKey jo) rj1).2
        (syncJobStatusFromTaskRefs s1 (jobKey jo) rj1).1) s := by
  rw [JobCtlPlan.sync_eq]
  dsimp only [orElse, syncK2]
  generalize JobCtlPlan.syncTasksStage s jo = r
  obtain ⟨s1, _ | rj1⟩ := r
  · rfl
  dsimp only
  generalize syncJobStatusFromTaskRefs s1 (jobKey jo) rj1 = u
  obtain ⟨s2, rj2⟩ := u
  dsimp only
  generalize handleTTL s2 jo rj2 = w
  obtain ⟨s3, _ | _⟩ := w
  · rfl
  dsimp only [syncK3, orElse, null3Of]
  generalize handleFinalizer s3 jo rj2 jo.finalizer = x
  obtain ⟨s4, _ | p⟩ := x <;> rfl

theorem syncK3_good (jo : JobObj) (rj2 : Job) (null2 : Bool) (b : Bool) (s : Sys) : Good (syncK3 jo rj2 null2 b) s := by
  cases b with
  | false => exact Good.of_eq (fun _ => rfl) (Good.ret (rj2, jo.finalizer, false, null2) s)
  | true =>
    -- `null3` is read outside the queue
    refine Good.of_eq (fun _ => ?_) (Good.orElse (d := (rj2, jo.finalizer, false, null2))
      (handleFinalizer_good jo rj2 jo.finalizer s) fun p => Good.ret (p.1, p.2, true, null3Of jo rj2 null2 s) _)
    rfl

theorem syncK2_good (jo : JobObj) (null2 : Bool) (rj2 : Job) (s : Sys) : Good (syncK2 jo null2 rj2) s := by
  unfold syncK2
  exact Good.bind (h := syncK3 jo rj2 null2) (handleTTL_good jo rj2 s)
    (syncK3_good jo rj2 null2 _ _)

theorem sync_good (jo : JobObj) (s : Sys) : Good (fun t => sync t jo) s :=
  Good.of_eq_all (fun t => sync_eqK t jo) (Good.orElse (syncTasksStage_good jo s) fun rj1 =>
    -- `null2` is read outside the queue
    Good.of_eq (fun _ => rfl) (Good.bind
      (h := syncK2 jo (statusHasNullTime (JobCtlPlan.syncTasksStage s jo).1 rj1))
      (syncJobStatus_good (jobKey jo) rj1 _) (syncK2_good jo _ _ _)))

/-- the second of the two final Job writes of `SyncOne` (`UpdateStatus`), given what `sync` returned
and whether the first write succeeded -/
def oneK2 (jo : JobObj) (r : Job × Bool × Bool × Bool) (ok1 : Bool) (s2 : Sys) : Sys × Bool :=
  if (!ok1) = true then (s2, false)
  else
    let w2 : Sys × Bool :=
      if (decide (r.1.status ≠ jo.job.status) || r.2.2.2) = true then
        apiUpdateJobStatus s2 (statusBase s2 jo (r.1.admissionError ≠ jo.job.admissionError || r.2.1 ≠ jo.finalizer)) { jo with job := r.1 } else (s2, true)
    if (!w2.2) = true then (w2.1, false) else (w2.1, r.2.2.1)

/-- the first write (`Update`, only if metadata differ) -/
def oneK1 (jo : JobObj) (r : Job × Bool × Bool × Bool) (s1 : Sys) : Sys × Bool :=
  if (r.1.admissionError ≠ jo.job.admissionError || r.2.1 ≠ jo.finalizer) = true then
    apiUpdateJob s1 jo { jo with job := r.1, finalizer := r.2.1 } else (s1, true)

/-- the two final Job writes of `SyncOne`, given what `sync` returned -/
def oneK (jo : JobObj) (r : Job × Bool × Bool × Bool) (s1 : Sys) : Sys × Bool :=
  oneK2 jo r (oneK1 jo r s1).2 (oneK1 jo r s1).1

theorem syncOne_eqK (s : Sys) (jo : JobObj) (hc : s.jobCache = some jo) :
    syncOne s = oneK jo (sync s jo).2 (sync s jo).1 := by
  unfold syncOne oneK oneK2 oneK1
  simp only [hc]

theorem oneK2_good (jo : JobObj) (r : Job × Bool × Bool × Bool) (ok1 : Bool) (s : Sys) : Good (oneK2 jo r ok1) s := by
  show Good (fun t => oneK2 jo r ok1 t) s
  unfold oneK2
  refine Good.branch (Good.ret _ s) ?_
  refine Good.bind (h := fun ok2 t => if (!ok2) = true then (t, false) else (t, r.2.2.1)) ?_
    (Good.branch (Good.ret _ _) <| Good.ret _ _)
  exact Good.branch (apiUpdateJobStatusOn_good jo _ _ s) <| Good.ret _ s

theorem oneK_good (jo : JobObj) (r : Job × Bool × Bool × Bool) (s : Sys) : Good (oneK jo r) s := by
  refine Good.bind (g := oneK1 jo r) (h := oneK2 jo r) ?_ (oneK2_good jo r _ _)
  show Good (fun t => oneK1 jo r t) s
  unfold oneK1
  exact Good.branch (apiUpdateJob_good jo _ s) <| Good.ret _ s

theorem syncOne_good (s : Sys) : Good syncOne s := by
  cases hc : s.jobCache with
  | none =>
    refine Good.of_eq (fun q' => ?_) (Good.ret true s)
    exact syncOne_frame (setQ s q') hc
  | some jo =>
    have hb := Good.bind (h := oneK jo) (sync_good jo s) (oneK_good jo _ _)
    exact Good.of_eq (fun q' => syncOne_eqK (setQ s q') jo hc) hb

end Furiko.Conv
