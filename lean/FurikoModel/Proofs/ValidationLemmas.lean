/- Helper lemmas about `Model/Validation.lean` used by `Props/C17.lean`. -/
import FurikoModel.Model.Validation
import FurikoModel.Proofs.OptionsLemmas

namespace Furiko.ValidationLemmas
open Furiko Furiko.Validation

theorem length_pos_iff (s : String) : s.length > 0 ↔ s ≠ "" := by
  rw [gt_iff_lt, Nat.pos_iff_ne_zero, Ne, String.length_eq_zero_iff]

theorem append_eq_nil {α : Type} {a b : List α} : a ++ b = [] ↔ a = [] ∧ b = [] := List.append_eq_nil_iff

theorem validateCronExpression_nil {E : Env} {l path : String} (h : validateCronExpression E l path = []) :
    (newParserFromConfig E.cfg).parse E.P l Facts.valCronHashID = .ok := by
  unfold validateCronExpression at h
  split at h
  · assumption
  · cases h

theorem validateCronExpressions_nil (E : Env) (path : String) (es : List String) (i : Nat)
    (h : validateCronExpressions E path es i = []) :
    ∀ l ∈ es, (newParserFromConfig E.cfg).parse E.P l Facts.valCronHashID = .ok := by
  induction es generalizing i with
  | nil => intro l hl; cases hl
  | cons e rest ih =>
    simp only [validateCronExpressions, append_eq_nil] at h
    intro l hl
    rcases List.mem_cons.mp hl with rfl | hl
    · exact validateCronExpression_nil h.1
    · exact ih (i + 1) h.2 l hl

/-- what an accepted cron schedule guarantees -/
structure CronAccepted (E : Env) (c : CronSchedule) : Prop where
  lines : ∀ l ∈ validatedLines c, (newParserFromConfig E.cfg).parse E.P l Facts.valCronHashID = .ok
  one : expressionFields c = 1
  tz : c.timezone ≠ "" → E.parseTz c.timezone = true

theorem validateCronSchedule_nil (E : Env) (c : CronSchedule) (path : String)
    (h : validateCronSchedule E c path = []) : CronAccepted E c := by
  unfold validateCronSchedule at h
  simp only [append_eq_nil] at h
  obtain ⟨⟨⟨h1, h2⟩, h3⟩, h4⟩ := h
  refine ⟨?_, ?_, ?_⟩
  · intro l hl
    unfold validatedLines at hl
    rcases List.mem_append.mp hl with hl | hl
    · split at hl
      · rename_i hpos
        simp only [List.mem_singleton] at hl
        subst hl
        rw [if_pos hpos] at h1
        exact validateCronExpression_nil h1
      · cases hl
    · rw [if_pos (List.length_pos_of_mem hl)] at h2
      exact validateCronExpressions_nil E path c.expressions 0 h2 l hl
  · by_cases h0 : expressionFields c = 0
    · rw [if_pos h0] at h3; cases h3
    · rw [if_neg h0] at h3
      by_cases h1' : expressionFields c > 1
      · rw [if_pos h1'] at h3; cases h3
      · omega
  · intro hne
    have hpos : c.timezone.length > 0 := (length_pos_iff _).mpr hne
    rw [if_pos hpos] at h4
    unfold validateTimezone at h4
    split at h4
    · assumption
    · cases h4

/-- the lines the scheduler parses are among the lines the validator parsed -/
theorem getExpressions_subset (c : CronSchedule) : ∀ l ∈ getExpressions c, l ∈ validatedLines c := by
  intro l hl
  unfold getExpressions at hl
  unfold validatedLines
  split at hl
  · rename_i hne
    simp only [List.mem_singleton] at hl
    subst hl
    have : c.expression.length > 0 := (length_pos_iff _).mpr hne
    simp [this]
  · split at hl
    · exact List.mem_append.mpr (Or.inr hl)
    · cases hl

/-- library contract: the verdict does not depend on the hash id -/
def ParseHashIndependent (P : ParseFn) : Prop :=
  ∀ (p : Parser) (id₁ id₂ : String) (line : String), P p (some id₁) line = P p (some id₂) line

theorem parse_hash_irrelevant (P : ParseFn) (hP : ParseHashIndependent P) (p : Parser) (l id₁ id₂ : String) :
    p.parse P l id₁ = p.parse P l id₂ := by
  unfold Parser.parse
  split
  · exact hP p id₁ id₂ l
  · rfl

theorem newExpression_ok (P : ParseFn) (p : Parser) (id : String) (ls : List String)
    (h : ∀ l ∈ ls, p.parse P l id = .ok) : newExpression P p id ls = .ok := by
  induction ls with
  | nil => rfl
  | cons l rest ih =>
    unfold newExpression
    rw [h l (List.mem_cons_self ..)]
    exact ih (fun x hx => h x (List.mem_cons_of_mem _ hx))

/-- one line that does not parse is enough -/
theorem newExpression_not_ok (P : ParseFn) (p : Parser) (id : String) (ls : List String) (l : String)
    (hl : l ∈ ls) (h : p.parse P l id ≠ .ok) : newExpression P p id ls ≠ .ok := by
  induction ls with
  | nil => cases hl
  | cons x rest ih =>
    unfold newExpression
    rcases List.mem_cons.mp hl with rfl | hl
    · cases hx : Parser.parse P p l id with
      | ok => exact absurd hx h
      | err => simp
      | panic => simp
    · cases hx : Parser.parse P p x id with
      | ok => simpa using ih hl
      | err => simp
      | panic => simp

/-- an admitted JobConfig passed the field checks (whether or not the scheduler-style parse ran afterwards) -/
theorem validateJobConfigErrs_nil {E : Env} {jc : JobConfig} (h : validateJobConfig E jc = some []) :
    cronPanics E jc = false ∧ validateJobConfigErrs E jc = [] := by
  unfold validateJobConfig at h
  split at h
  · cases h
  · rename_i hp
    refine ⟨by simpa using hp, ?_⟩
    by_cases hl : (Facts.valJobConfigScheduleRecheck && (validateJobConfigErrs E jc).length == 0) = true
    · simp only [Bool.and_eq_true, beq_iff_eq] at hl
      exact List.length_eq_zero_iff.mp hl.2
    · simp only [hl, Bool.false_eq_true, ↓reduceIte, Option.some.injEq] at h
      exact h

theorem validateJobConfig_some_nil (E : Env) (jc : JobConfig) (h : validateJobConfig E jc = some []) :
    cronPanics E jc = false ∧
    validateMaxLength jc.name Facts.valJobConfigNameMaxLen "metadata.name" = [] ∧
    validateJobTemplateSpec E.hash jc.template "spec.template.spec" = [] ∧
    validateConcurrencySpec jc.concurrency "spec.concurrency" = [] ∧
    validateScheduleSpec E jc.schedule "spec.schedule" = [] ∧
    validateOptionSpec jc.option "spec.option" = [] := by
  obtain ⟨hp, herrs⟩ := validateJobConfigErrs_nil h
  unfold validateJobConfigErrs validateJobConfigSpec at herrs
  simp only [append_eq_nil] at herrs
  obtain ⟨h1, ⟨⟨h2, h3⟩, h4⟩, h5⟩ := herrs
  exact ⟨hp, h1, h2, h3, h4, h5⟩

/-- since fix d9dad79 (`Facts.valJobConfigScheduleRecheck`): an admitted JobConfig also passed the
scheduler-style parse -/
theorem validateJobConfig_recheck (E : Env) (jc : JobConfig) (hfix : Facts.valJobConfigScheduleRecheck = true)
    (h : validateJobConfig E jc = some []) :
    validateCronScheduleForJobConfig E jc "spec.schedule.cron" = some [] := by
  have herrs := (validateJobConfigErrs_nil h).2
  unfold validateJobConfig at h
  split at h
  · cases h
  · simpa [hfix, herrs] using h

/-- what the scheduler-style parse guarantees for a named JobConfig with a cron schedule -/
theorem recheck_newExpression_ok (E : Env) (jc : JobConfig) (s : Schedule) (c : CronSchedule)
    (hs : jc.schedule = some s) (hc : s.cron = some c) (hname : jc.name ≠ "")
    (h : validateCronScheduleForJobConfig E jc "spec.schedule.cron" = some []) :
    newExpression E.P (newParserFromConfig E.cfg) jc.key (getExpressions c) = .ok := by
  unfold validateCronScheduleForJobConfig at h
  simp only [hs, hc, hname, ↓reduceIte] at h
  cases hx : newExpression E.P (newParserFromConfig E.cfg) jc.key (getExpressions c) with
  | ok => rfl
  | err => rw [hx] at h; simp at h
  | panic => rw [hx] at h; simp at h

theorem scheduleLoad_ok_iff (E : Env) (jcs : List JobConfig) :
    scheduleLoad E jcs = .ok ↔
      ∀ jc ∈ jcs, parseCronAndTimezone E jc = .ok ∨ parseCronAndTimezone E jc = .skip := by
  induction jcs with
  | nil => simp [scheduleLoad]
  | cons jc rest ih =>
    unfold scheduleLoad
    cases hp : parseCronAndTimezone E jc <;> simp [ih, hp]

theorem validateOptionsLoop_nil (path : String) (seen : List Options.Str) (opts : List Options.Opt) (i : Nat)
    (h : validateOptionsLoop path seen opts i = []) : ∀ o ∈ opts, Options.validateOption o = 0 := by
  induction opts generalizing seen i with
  | nil => intro o ho; cases ho
  | cons o rest ih =>
    unfold validateOptionsLoop at h
    simp only at h
    split at h
    · cases h
    · rw [append_eq_nil] at h
      intro x hx
      rcases List.mem_cons.mp hx with rfl | hx
      · have := h.1
        cases hv : Options.validateOption x with
        | zero => rfl
        | succ n => rw [hv] at this; simp [List.replicate] at this
      · exact ih _ _ h.2 x hx

theorem evaluateOptionDefault_of_accepted (o : Options.Opt) (h : Options.validateOption o = 0) :
    ∃ s, Options.evaluateOptionDefault o = some s :=
  let ⟨d, hd, _⟩ := OptionsLemmas.evaluate_absent ⟨fun _ => none, fun _ _ => none⟩ o h
  ⟨d, hd⟩

theorem makeDefaultOptions_fold (opts : List Options.Opt)
    (h : ∀ o ∈ opts, ∃ s, Options.evaluateOptionDefault o = some s) (m : List (Options.Str × Options.Str)) :
    ∃ r, opts.foldl (fun (acc : Option (List (Options.Str × Options.Str))) o =>
      match acc with
      | none => none
      | some m =>
        match Options.evaluateOptionDefault o with
        | none => none
        | some v => some (Options.mapInsert m (Options.optionVariableName o) v)) (some m) = some r := by
  induction opts generalizing m with
  | nil => exact ⟨m, rfl⟩
  | cons o rest ih =>
    obtain ⟨s, hs⟩ := h o (List.mem_cons_self ..)
    simp only [List.foldl_cons, hs]
    exact ih (fun x hx => h x (List.mem_cons_of_mem _ hx)) _

theorem makeDefaultOptions_of_accepted (spec : Option (List Options.Opt)) (path : String)
    (h : validateOptionSpec spec path = []) : ∃ r, Options.makeDefaultOptions spec = some r := by
  cases spec with
  | none => exact ⟨[], rfl⟩
  | some opts =>
    unfold validateOptionSpec at h
    have hall := validateOptionsLoop_nil path [] opts 0 h
    unfold Options.makeDefaultOptions
    exact makeDefaultOptions_fold opts (fun o ho => evaluateOptionDefault_of_accepted o (hall o ho)) []

/-- path-free acceptance of a job template -/
def templateOk (hash : Indexes.Index → String) (t : JobTemplate) : Prop :=
  (∃ p, t.pod = some p ∧ p.k8sValid = true ∧ p.restartAlways = false) ∧
  (∀ sp, t.parallelism = some sp → Indexes.validateParallelismSpecFixed hash sp = []) ∧
  (∀ v, t.pendingTimeout = some v → 0 ≤ v) ∧
  (∀ v, t.maxAttempts = some v → boundChecks Facts.valMaxAttemptsChecks v "" = []) ∧
  (∀ v, t.retryDelay = some v → 0 ≤ v)

theorem boundChecks_nil_path (checks : List (String × Int)) (v : Int) (p q : String) :
    boundChecks checks v p = [] ↔ boundChecks checks v q = [] := by
  unfold boundChecks
  induction checks with
  | nil => simp
  | cons c rest ih =>
    simp only [List.filterMap_cons]
    by_cases hb : boundRejects c.1 v c.2 = true
    · simp [hb]
    · simp [hb, ih]

theorem validateNonnegative_nil (v : Int) (p : String) : validateNonnegative v p = [] ↔ 0 ≤ v := by
  unfold validateNonnegative
  split <;> simp <;> omega

theorem validateTaskTemplate_nil (pod : Option PodT) (path : String) :
    validateTaskTemplate pod path = [] ↔ ∃ p, pod = some p ∧ p.k8sValid = true ∧ p.restartAlways = false := by
  cases pod with
  | none => simp [validateTaskTemplate]
  | some p =>
    cases hk : p.k8sValid <;> cases ha : p.restartAlways <;> simp [validateTaskTemplate, validatePodTemplate, hk, ha]

theorem validateJobTemplateSpec_nil_iff (hash : Indexes.Index → String) (t : JobTemplate) (path : String) :
    validateJobTemplateSpec hash t path = [] ↔ templateOk hash t := by
  unfold validateJobTemplateSpec templateOk
  simp only [append_eq_nil, and_assoc]
  refine and_congr (validateTaskTemplate_nil _ _) (and_congr ?_ (and_congr ?_ (and_congr ?_ ?_)))
  · cases t.parallelism <;> simp [validateParallelism]
  · cases t.pendingTimeout <;> simp [validateNonnegative_nil]
  · cases t.maxAttempts <;> simp [validateMaxRetryAttempts, boundChecks_nil_path _ _ (path ++ ".maxAttempts") ""]
  · cases t.retryDelay <;> simp [validateNonnegative_nil]

/-- the shape of both `ValidateImmutableField` lists: no error means every listed field compares equal -/
theorem immutable_of_nil {α : Type} (eq : String → α → α → Bool) (fields : List (String × String)) (old new : α)
    (path : String) {fp : String × String} (hfp : fp ∈ fields)
    (h : (fields.filterMap fun fp =>
      if eq fp.1 old new then none else some (⟨path ++ "." ++ fp.2, .invalid⟩ : FErr)) = []) :
    eq fp.1 old new = true := by
  have := List.filterMap_eq_nil_iff.mp h fp hfp
  by_cases hc : eq fp.1 old new = true
  · exact hc
  · simp [hc] at this

end Furiko.ValidationLemmas
