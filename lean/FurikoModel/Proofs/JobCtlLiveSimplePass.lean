/-
Liveness of the job controller: one reconcile pass (`Model/JobCtl.lean`) on a SIMPLE Job in a FRESH state
(both informer caches equal to the server, no watch event undelivered, no fault pending).
* the handlers when there is nothing for them to do (`handlePendingTasks` with no task past its pending
  deadline, `handleKillJob` without kill timestamp, `handleForceDeleteKillingTasks` with no task being
  deleted, `handleTTLAfterFinished` before the deadline, `handleFinishFinalizer` without deletion timestamp):
  the state changes by timers only (`TimersOnly`);
* pods as tasks (`PodTask`); `getTaskForRef` is the plain lookup of the ref's name on the server;
* the creation stage (`syncCreateTasks`) when nothing is created: summary complete, no request, request
  not due (a timer is armed);
* the whole pass (`syncJobTasks`, `Reconciler.sync`, `SyncOne`): it writes the recomputed status over the
  task list the creation stage hands on (`recompute`), by ONE status update if and only if that status
  differs from the cached one.
Core Lean only.
-/
import FurikoModel.Proofs.JobCtlLivePure
import FurikoModel.Proofs.JobCtlPlanSync
import FurikoModel.Proofs.JobCtlInvOwned
import FurikoModel.Proofs.QueueWQ

set_option linter.unusedSimpArgs false
set_option linter.unusedVariables false

namespace Furiko.JobCtl.Live
open Furiko Furiko.JobCtl Furiko.WQ Furiko.StatusLemmas Furiko.JobCtlPlan

/-- `s'` is `s` with some deferred adds of `key` armed (nothing else changed) -/
def TimersOnly (key : String) (s s' : Sys) : Prop :=
  ∃ q', s' = { s with q := q' } ∧ q'.queue = s.q.queue ∧ q'.dirty = s.q.dirty ∧ q'.processing = s.q.processing ∧
    q'.requeues = s.q.requeues ∧ (∀ e ∈ q'.delayed, e ∈ s.q.delayed ∨ e.1 = key) ∧
    (∀ e ∈ s.q.delayed, ∃ e' ∈ q'.delayed, e'.1 = e.1 ∧ e'.2 ≤ e.2)

theorem TimersOnly.refl (key : String) (s : Sys) : TimersOnly key s s :=
  ⟨s.q, rfl, rfl, rfl, rfl, rfl, fun e h => Or.inl h, fun e h => ⟨e, h, rfl, Int.le_refl _⟩⟩

theorem TimersOnly.trans {key : String} {a b c : Sys} (h1 : TimersOnly key a b) (h2 : TimersOnly key b c) :
    TimersOnly key a c := by
  obtain ⟨q1, rfl, a1, a2, a3, a4, a5, a6⟩ := h1
  obtain ⟨q2, rfl, b1, b2, b3, b4, b5, b6⟩ := h2
  refine ⟨q2, rfl, b1.trans a1, b2.trans a2, b3.trans a3, b4.trans a4, fun e he => (b5 e he).elim (a5 e) Or.inr,
    fun e he => ?_⟩
  obtain ⟨e', he', hk, hd⟩ := a6 e he
  obtain ⟨e'', he'', hk', hd'⟩ := b6 e' he'
  exact ⟨e'', he'', hk'.trans hk, Int.le_trans hd' hd⟩

theorem enqueueAfter_timersOnly (s : Sys) (key : String) (t : Int) : TimersOnly key s (enqueueAfter s key t) := by
  refine ⟨_, rfl, rfl, rfl, rfl, rfl, ?_, ?_⟩
  · intro e he
    exact mem_setDelayed he
  · intro e he
    obtain ⟨dl', hm, hle⟩ := setDelayed_mono s.q.delayed key
      (if t < s.clock + 1000000000 then s.clock + 1000000000 else t) e.1 e.2 he
    exact ⟨(e.1, dl'), hm, rfl, hle⟩

/-- everything but the work queue is as it was -/
structure SameButQueue (s s' : Sys) : Prop where
  clock : s'.clock = s.clock
  d : s'.d = s.d
  cfg : s'.cfg = s.cfg
  pods : s'.pods = s.pods
  podCache : s'.podCache = s.podCache
  job : s'.job = s.job
  jobCache : s'.jobCache = s.jobCache
  jobEvs : s'.jobEvs = s.jobEvs
  podEvs : s'.podEvs = s.podEvs
  rv : s'.rv = s.rv
  faults : s'.faults = s.faults
  delRun : s'.delRun = s.delRun
  calls : s'.calls = s.calls

theorem TimersOnly.static {key : String} {s s' : Sys} (h : TimersOnly key s s') : SameButQueue s s' := by
  obtain ⟨q', e, _⟩ := h
  subst e
  exact ⟨rfl, rfl, rfl, rfl, rfl, rfl, rfl, rfl, rfl, rfl, rfl, rfl, rfl⟩

/-- the status refresh as a whole: the recomputed status, at most the TTL timer, and not even that while
the recomputed condition is not `Finished` -/
theorem syncJobStatus_eq (s : Sys) (key : String) (rj : Job) :
    ∃ s', syncJobStatusFromTaskRefs s key rj = (s', statusOf s.clock s.d rj) ∧ TimersOnly key s s' ∧
      ((statusOf s.clock s.d rj).status.condition.finished = none → s' = s) := by
  refine ⟨_, Prod.ext rfl (syncJobStatus_snd s key rj), ?_, fun h =>
    syncJobStatus_unarmed _ _ _ (Or.inr (Or.inr fun nj hu => by rwa [statusOf, hu] at h))⟩
  unfold syncJobStatusFromTaskRefs
  cases updateJobStatusFromTaskRefs s.clock s.d rj with
  | none => exact TimersOnly.refl key s
  | some nj =>
    simp only
    split
    · split
      · split
        · exact enqueueAfter_timersOnly _ _ _
        · exact TimersOnly.refl key s
      · exact TimersOnly.refl key s
    · exact TimersOnly.refl key s

theorem updateTaskRefStatus_eq (s : Sys) (key : String) (rj : Job) (T : List Task) :
    ∃ s', updateTaskRefStatus s key rj T = (s', recompute s.clock s.d rj T) ∧ TimersOnly key s s' ∧
      ((recompute s.clock s.d rj T).status.condition.finished = none → s' = s) :=
  syncJobStatus_eq s key _

theorem updateTaskRefStatus_fst (s : Sys) (key : String) (rj : Job) (T : List Task) :
    TimersOnly key s (updateTaskRefStatus s key rj T).1 := by
  obtain ⟨_, e, h, _⟩ := updateTaskRefStatus_eq s key rj T
  rw [e]; exact h

theorem updateTaskRefStatus_fst_unfinished (s : Sys) (key : String) (rj : Job) (T : List Task)
    (h : (recompute s.clock s.d rj T).status.condition.finished = none) :
    (updateTaskRefStatus s key rj T).1 = s := by
  obtain ⟨_, e, _, h'⟩ := updateTaskRefStatus_eq s key rj T
  rw [e]; exact h' h

/-! the ref `handlePendingTasks` judges a task by (repair of F32) -/

/-- the task list of a pass: every task is read from a pod (`ref.name = name`) and a name denotes one
task value -/
structure TasksFn (T : List Task) : Prop where
  ok : ∀ t ∈ T, t.ref.name = t.name
  fn : ∀ t ∈ T, ∀ t' ∈ T, t'.name = t.name → t' = t

theorem TasksFn.of_nodup {T : List Task} (hnd : (T.map (·.name)).Nodup) (hok : ∀ t ∈ T, t.ref.name = t.name) : TasksFn T :=
  ⟨hok, fun t ht t' ht' hn => inj_on_of_nodup_map hnd ht' ht hn⟩

theorem podTask_refName {now : Time} {p : PodObj} {t : Task} (h : podTask now p = some t) : t.ref.name = t.name :=
  (podTask_ok h).1

/-- what `GetTaskRef` records never shows less than the task itself reports -/
theorem getTaskRef_dom (e : Option TaskRef) (t : Task) :
    (t.ref.finishTimestamp.isSome = true → (getTaskRef e t).finishTimestamp.isSome = true) ∧
    (t.ref.runningTimestamp.isSome = true → (getTaskRef e t).runningTimestamp.isSome = true) ∧
    (getTaskRef e t).creationTimestamp = t.ref.creationTimestamp := by
  obtain ⟨hf, hr⟩ := getTaskRef_sub e t
  refine ⟨fun h => ?_, fun h => ?_, (getTaskRef_fields e t).2.2.2⟩
  · exact Option.isSome_iff_ne_none.mpr fun hx => by rw [(hf hx).1] at h; cases h
  · exact Option.isSome_iff_ne_none.mpr fun hx => by rw [(hr hx).1] at h; cases h

/-- the ref recorded by the status refresh under the name of a listed task is that task's `GetTaskRef` -/
theorem pendRef_refreshed {T : List Task} (hT : TasksFn T) (rj : Job) (now : Time) (ex : List TaskRef)
    (hrj : rj.status.tasks = generateTaskRefs now ex T) (t : Task) (ht : t ∈ T) :
    pendRef rj t = getTaskRef (lookupRef ex t.name) t := by
  unfold pendRef findTaskRef
  have hmem : getTaskRef (lookupRef ex t.name) t ∈ rj.status.tasks := by
    rw [hrj]; exact (Furiko.Props.C11.generateTaskRefs_members now ex T).2.1 t ht
  cases hfind : rj.status.tasks.find? (fun r => r.name == t.name) with
  | none =>
    exfalso
    have := List.find?_eq_none.mp hfind _ hmem
    simp only [getTaskRef_name, hT.ok t ht, beq_self_eq_true, not_true_eq_false] at this
  | some r =>
    simp only [Option.getD_some]
    have hr : r ∈ rj.status.tasks := List.mem_of_find?_eq_some hfind
    have hn : r.name = t.name := by simpa using List.find?_some hfind
    rw [hrj] at hr
    rcases mem_generateTaskRefs hr with ⟨t', ht', rfl⟩ | ⟨e, _, hnot, rfl⟩
    · rw [getTaskRef_name, hT.ok t' ht'] at hn
      rw [hT.fn t ht t' ht' hn]
    · exfalso
      rw [(lostRef_fields now e).1] at hn
      exact hnot (List.mem_map.mpr ⟨t, ht, hn.symm⟩)

/-- the task is not past its pending deadline: finished, running, still within the timeout, or
already being deleted -/
def PendQuiet (clk : Int) (pt : Int) (t : Task) : Prop :=
  t.ref.finishTimestamp.isSome = true ∨ t.ref.runningTimestamp.isSome = true ∨
  t.ref.creationTimestamp.getD zeroTime + pt > clk ∨ t.deletionTimestamp.isSome = true

/-- a task that is not past its deadline, judged by its recorded ref, is not listed for deletion; at most
a timer is armed -/
theorem pendStep_quiet (key : String) (pt : Int) (rj : Job) (s : Sys) (acc : List Task) (t : Task)
    (h : PendQuiet s.clock pt { t with ref := pendRef rj t }) :
    ∃ s', pendStep key pt rj (s, acc) t = (s', acc) ∧ TimersOnly key s s' ∧
      ((pendRef rj t).finishTimestamp.isSome = true ∨ (pendRef rj t).runningTimestamp.isSome = true → s' = s) := by
  unfold pendStep pendDeadline
  by_cases h1 : (pendRef rj t).finishTimestamp.isSome = true
  · exact ⟨s, by simp only [h1, ↓reduceIte], .refl key s, fun _ => rfl⟩
  by_cases h2 : (pendRef rj t).runningTimestamp.isSome = true
  · exact ⟨s, by simp only [h1, h2, Bool.false_eq_true, ↓reduceIte], .refl key s, fun _ => rfl⟩
  by_cases h3 : (pendRef rj t).creationTimestamp.getD zeroTime + pt > s.clock
  · exact ⟨enqueueAfter s key ((pendRef rj t).creationTimestamp.getD zeroTime + pt),
      by simp only [h1, h2, h3, Bool.false_eq_true, ↓reduceIte], enqueueAfter_timersOnly s key _,
      fun hx => (hx.elim h1 h2).elim⟩
  · have h4 := ((h.resolve_left h1).resolve_left h2).resolve_left h3
    exact ⟨s, by simp only [h1, h2, h3, h4, Bool.false_eq_true, ↓reduceIte], .refl key s, fun _ => rfl⟩

theorem pendFold_quiet (key : String) (pt : Int) (rj : Job) (tasks : List Task) : ∀ (s : Sys) (acc : List Task),
    (∀ t ∈ tasks, PendQuiet s.clock pt { t with ref := pendRef rj t }) →
    ∃ s', tasks.foldl (pendStep key pt rj) (s, acc) = (s', acc) ∧ TimersOnly key s s' ∧
      ((∀ t ∈ tasks, (pendRef rj t).finishTimestamp.isSome = true ∨ (pendRef rj t).runningTimestamp.isSome = true) →
        s' = s) := by
  induction tasks with
  | nil => exact fun s acc _ => ⟨s, rfl, .refl key s, fun _ => rfl⟩
  | cons t rest ih =>
    intro s acc h
    obtain ⟨s1, e1, hto1, hex1⟩ := pendStep_quiet key pt rj s acc t (h t List.mem_cons_self)
    obtain ⟨s', e, hto, hex⟩ := ih s1 acc fun t' ht' => by
      rw [hto1.static.clock]; exact h t' (List.mem_cons_of_mem _ ht')
    refine ⟨s', by rw [List.foldl_cons, e1, e], hto1.trans hto, fun hall => ?_⟩
    rw [hex fun t' ht' => hall t' (List.mem_cons_of_mem _ ht'), hex1 (hall t List.mem_cons_self)]

/-- `handlePendingTasks` when no task is past its pending deadline: no delete, only timers -/
theorem handlePending_quiet (s : Sys) (jo : JobObj) (rj : Job) (tasks : List Task)
    (hT : TasksFn tasks) (now : Time) (ex : List TaskRef) (hrj : rj.status.tasks = generateTaskRefs now ex tasks)
    (h : ∀ pt, getPendingTimeout rj s.cfg = some pt → 0 < pt → ∀ t ∈ tasks, PendQuiet s.clock pt t) :
    ∃ s', handlePendingTasks s jo rj tasks = (s', some rj) ∧ TimersOnly (jobKey jo) s s' ∧
      ((∀ t ∈ tasks, t.ref.finishTimestamp.isSome = true ∨ t.ref.runningTimestamp.isSome = true) → s' = s) := by
  have hdom : ∀ t ∈ tasks, _ := fun t ht => by
    have := getTaskRef_dom (lookupRef ex t.name) t
    rw [← pendRef_refreshed hT rj now ex hrj t ht] at this
    exact this
  rw [handlePendingTasks_eq]
  cases hp : getPendingTimeout rj s.cfg with
  | none => exact ⟨s, rfl, TimersOnly.refl _ s, fun _ => rfl⟩
  | some pt =>
    dsimp only
    by_cases h0 : pt ≤ 0
    · rw [if_pos h0]; exact ⟨s, rfl, TimersOnly.refl _ s, fun _ => rfl⟩
    · rw [if_neg h0]
      obtain ⟨s', e, hto, hex⟩ := pendFold_quiet (jobKey jo) pt rj tasks s [] fun t ht =>
        (h pt hp (by omega) t ht).imp (hdom t ht).1 (Or.imp (hdom t ht).2.1
          (Or.imp_left fun hx => by rw [(hdom t ht).2.2]; exact hx))
      rw [e]
      exact ⟨s', rfl, hto, fun hall => hex fun t ht => (hall t ht).imp (hdom t ht).1 (hdom t ht).2.1⟩

/-- `handleKillJob` on a simple Job: nothing -/
theorem handleKill_simple (s : Sys) (jo : JobObj) (rj : Job) (tasks : List Task) (h : SimpleSpec rj) :
    handleKillJob s jo rj tasks = (s, some rj) := by
  obtain ⟨t, ht, hp⟩ := h.tmpl
  have hk : shouldKillJob s.clock rj = false := by
    unfold shouldKillJob shouldKillJobForParallel
    simp [h.kill, h.adm, ht, hp, isTimeSetAndEarlierOrEqual]
  unfold handleKillJob
  simp [hk, h.kill]

theorem foldl_fixed {α β : Type} {f : β → α → β} : ∀ {l : List α}, (∀ a ∈ l, ∀ acc, f acc a = acc) →
    ∀ acc, l.foldl f acc = acc
  | [], _, _ => rfl
  | a :: rest, h, acc => by
    rw [List.foldl_cons, h a List.mem_cons_self]
    exact foldl_fixed (fun a' ha' => h a' (List.mem_cons_of_mem _ ha')) acc

/-- `handleForceDeleteKillingTasks` when no task carries a deletion timestamp: nothing -/
theorem handleForce_quiet (s : Sys) (jo : JobObj) (rj : Job) (tasks : List Task)
    (h : ∀ t ∈ tasks, t.deletionTimestamp = none) : handleForceDelete s jo rj tasks = (s, some rj) := by
  unfold handleForceDelete
  dsimp only
  rw [foldl_fixed (l := tasks) (fun t ht acc => by simp only [h t ht])]
  simp only [List.isEmpty_nil, ↓reduceIte, ite_self]

/-- `handleTTLAfterFinished` on a Job that is not finished: nothing -/
theorem handleTTL_unfinished (s : Sys) (jo : JobObj) (rj : Job) (h : rj.status.condition.finished = none) :
    handleTTL s jo rj = (s, true) := by
  unfold handleTTL
  simp [h]

/-- … on a finished Job before the TTL has elapsed: a timer -/
theorem handleTTL_early (s : Sys) (jo : JobObj) (rj : Job) (fin : CondFinished) (hd : rj.deletionTimestamp = none)
    (h : rj.status.condition.finished = some fin)
    (he : fin.finishTimestamp.getD zeroTime + getTTLAfterFinished rj s.cfg > s.clock) :
    handleTTL s jo rj = (enqueueAfter s (jobKey jo) (fin.finishTimestamp.getD zeroTime + getTTLAfterFinished rj s.cfg), true) := by
  unfold handleTTL
  simp [h, he, isDeleted, hd]

theorem finalizerStatusInput_live (s : Sys) (jo : JobObj) (rj : Job) (fz : Bool) (h : rj.deletionTimestamp = none) :
    finalizerStatusInput s jo rj fz = none := by
  unfold finalizerStatusInput
  simp [h]

theorem statusHasNullTime_live (s : Sys) (rj : Job) (h : rj.deletionTimestamp = none) :
    statusHasNullTime s rj = false := by
  unfold statusHasNullTime deletionOverrides
  simp [h]

/-- `PodTask.GetTaskRef` does not panic on this pod whatever its phase: a pod whose status reason is
`DeadlineExceeded` with an active deadline carries a start time -/
def NoPanic (p : PodObj) : Prop :=
  (p.pod.statusReason == reasonDeadlineExceeded && p.pod.activeDeadlineSeconds.isSome) = true →
    p.pod.startTime.isSome = true

/-- `GetFinishTimestamp` of a finished pod with a creation time: no panic (given `NoPanic`), and a time -/
theorem finishTimestamp_finished {p : PodObj} (hf : p.pod.isFinished = true) :
    (NoPanic p → ∃ fin, p.pod.finishTimestamp = some fin) ∧
    (p.pod.creationTimestamp.isSome = true → ∀ fin, p.pod.finishTimestamp = some fin → fin.isSome = true) := by
  unfold Pod.finishTimestamp NoPanic
  simp only [hf, Bool.not_true, Bool.false_eq_true, ↓reduceIte]
  constructor
  · intro h
    split
    · exact ⟨_, rfl⟩
    · split
      · next hd =>
        obtain ⟨st, hs⟩ := Option.isSome_iff_exists.mp (h hd)
        exact ⟨_, by rw [hs]⟩
      · cases p.pod.startTime <;> exact ⟨_, rfl⟩
  · intro hc fin hfin
    (repeat' split at hfin) <;> cases hfin <;> first | rfl | exact hc

theorem podTask_of_noPanic {now : Time} {p : PodObj} (h : NoPanic p) : ∃ t, podTask now p = some t := by
  have : ∃ fin, p.pod.finishTimestamp = some fin := by
    by_cases hf : p.pod.isFinished = true
    · exact (finishTimestamp_finished hf).1 h
    · exact ⟨none, by simp [Pod.finishTimestamp, hf]⟩
  obtain ⟨fin, hfin⟩ := this
  simp only [podTask, Pod.task, Pod.taskRef, hfin]
  exact ⟨_, rfl⟩

theorem podTask_fields {now : Time} {p : PodObj} {t : Task} (h : podTask now p = some t) :
    t.name = p.pod.name ∧ t.deletionTimestamp = p.pod.deletionTimestamp ∧
    t.ref.creationTimestamp = p.pod.creationTimestamp ∧ t.ref.runningTimestamp = p.pod.runningTimestamp ∧
    t.ref.status.result = p.pod.result ∧ t.ref.status.state = p.pod.state ∧ t.ref.deletedStatus = none ∧
    (p.pod.isFinished = false → t.ref.finishTimestamp = none) := by
  obtain ⟨fin, hf, rfl⟩ := podTask_eq_some h
  refine ⟨rfl, rfl, rfl, rfl, rfl, rfl, rfl, fun hnf => ?_⟩
  simp only [Pod.finishTimestamp, hnf, Bool.not_false, ↓reduceIte, Option.some.injEq] at hf
  subst hf
  exact Pod.recordedFinish_none now p.pod

theorem podTask_index {now : Time} {p : PodObj} {t : Task} (h : podTask now p = some t) :
    t.ref.parallelIndex = p.pod.parallelIndex ∧ t.ref.retryIndex = p.pod.retryIndex.getD 0 := by
  obtain ⟨_, _, rfl⟩ := podTask_eq_some h
  exact ⟨rfl, rfl⟩

/-- the finish time of a pod's task: what `GetFinishTimestamp` gives, as `GetTaskRef` records it -/
theorem podTask_finish {now : Time} {p : PodObj} {t : Task} (h : podTask now p = some t) :
    ∃ fin, p.pod.finishTimestamp = some fin ∧ t.ref.finishTimestamp = p.pod.recordedFinish now fin := by
  obtain ⟨fin, hf, rfl⟩ := podTask_eq_some h
  exact ⟨fin, hf, rfl⟩

theorem podTask_finished {now : Time} {p : PodObj} {t : Task} (hc : p.pod.creationTimestamp.isSome = true)
    (h : podTask now p = some t) (hf : p.pod.isFinished = true) : t.ref.finishTimestamp.isSome = true := by
  obtain ⟨fin, hfin, e⟩ := podTask_finish h
  rw [e, Pod.recordedFinish_isSome]
  exact (finishTimestamp_finished hf).2 hc fin hfin

/-- a lower bound of the clock and of what the pod reports bounds the recorded finish time -/
theorem podTask_finish_lb {now : Time} {p : PodObj} {t : Task} {F0 : Int} (h : podTask now p = some t)
    (hn : F0 ≤ now) (hp : ∀ f, p.pod.finishTimestamp = some (some f) → F0 ≤ f) :
    ∀ f, t.ref.finishTimestamp = some f → F0 ≤ f := by
  intro f hf
  obtain ⟨fin, h1, h2⟩ := podTask_finish h
  rw [h2] at hf
  rcases Pod.recordedFinish_some hf with e | e
  · exact hp f (by rw [h1, e])
  · rw [e]; exact hn

/-- two readings of one pod at different clocks (`TaskSim`): a finished pod that does not tell when it
finished is recorded with the clock of the reading -/
theorem podTask_sim (c c' : Time) (p : PodObj) : OptSim (podTask c p) (podTask c' p) := by
  unfold podTask Pod.task Pod.taskRef
  cases hf : p.pod.finishTimestamp with
  | none => trivial
  | some fin =>
    simp only
    unfold OptSim TaskSim Pod.recordedFinish
    by_cases hcnd : (fin.isSome && !p.pod.hasFinishTimestamp) = true
    · simp only [hcnd, if_true]
      exact Or.inr ⟨rfl, c', rfl⟩
    · simp only [hcnd, if_false]
      exact Or.inl rfl

/-- nothing is in flight: both caches equal the server, no undelivered watch event, no fault queued -/
structure Fresh (jo : JobObj) (s : Sys) : Prop where
  jobCache : s.jobCache = some jo
  job : s.job = some jo
  podCache : s.podCache = s.pods
  jobEvs : s.jobEvs = []
  podEvs : s.podEvs = []
  faults : s.faults = []

/-- every pod on the server is a task of the Job in good shape: controlled by and labelled with the
Job, no panic shape, creation time set, not being deleted; names pairwise distinct -/
structure PodsOK (jo : JobObj) (s : Sys) : Prop where
  owned : ∀ p ∈ s.pods, p.ownerUid = some jo.uid ∧ p.ownerName = some jo.name ∧ p.jobLabel = some jo.uid
  sane : ∀ p ∈ s.pods, NoPanic p ∧ p.pod.creationTimestamp.isSome = true
  nodel : ∀ p ∈ s.pods, p.pod.deletionTimestamp = none
  nodup : (podNames s.pods).Nodup

/-- the task of that name on the server -/
def lookTask (s : Sys) (n : String) : Option Task := (findPod s.pods n).bind (podTask s.clock)

theorem lookTask_some {s : Sys} {n : String} {t : Task} (h : lookTask s n = some t) :
    ∃ p, findPod s.pods n = some p ∧ podTask s.clock p = some t := by
  unfold lookTask at h
  cases hp : findPod s.pods n with
  | none => simp [hp] at h
  | some p => exact ⟨p, rfl, by simpa [hp] using h⟩

theorem lookTask_sim {s s' : Sys} (hp : s'.pods = s.pods) (n : String) : OptSim (lookTask s n) (lookTask s' n) := by
  unfold lookTask
  rw [hp]
  cases findPod s.pods n with
  | none => trivial
  | some p => exact podTask_sim s.clock s'.clock p

theorem lookTask_name {s : Sys} {n : String} {t : Task} (h : lookTask s n = some t) : t.name = n := by
  obtain ⟨p, hp, ht⟩ := lookTask_some h
  rw [(podTask_ok ht).2, (findPod_some hp).2]

/-- in a fresh state whose pods are all the Job's, `getTaskForRef` is the plain lookup -/
theorem getTaskForRef_fresh {jo : JobObj} {s : Sys} (hc : s.podCache = s.pods)
    (hown : ∀ p ∈ s.pods, p.ownerUid = some jo.uid) (r : TaskRef) :
    getTaskForRef s jo r = lookTask s r.name := by
  unfold getTaskForRef lookTask liveGetTask isControlledByJob
  rw [hc]
  cases hp : findPod s.pods r.name with
  | none =>
    simp only [Option.bind_none]
    split <;> rfl
  | some p =>
    have ho := hown p (findPod_some hp).1
    simp only [ho, decide_true, Bool.not_true, Bool.false_eq_true, ↓reduceIte, Option.bind_some]
    cases ht : podTask s.clock p with
    | none => rfl
    | some t =>
      simp only
      split <;> rfl

theorem tasksForRefs_fresh {jo : JobObj} {s : Sys} (hc : s.podCache = s.pods)
    (hown : ∀ p ∈ s.pods, p.ownerUid = some jo.uid) (refs : List TaskRef) :
    tasksForRefs s jo refs = refs.filterMap (fun r => lookTask s r.name) := by
  unfold tasksForRefs
  congr 1
  funext r
  exact getTaskForRef_fresh hc hown r

/-- the version a successful status update of a pass writes -/
def written (jo : JobObj) (newJob : Job) (rv : Nat) : JobObj :=
  { jo with job := { jo.job with status := newJob.status }, rv := rv }

/-- the task of the pod a create makes -/
def newTask (jo : JobObj) (idx : PIndex) (retry : Int) (t : Time) : Task :=
  { name := taskName jo.name idx.hash retry,
    ref := { name := taskName jo.name idx.hash retry, creationTimestamp := some t,
             status := { state := .starting, result := .none, reason := "" },
             retryIndex := retry, parallelIndex := some idx },
    deletionTimestamp := none }

theorem podTask_newPod {now : Time} (jo : JobObj) (idx : PIndex) (retry : Int) (t : Time) :
    podTask now (newPod jo idx retry t) = some (newTask jo idx retry t) := rfl

theorem hashesIdx_single (d : PIndex) (h : String) : hashesIdx [d] h = 0 := by
  unfold hashesIdx hashesIdxFrom hashesIdxFrom
  split <;> rfl

/-- the one request of a simple Job whose refs are all finished without success -/
def theReq (d : PIndex) (rj : Job) : CreationRequest :=
  ⟨d, nextRetryIndex d rj.status.tasks d.hash, latestFinishTime d rj.status.tasks d.hash + rj.retryDelay⟩

/-- `ComputeMissingIndexesForCreation` of a simple Job: no request while a ref is active or succeeded or
`maxAttempts` retry numbers are used up; otherwise one request for the next retry number, not before
the latest finish time plus the retry delay -/
theorem computeMissing_simple (d : PIndex) (rj : Job) (h : SimpleSpec rj) :
    computeMissingIndexesForCreation d rj (rj.indexes d) = some (
      if rj.status.tasks.any refActiveOrSuccessful then []
      else if nextRetryIndex d rj.status.tasks d.hash ≥ rj.maxAttempts then []
      else [theReq d rj]) := by
  rw [h.indexes d]
  unfold computeMissingIndexesForCreation
  simp only [List.isEmpty_cons, Bool.false_and, Bool.false_eq_true, ↓reduceIte, missingFrom, foundAt,
    hashesIdx_single, BEq.rfl, Bool.and_true, theReq]

/-- the request's earliest time has come (Go's zero time counts as unset) -/
def DueReq (clk : Int) (e : Time) : Prop := e = zeroTime ∨ e ≤ clk

instance (clk : Int) (e : Time) : Decidable (DueReq clk e) := by unfold DueReq; infer_instance

/-- the timer `syncCreateTasks` arms for the earliest request time -/
def armEarliest (s : Sys) (key : String) (e : Time) : Sys := if e = zeroTime then s else enqueueAfter s key e

theorem armEarliest_timersOnly (s : Sys) (key : String) (e : Time) : TimersOnly key s (armEarliest s key e) := by
  unfold armEarliest
  split
  · exact TimersOnly.refl key s
  · exact enqueueAfter_timersOnly s key e

theorem canCreate_simple {rj : Job} (h : SimpleSpec rj) : canCreateTask rj = true := by
  unfold canCreateTask; simp [h.kill, h.adm]

/-- the refreshed summary is complete: nothing is created; unrecorded tasks are adopted -/
theorem syncCreateTasks_complete (s : Sys) (jo : JobObj) (T : List Task) (h : SimpleSpec jo.job)
    (hc : (getParallelTaskSummary s.d jo.job (generateTaskRefs s.clock jo.job.status.tasks T)).complete = true) :
    syncCreateTasks s jo jo.job T = (s, some (jo.job, adoptUnrecordedTasks s jo T)) := by
  unfold syncCreateTasks
  simp [canCreate_simple h, hc]

/-- no pod of the cache is unrecorded: nothing to adopt -/
theorem adopt_none (s : Sys) (jo : JobObj) (T : List Task)
    (h : ∀ p ∈ s.podCache, p.pod.name ∈ refNames jo.job) : adoptUnrecordedTasks s jo T = T := by
  unfold adoptUnrecordedTasks
  have : (sortPods s.podCache).filter (fun p =>
      p.jobLabel = some jo.uid && !(T.any (·.name = p.pod.name)) &&
      !(jo.job.status.tasks.any (·.name = p.pod.name)) && p.ownerUid = some jo.uid) = [] := by
    apply List.filter_eq_nil_iff.mpr
    intro p hp
    have hp' : p ∈ s.podCache := (JobCtlPlan.mem_sortPods p s.podCache).mp hp
    obtain ⟨r, hr, hn⟩ := List.mem_map.mp (h p hp')
    have : jo.job.status.tasks.any (·.name = p.pod.name) = true :=
      List.any_eq_true.mpr ⟨r, hr, by simpa using hn⟩
    simp [this]
  simp only [this, List.filterMap_nil, List.append_nil]

/-- not complete, no creation request: the refs are refreshed, nothing else -/
theorem syncCreateTasks_noreq (s : Sys) (jo : JobObj) (T : List Task) (h : SimpleSpec jo.job)
    (hc : (getParallelTaskSummary s.d jo.job (generateTaskRefs s.clock jo.job.status.tasks T)).complete = false)
    (hreq : jo.job.status.tasks.any refActiveOrSuccessful = true ∨
      nextRetryIndex s.d jo.job.status.tasks s.d.hash ≥ jo.job.maxAttempts) :
    syncCreateTasks s jo jo.job T =
      ((updateTaskRefStatus s (jobKey jo) jo.job T).1, some ((updateTaskRefStatus s (jobKey jo) jo.job T).2, T)) := by
  have hm : computeMissingIndexesForCreation s.d jo.job (jo.job.indexes s.d) = some [] := by
    rw [computeMissing_simple s.d jo.job h]
    rcases hreq with hx | hx <;> simp [hx]
  simp only [syncCreateTasks, canCreate_simple h, Bool.not_true, Bool.false_eq_true, ↓reduceIte, hc, hm, createLoop]

theorem reqs_single (d : PIndex) (rj : Job) (h : SimpleSpec rj)
    (hf : rj.status.tasks.any refActiveOrSuccessful = false)
    (hlt : nextRetryIndex d rj.status.tasks d.hash < rj.maxAttempts) :
    computeMissingIndexesForCreation d rj (rj.indexes d) = some [theReq d rj] := by
  rw [computeMissing_simple d rj h]
  have : ¬ nextRetryIndex d rj.status.tasks d.hash ≥ rj.maxAttempts := by omega
  simp [hf, this]

theorem minE_arm (s : Sys) (key : String) (e : Time) :
    (match (if e = zeroTime then (none : Option Time) else some e) with
      | some t => enqueueAfter s key t
      | none => s) = armEarliest s key e := by
  unfold armEarliest
  by_cases hz : e = zeroTime
  · simp only [hz, ↓reduceIte]
  · simp only [hz, ↓reduceIte]

/-- not complete, the request is not due: the timer for its earliest time is armed, the refs refreshed -/
theorem syncCreateTasks_notdue (s : Sys) (jo : JobObj) (T : List Task) (h : SimpleSpec jo.job)
    (hc : (getParallelTaskSummary s.d jo.job (generateTaskRefs s.clock jo.job.status.tasks T)).complete = false)
    (hf : jo.job.status.tasks.any refActiveOrSuccessful = false)
    (hlt : nextRetryIndex s.d jo.job.status.tasks s.d.hash < jo.job.maxAttempts)
    (hnd : ¬ DueReq s.clock (theReq s.d jo.job).earliest) :
    syncCreateTasks s jo jo.job T =
      ((updateTaskRefStatus (enqueueAfter s (jobKey jo) (theReq s.d jo.job).earliest) (jobKey jo) jo.job T).1,
       some ((updateTaskRefStatus (enqueueAfter s (jobKey jo) (theReq s.d jo.job).earliest) (jobKey jo) jo.job T).2, T)) := by
  unfold syncCreateTasks
  have hm := reqs_single s.d jo.job h hf hlt
  have h1 : ¬ (theReq s.d jo.job).earliest = zeroTime := fun e => hnd (Or.inl e)
  have h2 : (theReq s.d jo.job).earliest > s.clock := Int.not_le.mp fun e => hnd (Or.inr e)
  simp only [canCreate_simple h, Bool.not_true, Bool.false_eq_true, ↓reduceIte, hc, hm, createLoop, h1,
    Option.isSome_some, h2, decide_true, Bool.and_self]

theorem skip_false (s : Sys) (e : Time) (hdue : DueReq s.clock e) :
    ((if e = zeroTime then (none : Option Time) else some e).isSome && decide (e > s.clock)) = false := by
  rcases hdue with hz | hle
  · simp [hz]
  · have : ¬ e > s.clock := Int.not_lt.mpr hle
    simp [this]

theorem getPendingTimeout_sameSpec {a b : Job} (h : SameSpec a b) (cfg : ExecConfig) :
    getPendingTimeout b cfg = getPendingTimeout a cfg := by
  unfold getPendingTimeout; rw [h.template]

/-- `Reconciler.sync` on a simple Job, given what the creation stage did -/
theorem sync_simple (sp : Sys) (jo : JobObj) (s1 : Sys) (rjA : Job) (T1 : List Task) (hjo : SimpleSpec jo.job)
    (hcreate : syncCreateTasks sp jo jo.job (tasksForRefs sp jo jo.job.status.tasks) = (s1, some (rjA, T1)))
    (hA : SimpleSpec rjA) (hcfg : s1.cfg = sp.cfg) (hclk : s1.clock = sp.clock)
    (hquiet : ∀ pt, getPendingTimeout rjA s1.cfg = some pt → 0 < pt → ∀ t ∈ T1, PendQuiet s1.clock pt t)
    (hnodel : ∀ t ∈ T1, t.deletionTimestamp = none)
    (hgen : generateTaskRefs s1.clock (generateTaskRefs s1.clock rjA.status.tasks T1) T1 =
      generateTaskRefs s1.clock rjA.status.tasks T1)
    (httl : ∀ fin, (recompute s1.clock s1.d rjA T1).status.condition.finished = some fin →
      fin.finishTimestamp.getD zeroTime + getTTLAfterFinished (recompute s1.clock s1.d rjA T1) sp.cfg > sp.clock)
    (hT1fn : TasksFn T1) :
    ∃ s', sync sp jo = (s', recompute s1.clock s1.d rjA T1, jo.finalizer, true, false) ∧
      TimersOnly (jobKey jo) s1 s' ∧
      ((recompute s1.clock s1.d rjA T1).status.condition.finished = none →
        (∀ t ∈ T1, t.ref.finishTimestamp.isSome = true ∨ t.ref.runningTimestamp.isSome = true) → s' = s1) := by
  have hF : SimpleSpec (recompute s1.clock s1.d rjA T1) := hA.recompute _ _ _
  -- `syncJobTasks`: the first refresh computes the new status
  obtain ⟨s2, hU, hU1, hU1'⟩ := updateTaskRefStatus_eq s1 (jobKey jo) rjA T1
  have hst2 := hU1.static
  -- no task is past its pending deadline
  obtain ⟨s3, hP, hP1, hP1'⟩ := handlePending_quiet s2 jo (recompute s1.clock s1.d rjA T1) T1
    hT1fn s1.clock rjA.status.tasks (recompute_sameSpec s1.clock s1.d rjA T1).2.1 (by
    intro pt hpt hpos
    rw [hst2.clock]
    apply hquiet pt _ hpos
    rw [← getPendingTimeout_sameSpec (recompute_sameSpec s1.clock s1.d rjA T1).1, ← hst2.cfg]; exact hpt)
  have hst3 := hP1.static
  -- the second refresh finds nothing new
  obtain ⟨s6, hV, hV1, hV1'⟩ := updateTaskRefStatus_eq s3 (jobKey jo) (recompute s1.clock s1.d rjA T1) T1
  rw [hst3.clock.trans hst2.clock, hst3.d.trans hst2.d, recompute_idem s1.clock s1.clock s1.d rjA T1 T1 hA hgen] at hV hV1'
  have ht6 := hU1.trans (hP1.trans hV1)
  have hst6 := ht6.static
  have hstage : syncTasksStage sp jo = (s6, some (recompute s1.clock s1.d rjA T1)) := by
    have h1 : isStarted jo.job = true := hjo.started
    have h2 : isDeleted jo.job = false := by unfold isDeleted; rw [hjo.del]; rfl
    simp only [syncTasksStage, h1, h2, Bool.not_false, Bool.and_self, ↓reduceIte, syncJobTasks, hcreate, hU, hP,
      handleKill_simple s3 jo _ T1 hF, handleForce_quiet s3 jo _ T1 hnodel, hV]
  -- the last status refresh returns the same Job
  obtain ⟨s7, hU, hu1, hu1'⟩ := syncJobStatus_eq s6 (jobKey jo) (recompute s1.clock s1.d rjA T1)
  rw [hst6.d, show statusOf s6.clock s1.d (recompute s1.clock s1.d rjA T1) = recompute s1.clock s1.d rjA T1 from
    statusOf_idem s1.clock s6.clock s1.d (updateJobTaskRefs s1.clock rjA T1)
      (hA.congr (updateJobTaskRefs_sameSpec s1.clock rjA T1) rfl)] at hU hu1'
  have hst7 := hu1.static
  -- TTL
  obtain ⟨s8, hT8, ht8, hex8⟩ : ∃ s8, handleTTL s7 jo (recompute s1.clock s1.d rjA T1) = (s8, true) ∧
      TimersOnly (jobKey jo) s7 s8 ∧
      ((recompute s1.clock s1.d rjA T1).status.condition.finished = none → s8 = s7) := by
    cases hfin : (recompute s1.clock s1.d rjA T1).status.condition.finished with
    | none => exact ⟨s7, handleTTL_unfinished s7 jo _ hfin, TimersOnly.refl _ _, fun _ => rfl⟩
    | some fin =>
      refine ⟨_, handleTTL_early s7 jo _ fin hF.del hfin ?_, enqueueAfter_timersOnly _ _ _, fun h => by cases h⟩
      rw [hst7.clock.trans (hst6.clock.trans hclk), hst7.cfg.trans (hst6.cfg.trans hcfg)]
      exact httl fin hfin
  refine ⟨s8, ?_, ht6.trans (hu1.trans ht8), ?_⟩
  · rw [sync_eq]
    simp only [hstage, hU, hT8, handleFinalizer_not_deleted s8 jo _ jo.finalizer hF.del,
      finalizerStatusInput_live s8 jo _ jo.finalizer hF.del, statusHasNullTime_live s6 _ hF.del]
  · intro hunf hall
    rw [hex8 hunf, hu1' hunf, hV1' hunf, hP1' hall, hU1' hunf]

/-- `SyncOne` on a simple Job: no spec update; one status update exactly when the status changed -/
theorem syncOne_simple (sp : Sys) (jo : JobObj) (s' : Sys) (rjF : Job) (hc : sp.jobCache = some jo)
    (hsync : sync sp jo = (s', rjF, jo.finalizer, true, false)) (hadm : rjF.admissionError = jo.job.admissionError) :
    syncOne sp =
      if rjF.status ≠ jo.job.status then
        ((apiUpdateJobStatus s' jo { jo with job := rjF }).1, (apiUpdateJobStatus s' jo { jo with job := rjF }).2)
      else (s', true) := by
  unfold syncOne
  simp only [hc, hsync, hadm, ne_eq, not_true_eq_false, decide_false, Bool.or_self, Bool.false_eq_true, ↓reduceIte,
    Bool.not_true, Bool.or_false, statusBase_false]
  by_cases hd : rjF.status = jo.job.status
  · simp [hd]
  · simp only [hd, not_false_eq_true, decide_true, ↓reduceIte]
    cases (apiUpdateJobStatus s' jo { jo with job := rjF }).2 <;> simp

end Furiko.JobCtl.Live
