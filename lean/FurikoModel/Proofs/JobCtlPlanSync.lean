/-
Plan-level lemmas about the whole pass: which handler each API call of `syncJobTasks`,
`sync` and `syncOne` comes from (`TaskCallOrigin`, `SyncCallOrigin`), and which stages a pass that
returns without error went through.  Core Lean only.
-/
import FurikoModel.Proofs.JobCtlPlanHandlers
import FurikoModel.Proofs.JobCtlPlanCreate

namespace Furiko.JobCtlPlan
open Furiko Furiko.JobCtl Furiko.WQ

theorem newCalls_trans {s s1 s2 : Sys} {l1 l2 : List Call} (h1 : Ext s s1 l1) (h2 : Ext s1 s2 l2) :
    newCalls s s2 = newCalls s s1 ++ newCalls s1 s2 := by
  rw [(h1.trans h2).newCalls, h1.newCalls, h2.newCalls]

/-- the task list `syncJobTasks` starts from: the tasks of the cached refs found by
`getTaskForRef` (pod cache, or a live GET when the cache misses an unfinished ref or is stale) -/
def tasks0 (s : Sys) (jo : JobObj) (rj : Job) : List Task := tasksForRefs s jo rj.status.tasks

theorem syncJobStatus_tasks (s : Sys) (key : String) (rj : Job) :
    (syncJobStatusFromTaskRefs s key rj).2.status.tasks = rj.status.tasks :=
  (syncJobStatus_ext s key rj).2.2.1

theorem updateTaskRefStatus_tasks (s : Sys) (key : String) (rj : Job) (tasks : List Task) :
    (updateTaskRefStatus s key rj tasks).2.status.tasks = generateTaskRefs s.clock rj.status.tasks tasks := by
  unfold updateTaskRefStatus
  rw [syncJobStatus_tasks]
  rfl

theorem syncCreateTasks_tasks (s : Sys) (jo : JobObj) (rj : Job) (tasks : List Task) (s1 : Sys) (rj1 : Job)
    (tasks1 : List Task) (h : syncCreateTasks s jo rj tasks = (s1, some (rj1, tasks1))) :
    rj1.status.tasks = rj.status.tasks ∨ rj1.status.tasks = generateTaskRefs s.clock rj.status.tasks tasks1 := by
  rw [syncCreateTasks_eq] at h
  split at h
  · simp only [Prod.mk.injEq, Option.some.injEq] at h; rw [← h.2.1]; exact Or.inl rfl
  · split at h
    · simp only [Prod.mk.injEq, Option.some.injEq] at h; rw [← h.2.1]; exact Or.inl rfl
    · cases hreqs : computeMissingIndexesForCreation s.d rj (rj.indexes s.d) with
      | none => simp [hreqs] at h
      | some reqs =>
        simp only [hreqs] at h
        obtain ⟨lc, ec, _, _, hres⟩ := createLoop_ext jo reqs s rj tasks none
        generalize createLoop jo reqs s rj tasks none = cl at h ec hres
        obtain ⟨sc, o⟩ := cl
        cases o with
        | none => simp at h
        | some tr =>
          obtain ⟨rjL, tasksL, minE⟩ := tr
          simp only [Prod.mk.injEq, Option.some.injEq] at h
          obtain ⟨_, hrj, htk⟩ := h
          right
          rw [← hrj, ← htk, updateTaskRefStatus_tasks, (hres rjL tasksL minE rfl).1.status]
          have : (armMin sc (jobKey jo) minE).clock = s.clock := by
            have := ec.clock
            simp only at this
            cases minE <;> exact this
          rw [this]

/-- where a call issued by `syncJobTasks s jo rj` comes from.  `tasks1` is the task list after the
creation step; the state `s'` and Job `rj'` a later handler runs on keep the clock, configuration
and caches of `s` (`Ext`), the spec of `rj` (`SpecLe`: only the admission-error annotation may
have been added, by the creation step) and differ from the Job after creation only in status. -/
inductive TaskCallOrigin (s : Sys) (jo : JobObj) (rj : Job) (c : Call) : Prop
  | create : c ∈ newCalls s (syncCreateTasks s jo rj (tasks0 s jo rj)).1 → TaskCallOrigin s jo rj c
  | pending (s1 : Sys) (rj1 : Job) (tasks1 : List Task) (s' : Sys) (rj' : Job) (l : List Call) :
      syncCreateTasks s jo rj (tasks0 s jo rj) = (s1, some (rj1, tasks1)) → Ext s s' l → SpecLe rj rj1 →
      SameSpec rj1 rj' → rj'.status.tasks = generateTaskRefs s.clock rj1.status.tasks tasks1 →
      c ∈ newCalls s' (handlePendingTasks s' jo rj' tasks1).1 → TaskCallOrigin s jo rj c
  | kill (s1 : Sys) (rj1 : Job) (tasks1 : List Task) (s' : Sys) (rj' : Job) (l : List Call) :
      syncCreateTasks s jo rj (tasks0 s jo rj) = (s1, some (rj1, tasks1)) → Ext s s' l → SpecLe rj rj1 →
      SameSpec rj1 rj' → c ∈ newCalls s' (handleKillJob s' jo rj' tasks1).1 → TaskCallOrigin s jo rj c
  | force (s1 : Sys) (rj1 : Job) (tasks1 : List Task) (s' : Sys) (rj' : Job) (l : List Call) :
      syncCreateTasks s jo rj (tasks0 s jo rj) = (s1, some (rj1, tasks1)) → Ext s s' l → SpecLe rj rj1 →
      SameSpec rj1 rj' → c ∈ newCalls s' (handleForceDelete s' jo rj' tasks1).1 → TaskCallOrigin s jo rj c

theorem handlePending_out (s : Sys) (jo : JobObj) (rj : Job) (tasks : List Task) (rj' : Job)
    (h : (handlePendingTasks s jo rj tasks).2 = some rj') : rj' = rj ∨ ∃ T, rj' = pendMark rj T s.clock tasks := by
  obtain ⟨l, _, _, hoff, hon⟩ := handlePendingTasks_ext s jo rj tasks
  cases hT : getPendingTimeout rj s.cfg with
  | none => rw [hoff (Or.inl hT)] at h; cases h; exact Or.inl rfl
  | some T =>
    by_cases hle : T ≤ 0
    · rw [hoff (Or.inr ⟨T, hT, hle⟩)] at h; cases h; exact Or.inl rfl
    · exact Or.inr ⟨T, (hon T hT (by omega)).2.2.1 rj' h⟩

theorem handlePending_sameSpec (s : Sys) (jo : JobObj) (rj : Job) (tasks : List Task) (rj' : Job)
    (h : (handlePendingTasks s jo rj tasks).2 = some rj') : SameSpec rj rj' := by
  rcases handlePending_out s jo rj tasks rj' h with rfl | ⟨T, rfl⟩
  · exact SameSpec.refl _
  · exact pendMark_sameSpec _ _ _ _

theorem handlePending_parallelStatus (s : Sys) (jo : JobObj) (rj : Job) (tasks : List Task) (rj' : Job)
    (h : (handlePendingTasks s jo rj tasks).2 = some rj') :
    rj'.status.parallelStatus = rj.status.parallelStatus := by
  rcases handlePending_out s jo rj tasks rj' h with rfl | ⟨T, rfl⟩ <;> rfl

theorem handleKill_sameSpec (s : Sys) (jo : JobObj) (rj : Job) (tasks : List Task) (rj' : Job)
    (h : (handleKillJob s jo rj tasks).2 = some rj') : SameSpec rj rj' := by
  obtain ⟨l, _, _, _, hon⟩ := handleKillJob_ext s jo rj tasks
  by_cases hk : shouldKillJob s.clock rj = true
  · rw [(hon hk).2.1 rj' h]; exact killMark_sameSpec _ _
  · rw [handleKillJob_not s jo rj tasks (by simpa using hk)] at h; cases h; exact SameSpec.refl _

theorem handleForce_sameSpec (s : Sys) (jo : JobObj) (rj : Job) (tasks : List Task) (rj' : Job)
    (h : (handleForceDelete s jo rj tasks).2 = some rj') : SameSpec rj rj' := by
  obtain ⟨l, _, _, hoff, hon⟩ := handleForceDelete_ext s jo rj tasks
  by_cases hle : getForceDeleteTimeout s.cfg ≤ 0
  · rw [hoff (Or.inl hle)] at h; cases h; exact SameSpec.refl _
  · by_cases hfb : forbidsForce rj = true
    · rw [hoff (Or.inr hfb)] at h; cases h; exact SameSpec.refl _
    · rcases (hon (by omega) (by simpa using hfb)).2.2 rj' h with rfl | rfl
      · exact SameSpec.refl _
      · exact forceMark_sameSpec _ _ _ _

/-- the stages of a `syncJobTasks` pass that returned without error, and its calls stage by stage -/
theorem syncJobTasks_success (s : Sys) (jo : JobObj) (rj rjOut : Job)
    (h : (syncJobTasks s jo rj).2 = some rjOut) :
    ∃ s1 rj1 tasks1 s2 rj2 s3 rj3 s4 rj4 s5 rj5,
      syncCreateTasks s jo rj (tasks0 s jo rj) = (s1, some (rj1, tasks1)) ∧
      updateTaskRefStatus s1 (jobKey jo) rj1 tasks1 = (s2, rj2) ∧
      handlePendingTasks s2 jo rj2 tasks1 = (s3, some rj3) ∧
      handleKillJob s3 jo rj3 tasks1 = (s4, some rj4) ∧
      handleForceDelete s4 jo rj4 tasks1 = (s5, some rj5) ∧
      syncJobTasks s jo rj = ((updateTaskRefStatus s5 (jobKey jo) rj5 tasks1).1, some (updateTaskRefStatus s5 (jobKey jo) rj5 tasks1).2) ∧
      newCalls s (syncJobTasks s jo rj).1 = newCalls s s1 ++ (newCalls s2 s3 ++ (newCalls s3 s4 ++ newCalls s4 s5)) ∧
      (∃ l, Ext s s2 l) ∧ (∃ l, Ext s s3 l) ∧ (∃ l, Ext s s4 l) ∧
      SpecLe rj rj1 ∧ SameSpec rj1 rj2 ∧ SameSpec rj1 rj3 ∧ SameSpec rj1 rj4 ∧
      rj3.status.parallelStatus = rj2.status.parallelStatus := by
  unfold syncJobTasks at h ⊢
  unfold tasks0
  rcases hcr : syncCreateTasks s jo rj (tasksForRefs s jo rj.status.tasks) with ⟨s1, _ | ⟨rj1, tasks1⟩⟩
  · simp only [hcr] at h; cases h
  rcases hu2 : updateTaskRefStatus s1 (jobKey jo) rj1 tasks1 with ⟨s2, rj2⟩
  rcases hr3 : handlePendingTasks s2 jo rj2 tasks1 with ⟨s3, _ | rj3⟩
  · simp only [hcr, hu2, hr3] at h; cases h
  rcases hr4 : handleKillJob s3 jo rj3 tasks1 with ⟨s4, _ | rj4⟩
  · simp only [hcr, hu2, hr3, hr4] at h; cases h
  rcases hr5 : handleForceDelete s4 jo rj4 tasks1 with ⟨s5, _ | rj5⟩
  · simp only [hcr, hu2, hr3, hr4, hr5] at h; cases h
  simp only [hcr, hu2, hr3, hr4, hr5]
  -- what each stage did, read off its `_ext` lemma at the value just named
  obtain ⟨_, ec, _, _, _, hcres⟩ := syncCreateTasks_ext s jo rj (tasksForRefs s jo rj.status.tasks)
  rw [hcr] at ec hcres
  obtain ⟨e2, hs2, _⟩ := updateTaskRefStatus_ext s1 (jobKey jo) rj1 tasks1
  rw [hu2] at e2 hs2
  obtain ⟨_, ep, _⟩ := handlePendingTasks_ext s2 jo rj2 tasks1
  rw [hr3] at ep
  have hs3 := hs2.trans (handlePending_sameSpec s2 jo rj2 tasks1 rj3 (by rw [hr3]))
  obtain ⟨_, ek, _⟩ := handleKillJob_ext s3 jo rj3 tasks1
  rw [hr4] at ek
  obtain ⟨_, ef, _⟩ := handleForceDelete_ext s4 jo rj4 tasks1
  rw [hr5] at ef
  obtain ⟨e6, _, _⟩ := updateTaskRefStatus_ext s5 (jobKey jo) rj5 tasks1
  refine ⟨s1, rj1, tasks1, s2, rj2, s3, rj3, s4, rj4, s5, rj5, rfl, hu2, hr3, hr4, hr5, rfl, ?_,
    ⟨_, ec.trans e2⟩, ⟨_, (ec.trans e2).trans ep⟩, ⟨_, ((ec.trans e2).trans ep).trans ek⟩,
    (hcres rj1 tasks1 rfl).1, hs2, hs3, hs3.trans (handleKill_sameSpec s3 jo rj3 tasks1 rj4 (by rw [hr4])),
    handlePending_parallelStatus s2 jo rj2 tasks1 rj3 (by rw [hr3])⟩
  rw [(((((ec.trans e2).trans ep).trans ek).trans ef).trans e6).newCalls, ec.newCalls, ep.newCalls, ek.newCalls,
    ef.newCalls]
  simp

theorem syncJobTasks_origin (s : Sys) (jo : JobObj) (rj : Job) :
    (∃ l, Ext s (syncJobTasks s jo rj).1 l) ∧
    ∀ c ∈ newCalls s (syncJobTasks s jo rj).1, TaskCallOrigin s jo rj c := by
  refine Pass.calls ?_
  unfold syncJobTasks
  simp only
  obtain ⟨lc, ec, _, _, _, hcres⟩ := syncCreateTasks_ext s jo rj (tasksForRefs s jo rj.status.tasks)
  have p1 : Pass (TaskCallOrigin s jo rj) s (syncCreateTasks s jo rj (tasksForRefs s jo rj.status.tasks)).1 :=
    .of_newCalls ec fun c hc => .create hc
  generalize hcr : syncCreateTasks s jo rj (tasksForRefs s jo rj.status.tasks) = cr at *
  obtain ⟨s1, _ | ⟨rj1, tasks1⟩⟩ := cr
  · exact p1
  simp only
  obtain ⟨hle, _⟩ := hcres rj1 tasks1 rfl
  obtain ⟨e2, hs2, _⟩ := updateTaskRefStatus_ext s1 (jobKey jo) rj1 tasks1
  have ht2 := updateTaskRefStatus_tasks s1 (jobKey jo) rj1 tasks1
  rw [ec.clock] at ht2
  generalize updateTaskRefStatus s1 (jobKey jo) rj1 tasks1 = u2 at *
  obtain ⟨s2, rj2⟩ := u2
  simp only
  have p2 := p1.trans (.quiet e2)
  obtain ⟨⟨_, e02⟩, _⟩ := p2.calls
  obtain ⟨_, ep, _⟩ := handlePendingTasks_ext s2 jo rj2 tasks1
  have hs3 := fun rj3 h => hs2.trans (handlePending_sameSpec s2 jo rj2 tasks1 rj3 h)
  have p3 := p2.trans (.of_newCalls ep fun c hc => .pending s1 rj1 tasks1 s2 rj2 _ hcr e02 hle hs2 ht2 hc)
  generalize handlePendingTasks s2 jo rj2 tasks1 = r3 at *
  obtain ⟨s3, _ | rj3⟩ := r3
  · exact p3
  simp only
  obtain ⟨⟨_, e03⟩, _⟩ := p3.calls
  obtain ⟨_, ek, _⟩ := handleKillJob_ext s3 jo rj3 tasks1
  have hs4 := fun rj4 h => (hs3 rj3 rfl).trans (handleKill_sameSpec s3 jo rj3 tasks1 rj4 h)
  have p4 := p3.trans (.of_newCalls ek fun c hc => .kill s1 rj1 tasks1 s3 rj3 _ hcr e03 hle (hs3 rj3 rfl) hc)
  generalize handleKillJob s3 jo rj3 tasks1 = r4 at *
  obtain ⟨s4, _ | rj4⟩ := r4
  · exact p4
  simp only
  obtain ⟨⟨_, e04⟩, _⟩ := p4.calls
  obtain ⟨_, ef, _⟩ := handleForceDelete_ext s4 jo rj4 tasks1
  have p5 := p4.trans (.of_newCalls ef fun c hc => .force s1 rj1 tasks1 s4 rj4 _ hcr e04 hle (hs4 rj4 rfl) hc)
  generalize handleForceDelete s4 jo rj4 tasks1 = r5 at *
  obtain ⟨s5, _ | rj5⟩ := r5
  · exact p5
  exact p5.trans (.quiet (updateTaskRefStatus_ext s5 (jobKey jo) rj5 tasks1).1)

theorem syncJobTasks_specLe (s : Sys) (jo : JobObj) (rj rjOut : Job)
    (h : (syncJobTasks s jo rj).2 = some rjOut) : SpecLe rj rjOut := by
  obtain ⟨s1, rj1, tasks1, s2, rj2, s3, rj3, s4, rj4, s5, rj5, _, _, _, _, h5, heq, _, _, _, _, hle, _, _, hs4, _⟩ :=
    syncJobTasks_success s jo rj rjOut h
  rw [heq] at h
  simp only [Option.some.injEq] at h
  subst h
  have hf := handleForce_sameSpec s4 jo rj4 tasks1 rj5 (by rw [h5])
  obtain ⟨_, hs6, _⟩ := updateTaskRefStatus_ext s5 (jobKey jo) rj5 tasks1
  exact hle.trans ((hs4.trans hf).trans hs6).le

inductive SyncCallOrigin (s : Sys) (jo : JobObj) (c : Call) : Prop
  | tasks : isStarted jo.job = true → isDeleted jo.job = false → TaskCallOrigin s jo jo.job c →
      SyncCallOrigin s jo c
  | ttl (s' : Sys) (rj' : Job) (l : List Call) : Ext s s' l → SpecLe jo.job rj' →
      c ∈ newCalls s' (handleTTL s' jo rj').1 → SyncCallOrigin s jo c
  | finalizer (s' : Sys) (rj' : Job) (l : List Call) : Ext s s' l → SpecLe jo.job rj' →
      c ∈ newCalls s' (handleFinalizer s' jo rj' jo.finalizer).1 → SyncCallOrigin s jo c

/-- the first stage of `sync` -/
def syncTasksStage (s : Sys) (jo : JobObj) : Sys × Option Job :=
  if isStarted jo.job && !isDeleted jo.job then syncJobTasks s jo jo.job else (s, some jo.job)

theorem sync_eq (s : Sys) (jo : JobObj) :
    sync s jo =
      match (syncTasksStage s jo).2 with
      | none => ((syncTasksStage s jo).1, jo.job, jo.finalizer, false, false)
      | some rj1 =>
        let s1 := (syncTasksStage s jo).1
        let null2 := statusHasNullTime s1 rj1
        let u := syncJobStatusFromTaskRefs s1 (jobKey jo) rj1
        match (handleTTL u.1 jo u.2).2 with
        | false => ((handleTTL u.1 jo u.2).1, u.2, jo.finalizer, false, null2)
        | true =>
          let s3 := (handleTTL u.1 jo u.2).1
          let null3 := match finalizerStatusInput s3 jo u.2 jo.finalizer with
            | some inp => statusHasNullTime s3 inp
            | none => null2
          match (handleFinalizer s3 jo u.2 jo.finalizer).2 with
          | none => ((handleFinalizer s3 jo u.2 jo.finalizer).1, u.2, jo.finalizer, false, null2)
          | some (rj3, fin) => ((handleFinalizer s3 jo u.2 jo.finalizer).1, rj3, fin, true, null3) := by
  unfold sync syncTasksStage
  simp only
  generalize (if (isStarted jo.job && !isDeleted jo.job) = true then syncJobTasks s jo jo.job else (s, some jo.job)) = st
  obtain ⟨s1, o⟩ := st
  cases o with
  | none => rfl
  | some rj1 =>
    simp only
    generalize syncJobStatusFromTaskRefs s1 (jobKey jo) rj1 = u
    obtain ⟨s2, rj2⟩ := u
    simp only
    generalize handleTTL s2 jo rj2 = r
    obtain ⟨s3, b⟩ := r
    cases b with
    | false => rfl
    | true =>
      simp only
      generalize handleFinalizer s3 jo rj2 jo.finalizer = f
      obtain ⟨s4, o4⟩ := f
      cases o4 with
      | none => rfl
      | some pr => rfl

theorem sync_fst (s : Sys) (jo : JobObj) :
    (sync s jo).1 =
      match (syncTasksStage s jo).2 with
      | none => (syncTasksStage s jo).1
      | some rj1 =>
        let u := syncJobStatusFromTaskRefs (syncTasksStage s jo).1 (jobKey jo) rj1
        if (handleTTL u.1 jo u.2).2 = true then (handleFinalizer (handleTTL u.1 jo u.2).1 jo u.2 jo.finalizer).1
        else (handleTTL u.1 jo u.2).1 := by
  rw [sync_eq]
  cases (syncTasksStage s jo).2 with
  | none => rfl
  | some rj1 =>
    simp only
    split
    · next h => simp [h]
    · next h => simp only [h, if_true]; split <;> rfl

theorem syncTasksStage_ext (s : Sys) (jo : JobObj) :
    (∃ l, Ext s (syncTasksStage s jo).1 l) ∧
    (∀ c ∈ newCalls s (syncTasksStage s jo).1, SyncCallOrigin s jo c) ∧
    (∀ rj1, (syncTasksStage s jo).2 = some rj1 → SpecLe jo.job rj1) := by
  unfold syncTasksStage
  by_cases hc : (isStarted jo.job && !isDeleted jo.job) = true
  · rw [if_pos hc]
    simp only [Bool.and_eq_true, Bool.not_eq_true'] at hc
    obtain ⟨he, ho⟩ := syncJobTasks_origin s jo jo.job
    exact ⟨he, fun c h => .tasks hc.1 hc.2 (ho c h), fun rj1 h => syncJobTasks_specLe s jo jo.job rj1 h⟩
  · rw [if_neg hc]
    obtain ⟨he, ho⟩ := (Pass.refl (SyncCallOrigin s jo) s).calls
    exact ⟨he, ho, fun rj1 h => by cases h; exact SpecLe.refl _⟩

theorem sync_origin (s : Sys) (jo : JobObj) :
    (∃ l, Ext s (sync s jo).1 l) ∧ ∀ c ∈ newCalls s (sync s jo).1, SyncCallOrigin s jo c := by
  refine Pass.calls ?_
  rw [sync_fst]
  obtain ⟨⟨l1, e1⟩, ho1, hsp1⟩ := syncTasksStage_ext s jo
  have p1 : Pass (SyncCallOrigin s jo) s (syncTasksStage s jo).1 := .of_newCalls e1 ho1
  cases h1 : (syncTasksStage s jo).2 with
  | none => exact p1
  | some rj1 =>
    simp only
    obtain ⟨e2, hs2, _, _⟩ := syncJobStatus_ext (syncTasksStage s jo).1 (jobKey jo) rj1
    generalize syncJobStatusFromTaskRefs (syncTasksStage s jo).1 (jobKey jo) rj1 = u at *
    have hle2 : SpecLe jo.job u.2 := (hsp1 rj1 h1).trans hs2.le
    have p2 := p1.trans (.quiet e2)
    obtain ⟨⟨_, e02⟩, _⟩ := p2.calls
    obtain ⟨_, et, _⟩ := handleTTL_ext u.1 jo u.2
    have p3 := p2.trans (.of_newCalls et fun c hc => .ttl _ _ _ e02 hle2 hc)
    split
    · obtain ⟨⟨_, e03⟩, _⟩ := p3.calls
      obtain ⟨_, ef, _⟩ := handleFinalizer_ext (handleTTL u.1 jo u.2).1 jo u.2 jo.finalizer
      exact p3.trans (.of_newCalls ef fun c hc => .finalizer _ _ _ e03 hle2 hc)
    · exact p3

/-- the steps of `sync` after the task stage (status refresh, TTL step, finalizer step) only
extend the state the task stage left: in particular every timer armed so far is still armed -/
theorem sync_ext_after_tasks (s : Sys) (jo : JobObj) : ∃ l, Ext (syncTasksStage s jo).1 (sync s jo).1 l := by
  rw [sync_fst]
  cases (syncTasksStage s jo).2 with
  | none => exact ⟨[], Ext.refl _⟩
  | some rj1 =>
    simp only
    obtain ⟨e2, _⟩ := syncJobStatus_ext (syncTasksStage s jo).1 (jobKey jo) rj1
    generalize syncJobStatusFromTaskRefs (syncTasksStage s jo).1 (jobKey jo) rj1 = u at *
    obtain ⟨_, et, _⟩ := handleTTL_ext u.1 jo u.2
    split
    · obtain ⟨_, ef, _⟩ := handleFinalizer_ext (handleTTL u.1 jo u.2).1 jo u.2 jo.finalizer
      exact ⟨_, (e2.trans et).trans ef⟩
    · exact ⟨_, e2.trans et⟩

/-- … and likewise the steps of `sync` after the TTL step: the state `handleTTL` left is only
extended by the finalizer step -/
theorem sync_ext_after_ttl (s : Sys) (jo : JobObj) (rj1 : Job) (h1 : (syncTasksStage s jo).2 = some rj1) :
    ∃ l, Ext (handleTTL (syncJobStatusFromTaskRefs (syncTasksStage s jo).1 (jobKey jo) rj1).1 jo
        (syncJobStatusFromTaskRefs (syncTasksStage s jo).1 (jobKey jo) rj1).2).1 (sync s jo).1 l := by
  rw [sync_fst, h1]
  simp only
  split
  · obtain ⟨_, ef, _⟩ := handleFinalizer_ext (handleTTL (syncJobStatusFromTaskRefs (syncTasksStage s jo).1 (jobKey jo) rj1).1 jo
      (syncJobStatusFromTaskRefs (syncTasksStage s jo).1 (jobKey jo) rj1).2).1 jo
      (syncJobStatusFromTaskRefs (syncTasksStage s jo).1 (jobKey jo) rj1).2 jo.finalizer
    exact ⟨_, ef⟩
  · exact ⟨[], Ext.refl _⟩

theorem statusBase_name (s : Sys) (jo : JobObj) (b : Bool) : (statusBase s jo b).name = jo.name := by
  unfold statusBase; cases b <;> rfl

theorem syncOne_origin (s : Sys) :
    (∃ l, Ext s (syncOne s).1 l) ∧
    ∀ c ∈ newCalls s (syncOne s).1, ∃ jo, s.jobCache = some jo ∧
      (SyncCallOrigin s jo c ∨ (c.verb = "update" ∧ c.res = "jobs" ∧ c.name = jo.name)) := by
  refine Pass.calls ?_
  unfold syncOne
  cases s.jobCache with
  | none => exact Pass.refl _ s
  | some jo =>
    simp only
    obtain ⟨⟨l1, e1⟩, ho⟩ := sync_origin s jo
    have p1 : Pass (fun c => ∃ jo', some jo = some jo' ∧
        (SyncCallOrigin s jo' c ∨ (c.verb = "update" ∧ c.res = "jobs" ∧ c.name = jo'.name))) s (sync s jo).1 :=
      .of_newCalls e1 fun c hc => ⟨jo, rfl, Or.inl (ho c hc)⟩
    generalize sync s jo = r at *
    obtain ⟨s1, newJob, newFin, syncOk, nullTime⟩ := r
    simp only at p1 ⊢
    -- the two final writes: each is skipped or logs one Job update
    generalize hw1 : (if (newJob.admissionError ≠ jo.job.admissionError || newFin ≠ jo.finalizer) = true then
      apiUpdateJob s1 jo { jo with job := newJob, finalizer := newFin } else (s1, true)) = w1
    have p2 := p1.trans (s2 := w1.1) (by
      rw [← hw1]; split
      · obtain ⟨c, e, hv, hr, hn, _⟩ := apiUpdateJob_ext s1 jo { jo with job := newJob, finalizer := newFin }
        exact .single e ⟨jo, rfl, Or.inr ⟨hv, hr, hn⟩⟩
      · exact Pass.refl _ s1)
    obtain ⟨s2, ok1⟩ := w1
    cases ok1 with
    | false => exact p2
    | true =>
      simp only [Bool.not_true, Bool.false_eq_true, if_false]
      generalize hw2 : (if (decide (newJob.status ≠ jo.job.status) || nullTime) = true then
        apiUpdateJobStatus s2 (statusBase s2 jo (newJob.admissionError ≠ jo.job.admissionError || newFin ≠ jo.finalizer))
          { jo with job := newJob } else (s2, true)) = w2
      have p3 := p2.trans (s2 := w2.1) (by
        rw [← hw2]; split
        · obtain ⟨c, e, hv, hr, hn, _⟩ := apiUpdateJobStatus_ext s2 (statusBase s2 jo _) { jo with job := newJob }
          exact .single e ⟨jo, rfl, Or.inr ⟨hv, hr, hn.trans (statusBase_name _ _ _)⟩⟩
        · exact Pass.refl _ s2)
      obtain ⟨s3, ok2⟩ := w2
      cases ok2 <;> exact p3

end Furiko.JobCtlPlan
