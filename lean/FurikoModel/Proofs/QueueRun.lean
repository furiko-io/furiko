/-
`Run`: the state-free projection of a pass over its call log, and the pure list reasoning on it
(one call per Job in list order, abort on error, FIFO for Enqueue, completeness of an ok pass).
-/
import FurikoModel.Proofs.QueuePass

set_option linter.unusedSimpArgs false
set_option linter.unusedVariables false

namespace Furiko.Queue
open Furiko.WQ

/-- `Run jc clock rjs ac cs ok acf`: a pass over `rjs` starting with active count `ac` logs the
calls `cs`, returns `ok` and ends with active count `acf`. -/
inductive Run (jc : JCV) (clock : Int) : List JobV → Int → List Call → Bool → Int → Prop
  | nil (ac : Int) : Run jc clock [] ac [] true ac
  | defer {j : JobV} {rest : List JobV} {ac : Int} {cs : List Call} {ok : Bool} {acf : Int} :
      j.hasPolicy = true → startAfterLater j clock = true →
      Run jc clock rest ac cs ok acf → Run jc clock (j :: rest) ac cs ok acf
  | wait {j : JobV} {rest : List JobV} {ac : Int} {cs : List Call} {ok : Bool} {acf : Int} :
      j.hasPolicy = true → startAfterLater j clock = false → j.policy = 2 → overLimit jc ac →
      Run jc clock rest ac cs ok acf → Run jc clock (j :: rest) ac cs ok acf
  | rejectOk {j : JobV} {rest : List JobV} {ac : Int} {cs : List Call} {ok : Bool} {acf : Int} :
      j.hasPolicy = true → startAfterLater j clock = false → j.policy = 1 → overLimit jc ac →
      Run jc clock rest ac cs ok acf →
      Run jc clock (j :: rest) ac (⟨"reject", j.name, "ok"⟩ :: cs) ok acf
  /-- includes the fault `applied-err`: `res = "ok"` but the pass aborts -/
  | rejectFail {j : JobV} {rest : List JobV} {ac : Int} (res : String) :
      j.hasPolicy = true → startAfterLater j clock = false → j.policy = 1 → overLimit jc ac →
      Run jc clock (j :: rest) ac [⟨"reject", j.name, res⟩] false ac
  | startOk {j : JobV} {rest : List JobV} {ac : Int} {cs : List Call} {ok : Bool} {acf : Int} :
      startVerdict jc clock j ac → Run jc clock rest (ac + 1) cs ok acf →
      Run jc clock (j :: rest) ac (⟨"start", j.name, "ok"⟩ :: cs) ok acf
  | startFail {j : JobV} {rest : List JobV} {ac : Int} (res : String) :
      startVerdict jc clock j ac → Run jc clock (j :: rest) ac [⟨"start", j.name, res⟩] false ac
  | casFail {j : JobV} {rest : List JobV} {ac : Int} :
      startVerdict jc clock j ac → Run jc clock (j :: rest) ac [] false ac

/-- forgetting the states of a `Pass` -/
theorem Pass.toRun {jc : JCV} {rjs : List JobV} {s : Sys} {ac : Int} {cs : List Call} {s' : Sys}
    {ok : Bool} (h : Pass jc rjs s ac cs s' ok) :
    ∃ acf, Run jc s.clock rjs ac cs ok acf ∧
      (ac = getCtr s.counter jc.uid → acf = getCtr s'.counter jc.uid) := by
  induction h with
  | nil s ac => exact ⟨ac, Run.nil ac, id⟩
  | defer h1 h2 _ ih => exact ih.imp fun _ h => ⟨Run.defer h1 h2 h.1, h.2⟩
  | wait h1 h2 h3 h4 _ ih => exact ih.imp fun _ h => ⟨Run.wait h1 h2 h3 h4 h.1, h.2⟩
  | rejectOk cur h1 h2 h3 h4 _ _ _ _ _ ih | rejectNoop cur h1 h2 h3 h4 _ _ _ _ _ _ ih =>
    exact ih.imp fun _ h => ⟨Run.rejectOk h1 h2 h3 h4 h.1, h.2⟩
  | rejectFail res h1 h2 h3 h4 _ _ | rejectLost cur h1 h2 h3 h4 _ _ _ _
    | rejectNoopLost cur h1 h2 h3 h4 _ _ _ _ _ => exact ⟨_, Run.rejectFail _ h1 h2 h3 h4, id⟩
  | casFail hv _ => exact ⟨_, Run.casFail hv, id⟩
  | startOk cur hv hcas _ _ _ _ _ ih =>
    obtain ⟨acf, hr, hc⟩ := ih
    exact ⟨acf, Run.startOk hv hr, fun _ => hc (by simp [getCtr_setCtr])⟩
  | startFail res hv hcas _ _ | startLost cur hv hcas _ _ _ _ =>
    -- the reservation is rolled back
    exact ⟨_, Run.startFail _ hv, fun h => by simp only [getCtr_rollback hcas]; exact h⟩

variable {jc : JCV} {clock : Int} {rjs : List JobV} {ac : Int} {cs : List Call} {ok : Bool}
  {acf : Int}

theorem Run.sublist (h : Run jc clock rjs ac cs ok acf) :
    (cs.map (·.job)).Sublist (rjs.map (·.name)) := by
  induction h with
  | nil | rejectFail | startFail | casFail => simp
  | defer _ _ _ ih => exact List.Sublist.cons _ ih
  | wait _ _ _ _ _ ih => exact List.Sublist.cons _ ih
  | rejectOk _ _ _ _ _ ih => exact List.Sublist.cons_cons _ ih
  | startOk _ _ ih => exact List.Sublist.cons_cons _ ih

theorem Run.mono (h : Run jc clock rjs ac cs ok acf) : ac ≤ acf := by
  induction h with
  | nil | rejectFail | startFail | casFail => omega
  | defer _ _ _ ih => exact ih
  | wait _ _ _ _ _ ih => exact ih
  | rejectOk _ _ _ _ _ ih => exact ih
  | startOk _ _ ih => omega

theorem Run.job_mem (h : Run jc clock rjs ac cs ok acf) {c : Call} (hc : c ∈ cs) :
    c.job ∈ rjs.map (·.name) :=
  h.sublist.subset (List.mem_map_of_mem hc)

theorem Run.one_call (h : Run jc clock rjs ac cs ok acf) (hnd : (rjs.map (·.name)).Nodup)
    {c1 c2 : Call}
    (h1 : c1 ∈ cs) (h2 : c2 ∈ cs) (hj : c1.job = c2.job) : c1 = c2 :=
  eq_of_nodup_map (·.job) (h.sublist.nodup hnd) h1 h2 hj

theorem Run.call_spec (h : Run jc clock rjs ac cs ok acf) :
    ∀ c ∈ cs, ∃ j ∈ rjs, c.job = j.name ∧ ∃ ac', ac ≤ ac' ∧
      ((c.verb = "reject" ∧ j.hasPolicy = true ∧ j.policy = 1 ∧
          startAfterLater j clock = false ∧ overLimit jc ac') ∨
       (c.verb = "start" ∧ startVerdict jc clock j ac')) := by
  induction h with
  | nil => simp
  | defer _ _ _ ih | wait _ _ _ _ _ ih =>
    intro c hc; obtain ⟨j, hj, r⟩ := ih c hc; exact ⟨j, List.mem_cons_of_mem _ hj, r⟩
  | @rejectOk j rest ac cs ok acf h1 h2 h3 h4 _ ih =>
    intro c hc
    rcases List.mem_cons.mp hc with rfl | hc
    · exact ⟨j, by simp, rfl, ac, Int.le_refl _, Or.inl ⟨rfl, h1, h3, h2, h4⟩⟩
    · obtain ⟨j', hj, r⟩ := ih c hc; exact ⟨j', List.mem_cons_of_mem _ hj, r⟩
  | @rejectFail j rest ac res h1 h2 h3 h4 =>
    intro c hc; simp only [List.mem_singleton] at hc; subst hc
    exact ⟨j, by simp, rfl, ac, Int.le_refl _, Or.inl ⟨rfl, h1, h3, h2, h4⟩⟩
  | @startOk j rest ac cs ok acf hv _ ih =>
    intro c hc
    rcases List.mem_cons.mp hc with rfl | hc
    · exact ⟨j, by simp, rfl, ac, Int.le_refl _, Or.inr ⟨rfl, hv⟩⟩
    · obtain ⟨j', hj, hn, ac', hle, r⟩ := ih c hc
      exact ⟨j', List.mem_cons_of_mem _ hj, hn, ac', by omega, r⟩
  | @startFail j rest ac res hv =>
    intro c hc; simp only [List.mem_singleton] at hc; subst hc
    exact ⟨j, by simp, rfl, ac, Int.le_refl _, Or.inr ⟨rfl, hv⟩⟩
  | casFail => simp

theorem Run.abort (h : Run jc clock rjs ac cs ok acf) :
    ∀ pre c post, cs = pre ++ c :: post → c.res ≠ "ok" → post = [] := by
  induction h with
  | nil | casFail => intro pre c post h; simp at h
  | defer _ _ _ ih => exact ih
  | wait _ _ _ _ _ ih => exact ih
  | rejectOk _ _ _ _ _ ih | startOk _ _ ih =>
    intro pre c post h hne
    cases pre with
    | nil => simp only [List.nil_append, List.cons.injEq] at h; rw [← h.1] at hne; exact absurd rfl hne
    | cons p pre' => simp only [List.cons_append, List.cons.injEq] at h; exact ih pre' c post h.2 hne
  | rejectFail | startFail =>
    intro pre c post h _
    cases pre with
    | nil => simp only [List.nil_append, List.cons.injEq] at h; exact h.2.symm
    | cons p pre' => simp at h

theorem Run.ok_all (h : Run jc clock rjs ac cs ok acf) : ok = true → ∀ c ∈ cs, c.res = "ok" := by
  induction h with
  | nil => simp
  | defer _ _ _ ih => exact ih
  | wait _ _ _ _ _ ih => exact ih
  | rejectOk _ _ _ _ _ ih | startOk _ _ ih =>
    intro hok c hc
    rcases List.mem_cons.mp hc with rfl | hc
    · rfl
    · exact ih hok c hc
  | rejectFail | startFail | casFail => intro h; cases h

/-- a pass that returned an error stopped at some Job `j`: the Jobs before it were processed by
an ok pass, and `j` contributed the last call (failed or lost write) or no call (CAS failure);
nothing after `j` was touched. -/
theorem Run.false_stop (h : Run jc clock rjs ac cs ok acf) : ok = false →
    ∃ l1 j l2 cs1, rjs = l1 ++ j :: l2 ∧ Run jc clock l1 ac cs1 true acf ∧
      ((cs = cs1 ∧ startVerdict jc clock j acf) ∨ ∃ v r, cs = cs1 ++ [⟨v, j.name, r⟩]) := by
  induction h with
  | nil => intro h; cases h
  | @defer j rest ac cs ok acf h1 h2 _ ih =>
    intro hok
    obtain ⟨l1, j', l2, cs1, hl, hr, hc⟩ := ih hok
    exact ⟨j :: l1, j', l2, cs1, by simp [hl], Run.defer h1 h2 hr, hc⟩
  | @wait j rest ac cs ok acf h1 h2 h3 h4 _ ih =>
    intro hok
    obtain ⟨l1, j', l2, cs1, hl, hr, hc⟩ := ih hok
    exact ⟨j :: l1, j', l2, cs1, by simp [hl], Run.wait h1 h2 h3 h4 hr, hc⟩
  | @rejectOk j rest ac cs ok acf h1 h2 h3 h4 _ ih =>
    intro hok
    obtain ⟨l1, j', l2, cs1, hl, hr, hc⟩ := ih hok
    refine ⟨j :: l1, j', l2, _ :: cs1, by simp [hl], Run.rejectOk h1 h2 h3 h4 hr, ?_⟩
    rcases hc with ⟨hc, hv⟩ | ⟨v, r, hc⟩
    · exact Or.inl ⟨by rw [hc], hv⟩
    · exact Or.inr ⟨v, r, by rw [hc]; rfl⟩
  | @startOk j rest ac cs ok acf hv _ ih =>
    intro hok
    obtain ⟨l1, j', l2, cs1, hl, hr, hc⟩ := ih hok
    refine ⟨j :: l1, j', l2, _ :: cs1, by simp [hl], Run.startOk hv hr, ?_⟩
    rcases hc with ⟨hc, hv⟩ | ⟨v, r, hc⟩
    · exact Or.inl ⟨by rw [hc], hv⟩
    · exact Or.inr ⟨v, r, by rw [hc]; rfl⟩
  | @rejectFail j rest ac res | @startFail j rest ac res =>
    intro _; exact ⟨[], j, rest, [], rfl, Run.nil ac, Or.inr ⟨_, _, rfl⟩⟩
  | @casFail j rest ac hv =>
    intro _; exact ⟨[], j, rest, [], rfl, Run.nil ac, Or.inl ⟨rfl, hv⟩⟩

/-- an ok pass leaves no due Job behind: it was started, or it is Enqueue and the limit is
reached at the end of the pass, or it is Forbid and was rejected -/
theorem Run.complete {rjs : List JobV} {ac : Int} {cs : List Call} {ok : Bool} {acf : Int}
    (h : Run jc clock rjs ac cs ok acf) : ok = true → ∀ j ∈ rjs, due j clock →
      ⟨"start", j.name, "ok"⟩ ∈ cs ∨
      (j.hasPolicy = true ∧ j.policy = 2 ∧ overLimit jc acf) ∨
      (j.hasPolicy = true ∧ j.policy = 1 ∧ ⟨"reject", j.name, "ok"⟩ ∈ cs) := by
  induction h with
  | nil => simp
  | @defer j rest ac cs ok acf h1 h2 _ ih =>
    intro hok x hx hdue
    rcases List.mem_cons.mp hx with rfl | hx
    · exact absurd ⟨h1, h2⟩ hdue
    · exact ih hok x hx hdue
  | @wait j rest ac cs ok acf h1 h2 h3 h4 hr ih =>
    intro hok x hx hdue
    rcases List.mem_cons.mp hx with rfl | hx
    · have := hr.mono
      exact Or.inr (Or.inl ⟨h1, h3, by unfold overLimit at h4 ⊢; omega⟩)
    · exact ih hok x hx hdue
  | @rejectOk j rest ac cs ok acf h1 h2 h3 h4 _ ih =>
    intro hok x hx hdue
    rcases List.mem_cons.mp hx with rfl | hx
    · exact Or.inr (Or.inr ⟨h1, h3, by simp⟩)
    · rcases ih hok x hx hdue with h | h | ⟨ha, hb, hc⟩
      · exact Or.inl (List.mem_cons_of_mem _ h)
      · exact Or.inr (Or.inl h)
      · exact Or.inr (Or.inr ⟨ha, hb, List.mem_cons_of_mem _ hc⟩)
  | @startOk j rest ac cs ok acf hv _ ih =>
    intro hok x hx hdue
    rcases List.mem_cons.mp hx with rfl | hx
    · exact Or.inl (by simp)
    · rcases ih hok x hx hdue with h | h | ⟨ha, hb, hc⟩
      · exact Or.inl (List.mem_cons_of_mem _ h)
      · exact Or.inr (Or.inl h)
      · exact Or.inr (Or.inr ⟨ha, hb, List.mem_cons_of_mem _ hc⟩)
  | rejectFail | startFail | casFail => intro h; cases h

/-- a call for another Job than the head of the list belongs to the run over the tail, which starts
with the same active count or one more -/
theorem Run.tail_of_call {x : JobV} {l : List JobV} (h : Run jc clock (x :: l) ac cs ok acf) {c : Call} (hc : c ∈ cs)
    (hne : c.job ≠ x.name) :
    ∃ ac' cs' ok', Run jc clock l ac' cs' ok' acf ∧ c ∈ cs' ∧ (ac' = ac ∨ ac' = ac + 1) ∧
      ∀ c' ∈ cs', c' ∈ cs := by
  have head : ∀ {v r : String} {cs' : List Call}, c ∈ ⟨v, x.name, r⟩ :: cs' → c ∈ cs' :=
    fun hc => (List.mem_cons.mp hc).resolve_left (fun e => hne (e ▸ rfl))
  cases h with
  | defer _ _ hr => exact ⟨_, _, _, hr, hc, .inl rfl, fun _ h => h⟩
  | wait _ _ _ _ hr => exact ⟨_, _, _, hr, hc, .inl rfl, fun _ h => h⟩
  | rejectOk _ _ _ _ hr => exact ⟨_, _, _, hr, head hc, .inl rfl, fun _ h => List.mem_cons_of_mem _ h⟩
  | startOk _ hr => exact ⟨_, _, _, hr, head hc, .inr rfl, fun _ h => List.mem_cons_of_mem _ h⟩
  | rejectFail => exact absurd (head hc) (by simp)
  | startFail => exact absurd (head hc) (by simp)
  | casFail => simp at hc

/-- if the Enqueue Job `B` further down the list is started, the limit was not reached at the
beginning -/
theorem Run.start_later_not_over {l2 l3 : List JobV} {B : JobV} (hB1 : B.hasPolicy = true) (hB2 : B.policy = 2)
    (hnd : ((l2 ++ B :: l3).map (·.name)).Nodup)
    (h : Run jc clock (l2 ++ B :: l3) ac cs ok acf) (hs : ⟨"start", B.name, "ok"⟩ ∈ cs) :
    ¬ overLimit jc ac := by
  induction l2 generalizing ac cs ok with
  | nil =>
    simp only [List.nil_append, List.map_cons, List.nodup_cons] at hnd h
    have hnot : ∀ {cs' ok' ac'}, Run jc clock l3 ac' cs' ok' acf → ⟨"start", B.name, "ok"⟩ ∈ cs' → False :=
      fun hr hm => hnd.1 (hr.job_mem hm)
    cases h with
    | defer _ _ hr => exact (hnot hr hs).elim
    | wait _ _ _ _ hr => exact (hnot hr hs).elim
    | rejectOk _ _ h3 _ hr => omega
    | rejectFail _ _ _ h3 => omega
    | startOk hv hr => exact fun hov => hv.2 ⟨hB1, Or.inr hB2, hov⟩
    | startFail _ hv => exact fun hov => hv.2 ⟨hB1, Or.inr hB2, hov⟩
    | casFail => simp at hs
  | cons x l2 ih =>
    simp only [List.cons_append, List.map_cons, List.nodup_cons] at hnd h
    obtain ⟨ac', cs', ok', hr, hc, hac, _⟩ :=
      h.tail_of_call hs (fun he : B.name = x.name => hnd.1 (by simp [← he]))
    have := ih hnd.2 hr hc
    unfold overLimit at this ⊢
    rcases hac with rfl | rfl <;> omega

/-- FIFO: a due Enqueue Job earlier in the list is started whenever a later Enqueue Job is -/
theorem Run.fifo {l1 l2 l3 : List JobV} {A B : JobV}
    (hA1 : A.hasPolicy = true) (hA2 : A.policy = 2) (hA3 : startAfterLater A clock = false)
    (hB1 : B.hasPolicy = true) (hB2 : B.policy = 2)
    (hnd : ((l1 ++ A :: l2 ++ B :: l3).map (·.name)).Nodup)
    (h : Run jc clock (l1 ++ A :: l2 ++ B :: l3) ac cs ok acf)
    (hs : ⟨"start", B.name, "ok"⟩ ∈ cs) : ⟨"start", A.name, "ok"⟩ ∈ cs := by
  induction l1 generalizing ac cs ok with
  | nil =>
    simp only [List.nil_append, List.cons_append, List.map_cons, List.nodup_cons] at hnd h
    have hne : A.name ≠ B.name := fun he => hnd.1 (by simp [he])
    have hcall : ∀ v r, (⟨"start", B.name, "ok"⟩ : Call) ≠ ⟨v, A.name, r⟩ := by
      intro v r he; exact hne (by injection he with _ h2 _; exact h2.symm)
    cases h with
    | defer _ h2 _ => rw [hA3] at h2; cases h2
    | wait _ _ _ hov hr => exact absurd hov (Run.start_later_not_over hB1 hB2 hnd.2 hr hs)
    | rejectOk _ _ h3 _ _ => omega
    | rejectFail _ _ _ h3 => omega
    | startOk _ _ => simp
    | startFail => simp only [List.mem_singleton] at hs; exact (hcall _ _ hs).elim
    | casFail => simp at hs
  | cons x l1 ih =>
    simp only [List.cons_append, List.map_cons, List.nodup_cons] at hnd h
    obtain ⟨ac', cs', ok', hr, hc, _, hsub⟩ :=
      h.tail_of_call hs (fun he : B.name = x.name => hnd.1 (by simp [← he]))
    exact hsub _ (ih (by simpa using hnd.2) hr hc)

end Furiko.Queue
