/-
The invariant behind the stability theorems (`Inv3`) and its preservation by each kind of effect on the
pods and on the Job object; `JobCtlInvStabStep` shows that it holds in every state reachable in histories
* without foreign pods, without user kill / delete,
* inside the envelope `E-NoStaleCopyOnCreate`: a controller pass never has a creation request for a
  task name that is not on the server but is still remembered — listed in the authoritative status, or
  present in the pod cache or in an undelivered pod watch event,
for a Job created without kill timestamp / admission error, with a template, not finished (`WF3`), and
index hashes pairwise distinct and free of `-` (`WF2`).  Core Lean only.
-/
import FurikoModel.Proofs.JobCtlInvStabPass

set_option linter.unusedSimpArgs false
set_option linter.unusedVariables false

namespace Furiko.JobCtl
open Furiko Furiko.WQ

variable {j0 : JobObj} {s s' : Sys}

/-- the name is unknown to the authoritative status and to the pod informer -/
def FreshName (s : Sys) (n : String) : Prop :=
  (∀ j, s.job = some j → n ∉ refNames j.job) ∧ n ∉ podNames s.podCache ∧ n ∉ podEvNames s.podEvs

/-- no creation request computed from the cached Job names a task that is absent from the server but
still remembered -/
def NoStale (s : Sys) : Prop :=
  ∀ jo idx retry, s.jobCache = some jo → CreateReq s.d jo idx retry →
    taskName jo.name idx.hash retry ∉ podNames s.pods → FreshName s (taskName jo.name idx.hash retry)

/-- `E-NoStaleCopyOnCreate` (guard of `work` steps): evaluated when a pass starts that actually pops a key
(the queue is not empty) while the Job object exists — exactly what `checkNoStaleCopy` of
`harness/eng/jobctl.go` evaluates -/
def noStaleCopyOnCreate (s : Sys) (a : Action) : Prop :=
  a = .work → s.job.isSome = true → ((s.q.advance s.clock).get).isSome = true → NoStale s

/-- `E-NoUnrecordedWhenFinished` (guard of `work` steps; needed since the repair of F23): when a pass
starts on a cached Job that is recorded `Finished`, the pod cache holds no UNRECORDED task of the Job
(a pod it created while the status write recording it failed).  Since the repair a complete summary
adopts such a task, so a Job that was written `Finished` while an unrecorded task of it was still
invisible (status-write fault AND pod-informer lag AND completion through other tasks) is un-finished
again when the pod reaches the cache; before the repair the task was never stopped instead. -/
def noUnrecordedWhenFinished (s : Sys) (a : Action) : Prop :=
  a = .work → ∀ jo, s.jobCache = some jo → jo.job.status.condition.finished.isSome = true → NoUnrec s jo

/-- the filter of the invariants behind the stability theorems (`Inv3`, one live task per index) -/
def stabEnv (s : Sys) (a : Action) : Prop := noForeign s a ∧ noUserEdit s a ∧ noStaleCopyOnCreate s a

/-- the filter of the stability theorems proper ("Finished stays Finished, with the same result and
finish time"): `stabEnv` plus `E-NoUnrecordedWhenFinished` -/
def stabEnvF (s : Sys) (a : Action) : Prop := stabEnv s a ∧ noUnrecordedWhenFinished s a

structure WF3 (j0 : JobObj) : Prop where
  noKill : j0.job.killTimestamp = none
  noAdm : j0.job.admissionError = false
  tmpl : j0.job.template.isSome = true
  notFinished : j0.job.status.condition.finished = none

def allVers (s : Sys) : List JobObj := s.job.toList ++ seenVers s

structure VerOK3 (d : PIndex) (v : JobObj) : Prop where
  rs : ∀ r ∈ v.job.status.tasks, RS r
  noKill : v.job.killTimestamp = none
  noAdm : v.job.admissionError = false
  coh : Coh d v.job

structure Inv3 (s : Sys) : Prop where
  ver : ∀ v ∈ allVers s, VerOK3 s.d v
  fin : ∀ v ∈ allVers s, ∀ r ∈ v.job.status.tasks, r.finishTimestamp.isSome = true → PodFinIn s.pods r.name
  lin : ∀ c, (c ∈ s.podCache ∨ PEv.upsert c ∈ s.podEvs) → c.pod.isFinished = true → PodFinIn s.pods c.pod.name
  le : ∀ v ∈ seenVers s, ∀ j, s.job = some j → ∀ n ∈ refNames v.job, n ∈ refNames j.job

/-- … as long as the Job object exists -/
def Inv3G (s : Sys) : Prop := s.job.isSome = true → Inv3 s

theorem PodFinIn.of_subset {P P' : List PodObj} {n : String} (h : PodFinIn P n) (hsub : ∀ q ∈ P', q ∈ P) :
    PodFinIn P' n := fun q hq hn => h q (hsub q hq) hn

theorem mem_setPod_self {l : List PodObj} {p : PodObj} (h : p.pod.name ∈ podNames l) : p ∈ setPod l p := by
  unfold setPod
  obtain ⟨x, hx, hn⟩ := List.mem_map.mp h
  have : l.any (·.pod.name = p.pod.name) = true := List.any_eq_true.mpr ⟨x, hx, by simpa using hn⟩
  rw [if_pos this]
  exact List.mem_map.mpr ⟨x, hx, by simp [hn]⟩

theorem PodFinIn.setPod {P : List PodObj} {n : String} {old p : PodObj} (h : PodFinIn P n) (hold : old ∈ P)
    (hn : old.pod.name = p.pod.name) (hmono : old.pod.isFinished = true → p.pod.isFinished = true) :
    PodFinIn (setPod P p) n := by
  intro q hq hqn
  rcases mem_setPod hq with rfl | hq'
  · exact hmono (h old hold (hn.trans hqn))
  · exact h q hq' hqn

theorem Coh.congr {d : PIndex} {a b : Job} (h : Coh d a) (ha : a.admissionError = false)
    (hadm : b.admissionError = a.admissionError) (hst : b.status = a.status) (hkill : b.killTimestamp = a.killTimestamp)
    (htmpl : b.template = a.template) (hsp : b.startPolicy = a.startPolicy)
    (hdel : b.deletionTimestamp = a.deletionTimestamp) : Coh d b := by
  intro hd f hf
  rw [hdel] at hd
  rw [hst] at hf
  obtain ⟨h1, t, h2⟩ := h hd f hf
  refine ⟨by rw [hst]; exact h1, t, ?_⟩
  rw [getCondition_congr_fields t d a b ha hadm (by rw [hst]) (by rw [hst]) hkill htmpl hsp]
  exact h2

theorem Inv3.frame (h : Inv3 s) (hf : Frame s s') : Inv3 s' := by
  have hseen := seenVers_congr hf.jobCache hf.jobEvs
  have hall : allVers s' = allVers s := by unfold allVers; rw [hf.job, hseen]
  refine ⟨?_, ?_, ?_, ?_⟩
  · rw [hall, hf.d]; exact h.ver
  · rw [hall, hf.pods]; exact h.fin
  · rw [hf.podCache, hf.podEvs, hf.pods]; exact h.lin
  · rw [hseen, hf.job]; exact h.le

/-- a change of the server's pods that only shrinks them or replaces a pod by a version that is
finished if the old one was; new upsert events carry pods that are on the server -/
theorem Inv3.podChange (h : Inv3 s) (hst : Static s s') (hjob : s'.job = s.job)
    (hjevs : s'.jobEvs = s.jobEvs)
    (hfin : ∀ n, PodFinIn s.pods n → PodFinIn s'.pods n)
    (hevs : ∀ c, PEv.upsert c ∈ s'.podEvs → PEv.upsert c ∈ s.podEvs ∨
      (c.pod.isFinished = true → PodFinIn s'.pods c.pod.name)) : Inv3 s' := by
  have hseen := seenVers_congr hst.jobCache hjevs
  have hall : allVers s' = allVers s := by unfold allVers; rw [hjob, hseen]
  refine ⟨?_, ?_, ?_, ?_⟩
  · intro v hv; rw [hall] at hv; rw [hst.d]; exact h.ver v hv
  · intro v hv r hr hf; rw [hall] at hv; exact hfin _ (h.fin v hv r hr hf)
  · intro c hc hf
    rcases hc with hc | hc
    · rw [hst.podCache] at hc; exact hfin _ (h.lin c (Or.inl hc) hf)
    · rcases hevs c hc with h' | h'
      · exact hfin _ (h.lin c (Or.inr h') hf)
      · exact h' hf
  · intro v hv j hj; rw [hseen] at hv; rw [hjob] at hj; exact h.le v hv j hj

theorem Inv3.podSet {old p : PodObj} (h : Inv3 s) (hs : PodSet s s' old p)
    (hnd' : (podNames s'.pods).Nodup) (hmono : old.pod.isFinished = true → p.pod.isFinished = true) : Inv3 s' := by
  have hold := findPod_some hs.found
  refine h.podChange hs.static hs.job hs.jobEvs ?_ ?_
  · intro n hn
    rw [hs.pods]
    exact hn.setPod hold.1 hold.2 hmono
  · intro c hc
    rw [hs.podEvs] at hc
    rcases List.mem_append.mp hc with hc | hc
    · exact Or.inl hc
    · simp only [List.mem_singleton, PEv.upsert.injEq] at hc
      subst hc
      right
      intro hf
      have hmem : c ∈ s'.pods := by
        rw [hs.pods]
        exact mem_setPod_self (List.mem_map.mpr ⟨old, hold.1, hold.2⟩)
      exact podFinIn_of_mem hnd' hmem hf

theorem Inv3.podDel {p : PodObj} (h : Inv3 s) (hd : PodDel s s' p) : Inv3 s' := by
  refine h.podChange hd.static hd.job hd.jobEvs ?_ ?_
  · intro n hn
    rw [hd.pods]
    exact hn.of_subset (fun q hq => (mem_delPod hq).1)
  · intro c hc
    rw [hd.podEvs] at hc
    rcases List.mem_append.mp hc with hc | hc
    · exact Or.inl hc
    · simp at hc

theorem Inv3.podAdd {p : PodObj} (h : Inv3 s) (ha : PodAdd s s' p) (hjs : s.job.isSome = true)
    (hunf : p.pod.isFinished = false) (hfresh : FreshName s p.pod.name) : Inv3 s' := by
  have hseen := seenVers_congr ha.static.jobCache ha.jobEvs
  have hall : allVers s' = allVers s := by unfold allVers; rw [ha.job, hseen]
  obtain ⟨j, hj⟩ := Option.isSome_iff_exists.mp hjs
  -- no version lists the fresh name
  have hnot : ∀ v ∈ allVers s, p.pod.name ∉ refNames v.job := by
    intro v hv hmem
    unfold allVers at hv
    rcases List.mem_append.mp hv with hv | hv
    · rw [hj] at hv
      simp only [Option.toList_some, List.mem_singleton] at hv
      subst hv
      exact hfresh.1 v hj hmem
    · exact hfresh.1 j hj (h.le v hv j hj _ hmem)
  have hstep : ∀ n, n ≠ p.pod.name → PodFinIn s.pods n → PodFinIn s'.pods n := by
    intro n hne hn q hq hqn
    rw [ha.pods] at hq
    rcases List.mem_append.mp hq with hq | hq
    · exact hn q hq hqn
    · simp only [List.mem_singleton] at hq; subst hq; exact absurd hqn.symm hne
  refine ⟨?_, ?_, ?_, ?_⟩
  · intro v hv; rw [hall] at hv; rw [ha.static.d]; exact h.ver v hv
  · intro v hv r hr hf
    rw [hall] at hv
    refine hstep _ ?_ (h.fin v hv r hr hf)
    intro he
    exact hnot v hv (he ▸ List.mem_map_of_mem hr)
  · intro c hc hf
    rcases hc with hc | hc
    · rw [ha.static.podCache] at hc
      refine hstep _ ?_ (h.lin c (Or.inl hc) hf)
      intro he
      exact hfresh.2.1 (he ▸ List.mem_map_of_mem hc)
    · rw [ha.podEvs] at hc
      rcases List.mem_append.mp hc with hc | hc
      · refine hstep _ ?_ (h.lin c (Or.inr hc) hf)
        intro he
        apply hfresh.2.2
        unfold podEvNames
        exact List.mem_map.mpr ⟨PEv.upsert c, hc, he⟩
      · simp only [List.mem_singleton, PEv.upsert.injEq] at hc
        subst hc
        rw [hunf] at hf; cases hf
  · intro v hv j' hj'; rw [hseen] at hv; rw [ha.job] at hj'; exact h.le v hv j' hj'

theorem Inv3.jobWrite {cur nj : JobObj} (h : Inv3 s) (hw : JobWrite s s' nj) (hcur : s.job = some cur)
    (hver : VerOK3 s.d nj)
    (hfin : ∀ r ∈ nj.job.status.tasks, r.finishTimestamp.isSome = true → PodFinIn s.pods r.name)
    (hnames : ∀ n ∈ refNames cur.job, n ∈ refNames nj.job) : Inv3 s' := by
  have hseen := hw.seenVers
  have hall : ∀ v ∈ allVers s', v = nj ∨ v ∈ seenVers s := by
    intro v hv
    unfold allVers at hv
    rw [hw.job, hseen] at hv
    simp only [Option.toList_some, List.singleton_append, List.mem_cons, List.mem_append, List.mem_singleton,
      List.not_mem_nil, or_false] at hv
    rcases hv with h1 | h1 | h1
    · exact Or.inl h1
    · exact Or.inr h1
    · exact Or.inl h1
  have hold : ∀ v ∈ seenVers s, v ∈ allVers s := fun v hv => List.mem_append_right _ hv
  refine ⟨?_, ?_, ?_, ?_⟩
  · intro v hv
    rw [hw.static.d]
    rcases hall v hv with rfl | h1
    · exact hver
    · exact h.ver v (hold v h1)
  · intro v hv r hr hf
    rw [hw.pods]
    rcases hall v hv with rfl | h1
    · exact hfin r hr hf
    · exact h.fin v (hold v h1) r hr hf
  · intro c hc hf
    rw [hw.pods]
    rw [hw.static.podCache, hw.podEvs] at hc
    exact h.lin c hc hf
  · intro v hv j hj
    rw [hw.job] at hj; cases hj
    rw [hseen] at hv
    rcases List.mem_append.mp hv with h1 | h1
    · intro n hn; exact hnames n (h.le v h1 cur hcur n hn)
    · simp only [List.mem_singleton] at h1; subst h1; exact fun n hn => hn

end Furiko.JobCtl
