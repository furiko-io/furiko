/-
Liveness of the job controller, kill: ONE PASS on a Job whose kill timestamp has passed, no fault pending.
The handlers (`handlePending_kill`, `handleKill_sweep`, `handleForce_fire`), the task list of the pass
(`killTasks`: in a fresh state whose pods are all the Job's, exactly the pods on the server),
`syncJobTasks` (`syncJobTasks_kill`: no task being deleted yet, every unfinished one is deleted gracefully;
`syncJobTasks_force`: the unfinished ones are all being deleted and past the force-delete timeout, they are
force-deleted), the rest of `Reconciler.sync` and `SyncOne` (`sync_tail`; `work_tail`, from the state `PassStart`
describes to the one `WorkOut` describes), the invariant `KState` of the rounds and the `work` step in it:
`work_of_tasks` (what any such pass leaves, `KPass`, given what `syncJobTasks` did) and its two instances
`work_kill`, `work_force`.  Core Lean only.
-/
import FurikoModel.Proofs.JobCtlLivePodDeletes

set_option linter.unusedSimpArgs false
set_option linter.unusedVariables false

namespace Furiko.JobCtl.Live
open Furiko Furiko.JobCtl Furiko.WQ Furiko.StatusLemmas Furiko.JobCtlPlan

variable {jo : JobObj} {kt : Time} {F0 : Int} {s : Sys}

theorem shouldKill_passed {rj : Job} {kt : Time} {clk : Time} (hk : rj.killTimestamp = some kt) (hle : kt ≤ clk) :
    shouldKillJob clk rj = true := by
  unfold shouldKillJob; rw [hk, passed_true hle]; rfl

/-- `handleKillJob` once the kill timestamp has passed, no fault pending, no listed task being deleted: all
unfinished listed tasks are gracefully deleted; the Job handed on has the same spec and finish times -/
theorem handleKill_sweep (s : Sys) (jo : JobObj) (rj : Job) (tasks : List Task) (kt : Time)
    (hk : rj.killTimestamp = some kt) (hle : kt ≤ s.clock) (hnf : NoFault s) (hnd : (podNames s.pods).Nodup)
    (hdts : ∀ t ∈ tasks, t.deletionTimestamp = none) :
    ∃ s' rj' N, handleKillJob s jo rj tasks = (s', some rj') ∧ MarkedT (jobKey jo) s s' N ∧
      (∀ n, n ∈ N ↔ ∃ t ∈ tasks, t.name = n ∧ isTaskFinished t = false) ∧ SameSpec rj rj' ∧
      rj'.status.tasks.map (·.finishTimestamp) = rj.status.tasks.map (·.finishTimestamp) ∧
      rj'.status.startTime = rj.status.startTime := by
  -- with nothing to delete the batch is empty: no case split on that (`sweep_eq`)
  rw [handleKillJob_eq, if_pos (shouldKill_passed hk hle), JobCtlPlan.sweep_eq _ _ _ _ (killMark rj tasks) (fun h => by
    unfold killMark; rw [h]; exact markDeleted_nil _ _)]
  obtain ⟨hok, N, hm, hN⟩ := deleteTasks_graceful s (killTargets tasks) hnf hnd
    (fun t ht => ((mem_killTargets tasks t).mp ht).2.2)
  rw [if_pos hok]
  refine ⟨_, _, N, rfl, MarkedT.of_marked hm, fun n => ?_, killMark_sameSpec rj tasks,
    markDeleted_finish _ _ _ (fun r => rfl), rfl⟩
  rw [hN]
  simp only [List.mem_map, mem_killTargets]
  exact ⟨fun ⟨t, ⟨ht, hf, _⟩, e⟩ => ⟨t, ht, e, hf⟩, fun ⟨t, ht, e, hf⟩ => ⟨t, ⟨ht, hf, hdts t ht⟩, e⟩⟩

/-- `handleKillJob` when every unfinished listed task is already being deleted: nothing -/
theorem handleKill_nothing (s : Sys) (jo : JobObj) (rj : Job) (tasks : List Task) (kt : Time)
    (hk : rj.killTimestamp = some kt) (hle : kt ≤ s.clock)
    (h : ∀ t ∈ tasks, isTaskFinished t = true ∨ t.deletionTimestamp.isSome = true) :
    handleKillJob s jo rj tasks = (s, some rj) := by
  have : killTargets tasks = [] := List.eq_nil_iff_forall_not_mem.mpr (fun t ht => by
    obtain ⟨h1, h2, h3⟩ := (mem_killTargets tasks t).mp ht
    rcases h t h1 with hf | hd
    · rw [h2] at hf; cases hf
    · rw [h3] at hd; cases hd)
  rw [handleKillJob_eq, if_pos (shouldKill_passed hk hle), this]
  rfl

theorem foldl_timersOnly {α β : Type} (key : String) (f : Sys × β → α → Sys × β)
    (hf : ∀ acc a, TimersOnly key acc.1 (f acc a).1) : ∀ (l : List α) (acc : Sys × β), TimersOnly key acc.1 (l.foldl f acc).1
  | [], acc => TimersOnly.refl key _
  | a :: rest, acc => (hf acc a).trans (foldl_timersOnly key f hf rest (f acc a))

theorem pendStep_timersOnly (key : String) (Tm : Int) (rj : Job) (acc : Sys × List Task) (t : Task) :
    TimersOnly key acc.1 (JobCtlPlan.pendStep key Tm rj acc t).1 := by
  rcases pendStep_cases key Tm rj acc t with ⟨dl, h⟩ | h | ⟨h, _⟩ <;> rw [h]
  · exact enqueueAfter_timersOnly _ _ _
  · exact TimersOnly.refl _ _
  · exact TimersOnly.refl _ _

/-- `handlePendingTasks`, no fault pending, no listed task being deleted: some unfinished listed tasks are
gracefully deleted.  `hrj` (the Job comes from the status refresh over the same task list) is what makes the ref
the handler judges a task by at least as finished as the task: a finished task is never collected. -/
theorem handlePending_kill (s : Sys) (jo : JobObj) (rj : Job) (tasks : List Task) (hnf : NoFault s)
    (hnd : (podNames s.pods).Nodup) (hdts : ∀ t ∈ tasks, t.deletionTimestamp = none)
    (hT : TasksFn tasks) (now : Time) (ex : List TaskRef) (hrj : rj.status.tasks = generateTaskRefs now ex tasks) :
    ∃ s' rj' N, handlePendingTasks s jo rj tasks = (s', some rj') ∧ MarkedT (jobKey jo) s s' N ∧
      (∀ n, n ∈ N → ∃ t ∈ tasks, t.name = n ∧ isTaskFinished t = false) ∧ SameSpec rj rj' ∧
      rj'.status.tasks.map (·.finishTimestamp) = rj.status.tasks.map (·.finishTimestamp) ∧
      rj'.status.startTime = rj.status.startTime := by
  have hquiet : ∃ s'' rj' N, (s, some rj) = ((s'', some rj') : Sys × Option Job) ∧
      MarkedT (jobKey jo) s s'' N ∧ (∀ n, n ∈ N → ∃ t ∈ tasks, t.name = n ∧ isTaskFinished t = false) ∧ SameSpec rj rj' ∧
      rj'.status.tasks.map (·.finishTimestamp) = rj.status.tasks.map (·.finishTimestamp) ∧
      rj'.status.startTime = rj.status.startTime :=
    ⟨s, rj, [], rfl, MarkedT.refl _ s, (fun n h => by cases h), SameSpec.refl rj, rfl, rfl⟩
  rw [handlePendingTasks_eq]
  cases getPendingTimeout rj s.cfg with
  | none => exact hquiet
  | some pt =>
    simp only
    by_cases h0 : pt ≤ 0
    · rw [if_pos h0]; exact hquiet
    · rw [if_neg h0]
      have hto := foldl_timersOnly (jobKey jo) _ (pendStep_timersOnly (jobKey jo) pt rj) tasks (s, [])
      have hndm := fun x hx => (pendStep_collected (jobKey jo) pt rj tasks (s, []) x hx).resolve_left (by simp)
      generalize tasks.foldl (JobCtlPlan.pendStep (jobKey jo) pt rj) (s, []) = r at hto hndm ⊢
      obtain ⟨s1, nd⟩ := r
      have hm1 : MarkedT (jobKey jo) s s1 [] := MarkedT.of_timers hto
      rw [JobCtlPlan.sweep_eq _ _ _ _ _ (fun h => by rw [h]; exact markDeleted_nil _ _)]
      obtain ⟨hok, N, hm, hN⟩ := deleteTasks_graceful s1 nd (hm1.nofault hnf)
        (by rw [hm1.pods, podNames_markDts]; exact hnd) (fun t ht => hdts t (hndm t ht).1)
      rw [if_pos hok]
      refine ⟨_, _, N, rfl, (hm1.trans (MarkedT.of_marked hm)).congr (fun n => by simp), ?_,
        markDeleted_sameSpec _ _ _, markDeleted_finish _ _ _ (fun r => rfl), rfl⟩
      intro n hn
      rw [hN] at hn
      obtain ⟨t, ht, rfl⟩ := List.mem_map.mp hn
      refine ⟨t, (hndm t ht).1, rfl, ?_⟩
      -- a finished task has a finished ref in the refreshed status, so it was not collected
      unfold isTaskFinished
      cases hfin : t.ref.finishTimestamp.isSome with
      | false => rfl
      | true =>
        have := (getTaskRef_dom (lookupRef ex t.name) t).1
        rw [← pendRef_refreshed hT rj now ex hrj t (hndm t ht).1] at this
        rw [(hndm t ht).2] at this
        cases this hfin

/-- the loop of `handleForceDeleteKillingTasks` when every task that is being deleted is past the timeout `F`: it
arms no timer and collects exactly those tasks -/
theorem forceFold_due (key : String) (F : Int) : ∀ (tasks : List Task) (s : Sys) (acc : List Task),
    (∀ t ∈ tasks, ∀ D, t.deletionTimestamp = some D → D + F ≤ s.clock) →
    tasks.foldl (forceStep key F) (s, acc) = (s, acc ++ tasks.filter (fun t => t.deletionTimestamp.isSome))
  | [], s, acc, _ => by simp
  | t :: rest, s, acc, h => by
    have ih := fun acc' => forceFold_due key F rest s acc' (fun t' ht' => h t' (List.mem_cons_of_mem _ ht'))
    rw [List.foldl_cons]
    cases hd : t.deletionTimestamp with
    | none =>
      have e : forceStep key F (s, acc) t = (s, acc) := by unfold forceStep; rw [hd]
      rw [e, ih]; simp [List.filter_cons, hd]
    | some D =>
      have e : forceStep key F (s, acc) t = (s, acc ++ [t]) := by
        have hnot : ¬ (forceDeadline F D > s.clock) := Int.not_lt.mpr (h t List.mem_cons_self D hd)
        unfold forceStep; rw [hd]; simp [hnot]
      rw [e, ih]; simp [List.filter_cons, hd]

/-- **`handleForceDeleteKillingTasks`, every task that is being deleted past the timeout**: all of them are
force-deleted -/
theorem handleForce_fire (s : Sys) (jo : JobObj) (rj : Job) (tasks : List Task)
    (hF : 0 < getForceDeleteTimeout s.cfg)
    (hforb : (rj.template.map (·.forbidTaskForceDeletion)).getD false = false)
    (hT : ∀ t ∈ tasks, ∀ D, t.deletionTimestamp = some D → D + getForceDeleteTimeout s.cfg ≤ s.clock) (hnf : NoFault s) :
    ∃ s' rj' M, handleForceDelete s jo rj tasks = (s', some rj') ∧ Removed s s' M ∧
      (∀ n, n ∈ M ↔ ∃ t ∈ tasks, t.name = n ∧ t.deletionTimestamp.isSome = true) ∧ SameSpec rj rj' ∧
      rj'.status.startTime = rj.status.startTime ∧
      (∀ F0 : Int, (∀ r ∈ rj.status.tasks, ∀ x, r.finishTimestamp = some x → F0 ≤ x) →
        (∀ t ∈ tasks, ∀ x, t.ref.finishTimestamp = some x → F0 ≤ x) → F0 ≤ s.clock →
        ∀ r ∈ rj'.status.tasks, ∀ x, r.finishTimestamp = some x → F0 ≤ x) := by
  rw [handleForceDelete_eq, if_neg (Int.not_le.mpr hF), if_neg (by unfold forbidsForce; rw [hforb]; exact Bool.false_ne_true)]
  simp only [forceFold_due (jobKey jo) _ tasks s [] hT, List.nil_append]
  by_cases hempty : (tasks.filter (fun t => t.deletionTimestamp.isSome)).isEmpty = true
  · simp only [hempty, ↓reduceIte]
    refine ⟨s, rj, [], rfl, Removed.refl s hnf, ?_, SameSpec.refl rj, rfl, fun F0 h _ _ => h⟩
    intro n
    constructor
    · intro h; cases h
    · rintro ⟨t, ht, _, hd⟩
      have : t ∈ tasks.filter (fun t => t.deletionTimestamp.isSome) := List.mem_filter.mpr ⟨ht, hd⟩
      rw [List.isEmpty_iff.mp hempty] at this; cases this
  · simp only [hempty, Bool.false_eq_true, ↓reduceIte]
    obtain ⟨hok, hrm⟩ := deleteTasks_force s (tasks.filter (fun t => t.deletionTimestamp.isSome)) hnf
    generalize hD : deleteTasks s (tasks.filter (fun t => t.deletionTimestamp.isSome)) true = Dl at hok hrm
    obtain ⟨s2, ok⟩ := Dl
    simp only at hok hrm
    subst hok
    simp only [↓reduceIte]
    refine ⟨s2, _, _, rfl, hrm, ?_, (markDeleted_sameSpec _ _ _).trans (updateJobTaskRefs_sameSpec _ _ _), rfl, ?_⟩
    · intro n
      simp only [List.mem_map, List.mem_filter]
      constructor
      · rintro ⟨t, ⟨ht, hd⟩, rfl⟩; exact ⟨t, ht, rfl, hd⟩
      · rintro ⟨t, ht, rfl, hd⟩; exact ⟨t, ⟨ht, hd⟩, rfl⟩
    · intro F0 hrefs htasks hclk
      exact gen_lb F0 s.clock _ tasks (lb_of_finish_eq (markDeleted_finish rj _ _ (fun r => rfl)) hrefs) htasks hclk

/-- every pod on the server is a task of the Job (controlled by and labelled with it), readable, with
pairwise distinct names; unlike `PodsOK`, pods may carry a deletion timestamp -/
structure KPods (jo : JobObj) (s : Sys) : Prop where
  owned : ∀ p ∈ s.pods, p.ownerUid = some jo.uid ∧ p.ownerName = some jo.name ∧ p.jobLabel = some jo.uid
  sane : ∀ p ∈ s.pods, NoPanic p ∧ p.pod.creationTimestamp.isSome = true
  nodup : (podNames s.pods).Nodup

/-- the task list the handlers of a pass work on when nothing is created -/
def killTasks (s : Sys) (jo : JobObj) : List Task :=
  adoptUnrecordedTasks s jo (tasksForRefs s jo jo.job.status.tasks)

theorem killTasks_mem (hc : s.podCache = s.pods) (hp : KPods jo s) {t : Task}
    (h : t ∈ killTasks s jo) : ∃ p ∈ s.pods, podTask s.clock p = some t := by
  unfold killTasks adoptUnrecordedTasks at h
  rcases List.mem_append.mp h with h | h
  · rw [tasksForRefs_fresh hc (fun p hp' => (hp.owned p hp').1)] at h
    obtain ⟨r, _, hr⟩ := List.mem_filterMap.mp h
    obtain ⟨p, hf, hpt⟩ := lookTask_some hr
    exact ⟨p, (JobCtlPlan.findPod_some hf).1, hpt⟩
  · obtain ⟨p, hpm, hpt⟩ := List.mem_filterMap.mp h
    have := (List.mem_filter.mp hpm).1
    rw [JobCtlPlan.mem_sortPods, hc] at this
    exact ⟨p, this, hpt⟩

theorem killTasks_cover (hc : s.podCache = s.pods) (hp : KPods jo s) {p : PodObj}
    (hpm : p ∈ s.pods) : ∃ t ∈ killTasks s jo, podTask s.clock p = some t := by
  obtain ⟨t, ht⟩ := podTask_of_noPanic (hp.sane p hpm).1
  refine ⟨t, ?_, ht⟩
  unfold killTasks adoptUnrecordedTasks
  rw [tasksForRefs_fresh hc (fun p hp' => (hp.owned p hp').1)]
  apply List.mem_append.mpr
  by_cases hrec : jo.job.status.tasks.any (·.name = p.pod.name) = true
  · left
    obtain ⟨r, hr, hn⟩ := List.any_eq_true.mp hrec
    have hn' : r.name = p.pod.name := by simpa using hn
    apply List.mem_filterMap.mpr
    refine ⟨r, hr, ?_⟩
    unfold lookTask
    rw [hn', findPod_of_mem_nodup hp.nodup hpm]
    exact ht
  · by_cases hin : (jo.job.status.tasks.filterMap (fun r => lookTask s r.name)).any (·.name = p.pod.name) = true
    · left
      obtain ⟨t', ht', hn⟩ := List.any_eq_true.mp hin
      have hn' : t'.name = p.pod.name := by simpa using hn
      obtain ⟨r, hr, hl⟩ := List.mem_filterMap.mp ht'
      exfalso
      apply hrec
      apply List.any_eq_true.mpr
      refine ⟨r, hr, ?_⟩
      have := lookTask_name hl
      simp only [decide_eq_true_eq]
      rw [← this]; exact hn'
    · right
      apply List.mem_filterMap.mpr
      refine ⟨p, ?_, ht⟩
      apply List.mem_filter.mpr
      refine ⟨by rw [JobCtlPlan.mem_sortPods, hc]; exact hpm, ?_⟩
      have ho := hp.owned p hpm
      simp only [Bool.not_eq_true] at hrec hin
      simp [ho.1, ho.2.2, hrec, hin]

theorem killTasks_facts (hc : s.podCache = s.pods) (hp : KPods jo s) {t : Task}
    (h : t ∈ killTasks s jo) : ∃ p ∈ s.pods, podTask s.clock p = some t ∧ t.name = p.pod.name ∧
      t.deletionTimestamp = p.pod.deletionTimestamp ∧ isTaskFinished t = p.pod.isFinished := by
  obtain ⟨p, hpm, hpt⟩ := killTasks_mem hc hp h
  have hf := podTask_fields hpt
  refine ⟨p, hpm, hpt, hf.1, hf.2.1, ?_⟩
  unfold isTaskFinished
  cases hfin : p.pod.isFinished with
  | true => exact podTask_finished (hp.sane p hpm).2 hpt hfin
  | false => rw [hf.2.2.2.2.2.2.2 hfin]; rfl

/-- in kill mode a name denotes one task value: every listed task is read from the pod of its name on the
server, and pod names are pairwise distinct -/
theorem killTasks_fn {s : Sys} {jo : JobObj} (hc : s.podCache = s.pods) (hp : KPods jo s) : TasksFn (killTasks s jo) := by
  refine ⟨fun t ht => ?_, fun t ht t' ht' hn => ?_⟩
  · obtain ⟨p, _, hpt⟩ := killTasks_mem hc hp ht
    exact podTask_refName hpt
  · obtain ⟨p, hpm, hpt⟩ := killTasks_mem hc hp ht
    obtain ⟨p', hpm', hpt'⟩ := killTasks_mem hc hp ht'
    have e1 := (podTask_fields hpt).1
    have e2 := (podTask_fields hpt').1
    have hpp : p' = p := pod_eq_of_name hp.nodup hpm hpm' (e2.symm.trans (hn.trans e1))
    rw [hpp, hpt] at hpt'
    exact (Option.some.inj hpt').symm

/-- the unfinished listed tasks are the unfinished pods -/
theorem killTasks_unfinished (hc : s.podCache = s.pods) (hp : KPods jo s) (n : String) :
    (∃ t ∈ killTasks s jo, t.name = n ∧ isTaskFinished t = false) ↔ ∃ p ∈ s.pods, p.pod.name = n ∧ p.pod.isFinished = false := by
  constructor
  · rintro ⟨t, ht, hn, hf⟩
    obtain ⟨p, hpm, _, hname, _, hfin⟩ := killTasks_facts hc hp ht
    exact ⟨p, hpm, by rw [← hname]; exact hn, by rw [← hfin]; exact hf⟩
  · rintro ⟨p, hpm, hn, hf⟩
    obtain ⟨t, ht, hpt⟩ := killTasks_cover hc hp hpm
    have hfld := podTask_fields hpt
    refine ⟨t, ht, by rw [hfld.1]; exact hn, ?_⟩
    unfold isTaskFinished
    rw [hfld.2.2.2.2.2.2.2 hf]; rfl

theorem KPods.of_pods_eq {jo : JobObj} {s s' : Sys} (h : KPods jo s) (e : s'.pods = s.pods) : KPods jo s' :=
  ⟨e ▸ h.owned, e ▸ h.sane, e ▸ h.nodup⟩

theorem syncCreateTasks_kill (s : Sys) (jo : JobObj) (rj : Job) (T : List Task) (kt : Time)
    (hk : rj.killTimestamp = some kt) :
    syncCreateTasks s jo rj T = (s, some (rj, adoptUnrecordedTasks s jo T)) := by
  unfold syncCreateTasks canCreateTask
  simp [hk]

/-- `syncJobTasks` on a Job with a kill timestamp creates nothing: it is the three handlers, on the task list
`killTasks`, between two status refreshes -/
theorem syncJobTasks_stages (sp : Sys) (jo : JobObj) (kt : Time) (hk : jo.job.killTimestamp = some kt) :
    ∃ s2, TimersOnly (jobKey jo) sp s2 ∧
      ∀ s3 rj3 s4 rj4 s5 rj5,
        handlePendingTasks s2 jo (recompute sp.clock sp.d jo.job (killTasks sp jo)) (killTasks sp jo) = (s3, some rj3) →
        handleKillJob s3 jo rj3 (killTasks sp jo) = (s4, some rj4) →
        handleForceDelete s4 jo rj4 (killTasks sp jo) = (s5, some rj5) → s5.clock = sp.clock → s5.d = sp.d →
        ∃ s6, syncJobTasks sp jo jo.job = (s6, some (recompute sp.clock sp.d rj5 (killTasks sp jo))) ∧
          TimersOnly (jobKey jo) s5 s6 := by
  have hcreate : syncCreateTasks sp jo jo.job (tasksForRefs sp jo jo.job.status.tasks) =
      (sp, some (jo.job, killTasks sp jo)) :=
    syncCreateTasks_kill sp jo jo.job (tasksForRefs sp jo jo.job.status.tasks) kt hk
  obtain ⟨s2, hU, hU1, _⟩ := updateTaskRefStatus_eq sp (jobKey jo) jo.job (killTasks sp jo)
  refine ⟨s2, hU1, ?_⟩
  intro s3 rj3 s4 rj4 s5 rj5 hP hK hF hclk hd
  obtain ⟨s6, hV, hV1, _⟩ := updateTaskRefStatus_eq s5 (jobKey jo) rj5 (killTasks sp jo)
  rw [hclk, hd] at hV
  refine ⟨s6, ?_, hV1⟩
  unfold syncJobTasks
  simp only [hcreate, hU, hP, hK, hF, hV]

/-- **`syncJobTasks` on a Job whose kill timestamp has passed**, no fault pending, no listed task being
deleted yet: the pods of exactly the unfinished listed tasks get the deletion timestamp; the Job handed
on is a recomputed status of a Job with the same spec, whose finish times keep every lower bound -/
theorem syncJobTasks_kill (sp : Sys) (jo : JobObj) (kt : Time) (hspec : KillSpec jo.job kt) (hle : kt ≤ sp.clock)
    (hnf : NoFault sp) (hnd : (podNames sp.pods).Nodup)
    (hdts : ∀ t ∈ killTasks sp jo, t.deletionTimestamp = none) (hfn : TasksFn (killTasks sp jo)) :
    ∃ s6 rj5 N, syncJobTasks sp jo jo.job = (s6, some (recompute sp.clock sp.d rj5 (killTasks sp jo))) ∧
      MarkedT (jobKey jo) sp s6 N ∧
      (∀ n, n ∈ N ↔ ∃ t ∈ killTasks sp jo, t.name = n ∧ isTaskFinished t = false) ∧
      KillSpec rj5 kt ∧ SameSpec jo.job rj5 ∧
      (∀ F0 : Int, (∀ r ∈ jo.job.status.tasks, ∀ x, r.finishTimestamp = some x → F0 ≤ x) →
        (∀ t ∈ killTasks sp jo, ∀ x, t.ref.finishTimestamp = some x → F0 ≤ x) → F0 ≤ sp.clock →
        ∀ r ∈ rj5.status.tasks, ∀ x, r.finishTimestamp = some x → F0 ≤ x) := by
  obtain ⟨s2, hU1, hst⟩ := syncJobTasks_stages sp jo kt hspec.kill
  have hm2 : MarkedT (jobKey jo) sp s2 [] := MarkedT.of_timers hU1
  have hrc := recompute_sameSpec sp.clock sp.d jo.job (killTasks sp jo)
  have hk2 := hspec.recompute sp.clock sp.d (killTasks sp jo)
  obtain ⟨s3, rj3, N3, hP, hm3, hN3, hs3, hn3, hst3⟩ :=
    handlePending_kill s2 jo _ (killTasks sp jo) (hm2.nofault hnf) (by rw [hm2.pods, podNames_markDts]; exact hnd) hdts
      hfn sp.clock jo.job.status.tasks hrc.2.1
  have hm23 := hm2.trans hm3
  have hk3 := hk2.congr hs3 hst3
  obtain ⟨s4, rj4, N4, hK, hm4, hN4, hs4, hn4, hst4⟩ :=
    handleKill_sweep s3 jo rj3 (killTasks sp jo) kt hk3.kill (by rw [hm23.clock]; exact hle) (hm23.nofault hnf)
      (by rw [hm23.pods, podNames_markDts]; exact hnd) hdts
  have hm24 := hm23.trans hm4
  obtain ⟨s6, h6, hV1⟩ := hst s3 rj3 s4 rj4 s4 rj4 hP hK (handleForce_quiet s4 jo rj4 _ hdts) hm24.clock hm24.d
  refine ⟨s6, rj4, N4, h6, (hm24.trans (MarkedT.of_timers hV1)).congr ?_, hN4, hk3.congr hs4 hst4,
    (hrc.1.trans hs3).trans hs4, ?_⟩
  · intro n
    simp only [List.nil_append, List.append_nil, List.mem_append]
    exact ⟨fun h => h.elim (fun h => (hN4 n).mpr (hN3 n h)) id, Or.inr⟩
  · intro F0 hrefs htasks hclk
    refine lb_of_finish_eq (hn4.trans hn3) ?_
    rw [hrc.2.1]
    exact gen_lb F0 sp.clock _ _ hrefs htasks hclk

/-- **`syncJobTasks` on a killed Job whose unfinished tasks are all being deleted and past the force-delete
timeout**: exactly the pods of the tasks being deleted are removed -/
theorem syncJobTasks_force (sp : Sys) (jo : JobObj) (kt : Time) (hspec : KillSpec jo.job kt) (hle : kt ≤ sp.clock)
    (hnf : NoFault sp) (hF : 0 < getForceDeleteTimeout sp.cfg)
    (hforb : (jo.job.template.map (·.forbidTaskForceDeletion)).getD false = false)
    (hT : ∀ t ∈ killTasks sp jo, (isTaskFinished t = true ∧ t.deletionTimestamp = none) ∨
      (isTaskFinished t = false ∧ ∃ D, t.deletionTimestamp = some D ∧ D + getForceDeleteTimeout sp.cfg ≤ sp.clock))
    (hfn : TasksFn (killTasks sp jo)) :
    ∃ s6 rj5 M, syncJobTasks sp jo jo.job = (s6, some (recompute sp.clock sp.d rj5 (killTasks sp jo))) ∧
      Frame sp s6 ∧ s6.pods = sp.pods.filter (keepPod M) ∧
      (∀ e ∈ s6.podEvs, e ∈ sp.podEvs ∨ ∃ p0 ∈ sp.pods, e = PEv.delete p0) ∧
      (∀ n, n ∈ M ↔ ∃ t ∈ killTasks sp jo, t.name = n ∧ isTaskFinished t = false) ∧
      KillSpec rj5 kt ∧ SameSpec jo.job rj5 ∧
      (∀ F0 : Int, (∀ r ∈ jo.job.status.tasks, ∀ x, r.finishTimestamp = some x → F0 ≤ x) →
        (∀ t ∈ killTasks sp jo, ∀ x, t.ref.finishTimestamp = some x → F0 ≤ x) → F0 ≤ sp.clock →
        ∀ r ∈ rj5.status.tasks, ∀ x, r.finishTimestamp = some x → F0 ≤ x) := by
  obtain ⟨s2, hU1, hst⟩ := syncJobTasks_stages sp jo kt hspec.kill
  have hrc := recompute_sameSpec sp.clock sp.d jo.job (killTasks sp jo)
  have hk2 := hspec.recompute sp.clock sp.d (killTasks sp jo)
  have hT' : ∀ t ∈ killTasks sp jo, isTaskFinished t = true ∨ t.deletionTimestamp.isSome = true := fun t ht => by
    rcases hT t ht with ⟨hf, _⟩ | ⟨_, D, hD, _⟩
    · exact Or.inl hf
    · exact Or.inr (by rw [hD]; rfl)
  -- pending tasks: nothing to delete
  obtain ⟨s3, hP, hP1, _⟩ := handlePending_quiet s2 jo _ (killTasks sp jo) hfn sp.clock jo.job.status.tasks hrc.2.1
    (fun pt _ _ t ht => (hT' t ht).imp id (fun h => Or.inr (Or.inr h)))
  have hto3 := hU1.trans hP1
  have hst3 := hto3.static
  -- kill: nothing left to delete gracefully
  have hK := handleKill_nothing s3 jo _ (killTasks sp jo) kt hk2.kill (by rw [hst3.clock]; exact hle) hT'
  -- force delete
  obtain ⟨s5, rj5, M, hFo, hrm, hM, hs5, hst5, hlb5⟩ := handleForce_fire s3 jo _ (killTasks sp jo)
    (by rw [hst3.cfg]; exact hF) (by rw [hrc.1.template]; exact hforb) (by
      intro t ht D hD
      rw [hst3.clock, hst3.cfg]
      rcases hT t ht with ⟨_, hn⟩ | ⟨_, D', hD', hle'⟩
      · rw [hn] at hD; cases hD
      · rw [hD'] at hD; cases hD; exact hle') ((Frame.of_timers hto3).nofault hnf)
  obtain ⟨s6, h6, hV1⟩ := hst s3 _ s3 _ s5 rj5 hP hK hFo (hrm.clock.trans hst3.clock) (hrm.d.trans hst3.d)
  have hst6 := hV1.static
  refine ⟨s6, rj5, M, h6, ((Frame.of_timers hto3).trans (Frame.of_removed hrm)).trans (Frame.of_timers hV1),
    by rw [hst6.pods, hrm.pods, hst3.pods], ?_, ?_, hk2.congr hs5 hst5, hrc.1.trans hs5, ?_⟩
  · intro e he
    rw [hst6.podEvs] at he
    rcases hrm.evs e he with h | ⟨p0, hp0, e1⟩
    · exact Or.inl (by rw [← hst3.podEvs]; exact h)
    · exact Or.inr ⟨p0, by rw [← hst3.pods]; exact hp0, e1⟩
  · intro n
    rw [hM]
    constructor
    · rintro ⟨t, ht, hn, hd⟩
      rcases hT t ht with ⟨_, hnone⟩ | ⟨hf, _⟩
      · rw [hnone] at hd; cases hd
      · exact ⟨t, ht, hn, hf⟩
    · rintro ⟨t, ht, hn, hf⟩
      rcases hT t ht with ⟨hfin, _⟩ | ⟨_, D, hD, _⟩
      · rw [hfin] at hf; cases hf
      · exact ⟨t, ht, hn, by rw [hD]; rfl⟩
  · intro F0 hrefs htasks hclk
    apply hlb5 F0 ?_ htasks (by rw [hst3.clock]; exact hclk)
    rw [hrc.2.1]
    exact gen_lb F0 sp.clock _ _ hrefs htasks hclk

/-- the state right after the status update of a pass succeeded (a pod-delete batch may have run before) -/
def afterStatusK (s : Sys) (jo : JobObj) (rjF : Job) : Sys :=
  { s with rv := s.rv + 1, job := some (written jo rjF (s.rv + 1)),
           jobEvs := s.jobEvs ++ [.upsert (written jo rjF (s.rv + 1))],
           calls := s.calls ++ [⟨"update", "jobs", jo.name, "ok", true, false⟩], delRun := none }

theorem apiUpdateJobStatus_nofault (s : Sys) (jo : JobObj) (newJob : Job) (h : NoFault s) (hj : s.job = some jo)
    (hne : newJob.status ≠ jo.job.status) :
    apiUpdateJobStatus s jo { jo with job := newJob } = (afterStatusK s jo newJob, true) := by
  unfold apiUpdateJobStatus nextFault popFault
  rw [h.1]
  have hno : ¬ ({ ({ jo with job := { jo.job with status := newJob.status }, rv := s.rv + 1 } : JobObj) with rv := jo.rv } = jo) := by
    intro e
    have := congrArg (fun j => j.job.status) e
    exact hne this
  simp only [isFailFault, hj, log, written, afterStatusK]
  simp [hno]

theorem syncOne_kill (sp : Sys) (jo : JobObj) (s' : Sys) (rjF : Job) (hc : sp.jobCache = some jo)
    (hsync : sync sp jo = (s', rjF, jo.finalizer, true, false)) (hadm : rjF.admissionError = jo.job.admissionError)
    (hnf : NoFault s') (hj : s'.job = some jo) :
    syncOne sp = (if rjF.status ≠ jo.job.status then afterStatusK s' jo rjF else s', true) := by
  rw [syncOne_simple sp jo s' rjF hc hsync hadm]
  by_cases hd : rjF.status = jo.job.status
  · simp [hd]
  · simp only [ne_eq, hd, not_false_eq_true, ↓reduceIte]
    rw [apiUpdateJobStatus_nofault s' jo rjF hnf hj hd]

open Furiko.Conv

/-- **`Reconciler.sync` after `syncJobTasks`** on a Job whose kill timestamp has passed, the TTL not elapsed -/
theorem sync_tail (sp s6 : Sys) (jo : JobObj) (kt : Time) (rj5 : Job) (T : List Task) (hspec : KillSpec jo.job kt)
    (hle : kt ≤ sp.clock) (h6 : syncJobTasks sp jo jo.job = (s6, some (recompute sp.clock sp.d rj5 T)))
    (hk5 : KillSpec rj5 kt) (hs5 : SameSpec jo.job rj5) (hc6 : s6.clock = sp.clock) (hd6 : s6.d = sp.d)
    (hcfg6 : s6.cfg = sp.cfg)
    (httl : ∀ fin, (recompute sp.clock sp.d rj5 T).status.condition.finished = some fin →
      fin.finishTimestamp.getD zeroTime + getTTLAfterFinished jo.job sp.cfg > sp.clock) :
    ∃ s', sync sp jo = (s', recompute sp.clock sp.d rj5 T, jo.finalizer, true, false) ∧
      TimersOnly (jobKey jo) s6 s' := by
  have hF : KillSpec (recompute sp.clock sp.d rj5 T) kt := hk5.recompute _ _ _
  have hsF : SameSpec jo.job (recompute sp.clock sp.d rj5 T) := hs5.trans (recompute_sameSpec sp.clock sp.d rj5 T).1
  have hstage : syncTasksStage sp jo = (s6, some (recompute sp.clock sp.d rj5 T)) := by
    unfold syncTasksStage
    have h1 : isStarted jo.job = true := hspec.started
    have h2 : isDeleted jo.job = false := by unfold isDeleted; rw [hspec.del]; rfl
    simp only [h1, h2, Bool.not_false, Bool.and_self, ↓reduceIte]
    exact h6
  have hle6 : kt ≤ s6.clock := by rw [hc6]; exact hle
  obtain ⟨s7, hU, hu1, _⟩ := syncJobStatus_eq s6 (jobKey jo) (recompute sp.clock sp.d rj5 T)
  have hidem : statusOf s6.clock sp.d (recompute sp.clock sp.d rj5 T) = recompute sp.clock sp.d rj5 T :=
    statusOf_idem_k sp.clock s6.clock sp.d (updateJobTaskRefs sp.clock rj5 T) kt
      (hk5.updateRefs sp.clock T) hle hle6
  rw [hd6, hidem] at hU
  have hst7 := hu1.static
  have hT : ∃ s8, handleTTL s7 jo (recompute sp.clock sp.d rj5 T) = (s8, true) ∧ TimersOnly (jobKey jo) s7 s8 := by
    cases hfin : (recompute sp.clock sp.d rj5 T).status.condition.finished with
    | none => exact ⟨s7, handleTTL_unfinished s7 jo _ hfin, TimersOnly.refl _ _⟩
    | some fin =>
      have he := httl fin hfin
      have hc7 : s7.clock = sp.clock := hst7.clock.trans hc6
      have hcfg7 : s7.cfg = sp.cfg := hst7.cfg.trans hcfg6
      refine ⟨_, handleTTL_early s7 jo _ fin hF.del hfin (by rw [hc7, hcfg7, getTTL_sameSpec hsF]; exact he),
        enqueueAfter_timersOnly _ _ _⟩
  obtain ⟨s8, hT8, ht8⟩ := hT
  refine ⟨s8, ?_, hu1.trans ht8⟩
  rw [sync_eq]
  simp only [hstage, hU, hT8, handleFinalizer_not_deleted s8 jo _ jo.finalizer hF.del,
    finalizerStatusInput_live s8 jo _ jo.finalizer hF.del, statusHasNullTime_live s6 _ hF.del]

/-- the state `sp` a pass starts in, from a fresh state `s` of the Job `jo`, with `q1` what is left of the queue -/
structure PassStart (jo : JobObj) (s : Sys) (q1 : WQ) (sp : Sys) : Prop where
  pods : sp.pods = s.pods
  podCache : sp.podCache = s.pods
  clock : sp.clock = s.clock
  cfg : sp.cfg = s.cfg
  job : sp.job = some jo
  jobCache : sp.jobCache = some jo
  jobEvs : sp.jobEvs = []
  podEvs : sp.podEvs = []
  q : sp.q = q1
  nofault : NoFault sp

theorem passStart_facts (hf : Fresh jo s) (q1 : WQ) : PassStart jo s q1 (passStart s q1) :=
  ⟨rfl, hf.podCache, rfl, rfl, hf.job, hf.jobCache, hf.jobEvs, hf.podEvs, rfl, ⟨hf.faults, fun f h => by cases h⟩⟩

/-- what a `work` step leaves when its pass wrote the Job without error: `w` is the state after the step from
`s`, `jo'` the Job then on the server (same name and uid); the caches are one delivery behind -/
structure WorkOut (jo jo' : JobObj) (s w : Sys) : Prop where
  job : w.job = some jo'
  name : jo'.name = jo.name
  uid : jo'.uid = jo.uid
  jsync : JSync w
  psync : PSync w
  podCache : w.podCache = s.pods
  clock : w.clock = s.clock
  cfg : w.cfg = s.cfg
  faults : w.faults = []
  wf : Retry.WF w.q

/-- **`SyncOne` and the `work` step around it**, given what `Reconciler.sync` returned and left -/
theorem work_tail (hf : Fresh jo s) (hwf : Retry.WF s.q) (k : String) (rest : List String)
    (hq : (s.q.advance s.clock).queue = k :: rest) (s' : Sys) (rjF : Job)
    (hsync : sync (passStart s (popQ (s.q.advance s.clock) k rest)) jo = (s', rjF, jo.finalizer, true, false))
    (hadm : rjF.admissionError = jo.job.admissionError)
    (hfr : Frame (passStart s (popQ (s.q.advance s.clock) k rest)) s') :
    ∃ jo', WorkOut jo jo' s (work s).1 ∧ jo'.job = { jo.job with status := rjF.status } ∧
      (work s).1.pods = s'.pods ∧ (work s).1.podEvs = s'.podEvs := by
  obtain ⟨a1, _⟩ := Retry.advance_facts s.q s.clock hwf
  have hstart := passStart_facts hf (popQ (s.q.advance s.clock) k rest)
  generalize hspdef : passStart s (popQ (s.q.advance s.clock) k rest) = sp at *
  have hnf' : NoFault s' := hfr.nofault hstart.nofault
  have hj' : s'.job = some jo := hfr.job.trans hstart.job
  have hps' : PSync s' := hfr.psync (by unfold PSync; rw [hstart.podEvs, hstart.podCache, hstart.pods]; rfl)
  rw [work_some s k _ (get_cons hq), hspdef, syncOne_kill sp jo s' rjF hstart.jobCache hsync hadm hnf' hj']
  simp only [if_true]
  have hqok := queue_after_ok (qs := s'.q) a1 hq (by rw [hfr.queue, hstart.q]; rfl) (by rw [hfr.dirty, hstart.q]; rfl)
    (by rw [hfr.processing, hstart.q]; rfl)
  by_cases hdiff : rjF.status = jo.job.status
  · rw [if_neg (fun h => h hdiff)]
    refine ⟨jo, ⟨hj', rfl, rfl, ?_, hps', hfr.podCache.trans hstart.podCache, hfr.clock.trans hstart.clock,
      hfr.cfg.trans hstart.cfg, hnf'.1, hqok.1⟩, by rw [hdiff], rfl, rfl⟩
    unfold JSync
    show s'.jobEvs.foldl applyJEv s'.jobCache = s'.job
    rw [hfr.jobEvs, hstart.jobEvs, hfr.jobCache, hstart.jobCache, hj']; rfl
  · rw [if_pos hdiff]
    refine ⟨written jo rjF (s'.rv + 1), ⟨rfl, rfl, rfl, ?_, hps', hfr.podCache.trans hstart.podCache,
      hfr.clock.trans hstart.clock, hfr.cfg.trans hstart.cfg, hnf'.1, hqok.1⟩, rfl, rfl, rfl⟩
    unfold JSync
    show (s'.jobEvs ++ [JEv.upsert (written jo rjF (s'.rv + 1))]).foldl applyJEv s'.jobCache = _
    rw [List.foldl_append]
    rfl

/-- the state between two rounds of a Job being killed: caches and server agree, nothing undelivered, no
fault pending; the kill timestamp `kt` has passed; every pod is a readable task of the Job; `F0` is a lower
bound of every finish time and of `kt`, and the TTL after `F0` has not elapsed -/
structure KState (jo : JobObj) (kt : Time) (F0 : Int) (s : Sys) : Prop where
  fresh : Fresh jo s
  spec : KillSpec jo.job kt
  passed : kt ≤ s.clock
  pods : KPods jo s
  wf : Retry.WF s.q
  lbKill : F0 ≤ kt
  lbRefs : ∀ r ∈ jo.job.status.tasks, ∀ f, r.finishTimestamp = some f → F0 ≤ f
  lbPods : ∀ p ∈ s.pods, ∀ f, p.pod.finishTimestamp = some (some f) → F0 ≤ f
  ttl : s.clock < F0 + getTTLAfterFinished jo.job s.cfg

/-- pods that are, up to `SamePod`, pods of `s` under pairwise distinct names are tasks of a Job with the same
name and uid -/
theorem KPods.of_image {jo jo' : JobObj} {s w : Sys} (h : KPods jo s) (hname : jo'.name = jo.name) (huid : jo'.uid = jo.uid)
    (himg : ∀ p' ∈ w.pods, ∃ p ∈ s.pods, SamePod p' p) (hnd : (podNames w.pods).Nodup) : KPods jo' w := by
  refine ⟨fun p' hp' => ?_, fun p' hp' => ?_, hnd⟩
  · obtain ⟨p, hp, f1, f2, f3, _⟩ := himg p' hp'
    rw [f1, f2, f3, huid, hname]; exact h.owned p hp
  · obtain ⟨p, hp, _, _, _, _, f5, f6⟩ := himg p' hp'
    exact ⟨f6 (h.sane p hp).1, by rw [f5]; exact (h.sane p hp).2⟩

theorem KPods.of_sub {jo : JobObj} {s w : Sys} (h : KPods jo s) (hsub : ∀ p ∈ w.pods, p ∈ s.pods)
    (hnd : (podNames w.pods).Nodup) : KPods jo w :=
  h.of_image rfl rfl (fun p hp => ⟨p, hsub p hp, SamePod.refl p⟩) hnd

/-- what a pass on a Job whose kill timestamp has passed leaves, whatever it did to the pods: `w` is the state
after the `work` step from `s`, `jo'` the Job then on the server -/
structure KPass (jo jo' : JobObj) (kt : Time) (F0 : Int) (s w : Sys) : Prop extends WorkOut jo jo' s w where
  spec : KillSpec jo'.job kt
  ttl : jo'.job.ttlSecondsAfterFinished = jo.job.ttlSecondsAfterFinished
  template : jo'.job.template = jo.job.template
  lbRefs : ∀ r ∈ jo'.job.status.tasks, ∀ f, r.finishTimestamp = some f → F0 ≤ f
  /-- one pass suffices once every pod is finished (the first half of `KDone`) -/
  killed : (∀ p ∈ s.pods, p.pod.isFinished = true) → ∃ f, jo'.job.status.condition.finished = some f ∧ f.result = .killed

/-- **one `work` step on a Job whose kill timestamp has passed**, given what `syncJobTasks` returned (`rj5`) and
left (`s6`) in the state `sp` the pass starts in: the recomputed status is on the server, the caches are one
delivery behind, and when every pod is finished the Job written is `Finished`/`Killed` -/
theorem work_of_tasks {jo : JobObj} {kt : Time} {F0 : Int} {s sp s6 : Sys} {rj5 : Job} (h : KState jo kt F0 s)
    (k : String) (rest : List String) (hq : (s.q.advance s.clock).queue = k :: rest)
    (hsp : sp = passStart s (popQ (s.q.advance s.clock) k rest))
    (h6 : syncJobTasks sp jo jo.job = (s6, some (recompute sp.clock sp.d rj5 (killTasks sp jo))))
    (hfr : Frame sp s6) (hk5 : KillSpec rj5 kt) (hs5 : SameSpec jo.job rj5)
    (hlb5 : ∀ F0 : Int, (∀ r ∈ jo.job.status.tasks, ∀ x, r.finishTimestamp = some x → F0 ≤ x) →
      (∀ t ∈ killTasks sp jo, ∀ x, t.ref.finishTimestamp = some x → F0 ≤ x) → F0 ≤ sp.clock →
      ∀ r ∈ rj5.status.tasks, ∀ x, r.finishTimestamp = some x → F0 ≤ x) :
    ∃ jo', KPass jo jo' kt F0 s (work s).1 ∧ (work s).1.pods = s6.pods ∧ (work s).1.podEvs = s6.podEvs := by
  subst hsp
  have hstart := passStart_facts h.fresh (popQ (s.q.advance s.clock) k rest)
  have htail := fun s' rjF => work_tail h.fresh h.wf k rest hq s' rjF
  generalize passStart s (popQ (s.q.advance s.clock) k rest) = sp at *
  have hkp : KPods jo sp := h.pods.of_pods_eq hstart.pods
  have hc : sp.podCache = sp.pods := hstart.podCache.trans hstart.pods.symm
  have hle : kt ≤ sp.clock := hstart.clock ▸ h.passed
  have hclk0 : F0 ≤ sp.clock := Int.le_trans h.lbKill hle
  have hTlb : ∀ t ∈ killTasks sp jo, ∀ f, t.ref.finishTimestamp = some f → F0 ≤ f := by
    intro t ht f hf
    obtain ⟨p, hp, hpt, _⟩ := killTasks_facts hc hkp ht
    exact podTask_finish_lb hpt hclk0 (h.lbPods p (hstart.pods ▸ hp)) f hf
  have hrj5lb := hlb5 F0 h.lbRefs hTlb hclk0
  obtain ⟨s', hsync, hto⟩ := sync_tail sp s6 jo kt rj5 (killTasks sp jo) h.spec hle h6 hk5 hs5 hfr.clock hfr.d hfr.cfg (by
    intro fin hfin
    have hlb := recompute_fin_lb F0 sp.clock sp.d rj5 (killTasks sp jo) kt hk5 hle h.lbKill hrj5lb hTlb fin hfin
    rw [hstart.clock, hstart.cfg]
    exact Int.lt_of_lt_of_le h.ttl (Int.add_le_add_right hlb _))
  have hrc := recompute_sameSpec sp.clock sp.d rj5 (killTasks sp jo)
  have hst := hto.static
  obtain ⟨jo', hout, w5, w9, w10⟩ :=
    htail s' _ hsync (hs5.trans hrc.1).admissionError (hfr.trans (Frame.of_timers hto))
  refine ⟨jo', { toWorkOut := hout, spec := ?_, ttl := by rw [w5], template := by rw [w5], lbRefs := ?_, killed := ?_ },
    by rw [w9, hst.pods], by rw [w10, hst.podEvs]⟩
  · rw [w5]; exact ⟨h.spec.tmpl, h.spec.kill, h.spec.adm, h.spec.del, (hk5.recompute _ _ _).started⟩
  · rw [w5]
    show ∀ r ∈ (recompute sp.clock sp.d rj5 (killTasks sp jo)).status.tasks, _
    rw [hrc.2.1]
    exact gen_lb F0 sp.clock _ _ hrj5lb hTlb hclk0
  · intro hall
    obtain ⟨f, hf1, hf2⟩ := recompute_killed sp.clock sp.d rj5 (killTasks sp jo) kt hk5 hle
      (gen_allFin sp.clock rj5.status.tasks (killTasks sp jo) (fun t ht => by
        obtain ⟨p, hp, _, _, _, hfin⟩ := killTasks_facts hc hkp ht
        have := hall p (hstart.pods ▸ hp)
        rwa [← hfin] at this))
    exact ⟨f, by rw [w5]; exact hf1, hf2⟩

/-- **one `work` step on a Job whose kill timestamp has passed**, no pod being deleted yet: every unfinished pod
gets the deletion timestamp -/
theorem work_kill (h : KState jo kt F0 s)
    (hnodel : ∀ p ∈ s.pods, p.pod.deletionTimestamp = none) (k : String) (rest : List String)
    (hq : (s.q.advance s.clock).queue = k :: rest) :
    ∃ jo' N, KPass jo jo' kt F0 s (work s).1 ∧ (work s).1.pods = s.pods.map (markDts (nowT s) N) ∧
      (∀ n, n ∈ N ↔ ∃ p ∈ s.pods, p.pod.name = n ∧ p.pod.isFinished = false) ∧
      (∀ e ∈ (work s).1.podEvs, ∃ p0 ∈ s.pods, ∃ p, e = PEv.upsert p ∧ p.ownerUid = p0.ownerUid ∧
        p.ownerName = p0.ownerName) := by
  have hstart := passStart_facts h.fresh (popQ (s.q.advance s.clock) k rest)
  have hwk := fun s6 rj5 => work_of_tasks (s6 := s6) (rj5 := rj5) h k rest hq rfl
  generalize passStart s (popQ (s.q.advance s.clock) k rest) = sp at *
  have hkp : KPods jo sp := h.pods.of_pods_eq hstart.pods
  have hc : sp.podCache = sp.pods := hstart.podCache.trans hstart.pods.symm
  obtain ⟨s6, rj5, N, h6, hm, hN, hk5, hs5, hlb5⟩ := syncJobTasks_kill sp jo kt h.spec (hstart.clock ▸ h.passed) hstart.nofault hkp.nodup
    (fun t ht => by
      obtain ⟨p, hp, _, _, hd, _⟩ := killTasks_facts hc hkp ht
      rw [hd]; exact hnodel p (hstart.pods ▸ hp))
    (killTasks_fn hc hkp)
  obtain ⟨jo', hpass, hpods, hevs⟩ := hwk s6 rj5 h6 (Frame.of_markedT hm) hk5 hs5 hlb5
  have hnowT : nowT sp = nowT s := by unfold nowT nowSec; rw [hstart.clock]
  refine ⟨jo', N, hpass, by rw [hpods, hm.pods, hstart.pods, hnowT], fun n => by rw [hN, killTasks_unfinished hc hkp, hstart.pods], ?_⟩
  intro e he
  rw [hevs] at he
  rcases hm.evs e he with h0 | ⟨p0, hp0, p, e1, e2, e3⟩
  · rw [hstart.podEvs] at h0; cases h0
  · exact ⟨p0, hstart.pods ▸ hp0, p, e1, e2, e3⟩

/-- **one `work` step on a killed Job whose unfinished pods are all being deleted, past the force-delete
timeout**: they are removed from the server -/
theorem work_force (h : KState jo kt F0 s)
    (hF : 0 < getForceDeleteTimeout s.cfg)
    (hforb : (jo.job.template.map (·.forbidTaskForceDeletion)).getD false = false)
    (hpods : ∀ p ∈ s.pods, (p.pod.isFinished = true ∧ p.pod.deletionTimestamp = none) ∨
      (p.pod.isFinished = false ∧ ∃ D, p.pod.deletionTimestamp = some D ∧ D + getForceDeleteTimeout s.cfg ≤ s.clock))
    (k : String) (rest : List String) (hq : (s.q.advance s.clock).queue = k :: rest) :
    ∃ jo' M, KPass jo jo' kt F0 s (work s).1 ∧ (work s).1.pods = s.pods.filter (keepPod M) ∧
      (∀ n, n ∈ M ↔ ∃ p ∈ s.pods, p.pod.name = n ∧ p.pod.isFinished = false) ∧
      (∀ e ∈ (work s).1.podEvs, ∃ p0 ∈ s.pods, e = PEv.delete p0) := by
  have hstart := passStart_facts h.fresh (popQ (s.q.advance s.clock) k rest)
  have hwk := fun s6 rj5 => work_of_tasks (s6 := s6) (rj5 := rj5) h k rest hq rfl
  generalize passStart s (popQ (s.q.advance s.clock) k rest) = sp at *
  have hkp : KPods jo sp := h.pods.of_pods_eq hstart.pods
  have hc : sp.podCache = sp.pods := hstart.podCache.trans hstart.pods.symm
  obtain ⟨s6, rj5, M, h6, hfr6, hpods6, hevs6, hM, hk5, hs5, hlb5⟩ :=
    syncJobTasks_force sp jo kt h.spec (hstart.clock ▸ h.passed) hstart.nofault (by rw [hstart.cfg]; exact hF) hforb
      (fun t ht => by
        obtain ⟨p, hp, _, _, hd, hfin⟩ := killTasks_facts hc hkp ht
        rw [hfin, hd, hstart.cfg, hstart.clock]
        exact hpods p (hstart.pods ▸ hp))
      (killTasks_fn hc hkp)
  obtain ⟨jo', hpass, hpods', hevs⟩ := hwk s6 rj5 h6 hfr6 hk5 hs5 hlb5
  refine ⟨jo', M, hpass, by rw [hpods', hpods6, hstart.pods], fun n => by rw [hM, killTasks_unfinished hc hkp, hstart.pods], ?_⟩
  intro e he
  rw [hevs] at he
  rcases hevs6 e he with h0 | ⟨p0, hp0, e1⟩
  · rw [hstart.podEvs] at h0; cases h0
  · exact ⟨p0, hstart.pods ▸ hp0, e1⟩

end Furiko.JobCtl.Live
