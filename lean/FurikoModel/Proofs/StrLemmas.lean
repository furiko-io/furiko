/-
Lemmas about `Model/Str.lean`: decimal rendering and parsing are inverse, rendered integers
contain no separator characters, `splitOn`/`join` laws.  Core Lean only.
-/
import FurikoModel.Model.Str

namespace Furiko.Str

theorem digitVal_digitChar : ∀ d : Nat, d < 10 → digitVal (Nat.digitChar d) = some d := by
  intro d h
  have : ∀ d : Fin 10, digitVal (Nat.digitChar d.val) = some d.val := by decide
  exact this ⟨d, h⟩

theorem digitVal_isSome_of_isDigit {c : Char} (h : c.isDigit = true) : (digitVal c).isSome = true := by
  unfold digitVal
  have h' : ('0' ≤ c ∧ c ≤ '9') := by
    simp only [Char.isDigit, Bool.and_eq_true, decide_eq_true_eq] at h
    exact ⟨h.1, h.2⟩
  simp [h']

/-- a digit character is none of the characters the codecs treat specially -/
theorem ne_of_isDigit {c x : Char} (h : c.isDigit = true) (hx : x.isDigit = false) : c ≠ x := by
  intro e; subst e; simp [h] at hx

theorem natDigits_isDigit {n : Nat} {c : Char} (h : c ∈ natDigits n) : c.isDigit = true :=
  Nat.isDigit_of_mem_toDigits (by decide) (by decide) h

theorem natDigits_ne_nil (n : Nat) : natDigits n ≠ [] := Nat.toDigits_ne_nil

theorem natDigits_eq (n : Nat) :
    natDigits n = if n < 10 then [Nat.digitChar n] else natDigits (n / 10) ++ [Nat.digitChar (n % 10)] :=
  Nat.toDigits_eq_if (by decide)

theorem parseDigitsFrom_append_single (l : Str) (c : Char) (acc : Nat) :
    parseDigitsFrom acc (l ++ [c]) =
      (parseDigitsFrom acc l).bind (fun a => (digitVal c).map (fun d => a * 10 + d)) := by
  induction l generalizing acc with
  | nil =>
    simp only [List.nil_append, parseDigitsFrom]
    cases digitVal c <;> simp
  | cons x xs ih =>
    simp only [List.cons_append, parseDigitsFrom]
    cases digitVal x with
    | none => simp
    | some d => simp [ih]

theorem parseDigits_natDigits (n : Nat) : parseDigits (natDigits n) = some n := by
  induction n using Nat.strongRecOn with
  | _ n ih =>
    rw [natDigits_eq]
    by_cases h : n < 10
    · simp only [h, if_true, parseDigits, parseDigitsFrom, digitVal_digitChar n h]
      simp
    · have hlt : n / 10 < n := by omega
      have := ih (n / 10) hlt
      simp only [h, if_false, parseDigits] at this ⊢
      rw [parseDigitsFrom_append_single, this, digitVal_digitChar _ (by omega)]
      simp only [Option.bind_some, Option.map_some, Option.some.injEq]
      omega

theorem natDigits_injective {a b : Nat} (h : natDigits a = natDigits b) : a = b := by
  have := parseDigits_natDigits a
  rw [h, parseDigits_natDigits] at this
  exact (Option.some.inj this).symm

theorem natDigits_cons (n : Nat) : ∃ c rest, natDigits n = c :: rest ∧ c.isDigit = true := by
  cases h : natDigits n with
  | nil => exact absurd h (natDigits_ne_nil n)
  | cons c rest => exact ⟨c, rest, rfl, natDigits_isDigit (by rw [h]; simp)⟩

theorem signSplit_digits (n : Nat) : signSplit (natDigits n) = some (false, natDigits n) := by
  obtain ⟨c, rest, h, hd⟩ := natDigits_cons n
  rw [h]
  have h1 : c ≠ '-' := ne_of_isDigit hd (by decide)
  have h2 : c ≠ '+' := ne_of_isDigit hd (by decide)
  simp [signSplit, h1, h2]

theorem signSplit_neg_digits (n : Nat) : signSplit ('-' :: natDigits n) = some (true, natDigits n) := by
  have := natDigits_ne_nil n
  simp [signSplit, this]

theorem atoiU_showInt (t : Int) : atoiU (showInt t) = some t := by
  unfold atoiU showInt
  by_cases h : t < 0
  · simp only [h, if_true, signSplit_neg_digits, parseDigits_natDigits]
    have : -((t.natAbs : Nat) : Int) = t := by omega
    simp [this]
  · simp only [h, if_false, signSplit_digits, parseDigits_natDigits]
    have : ((t.natAbs : Nat) : Int) = t := by omega
    simp [this]

theorem atoi_showInt {t : Int} (h : InInt64 t) : atoi (showInt t) = some t := by
  simp [atoi, atoiU_showInt, h]

theorem atoi_showInt_out_of_range {t : Int} (h : ¬ InInt64 t) : atoi (showInt t) = none := by
  simp [atoi, atoiU_showInt, h]

theorem showInt_injective {a b : Int} (h : showInt a = showInt b) : a = b := by
  have := atoiU_showInt a
  rw [h, atoiU_showInt] at this
  exact (Option.some.inj this).symm

theorem not_mem_showInt {x : Char} (t : Int) (hx : x.isDigit = false) (hm : x ≠ '-') : x ∉ showInt t := by
  unfold showInt
  intro hmem
  have aux : x ∉ natDigits t.natAbs := fun hin => ne_of_isDigit (natDigits_isDigit hin) hx rfl
  split at hmem
  · rcases List.mem_cons.mp hmem with e | e
    · exact hm e
    · exact aux e
  · exact aux hmem

theorem splitOn_ne_nil (sep : Char) (s : Str) : splitOn sep s ≠ [] := by
  induction s with
  | nil => simp [splitOn]
  | cons c cs ih =>
    unfold splitOn
    by_cases h : c = sep
    · simp [h]
    · simp only [h, if_false]
      split <;> simp

theorem splitOn_of_not_mem {sep : Char} {s : Str} (h : sep ∉ s) : splitOn sep s = [s] := by
  induction s with
  | nil => rfl
  | cons c cs ih =>
    have hc : c ≠ sep := fun e => h (by simp [e])
    have hcs : sep ∉ cs := fun e => h (List.mem_cons_of_mem _ e)
    unfold splitOn
    simp [hc, ih hcs]

theorem splitOn_append_sep (sep : Char) (a b : Str) :
    splitOn sep (a ++ sep :: b) = splitOn sep a ++ splitOn sep b := by
  induction a with
  | nil => simp [splitOn]
  | cons c cs ih =>
    by_cases h : c = sep
    · simp only [List.cons_append]
      rw [splitOn, splitOn.eq_2]
      simp [h, ih]
    · simp only [List.cons_append]
      rw [splitOn, splitOn.eq_2]
      simp only [h, if_false, ih]
      cases hs : splitOn sep cs with
      | nil => exact absurd hs (splitOn_ne_nil sep cs)
      | cons t ts => simp

theorem join_splitOn (sep : Char) (s : Str) : join sep (splitOn sep s) = s := by
  induction s with
  | nil => rfl
  | cons c cs ih =>
    unfold splitOn
    cases hs : splitOn sep cs with
    | nil => exact absurd hs (splitOn_ne_nil sep cs)
    | cons t ts =>
      rw [hs] at ih
      by_cases h : c = sep
      · simp only [h, if_true, join, List.nil_append, ih]
      · simp only [h, if_false]
        cases ts with
        | nil => simp only [join] at ih ⊢; rw [ih]
        | cons b r => simp only [join, List.cons_append] at ih ⊢; rw [ih]

theorem splitOn_snoc_token {sep : Char} (k d : Str) (hd : sep ∉ d) :
    splitOn sep (k ++ sep :: d) = splitOn sep k ++ [d] := by
  rw [splitOn_append_sep, splitOn_of_not_mem hd]

end Furiko.Str
