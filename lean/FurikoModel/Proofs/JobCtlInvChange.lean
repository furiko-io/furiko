/-
What a step does.

`Change`: one micro-step of a pass (`Micro.change`) and one action of the environment other than a pass,
a delivery, a restart or a clock tick is bookkeeping or exactly one change of one API object — a pod added,
replaced or removed, the Job written or removed.  `Quiet`: a delivery, a restart, a clock tick.  Every
action is a pass, quiet, or a `Change` (`step_kind`; `step_change` for an allowed action).  Every history
invariant is shown preserved by a `Change` and by a `Quiet` step once (`Base.change`, `Base.quiet`,
`Inv2.change`, …).  First the effects of the environment's operations, in the terms of
`Proofs/JobCtlInvMicro`.  Core Lean only.
-/
import FurikoModel.Proofs.JobCtlInvWalk

set_option linter.unusedSimpArgs false
set_option linter.unusedVariables false

namespace Furiko.JobCtl
open Furiko Furiko.WQ

variable {j0 : JobObj} {s s' : Sys}

theorem setPodState_spec (s : Sys) (p : PodObj) :
    setPodState s p = s ∨ ∃ old, PodSet s (setPodState s p) old p := by
  unfold setPodState
  cases h : findPod s.pods p.pod.name with
  | none => exact Or.inl rfl
  | some old =>
    exact Or.inr ⟨old, ⟨⟨rfl, rfl, rfl, rfl, rfl⟩, rfl, rfl, rfl, h, rfl, rfl⟩⟩

theorem removePod_spec (s : Sys) (n : String) :
    removePod s n = s ∨ ∃ p, p.pod.name = n ∧ PodDel s (removePod s n) p := by
  unfold removePod
  cases h : findPod s.pods n with
  | none => exact Or.inl rfl
  | some p =>
    have hn := (findPod_some h).2
    refine Or.inr ⟨p, hn, ⟨⟨rfl, rfl, rfl, rfl, rfl⟩, rfl, rfl, rfl, by rw [hn]; exact h, ?_, rfl⟩⟩
    simp only [hn]

theorem createForeignPod_spec (s : Sys) (p : PodObj) :
    createForeignPod s p = s ∨ PodAdd s (createForeignPod s p) p := by
  unfold createForeignPod
  split
  · exact Or.inl rfl
  · rename_i h
    refine Or.inr ⟨⟨rfl, rfl, rfl, rfl, rfl⟩, rfl, rfl, rfl, ?_, rfl, rfl⟩
    cases hf : findPod s.pods p.pod.name <;> simp_all

theorem mutateJobObj_spec (s : Sys) (f : JobObj → JobObj) :
    (s.job = none ∧ mutateJobObj s f = s) ∨
    ∃ cur, s.job = some cur ∧ JobWrite s (mutateJobObj s f) { f cur with rv := s.rv + 1 } := by
  unfold mutateJobObj
  cases h : s.job with
  | none => exact Or.inl ⟨rfl, rfl⟩
  | some cur => exact Or.inr ⟨cur, rfl, ⟨⟨rfl, rfl, rfl, rfl, rfl⟩, rfl, rfl, rfl, rfl, rfl, rfl⟩⟩

theorem userDeleteJob_spec (s : Sys) :
    userDeleteJob s = s ∨
    (∃ cur, s.job = some cur ∧ cur.finalizer = true ∧ cur.job.deletionTimestamp = none ∧
      JobWrite s (userDeleteJob s)
        { cur with job := { cur.job with deletionTimestamp := some (nowT s) }, rv := s.rv + 1 }) ∨
    (∃ cur, s.job = some cur ∧ cur.finalizer = false ∧ JobGone s (userDeleteJob s)) := by
  unfold userDeleteJob
  cases h : s.job with
  | none => exact Or.inl rfl
  | some cur =>
    simp only
    by_cases hf : cur.finalizer = true
    · rw [if_pos hf]
      by_cases hd : cur.job.deletionTimestamp.isSome = true
      · rw [if_pos hd]; exact Or.inl rfl
      · rw [if_neg hd]
        refine Or.inr (Or.inl ⟨cur, rfl, hf, by cases h' : cur.job.deletionTimestamp <;> simp_all, ?_⟩)
        unfold mutateJobObj
        simp only [h]
        exact ⟨⟨rfl, rfl, rfl, rfl, rfl⟩, rfl, rfl, rfl, rfl, rfl, rfl⟩
    · rw [if_neg hf]
      exact Or.inr (Or.inr ⟨cur, rfl, by simpa using hf,
        ⟨⟨rfl, rfl, rfl, rfl, rfl⟩, rfl, rfl, Nat.le_refl _, rfl, ⟨cur, rfl⟩⟩⟩)

theorem podNotify_frame (s : Sys) (p : PodObj) : Frame s (podNotify s p) := by
  unfold podNotify
  split
  · split
    · exact ⟨⟨rfl, rfl, rfl, rfl, rfl⟩, rfl, rfl, rfl, rfl, rfl⟩
    · exact Frame.refl s
  · exact Frame.refl s

theorem foldl_podNotify_frame : ∀ (l : List PodObj) (a : Sys), Frame a (l.foldl podNotify a) := by
  intro l
  induction l with
  | nil => intro a; exact Frame.refl a
  | cons p rest ih => intro a; exact (podNotify_frame a p).trans (ih _)

theorem resync_frame (s : Sys) : Frame s (resync s) := by
  unfold resync
  cases hj : s.jobCache with
  | none => simp only; exact foldl_podNotify_frame _ s
  | some j =>
    simp only
    refine Frame.trans (b := _) ?_ (foldl_podNotify_frame _ _)
    exact ⟨⟨rfl, rfl, rfl, hj.symm, rfl⟩, rfl, rfl, rfl, rfl, rfl⟩

/-- a replacement of a pod object keeps its identity and does not un-finish it -/
structure PodKeeps (old p : PodObj) : Prop where
  ownerUid : p.ownerUid = old.ownerUid
  name : p.pod.name = old.pod.name
  creationTimestamp : p.pod.creationTimestamp = old.pod.creationTimestamp
  retryIndex : p.pod.retryIndex = old.pod.retryIndex
  parallelIndex : p.pod.parallelIndex = old.pod.parallelIndex
  fin : old.pod.isFinished = true → p.pod.isFinished = true

theorem KubeletOK.keeps {old p : PodObj} (h : KubeletOK old p) : PodKeeps old p := by
  obtain ⟨hown, _, _, hname, hcreated, _, hretry, hindex, _, hfinished⟩ := h
  exact ⟨hown, hname, hcreated, hretry, hindex, fun hf => by rw [hfinished hf]; exact hf⟩

/-- Bookkeeping, or exactly one change of one API object.  `A` says what is known of a pod that is added, `R` of a pod and the one that replaces it, `W` of a Job
version and the one written over it, `G` of a Job object that is removed. -/
inductive Change (A : PodObj → Prop) (R : PodObj → PodObj → Prop) (W : JobObj → JobObj → Prop) (G : JobObj → Prop)
    (s s' : Sys) : Prop
  | frame : Frame s s' → Change A R W G s s'
  | podAdd (p : PodObj) : A p → PodAdd s s' p → Change A R W G s s'
  | podSet (old p : PodObj) : R old p → PodSet s s' old p → Change A R W G s s'
  | podDel (p : PodObj) : PodDel s s' p → Change A R W G s s'
  | jobWrite (cur nj : JobObj) : W cur nj → s.job = some cur → JobWrite s s' nj → Change A R W G s s'
  | jobGone (cur : JobObj) : G cur → s.job = some cur → JobGone s s' → Change A R W G s s'

theorem Change.static {A R W G} (h : Change A R W G s s') : Static s s' := by
  cases h with
  | frame hf => exact hf.toStatic
  | podAdd _ _ h => exact h.static
  | podSet _ _ _ h => exact h.static
  | podDel _ h => exact h.static
  | jobWrite _ _ _ _ h => exact h.static
  | jobGone _ _ _ h => exact h.static

theorem Change.rv_le {A R W G} (h : Change A R W G s s') : s.rv ≤ s'.rv := by
  cases h with
  | frame hf => exact Nat.le_of_eq hf.rv.symm
  | podAdd _ _ h => rw [h.rv]; exact Nat.le_succ _
  | podSet _ _ _ h => rw [h.rv]; exact Nat.le_succ _
  | podDel _ h => exact Nat.le_of_eq h.rv.symm
  | jobWrite _ _ _ _ h => rw [h.rv]; exact Nat.le_succ _
  | jobGone _ _ _ h => exact h.rv

theorem Change.mono {A R W G A' R' W' G'} (h : Change A R W G s s') (hA : ∀ p, A p → A' p)
    (hR : ∀ old p, R old p → findPod s.pods p.pod.name = some old → R' old p)
    (hW : ∀ c n, W c n → W' c n) (hG : ∀ c, G c → G' c) : Change A' R' W' G' s s' := by
  cases h with
  | frame hf => exact .frame hf
  | podAdd p a h => exact .podAdd p (hA p a) h
  | podSet o p k h => exact .podSet o p (hR o p k h.found) h
  | podDel p h => exact .podDel p h
  | jobWrite c n w hc h => exact .jobWrite c n (hW c n w) hc h
  | jobGone c g hc h => exact .jobGone c (hG c g) hc h

theorem Change.pods_from {A R W G} (h : Change A R W G s s') : ∀ q' ∈ s'.pods,
    q' ∈ s.pods ∨ (∃ q ∈ s.pods, q.pod.name = q'.pod.name ∧ R q q') ∨
    (A q' ∧ q'.pod.name ∉ podNames s.pods) := by
  intro q' hq
  cases h with
  | frame hf => exact .inl (hf.pods ▸ hq)
  | podAdd p a h =>
    rw [h.pods] at hq
    rcases List.mem_append.mp hq with hq | hq
    · exact .inl hq
    · cases List.mem_singleton.mp hq
      exact .inr (.inr ⟨a, (findPod_eq_none_iff _ _).mp h.fresh⟩)
  | podSet o p k h =>
    rw [h.pods] at hq
    rcases mem_setPod hq with rfl | hq
    · exact .inr (.inl ⟨o, (findPod_some h.found).1, (findPod_some h.found).2, k⟩)
    · exact .inl hq
  | podDel p h => exact .inl (mem_delPod (h.pods ▸ hq)).1
  | jobWrite _ _ _ _ h => exact .inl (h.pods ▸ hq)
  | jobGone _ _ _ h => exact .inl (h.pods ▸ hq)

/-- the pod object occurs on the server, in the pod cache, or in an undelivered upsert event -/
def Anywhere (s : Sys) (p : PodObj) : Prop := p ∈ s.pods ∨ p ∈ s.podCache ∨ PEv.upsert p ∈ s.podEvs

theorem Change.anywhere {A R W G} (h : Change A R W G s s') : ∀ q, Anywhere s' q →
    Anywhere s q ∨ (∃ o ∈ s.pods, R o q) ∨ A q := by
  intro q hq
  unfold Anywhere at hq ⊢
  have new : ∀ {l : List PEv} {e : PEv}, PEv.upsert q ∈ l ++ [e] → PEv.upsert q ∈ l ∨ e = .upsert q := by
    intro l e h
    rcases List.mem_append.mp h with h | h
    · exact .inl h
    · exact .inr (List.mem_singleton.mp h).symm
  cases h with
  | frame hf => rw [hf.pods, hf.podCache, hf.podEvs] at hq; exact .inl hq
  | podAdd p a h =>
    rw [h.pods, h.static.podCache, h.podEvs] at hq
    rcases hq with hq | hq | hq
    · rcases List.mem_append.mp hq with hq | hq
      · exact .inl (.inl hq)
      · cases List.mem_singleton.mp hq; exact .inr (.inr a)
    · exact .inl (.inr (.inl hq))
    · rcases new hq with hq | hq
      · exact .inl (.inr (.inr hq))
      · cases hq; exact .inr (.inr a)
  | podSet o p k h =>
    rw [h.pods, h.static.podCache, h.podEvs] at hq
    have hrep : (∃ o ∈ s.pods, R o p) := ⟨o, (findPod_some h.found).1, k⟩
    rcases hq with hq | hq | hq
    · rcases mem_setPod hq with rfl | hq
      · exact .inr (.inl hrep)
      · exact .inl (.inl hq)
    · exact .inl (.inr (.inl hq))
    · rcases new hq with hq | hq
      · exact .inl (.inr (.inr hq))
      · cases hq; exact .inr (.inl hrep)
  | podDel p h =>
    rw [h.pods, h.static.podCache, h.podEvs] at hq
    rcases hq with hq | hq | hq
    · exact .inl (.inl (mem_delPod hq).1)
    · exact .inl (.inr (.inl hq))
    · rcases new hq with hq | hq
      · exact .inl (.inr (.inr hq))
      · cases hq
  | jobWrite _ _ _ _ h => rw [h.pods, h.static.podCache, h.podEvs] at hq; exact .inl hq
  | jobGone _ _ _ h => rw [h.pods, h.static.podCache, h.podEvs] at hq; exact .inl hq

/-- the pod a pass on the cached Job `jo` creates in state `s` -/
def PassAdd (jo : JobObj) (sp s : Sys) (p : PodObj) : Prop :=
  ∃ idx retry, CreateReq s.d jo idx retry ∧ CreatePhase sp s ∧ p = newPod jo idx retry (nowT s)

/-- the Job versions a pass (started in `sp` on the cached Job `jo`) writes in state `s` over the stored
object `cur`: the deletion mark of `DeleteJob`, the `Update`, the `UpdateStatus`, and the `UpdateStatus`
submitted with the resourceVersion a successful `Update` of the same pass returned.
This is the write as the API call sees it: `cur` is whatever object passed the resourceVersion check.  Three
views of the writes of the Job follow from it and from `UserWrite` (the environment's): `PassWrite.resolve`
identifies `cur` (the cached Job, or what the `Update` of the pass made of it); `JobMove` (`JobCtlInvJob`)
lists the identified writes and removals of ONE action, pass or user, as moves of the stored object;
`Wrote` (`JobCtlInvC12Chain`) forgets who wrote and when — what a relation between versions has to respect
(`JobMove.wrote`). -/
inductive PassWrite (jo : JobObj) (sp s : Sys) (cur : JobObj) : JobObj → Prop
  | delMark : cur.finalizer = true → cur.job.deletionTimestamp = none →
      PassWrite jo sp s cur { cur with job := { cur.job with deletionTimestamp := some (nowT s) }, rv := s.rv + 1 }
  | spec : cur.rv = jo.rv →
      ¬ (cur.job.deletionTimestamp.isSome = true ∧ (sync sp jo).2.2.1 = false) →
      PassWrite jo sp s cur
        (specWrite cur { jo with job := (sync sp jo).2.1, finalizer := (sync sp jo).2.2.1 } (s.rv + 1))
  | status : cur.rv = jo.rv →
      PassWrite jo sp s cur (statusWrite cur { jo with job := (sync sp jo).2.1 } (s.rv + 1))
  | statusOn (s1 : Sys) : s1 = (sync sp jo).1 →
      s = (apiUpdateJob s1 jo { jo with job := (sync sp jo).2.1, finalizer := (sync sp jo).2.2.1 }).1 →
      (apiUpdateJob s1 jo { jo with job := (sync sp jo).2.1, finalizer := (sync sp jo).2.2.1 }).2 = true →
      PassWrite jo sp s cur (statusWrite cur { jo with job := (sync sp jo).2.1 } (s.rv + 1))

/-- why a pass removes the Job object `cur`: TTL deletion of a Job without finalizer, or its `Update` (the
first API call of the pass that can touch the Job) drops the finalizer of a Job that is being deleted -/
def PassGone (jo : JobObj) (sp s : Sys) (cur : JobObj) : Prop :=
  cur.finalizer = false ∨
  (cur.rv = jo.rv ∧ s = (sync sp jo).1 ∧ cur.job.deletionTimestamp.isSome = true ∧ (sync sp jo).2.2.1 = false)

theorem Micro.change {jo : JobObj} {sp s s' : Sys} (hm : Micro jo sp s s') :
    Change (PassAdd jo sp s) PodKeeps (PassWrite jo sp s) (PassGone jo sp s) s s' := by
  cases hm with
  | frame hf => exact .frame hf
  | create idx retry hreq hcp =>
    rcases apiCreatePod_spec s jo idx retry with h | h
    · exact .frame h.1
    · exact .podAdd _ ⟨idx, retry, hreq, hcp, rfl⟩ h.1
  | delPod name force =>
    rcases apiDeletePod_spec s name force with h | ⟨p, _, h, _⟩ | ⟨p, _, _, _, h⟩
    · exact .frame h
    · exact .podDel p h
    · exact .podSet p _ (by exact ⟨rfl, rfl, rfl, rfl, rfl, id⟩) h
  | delJob =>
    rcases apiDeleteJob_spec s jo with h | ⟨c, hc, hf, hd, h⟩ | ⟨c, hc, hf, h⟩
    · exact .frame h
    · exact .jobWrite c _ (.delMark hf hd) hc h
    · exact .jobGone c (.inl hf) hc h
  | updJob hs =>
    rcases apiUpdateJob_spec s jo { jo with job := (sync sp jo).2.1, finalizer := (sync sp jo).2.2.1 } with
      h | ⟨c, hc, hrv, h | h⟩
    · exact .frame h
    · exact .jobWrite c _ (.spec hrv h.2) hc h.1
    · exact .jobGone c (.inr ⟨hrv, hs, h.2.1, h.2.2⟩) hc h.1
  | updStatus =>
    rcases apiUpdateJobStatus_spec s jo { jo with job := (sync sp jo).2.1 } with h | ⟨c, hc, hrv, h⟩
    · exact .frame h
    · exact .jobWrite c _ (.status hrv) hc h
  | updStatusOn s1 hs1 hs hok =>
    rcases apiUpdateJobStatus_spec s { jo with rv := updatedRv s jo } { jo with job := (sync sp jo).2.1 } with
      h | ⟨c, hc, _, h⟩
    · exact .frame h
    · exact .jobWrite c _ (.statusOn s1 hs1 hs hok) hc h

/-- the Job versions the user writes over the stored object `cur` by action `a` -/
inductive UserWrite (s : Sys) (a : Action) (cur : JobObj) : JobObj → Prop
  | kill (t : Time) : a = .kill t →
      UserWrite s a cur { cur with job := { cur.job with killTimestamp := some t }, rv := s.rv + 1 }
  | delMark : a = .userDelete → cur.finalizer = true → cur.job.deletionTimestamp = none →
      UserWrite s a cur { cur with job := { cur.job with deletionTimestamp := some (nowT s) }, rv := s.rv + 1 }

/-- the Job versions carried by undelivered upsert events -/
def upserts (l : List JEv) : List JobObj :=
  l.filterMap (fun e => match e with
    | .upsert j => some j
    | .delete _ => none)

/-- the Job versions the controller can (come to) see: the cached one and undelivered upserts -/
def seenVers (s : Sys) : List JobObj := s.jobCache.toList ++ upserts s.jobEvs

/-- the Job versions of a state, oldest copy first: cache, undelivered upserts, authoritative object -/
def versList (s : Sys) : List JobObj := seenVers s ++ s.job.toList

theorem seenVers_congr (hc : s'.jobCache = s.jobCache) (he : s'.jobEvs = s.jobEvs) :
    seenVers s' = seenVers s := by
  unfold seenVers; rw [hc, he]

/-- What an informer delivery, a restart or a clock tick does: the API objects stay as they are, and the
controller gets to see nothing new — the visible Job versions thin out in order (`vers`; after a restart
there are two copies of the stored object), and a pod object in the cache or in flight was on the server,
in the cache or in flight before. -/
structure Quiet (s s' : Sys) : Prop where
  job : s'.job = s.job
  rv : s'.rv = s.rv
  pods : s'.pods = s.pods
  d : s'.d = s.d
  clock : s.clock ≤ s'.clock
  vers : (versList s').Sublist (versList s) ∨ versList s' = s.job.toList ++ s.job.toList
  anywhere : ∀ q, Anywhere s' q → Anywhere s q
  cacheNodup : (podNames s.pods).Nodup → (podNames s.podCache).Nodup → (podNames s'.podCache).Nodup

theorem Quiet.seen (h : Quiet s s') : ∀ v ∈ seenVers s', v ∈ seenVers s ∨ s.job = some v := by
  intro v hv
  have hv' : v ∈ versList s' := List.mem_append_left _ hv
  rcases h.vers with hsub | he
  · rcases List.mem_append.mp (hsub.subset hv') with h1 | h1
    · exact .inl h1
    · exact .inr (Option.mem_toList.mp h1)
  · rw [he] at hv'
    exact .inr (Option.mem_toList.mp ((List.mem_append.mp hv').elim id id))

theorem Frame.quiet (hf : Frame s s') : Quiet s s' :=
  ⟨hf.job, hf.rv, hf.pods, hf.d, Int.le_of_eq hf.clock.symm,
    .inl (by unfold versList; rw [hf.job, seenVers_congr hf.jobCache hf.jobEvs]; exact List.Sublist.refl _),
    fun q hq => by unfold Anywhere at hq ⊢; rwa [hf.pods, hf.podCache, hf.podEvs] at hq, fun _ h => hf.podCache ▸ h⟩

theorem upserts_append (a b : List JEv) : upserts (a ++ b) = upserts a ++ upserts b := by
  unfold upserts; rw [List.filterMap_append]

theorem JobWrite.seenVers {nj : JobObj} (hw : JobWrite s s' nj) : seenVers s' = seenVers s ++ [nj] := by
  unfold JobCtl.seenVers
  rw [hw.static.jobCache, hw.jobEvs, upserts_append, List.append_assoc]
  rfl

theorem JobGone.seenVers (hg : JobGone s s') : seenVers s' = seenVers s := by
  obtain ⟨x, hx⟩ := hg.jobEvs
  unfold JobCtl.seenVers
  rw [hg.static.jobCache, hx, upserts_append]
  simp [upserts]

theorem mem_seenVers_cache {jo : JobObj} (h : s.jobCache = some jo) : jo ∈ seenVers s := by
  unfold seenVers; rw [h]; simp

theorem PassWrite.status_eq {jo cur nj : JobObj} {sp s : Sys} (hw : PassWrite jo sp s cur nj) :
    nj.job.status = cur.job.status ∨ nj.job.status = (sync sp jo).2.1.status := by
  cases hw with
  | delMark | spec => exact .inl rfl
  | status | statusOn => exact .inr rfl

theorem UserWrite.status_eq {cur nj : JobObj} {a : Action} (hw : UserWrite s a cur nj) :
    nj.job.status = cur.job.status := by
  cases hw <;> rfl

theorem upserts_cons_upsert (j : JobObj) (l : List JEv) : upserts (.upsert j :: l) = j :: upserts l := rfl
theorem upserts_cons_delete (j : JobObj) (l : List JEv) : upserts (.delete j :: l) = upserts l := rfl

theorem seenVers_deliverJob_sublist (s : Sys) : (seenVers (deliverJob s)).Sublist (seenVers s) := by
  unfold deliverJob
  cases he : s.jobEvs with
  | nil => simp only [he]; exact List.Sublist.refl _
  | cons e rest =>
    cases e with
    | upsert j =>
      simp only
      unfold seenVers
      rw [he, upserts_cons_upsert]
      simp only [Option.toList_some, List.singleton_append]
      exact List.sublist_append_right _ _
    | delete j =>
      simp only
      cases hcache : s.jobCache with
      | none =>
        simp only
        unfold seenVers
        rw [he, upserts_cons_delete, hcache]
        exact List.Sublist.refl _
      | some old =>
        simp only
        unfold seenVers
        rw [he, upserts_cons_delete, hcache]
        simp only [Option.toList_none, List.nil_append, Option.toList_some, List.singleton_append]
        exact List.sublist_cons_self _ _

theorem deliverJob_fields (s : Sys) : (deliverJob s).job = s.job ∧ (deliverJob s).rv = s.rv ∧
    (deliverJob s).pods = s.pods ∧ (deliverJob s).d = s.d ∧ (deliverJob s).podEvs = s.podEvs ∧
    (deliverJob s).podCache = s.podCache ∧ (deliverJob s).clock = s.clock ∧ (deliverJob s).cfg = s.cfg := by
  unfold deliverJob
  split
  · exact ⟨rfl, rfl, rfl, rfl, rfl, rfl, rfl, rfl⟩
  · exact ⟨rfl, rfl, rfl, rfl, rfl, rfl, rfl, rfl⟩
  · split <;> exact ⟨rfl, rfl, rfl, rfl, rfl, rfl, rfl, rfl⟩

theorem deliverPod_fields (s : Sys) : (deliverPod s).job = s.job ∧ (deliverPod s).rv = s.rv ∧
    (deliverPod s).pods = s.pods ∧ (deliverPod s).d = s.d ∧ (deliverPod s).jobEvs = s.jobEvs ∧
    (deliverPod s).jobCache = s.jobCache ∧ (deliverPod s).clock = s.clock ∧ (deliverPod s).cfg = s.cfg := by
  unfold deliverPod
  cases he : s.podEvs with
  | nil => exact ⟨rfl, rfl, rfl, rfl, rfl, rfl, rfl, rfl⟩
  | cons e rest =>
    cases e with
    | upsert p =>
      simp only
      have := podNotify_frame { s with podEvs := rest, podCache := setPod s.podCache p } p
      exact ⟨this.job, this.rv, this.pods, this.d, this.jobEvs, this.jobCache, this.clock, this.cfg⟩
    | delete p =>
      simp only
      cases hf : findPod s.podCache p.pod.name with
      | none => exact ⟨rfl, rfl, rfl, rfl, rfl, rfl, rfl, rfl⟩
      | some old =>
        simp only
        have := podNotify_frame { s with podEvs := rest, podCache := delPod s.podCache p.pod.name } old
        exact ⟨this.job, this.rv, this.pods, this.d, this.jobEvs, this.jobCache, this.clock, this.cfg⟩

theorem deliverPod_pods_side (s : Sys) :
    (∀ c ∈ (deliverPod s).podCache, c ∈ s.podCache ∨ PEv.upsert c ∈ s.podEvs) ∧
    (∀ c, PEv.upsert c ∈ (deliverPod s).podEvs → PEv.upsert c ∈ s.podEvs) ∧
    ((podNames s.podCache).Nodup → (podNames (deliverPod s).podCache).Nodup) := by
  unfold deliverPod
  cases he : s.podEvs with
  | nil => exact ⟨fun c hc => Or.inl hc, fun c hc => by rw [he] at hc; exact hc, id⟩
  | cons e rest =>
    cases e with
    | upsert p =>
      have hfr := podNotify_frame { s with podEvs := rest, podCache := setPod s.podCache p } p
      simp only [hfr.podCache, hfr.podEvs]
      refine ⟨fun c hc => ?_, fun c hc => List.mem_cons_of_mem _ hc, nodup_setPod p⟩
      rcases mem_setPod hc with rfl | hc
      · exact Or.inr List.mem_cons_self
      · exact Or.inl hc
    | delete p =>
      simp only
      cases hfp : findPod s.podCache p.pod.name with
      | none => exact ⟨fun c hc => Or.inl hc, fun c hc => List.mem_cons_of_mem _ hc, id⟩
      | some old =>
        have hfr := podNotify_frame { s with podEvs := rest, podCache := delPod s.podCache p.pod.name } old
        simp only [hfr.podCache, hfr.podEvs]
        exact ⟨fun c hc => Or.inl (mem_delPod hc).1, fun c hc => List.mem_cons_of_mem _ hc, nodup_delPod _⟩

theorem restart_fields (s : Sys) : (restart s).job = s.job ∧ (restart s).rv = s.rv ∧ (restart s).pods = s.pods ∧
    (restart s).d = s.d ∧ (restart s).clock = s.clock ∧ seenVers (restart s) = s.job.toList ∧
    (restart s).podCache = s.pods ∧ (restart s).podEvs = [] ∧ (restart s).calls = s.calls := by
  unfold restart
  cases hj : s.job <;> simp [seenVers, upserts, hj]

theorem deliverJob_quiet (s : Sys) : Quiet s (deliverJob s) := by
  obtain ⟨h1, h2, h3, h4, h5, h6, h7, _⟩ := deliverJob_fields s
  refine ⟨h1, h2, h3, h4, Int.le_of_eq h7.symm, .inl ?_, fun q hq => ?_, fun _ hc => h6 ▸ hc⟩
  · unfold versList
    rw [h1]
    exact (seenVers_deliverJob_sublist s).append (List.Sublist.refl _)
  · unfold Anywhere at hq ⊢
    rwa [h3, h5, h6] at hq

theorem deliverPod_quiet (s : Sys) : Quiet s (deliverPod s) := by
  obtain ⟨h1, h2, h3, h4, h5, h6, h7, _⟩ := deliverPod_fields s
  obtain ⟨p1, p2, p3⟩ := deliverPod_pods_side s
  refine ⟨h1, h2, h3, h4, Int.le_of_eq h7.symm, .inl ?_, fun q hq => ?_, fun _ => p3⟩
  · unfold versList
    rw [h1, seenVers_congr h6 h5]
    exact List.Sublist.refl _
  · unfold Anywhere at hq ⊢
    rw [h3] at hq
    rcases hq with hq | hq | hq
    · exact .inl hq
    · exact .inr (p1 q hq)
    · exact .inr (.inr (p2 q hq))

theorem restart_quiet (s : Sys) : Quiet s (restart s) := by
  obtain ⟨h1, h2, h3, h4, h5, h6, h7, h8, _⟩ := restart_fields s
  refine ⟨h1, h2, h3, h4, Int.le_of_eq h5.symm, .inr (by unfold versList; rw [h1, h6]), fun q hq => ?_,
    fun hn _ => h7 ▸ hn⟩
  unfold Anywhere at hq
  rw [h3, h7, h8] at hq
  rcases hq with hq | hq | hq
  · exact .inl hq
  · exact .inl hq
  · cases hq

/-- Every action is a controller pass, or quiet (an informer delivery, a restart, a clock tick), or a `Change`:
the kubelet replaces a pod, a pod vanishes, the user writes or removes the Job, a foreign pod appears. -/
theorem step_kind (s : Sys) (a : Action) :
    a = .work ∨ Quiet s (step s a) ∨
    Change (fun p => a = .createForeign p) (fun _ p => a = .kubelet p) (UserWrite s a)
      (fun cur => a = .userDelete ∧ cur.finalizer = false) s (step s a) := by
  have same : ∀ {A R W G} {t : Sys}, t = s → Change A R W G s t := fun h => .frame (h ▸ Frame.refl s)
  cases a with
  | work => exact .inl rfl
  | deliverJob => exact .inr (.inl (deliverJob_quiet s))
  | deliverPod => exact .inr (.inl (deliverPod_quiet s))
  | restart => exact .inr (.inl (restart_quiet s))
  | advance d =>
    exact .inr (.inl ⟨rfl, rfl, rfl, rfl, by show s.clock ≤ s.clock + (d : Int); omega, .inl (List.Sublist.refl _),
      fun _ h => h, fun _ h => h⟩)
  | setFaults fs => exact .inr (.inr (.frame ⟨⟨rfl, rfl, rfl, rfl, rfl⟩, rfl, rfl, rfl, rfl, rfl⟩))
  | resync => exact .inr (.inr (.frame (resync_frame s)))
  | kubelet p =>
    rcases setPodState_spec s p with h | ⟨old, h⟩
    · exact .inr (.inr (same h))
    · exact .inr (.inr (.podSet old p rfl h))
  | podGone n =>
    rcases removePod_spec s n with h | ⟨p, _, h⟩
    · exact .inr (.inr (same h))
    · exact .inr (.inr (.podDel p h))
  | externalDelete n =>
    rcases removePod_spec s n with h | ⟨p, _, h⟩
    · exact .inr (.inr (same h))
    · exact .inr (.inr (.podDel p h))
  | kill t =>
    rcases mutateJobObj_spec s (fun j => { j with job := { j.job with killTimestamp := some t } }) with h | ⟨c, hc, h⟩
    · exact .inr (.inr (same h.2))
    · exact .inr (.inr (.jobWrite c _ (.kill t rfl) hc h))
  | userDelete =>
    rcases userDeleteJob_spec s with h | ⟨c, hc, hf, hd, h⟩ | ⟨c, hc, hf, h⟩
    · exact .inr (.inr (same h))
    · exact .inr (.inr (.jobWrite c _ (.delMark rfl hf hd) hc h))
    · exact .inr (.inr (.jobGone c ⟨rfl, hf⟩ hc h))
  | createForeign p =>
    rcases createForeignPod_spec s p with h | h
    · exact .inr (.inr (same h))
    · exact .inr (.inr (.podAdd p rfl h))

/-- `step_kind` for an ALLOWED action (the form the invariants use): the guard adds that a pod is replaced
under the kubelet contract (`PodKeeps`) and that a foreign pod is not controlled by the Job -/
theorem step_change {a : Action} (hal : Allowed j0 s a) :
    a = .work ∨ Quiet s (step s a) ∨
    Change (fun p => a = .createForeign p ∧ p.ownerUid ≠ some j0.uid) PodKeeps (UserWrite s a)
      (fun cur => a = .userDelete ∧ cur.finalizer = false) s (step s a) := by
  refine (step_kind s a).imp_right (Or.imp_right fun h => h.mono ?_ ?_ (fun _ _ w => w) (fun _ g => g))
  · rintro p rfl; exact ⟨rfl, hal⟩
  · rintro old p rfl hf
    obtain ⟨o, ho, hk⟩ := (optSat_iff _ _).mp hal
    cases ho.symm.trans hf
    exact hk.keeps

theorem work_static (s : Sys) : Static s (work s).1 := by
  cases hc : s.jobCache with
  | none => exact (work_frame s hc).toStatic
  | some jo =>
    obtain ⟨sp, hf, hm⟩ := work_micros s jo hc
    exact hf.toStatic.trans hm.static

end Furiko.JobCtl
