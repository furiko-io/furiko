/-
Liveness of the job controller, delete: convergence.  One round `roundK` (cooperative kubelet) from a `DState`
whose key is ready (`roundK_delete`): while pods are left they all get the deletion timestamp and the Job
stays; when none is left the Job object is removed.  At most two rounds reach `Gone` (`delete_core`), which
further rounds keep (`gone_forever`).  `delete_stage`: the user deleting a Job that carries the finalizer in a
state of the fair rounds of a single-task Job (`canon_after_rounds`) leads to a `DState`.  Core Lean only.
-/
import FurikoModel.Proofs.JobCtlLiveDeletePass
import FurikoModel.Proofs.JobCtlLiveReapRound

set_option linter.unusedSimpArgs false
set_option linter.unusedVariables false

namespace Furiko.JobCtl.Live
open Furiko Furiko.JobCtl Furiko.WQ Furiko.StatusLemmas Furiko.JobCtlPlan

variable {ok : Sys → Action → Prop} {j0 jo : JobObj} {F0 : Int} {s : Sys}

open Furiko.Conv

theorem roundK_delete (h : DState jo s) (hq : s.q.queue ≠ []) :
    (s.pods.filter stays ≠ [] → ∃ jo', DState jo' (roundK s) ∧ jo'.name = jo.name ∧
      (∀ p ∈ (roundK s).pods, p.pod.deletionTimestamp.isSome = true) ∧ (roundK s).q.queue ≠ [] ∧
      (∀ p' ∈ (roundK s).pods, ∃ p ∈ s.pods, p.pod.name = p'.pod.name)) ∧
    (s.pods.filter stays = [] → Gone (roundK s)) := by
  obtain ⟨hf1, hpods1, hqmono, hwf1, _, _⟩ := envK_fresh h.fresh h.pods.nodup h.wf
  obtain ⟨hsub, hq1⟩ := envK_rest hpods1 hqmono hq
  have h1 : DState jo (envK s) := ⟨hf1, h.del, h.fz,
    h.pods.of_sub (fun p hp => (hsub p hp).1) (by rw [hpods1]; exact podNames_filter_nodup _ h.pods.nodup), hwf1⟩
  obtain ⟨k, rest, hqk⟩ := advance_ready hwf1 hq1 (envK s).clock
  obtain ⟨N, hd⟩ := work_delete h1 (fun p hp => (hsub p hp).2) k rest hqk
  have hround : roundK s = deliverAll (work (envK s)).1 := rfl
  rw [hround]
  constructor
  · intro hne
    obtain ⟨jo', hj, hname, huid, hfz', hdel'⟩ := hd.kept (by rw [hpods1]; exact hne)
    obtain ⟨hfr, d5, d6⟩ := fresh_deliverAll hj hd.jsync hd.psync hd.faults
    have hpodsR : (deliverAll (work (envK s)).1).pods = (envK s).pods.map (markDts (nowT (envK s)) N) := by
      rw [d5.pods, hd.pods]
    have hmark : ∀ p ∈ (envK s).pods, (markDts (nowT (envK s)) N p).pod.deletionTimestamp.isSome = true := by
      intro p hp
      have hn : p.pod.name ∈ N := (hd.names p.pod.name).mpr ⟨p, hp, rfl⟩
      unfold markDts
      simp [hn, (hsub p hp).2]
    refine ⟨jo', ⟨hfr, by rw [hdel']; exact h.del, hfz', (h1.pods.of_image hname huid
        (by rw [hd.pods]; exact markDts_image _ _ _) (by rw [hd.pods, podNames_markDts]; exact h1.pods.nodup)).of_pods_eq d5.pods,
      d6.wf hd.wf⟩, hname, ?_, ?_, ?_⟩
    · intro p hp
      rw [hpodsR] at hp
      obtain ⟨p0, hp0, rfl⟩ := List.mem_map.mp hp
      exact hmark p0 hp0
    · obtain ⟨p, hp1⟩ : ∃ p, p ∈ (envK s).pods := by
        cases hl : (envK s).pods with
        | nil => rw [hpods1] at hl; exact absurd hl hne
        | cons p r => exact ⟨p, List.mem_cons_self⟩
      refine marked_ready h1.pods hj hname huid hd.jsync hd.psync hd.wf hd.podCache hd.pods hd.evs hp1 (fun e => ?_)
      have := hmark p hp1
      rw [e, (hsub p hp1).2] at this; cases this
    · intro p' hp'
      rw [hpodsR] at hp'
      obtain ⟨p0, hp0, rfl⟩ := List.mem_map.mp hp'
      exact ⟨p0, (hsub p0 hp0).1, (markDts_name _ _ _).symm⟩
  · intro hnil
    have hnil1 : (envK s).pods = [] := by rw [hpods1]; exact hnil
    have hj := hd.dropped hnil1
    have hpodsw : (work (envK s)).1.pods = [] := by rw [hd.pods, hnil1]; rfl
    obtain ⟨d1, d2, d3, d4, d5, d6⟩ := deliverAll_spec (work (envK s)).1 hd.psync hd.jsync
    exact ⟨by rw [d5.job, hj], by rw [d3, hj], by rw [d5.pods, hpodsw], by rw [d4, hpodsw], d1, d2,
      by rw [d5.faults]; exact hd.faults⟩

/-- **a delete converges within two rounds** -/
theorem delete_core (h : DState jo s) (hq : s.q.queue ≠ []) :
    ∃ k, 1 ≤ k ∧ k ≤ 2 ∧ Gone (roundKN k s) := by
  obtain ⟨hA, hB⟩ := roundK_delete h hq
  by_cases hne : s.pods.filter stays = []
  · exact ⟨1, Nat.le_refl _, by omega, hB hne⟩
  · obtain ⟨jo1, h1, _, hall, hq1, _⟩ := hA hne
    obtain ⟨_, hB1⟩ := roundK_delete h1 hq1
    refine ⟨2, by omega, Nat.le_refl _, hB1 ?_⟩
    apply List.filter_eq_nil_iff.mpr
    intro p hp
    have := hall p hp
    unfold stays
    cases hd : p.pod.deletionTimestamp with
    | none => rw [hd] at this; cases this
    | some _ => simp

/-- nothing left: a pass, if one runs, finds the Job gone from the cache and does nothing -/
theorem work_gone {s : Sys} (h : Gone s) : Gone (work s).1 := by
  cases hg : (s.q.advance s.clock).get with
  | none =>
    rw [work_none s hg]
    exact ⟨h.job, h.jobCache, h.pods, h.podCache, h.jobEvs, h.podEvs, h.faults⟩
  | some kq =>
    obtain ⟨k, q1⟩ := kq
    have hone : syncOne (passStart s q1) = (passStart s q1, true) := by
      unfold syncOne
      have : (passStart s q1).jobCache = none := h.jobCache
      simp only [this]
    rw [work_some s k q1 hg, hone]
    exact ⟨h.job, h.jobCache, h.pods, h.podCache, h.jobEvs, h.podEvs, h.faults⟩

theorem gone_stable {s : Sys} (h : Gone s) : Gone (roundK s) := by
  have hidle : deliverAll s = s := deliverAll_idle s h.jobEvs h.podEvs
  have hreap : reap s = s := by unfold reap; rw [h.pods]; rfl
  have h1 : roundK s = deliverAll (work s).1 := by
    unfold roundK
    rw [hidle, hreap, hidle]
    rfl
  have hw := work_gone h
  rw [h1, deliverAll_idle _ hw.jobEvs hw.podEvs]
  exact hw

theorem gone_forever {s : Sys} (h : Gone s) : ∀ n, Gone (roundKN n s)
  | 0 => h
  | n + 1 => gone_forever (gone_stable h) n

/-- the state once the user's delete has reached the controller's cache -/
def deleteAt (s : Sys) : Sys := deliverAll (step s .userDelete)

/-- the Job with the deletion timestamp, as the server stores it -/
def deletedObj (jo : JobObj) (t : Time) (rv : Nat) : JobObj :=
  { jo with job := { jo.job with deletionTimestamp := some t }, rv := rv }

theorem deleteAt_steps (hj : ∀ s, ok s .deliverJob) (hp : ∀ s, ok s .deliverPod)
    (hk : ∀ s, ok s .userDelete) (s0 s : Sys) (h : Steps ok j0 s0 s) : Steps ok j0 s0 (deleteAt s) :=
  deliverAll_steps hj hp s0 _ (.step _ h (hk _) trivial)

/-- **the user's delete of a Job that carries the finalizer, in a state of the fair rounds**, gives a `DState`
with the key ready -/
theorem delete_stage (h : Canon ok j0 jo F0 s)
    (hfz : jo.finalizer = true) :
    DState (deletedObj jo (nowT s) (s.rv + 1)) (deleteAt s) ∧ (deleteAt s).q.queue ≠ [] ∧ (deleteAt s).pods = s.pods := by
  have hstep : step s .userDelete =
      mutateJobObj s (fun j => { j with job := { j.job with deletionTimestamp := some (nowT s) } }) := by
    show userDeleteJob s = _
    unfold userDeleteJob
    rw [h.fresh.job]
    simp only [hfz, ↓reduceIte, h.spec.del, Option.isSome_none, Bool.false_eq_true]
  obtain ⟨hfr, hq, hwf, hpods, _, _⟩ := mutate_stage (nj := deletedObj jo (nowT s) (s.rv + 1)) (w := deleteAt s) h.fresh h.wf
    _ rfl (by unfold deleteAt; rw [hstep])
  exact ⟨⟨hfr, rfl, hfz, ⟨fun p hp => h.pods.owned p (hpods ▸ hp), fun p hp => h.pods.sane p (hpods ▸ hp),
    hpods ▸ h.pods.nodup⟩, hwf⟩, hq, hpods⟩

/-- the actions of the runs of `Props/C13Live.lean`: those of the fair rounds under faults, the user's delete, and the
kubelet finishing the termination of a pod that carries a deletion timestamp -/
def deleteRunEnv (_ : Sys) (a : Action) : Prop :=
  match a with
  | .work | .deliverJob | .deliverPod | .advance _ | .kubelet _ | .setFaults _ | .userDelete | .podGone _ => True
  | _ => False

instance (s : Sys) (a : Action) : Decidable (deleteRunEnv s a) := by cases a <;> unfold deleteRunEnv <;> infer_instance

theorem fair_in_deleteRunEnv : ∀ s a, fairEnv s a → deleteRunEnv s a := fun _ a h => by cases a <;> first | exact h | trivial
theorem killEnv_in_deleteRunEnv : ∀ s a, killEnv s a → deleteRunEnv s a := fun _ a h => by cases a <;> first | exact h | trivial

end Furiko.JobCtl.Live
