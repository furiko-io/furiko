/-
The "good refs" invariant over every reachable state (`Inv2`; ALL actions, foreign pods included —
since the repair of F22 no lookup reads a pod that is not controlled by the Job): every pod object
anywhere (server, pod cache, undelivered upserts) that is controlled by the Job is well-named; every
Job version anywhere has pairwise distinct, well-named refs and `createdTasks = |tasks|`.
Hypothesis `WF2`: the Job's index hashes are pairwise distinct and contain no `-`.  Core Lean only.
-/
import FurikoModel.Proofs.JobCtlInvRefsWalk

set_option linter.unusedSimpArgs false
set_option linter.unusedVariables false

namespace Furiko.JobCtl
open Furiko Furiko.WQ

variable {j0 : JobObj} {s s' : Sys} {ok : Sys → Action → Prop}

structure Inv2 (j0 : JobObj) (s : Sys) : Prop where
  job : ∀ j, s.job = some j → Good j0 s.d j.job
  seen : ∀ v ∈ seenVers s, Good j0 s.d v.job
  pods : PodsGood j0 s
  evs : ∀ p, PEv.upsert p ∈ s.podEvs → PodOK2 j0 s.d p

theorem Good.of_status_eq {d : PIndex} {a b : Job} (h : Good j0 d a) (e : b.status = a.status) :
    Good j0 d b := (GK.of_status h e).1

theorem Inv2.frame (h : Inv2 j0 s) (hf : Frame s s') : Inv2 j0 s' := by
  refine ⟨?_, ?_, ⟨?_, ?_, ?_⟩, ?_⟩
  · rw [hf.job, hf.d]; exact h.job
  · rw [seenVers_congr hf.jobCache hf.jobEvs, hf.d]; exact h.seen
  · rw [hf.pods, hf.d]; exact h.pods.pods
  · rw [hf.podCache, hf.d]; exact h.pods.cache
  · rw [hf.podCache]; exact h.pods.cacheNodup
  · rw [hf.podEvs, hf.d]; exact h.evs

theorem Inv2.jobWrite {nj : JobObj} (h : Inv2 j0 s) (hw : JobWrite s s' nj)
    (hg : Good j0 s.d nj.job) : Inv2 j0 s' := by
  have hseen := hw.seenVers
  have hd := hw.static.d
  refine ⟨?_, ?_, ⟨?_, ?_, ?_⟩, ?_⟩
  · intro j hj; rw [hw.job] at hj; cases hj; rw [hd]; exact hg
  · intro v hv; rw [hseen] at hv; rw [hd]
    rcases List.mem_append.mp hv with hv | hv
    · exact h.seen v hv
    · simp only [List.mem_singleton] at hv; subst hv; exact hg
  · rw [hw.pods, hd]; exact h.pods.pods
  · rw [hw.static.podCache, hd]; exact h.pods.cache
  · rw [hw.static.podCache]; exact h.pods.cacheNodup
  · rw [hw.podEvs, hd]; exact h.evs

theorem Inv2.jobGone (h : Inv2 j0 s) (hg : JobGone s s') : Inv2 j0 s' := by
  have hseen := hg.seenVers
  have hd := hg.static.d
  refine ⟨?_, ?_, ⟨?_, ?_, ?_⟩, ?_⟩
  · intro j hj; rw [hg.job] at hj; cases hj
  · intro v hv; rw [hseen] at hv; rw [hd]; exact h.seen v hv
  · rw [hg.pods, hd]; exact h.pods.pods
  · rw [hg.static.podCache, hd]; exact h.pods.cache
  · rw [hg.static.podCache]; exact h.pods.cacheNodup
  · rw [hg.podEvs, hd]; exact h.evs

/-- a change of the server's pods that leaves the Job side and the pod cache alone -/
theorem Inv2.podChange (h : Inv2 j0 s) (hst : Static s s') (hjob : s'.job = s.job)
    (hjevs : s'.jobEvs = s.jobEvs) (hpods : ∀ p ∈ s'.pods, PodOK2 j0 s.d p)
    (hevs : ∀ p, PEv.upsert p ∈ s'.podEvs → PodOK2 j0 s.d p) : Inv2 j0 s' := by
  have hseen := seenVers_congr hst.jobCache hjevs
  have hd := hst.d
  refine ⟨?_, ?_, ⟨?_, ?_, ?_⟩, ?_⟩
  · intro j hj; rw [hjob] at hj; rw [hd]; exact h.job j hj
  · intro v hv; rw [hseen] at hv; rw [hd]; exact h.seen v hv
  · rw [hd]; exact hpods
  · rw [hst.podCache, hd]; exact h.pods.cache
  · rw [hst.podCache]; exact h.pods.cacheNodup
  · rw [hd]; exact hevs

theorem PodOK2.keeps {d : PIndex} {old p : PodObj} (h : PodOK2 j0 d old) (hk : PodKeeps old p) :
    PodOK2 j0 d p := by
  intro ho
  have h' := h (hk.ownerUid ▸ ho)
  exact ⟨h'.1.transfer hk.name hk.parallelIndex hk.retryIndex, by rw [hk.creationTimestamp]; exact h'.2⟩

theorem PodOK2.kubelet {j0 : JobObj} {d : PIndex} {old p : PodObj} (h : PodOK2 j0 d old) (hk : KubeletOK old p) :
    PodOK2 j0 d p :=
  h.keeps hk.keeps

theorem Inv2.change {A W G} (h : Inv2 j0 s) (hc : Change A PodKeeps W G s s')
    (hA : ∀ p, A p → PodOK2 j0 s.d p)
    (hW : ∀ cur nj, W cur nj → Good j0 s.d cur.job → Good j0 s.d nj.job) : Inv2 j0 s' := by
  have pod : ∀ q, Anywhere s' q → PodOK2 j0 s.d q := by
    intro q hq
    rcases hc.anywhere q hq with (h' | h' | h') | ⟨o, ho, k⟩ | a
    · exact h.pods.pods q h'
    · exact h.pods.cache q h'
    · exact h.evs q h'
    · exact (h.pods.pods o ho).keeps k
    · exact hA q a
  have pods := fun hst hj he =>
    h.podChange (s' := s') hst hj he (fun p hp => pod p (.inl hp)) (fun p hp => pod p (.inr (.inr hp)))
  cases hc with
  | frame hf => exact h.frame hf
  | podAdd _ _ hs => exact pods hs.static hs.job hs.jobEvs
  | podSet _ _ _ hs => exact pods hs.static hs.job hs.jobEvs
  | podDel _ hs => exact pods hs.static hs.job hs.jobEvs
  | jobWrite cur nj w hcur hs => exact h.jobWrite hs (hW cur nj w (h.job cur hcur))
  | jobGone _ _ _ hs => exact h.jobGone hs

theorem Inv2.micro {j0 jo : JobObj} {sp s s' : Sys} (hb : Base j0 s) (h : Inv2 j0 s) (hc : s.jobCache = some jo)
    (hwf : WF2 j0 sp.d) (hpsp : PodsGood j0 sp) (hgsp : Good j0 sp.d jo.job) (hd : sp.d = s.d)
    (hm : Micro jo sp s s') : Inv2 j0 s' := by
  have hjo := (hb.seenOK jo (mem_seenVers_cache hc)).1
  refine h.change hm.change ?_ ?_
  · rintro _ ⟨idx, retry, hreq, _, rfl⟩
    exact newPod_good hjo hreq _
  · intro cur nj w hg
    rcases w.status_eq with e | e
    · exact hg.of_status_eq e
    · exact (hd ▸ (sync_good sp jo hwf hpsp hjo hgsp).1).of_status_eq e

theorem Inv2.micros {j0 jo : JobObj} {sp s s' : Sys} (hb : Base j0 s) (h : Inv2 j0 s) (hc : s.jobCache = some jo)
    (hwf : WF2 j0 sp.d) (hpsp : PodsGood j0 sp) (hgsp : Good j0 sp.d jo.job) (hd : sp.d = s.d)
    (hm : Micros jo sp s s') : Inv2 j0 s' := by
  induction hm with
  | refl => exact h
  | tail hms hm ih =>
    have hbm := hb.micros hc hms
    exact Inv2.micro hbm.1 ih hbm.2 hwf hpsp hgsp (hd.trans hms.static.d.symm) hm

theorem step_d (s : Sys) (a : Action) : (step s a).d = s.d := by
  rcases step_kind s a with rfl | hq | hch
  · exact (work_static s).d
  · exact hq.d
  · exact hch.static.d

theorem Inv2.quiet (hb : Base j0 s) (h : Inv2 j0 s) (hq : Quiet s s') : Inv2 j0 s' := by
  have pod : ∀ q, Anywhere s' q → PodOK2 j0 s'.d q := by
    intro q hq'
    rw [hq.d]
    rcases hq.anywhere q hq' with h' | h' | h'
    · exact h.pods.pods q h'
    · exact h.pods.cache q h'
    · exact h.evs q h'
  refine ⟨?_, ?_, ⟨fun p hp => pod p (.inl hp), fun p hp => pod p (.inr (.inl hp)),
    hq.cacheNodup hb.podsNodup h.pods.cacheNodup⟩, fun p hp => pod p (.inr (.inr hp))⟩
  · intro j hj; rw [hq.job] at hj; rw [hq.d]; exact h.job j hj
  · intro v hv; rw [hq.d]
    rcases hq.seen v hv with h' | h'
    · exact h.seen v h'
    · exact h.job v h'

theorem Inv2.init (hwf : WF j0) (clock : Int) (cfg : ExecConfig) (d : PIndex) :
    Inv2 j0 (initSys clock cfg d j0) := by
  have hg : Good j0 d j0.job := by
    refine ⟨?_, ?_, ?_⟩
    · unfold refNames; rw [hwf.noTasks]; simp
    · rw [hwf.noTasks]; intro r hr; cases hr
    · rw [hwf.noTasks, hwf.noCreated]; rfl
  unfold initSys userCreateJob
  refine ⟨?_, ?_, ⟨?_, ?_, ?_⟩, ?_⟩
  · intro j hj
    simp only [Option.some.injEq] at hj; subst hj
    exact hg
  · intro v hv
    simp only [seenVers, upserts, Option.toList_none, List.nil_append, List.filterMap_cons,
      List.filterMap_nil, List.mem_singleton] at hv
    subst hv
    exact hg
  · intro p hp; cases hp
  · intro p hp; cases hp
  · simp [podNames]
  · intro p hp; simp at hp

theorem Inv2.step (hb : Base j0 s) (h : Inv2 j0 s) (hwf : WF2 j0 s.d) (a : Action)
    (hal : Allowed j0 s a) : Inv2 j0 (step s a) := by
  rcases step_change hal with rfl | hq | hch
  · show Inv2 j0 (work s).1
    cases hc : s.jobCache with
    | none => exact h.frame (work_frame s hc)
    | some jo =>
      obtain ⟨sp, hf, hm⟩ := work_micros s jo hc
      have hsp := h.frame hf
      have hcsp : sp.jobCache = some jo := hf.jobCache.trans hc
      exact Inv2.micros (hb.frame hf) hsp hcsp (hf.d ▸ hwf) hsp.pods (hsp.seen jo (mem_seenVers_cache hcsp)) rfl hm
  · exact h.quiet hb hq
  · -- a pod that is not controlled by the Job is unconstrained
    exact h.change hch (fun p hp ho => absurd ho hp.2) (fun _ _ w hg => hg.of_status_eq w.status_eq)

/-- `Inv2` holds in every reachable state (all actions allowed) -/
theorem inv2_of_reach
    (hr : Reach ok j0 s) (hwf : WF2 j0 s.d) : Inv2 j0 s := by
  induction hr with
  | init c cfg d hw => exact Inv2.init hw c cfg d
  | step a hr' hoka hal ih =>
    rw [step_d] at hwf
    exact (ih hwf).step (base_of_reach hr') hwf a hal

theorem steps_d (hs : Steps ok j0 s s') : s'.d = s.d := by
  induction hs with
  | refl => rfl
  | step a _ _ _ ih => rw [step_d]; exact ih

/-- what `sync` computes from the cached Job in a reachable state -/
theorem sync_good_of_reach
    (hr : Reach ok j0 s) (hwf : WF2 j0 s.d) (jo : JobObj) (sp : Sys) (hc : s.jobCache = some jo) (hf : Frame s sp) :
    Good j0 s.d jo.job ∧ GK j0 s.d jo.job (sync sp jo).2.1 := by
  have hi := (inv2_of_reach hr hwf).frame hf
  have hcsp : sp.jobCache = some jo := hf.jobCache.trans hc
  have hjo := ((base_of_reach hr).seenOK jo (mem_seenVers_cache hc)).1
  have hg := hi.seen jo (mem_seenVers_cache hcsp)
  have := sync_good sp jo (hf.d ▸ hwf) hi.pods hjo hg
  rw [hf.d] at this hg
  exact ⟨hg, this⟩

end Furiko.JobCtl
