/-
Preservation of `Inv` by the environment steps (everything except the two controller passes).
-/
import FurikoModel.Proofs.QueueInv

set_option linter.unusedSimpArgs false
set_option linter.unusedVariables false

namespace Furiko.Queue
open Furiko.WQ

theorem Inv.apiOK {s : Sys} (h : Inv s) : ApiOK s :=
  ⟨h.jobsNodup, fun j hj => h.verRv j (Ver.jobs hj), fun j hj => h.verWf j (Ver.jobs hj)⟩

/-- `restart` re-establishes the invariant from ANY state whose API part is sane -/
theorem Inv_restart {s : Sys} (h : ApiOK s) : Inv (restart s) := by
  obtain ⟨hnd, hrv, hwf⟩ := h
  have hver : ∀ j, Ver (restart s) j → j ∈ s.jobs :=
    ver_cases (fun _ h => h) (fun _ h => h) (by simp [restart]) (by simp [restart])
      (by simp [restart])
  refine ⟨hnd, hnd, rfl, ?_, ?_, ?_, ?_, ?_, ?_, ?_⟩
  · intro uid
    simp only [restart, pending, futureNotes, List.append_nil, sumDelta_nil, Int.add_zero]
    exact recover_counts s.jobs uid
  · intro n hn; simp [restart, pending, futureNotes] at hn
  · intro j hj; exact hwf j (hver j hj)
  · intro j hj; exact hrv j (hver j hj)
  · intro j1 j2 h1 h2 hn
    rw [eq_of_nodup_map _ hnd (hver j1 h1) (hver j2 h2) hn]
    exact ⟨sameFixed_refl _, fun _ => rfl⟩
  · intro k hk; simp [restart, WQ.keys] at hk
  · intro f hf; simp [restart] at hf

theorem mem_noteOf {cache : List JobV} {e : Ev} {n : Note} (h : noteOf cache e = some n) {x : JobV}
    (hx : x ∈ n.jobs) : x ∈ cache ∨ x = e.job := by
  cases e with
  | delete j =>
    simp only [noteOf] at h
    split at h
    · simp at h
    · rename_i old hf
      simp only [Option.some.injEq] at h; subst h
      simp only [Note.jobs, List.mem_singleton] at hx; subst hx
      exact Or.inl (findJob_some_mem hf)
  | add j | update j =>
    simp only [noteOf, Option.some.injEq] at h
    split at h
    · rename_i old hf; subst h
      simp only [Note.jobs, List.mem_cons, List.not_mem_nil, or_false] at hx
      rcases hx with rfl | rfl
      · exact Or.inl (findJob_some_mem hf)
      · exact Or.inr rfl
    · subst h; simp only [Note.jobs, List.mem_singleton] at hx; exact Or.inr hx

theorem Inv_deliverJob {s : Sys} (h : Inv s) : Inv (deliverJob s) := by
  cases hevs : s.jobEvs with
  | nil => unfold deliverJob; rw [hevs]; exact h
  | cons e rest =>
    rw [deliverJob_eq hevs]
    have hej : Ver s e.job := Ver.ev (by rw [hevs]; simp)
    have hcache : ∀ j ∈ applyEv s.jobCache e, Ver s j :=
      fun j hj => (mem_applyEv hj).elim Ver.cache (· ▸ hej)
    have hnote : ∀ n ∈ (noteOf s.jobCache e).toList, ∀ j ∈ n.jobs, Ver s j :=
      fun n hn j hj => (mem_noteOf (Option.mem_toList.mp hn) hj).elim Ver.cache (· ▸ hej)
    have hpend : pending (deliverJob s) = pending s := pending_deliver hevs
    rw [deliverJob_eq hevs] at hpend
    refine h.of_ver_sub (ver_cases (fun _ hj => Ver.jobs hj) hcache ?_ ?_ ?_) (Nat.le_refl _) h.jobsNodup
      (nodup_names_applyEv e h.cacheNodup) ?_ ?_ ?_ h.ind h.faultsOk
    · exact fun e' he' => Ver.ev (by rw [hevs]; exact List.mem_cons_of_mem _ he')
    · exact fun n hn j hj => (List.mem_append.mp hn).elim (Ver.storeQ · hj) (hnote n · j hj)
    · exact fun n hn j hj => (List.mem_append.mp hn).elim (Ver.ctrlQ · hj) (hnote n · j hj)
    · have := h.pipe; rw [hevs] at this; exact this
    · rw [hpend]; exact h.ctr
    · rw [hpend]; exact h.good

theorem Inv_notifyStore {s : Sys} (h : Inv s) : Inv (notifyStore s) := by
  unfold notifyStore
  cases hq : s.storeQ with
  | nil => exact h
  | cons n rest =>
    have hpend : pending s = n :: (rest ++ futureNotes s.jobCache s.jobEvs) := by
      simp [pending, hq]
    dsimp only
    refine h.of_ver_sub (ver_cases (fun _ hj => Ver.jobs hj) (fun _ hj => Ver.cache hj)
      (fun _ he => Ver.ev he) ?_ (fun _ hn _ hj => Ver.ctrlQ hn hj)) (Nat.le_refl _) h.jobsNodup
      h.cacheNodup h.pipe ?_ ?_ h.ind h.faultsOk
    · exact fun m hm _ hj => Ver.storeQ (by rw [hq]; exact List.mem_cons_of_mem _ hm) hj
    · intro uid
      have := h.ctr uid
      rw [hpend, sumDelta_cons] at this
      simp only [pending, store_delta]
      omega
    · exact fun m hm => h.good m (by rw [hpend]; exact List.mem_cons_of_mem _ hm)

theorem lookupOwner_some_none {jcCache : List JCV} {j : JobV}
    (h : lookupOwner jcCache j = some none) : j.ownerName = none := by
  unfold lookupOwner at h
  grind

theorem noteJob_mem_jobs (n : Note) : noteJob n ∈ n.jobs := by
  cases n <;> simp [noteJob, Note.jobs]

theorem Inv_notifyCtrl {s : Sys} (h : Inv s) : Inv (notifyCtrl s) := by
  unfold notifyCtrl
  cases hq : s.ctrlQ with
  | nil => exact h
  | cons n rest =>
    simp only
    have hvn : Ver s (noteJob n) := Ver.ctrlQ (by rw [hq]; simp) (noteJob_mem_jobs n)
    have hcq : ∀ m ∈ rest, m ∈ s.ctrlQ := fun m hm => by rw [hq]; simp [hm]
    unfold ctrlNotify
    simp only
    cases hl : lookupOwner s.jcCache (noteJob n) with
    | none =>
      exact Inv_congr h rfl h.ind (e_cq := hcq)
    | some o =>
      cases o with
      | some jc =>
        exact Inv_congr h rfl h.ind (e_cq := hcq)
      | none =>
        have hown := lookupOwner_some_none hl
        have hlab : (noteJob n).label = none := (h.verWf _ hvn).1 hown
        refine Inv_congr h rfl ?_ (e_cq := hcq)
        intro k hk j hj hname
        simp only at hk
        rcases mem_keys_add hk with hk | rfl
        · exact h.ind k hk j hj hname
        · rw [keyName_ns] at hname
          rw [(h.verFn j (noteJob n) hj hvn hname).1.1]; exact hlab

theorem updDelta_self (j : JobV) : updDelta j j = 0 := by
  unfold updDelta; cases j.isActive <;> cases j.isStarted <;> simp

theorem sumDelta_resync (l : List JobV) (uid : String) :
    sumDelta (l.map (fun j => Note.update j j)) uid = 0 := by
  induction l with
  | nil => simp
  | cons j rest ih => simp [noteDelta, updDelta_self, ih]

theorem Inv_resync {s : Sys} (h : Inv s) : Inv (resync s) := by
  have hnote : ∀ n ∈ s.jobCache.map (fun j => Note.update j j), ∀ j ∈ n.jobs, Ver s j := by
    intro n hn j hj
    obtain ⟨x, hx, rfl⟩ := List.mem_map.mp hn
    simp only [Note.jobs, List.mem_cons, List.not_mem_nil, or_false, or_self] at hj
    exact hj ▸ Ver.cache hx
  have hpend : pending (resync s) = s.storeQ ++ s.jobCache.map (fun j => Note.update j j)
      ++ futureNotes s.jobCache s.jobEvs := rfl
  refine h.of_ver_sub (ver_cases (fun _ hj => Ver.jobs hj) (fun _ hj => Ver.cache hj)
    (fun _ he => Ver.ev he) ?_ ?_) (Nat.le_refl _) h.jobsNodup h.cacheNodup h.pipe ?_ ?_ h.ind
    h.faultsOk
  · exact fun n hn j hj => (List.mem_append.mp hn).elim (Ver.storeQ · hj) (hnote n · j hj)
  · exact fun n hn j hj => (List.mem_append.mp hn).elim (Ver.ctrlQ · hj) (hnote n · j hj)
  · intro uid
    have := h.ctr uid
    rw [hpend]
    simp only [pending, sumDelta_append, sumDelta_resync] at this ⊢
    show getCtr s.counter uid + _ = (actCount s.jobs uid : Int)
    omega
  · intro n hn
    rw [hpend] at hn
    simp only [List.mem_append] at hn
    rcases hn with (hn | hn) | hn
    · exact h.good n (by simp [pending, hn])
    · obtain ⟨x, _, rfl⟩ := List.mem_map.mp hn
      exact fun hx => hx
    · exact h.good n (by simp [pending, hn])

theorem Inv_addJob {s : Sys} (h : Inv s) {j : JobV} (ha : Allowed s (.addJob j)) :
    Inv (userAddJob s j) := by
  obtain ⟨hfresh, hst, hterm, _, hown, hpol⟩ := ha
  unfold userAddJob
  split
  · exact h
  generalize hnj : ({ j with rv := s.rv + 1, created := s.clock / 1000000000 } : JobV) = nj
  have hname : nj.name = j.name := by rw [← hnj]
  rw [← hname] at hfresh
  have hnone : findJob s.jobs nj.name = none :=
    findJob_none_iff.mpr (fun x hx => hfresh.1 x (Ver.jobs hx))
  have hset : setJob s.jobs nj = s.jobs ++ [nj] := by
    have : ¬ s.jobs.any (·.name = nj.name) = true := by simpa using findJob_none_iff.mp hnone
    unfold setJob; rw [if_neg this]
  have hwf : wfJob nj := by
    rw [← hnj]
    refine ⟨fun hn => ?_, hpol⟩
    cases hl : j.label with
    | none => rfl
    | some uid =>
      obtain ⟨_, jc, _, _, hon⟩ := (hown uid).mp hl
      rw [show j.ownerName = none from hn] at hon; simp at hon
  refine Inv_apiEvent h (.add nj) hset.symm rfl rfl rfl rfl rfl (fun _ hf => hf) (Nat.le_succ _) hwf
    (by rw [← hnj]; exact Nat.le_refl _) (fun x hx hn => absurd hn (hfresh.1 x hx))
    (fun k hk hn => absurd hn.symm (hfresh.2 k hk)) (fun uid => ?_) (by simp [noteOf, hnone, goodNote])
  have : actInd nj uid = 0 := by simp [actInd, ← hnj, JobV.isActive, JobV.isStarted, hst]
  simp only [noteOf, hnone, Option.toList_some, sumDelta_cons, sumDelta_nil, noteDelta, applyEv,
    hset, actCount_append, actCount_cons, actCount_nil, this]
  omega

theorem Inv_finish {s : Sys} (h : Inv s) (n : String) : Inv (mutateJob s n finish) := by
  unfold mutateJob
  cases hf : findJob s.jobs n with
  | none => exact h
  | some cur =>
    simp only
    have hname : cur.name = n := findJob_some_name hf
    have hwfc := h.verWf cur (Ver.jobs (findJob_some_mem hf))
    refine Inv_update (cur := cur) (nj := { finish cur with rv := s.rv + 1 }) h ?_ ?_ hwfc rfl
      (fun _ => rfl) s.counter (fun uid => ?_)
    · simp only [finish, hname, hf]
    · simp [sameFixed, finish]
    · have : bonus cur { finish cur with rv := s.rv + 1 } = 0 := by
        simp [bonus, finish, JobV.isActive]
      simp [this]

/-- the user edits `startAfter` of an authoritatively unstarted Job with a start policy: a new
version with the same fixed spec; well-formed because `hasPolicy = true`; the store's counter is
not concerned (the Job stays unstarted) -/
theorem Inv_editStartAfter {s : Sys} (h : Inv s) (n : String) (t : Option Int) :
    Inv (editStartAfter s n t) := by
  unfold editStartAfter
  cases hf : findJob s.jobs n with
  | none => exact h
  | some cur =>
    simp only
    split
    · rename_i hg
      simp only [Bool.and_eq_true, Bool.not_eq_true'] at hg
      obtain ⟨hp, hst⟩ := hg
      unfold mutateJob
      rw [hf]
      simp only
      have hname : cur.name = n := findJob_some_name hf
      have hwfc := h.verWf cur (Ver.jobs (findJob_some_mem hf))
      refine Inv_update (cur := cur) (nj := { cur with startAfter := t, rv := s.rv + 1 }) h ?_ ?_
        ⟨hwfc.1, fun hx => by simp [hp] at hx⟩ rfl id s.counter (fun uid => ?_)
      · simp only [hname, hf]
      · simp [sameFixed]
      · have : bonus cur { cur with startAfter := t, rv := s.rv + 1 } = 0 := by
          simp only [bonus, JobV.isActive, JobV.isStarted] at hst ⊢
          simp [hst]
        simp [this]
    · exact h

theorem Inv_removeJob {s : Sys} (h : Inv s) (n : String) : Inv (removeJob s n) := by
  unfold removeJob
  cases hcur : findJob s.jobs n with
  | none => exact h
  | some cur =>
    have hv : Ver s cur := Ver.jobs (findJob_some_mem hcur)
    have hcurname : cur.name = n := findJob_some_name hcur
    have happ : applyEv s.jobs (.delete cur) = delJob s.jobs n := by
      simp only [applyEv, hcurname, hcur]
    have hnote : noteOf s.jobs (.delete cur) = some (.delete cur) := by
      simp only [noteOf, hcurname, hcur]
    refine Inv_apiEvent h (.delete cur) happ.symm rfl rfl rfl rfl rfl (fun _ hf => hf) (Nat.le_refl _)
      (h.verWf cur hv) (h.verRv cur hv) (fun j hj hn => h.verFn j cur hj hv hn)
      (fun k hk hn => h.ind k hk cur hv hn) (fun uid => ?_) (by simp [hnote, goodNote])
    have h2 := actCount_delJob uid h.jobsNodup hcur
    simp only [hnote, Option.toList_some, sumDelta_cons, sumDelta_nil, noteDelta, delDelta, happ]
    unfold actInd at h2
    by_cases hl : cur.label = some uid <;> by_cases ha : cur.isActive = true <;>
      simp [hl, ha] at h2 ⊢ <;> omega

theorem Inv_addJC {s : Sys} (h : Inv s) (jc : JCV) : Inv (userAddJC s jc) := by
  unfold userAddJC
  split
  · exact h
  · exact Inv_congr h rfl h.ind (Nat.le_succ _)

theorem Inv_setMaxConc {s : Sys} (h : Inv s) (n : String) (m : Int) : Inv (setMaxConc s n m) := by
  unfold setMaxConc
  split
  · exact h
  · exact Inv_congr h rfl h.ind (Nat.le_succ _)

theorem Inv_deliverJC {s : Sys} (h : Inv s) : Inv (deliverJC s) := by
  unfold deliverJC
  split
  · exact h
  · exact Inv_congr h rfl h.ind
  · exact Inv_congr h rfl h.ind

theorem Inv_tick {s : Sys} (h : Inv s) (d : Int) : Inv { s with clock := s.clock + d } :=
  Inv_congr h rfl h.ind

theorem Inv_fault {s : Sys} (h : Inv s) {f : String} (hf : okFault f) :
    Inv { s with faults := s.faults ++ [f] } := by
  refine Inv_congr h rfl h.ind (e_faults := ?_)
  intro g hg
  simp only [List.mem_append, List.mem_singleton] at hg
  rcases hg with hg | rfl
  · exact Or.inl hg
  · exact Or.inr hf

end Furiko.Queue
