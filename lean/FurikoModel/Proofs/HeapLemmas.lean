/-
Helper lemmas for Proofs/HeapSpec.lean: bookkeeping (`WF`, `Step`) facts about the heap model
(`swap`, `up`, `down` are `Step`s), and the child that `down` picks (`child`, `IsChild`).
The invariant `WF` is stated with bounds-checked `arr[i]`; `WF.get`, `WF.pos`, `WF.of_get` read and
establish it with `arr[i]!` (as the model indexes), which avoids dependent bounds proofs.
-/
import FurikoModel.Model.Heap

namespace Furiko.Heap

/-- bookkeeping invariant of `priorityQueue`: `names` is exactly the inverse of position, and
every item's `index` field is its position. -/
def WF (pq : PQ) : Prop :=
  (∀ i, (h : i < pq.queue.size) → (pq.queue[i]).index = i ∧ pq.names (pq.queue[i]).name = some i) ∧
  (∀ k i, pq.names k = some i → ∃ h : i < pq.queue.size, (pq.queue[i]).name = k)

/-! `WF` read and established with `arr[i]!`, as the model indexes -/

theorem WF.get {pq : PQ} (h : WF pq) (i : Nat) (hi : i < pq.queue.size) :
    (pq.queue[i]!).index = i ∧ pq.names (pq.queue[i]!).name = some i := by
  rw [getElem!_pos pq.queue i hi]; exact h.1 i hi

theorem WF.pos {pq : PQ} (h : WF pq) (k : String) (i : Nat) (hk : pq.names k = some i) :
    i < pq.queue.size ∧ (pq.queue[i]!).name = k := by
  obtain ⟨hi, hn⟩ := h.2 k i hk
  rw [getElem!_pos pq.queue i hi]; exact ⟨hi, hn⟩

theorem WF.of_get {pq : PQ}
    (h1 : ∀ i, i < pq.queue.size →
      (pq.queue[i]!).index = i ∧ pq.names (pq.queue[i]!).name = some i)
    (h2 : ∀ k i, pq.names k = some i → i < pq.queue.size ∧ (pq.queue[i]!).name = k) : WF pq := by
  refine ⟨fun i hi => ?_, fun k i hk => ?_⟩
  · have := h1 i hi
    rw [getElem!_pos pq.queue i hi] at this; exact this
  · obtain ⟨hi, hn⟩ := h2 k i hk
    rw [getElem!_pos pq.queue i hi] at hn; exact ⟨hi, hn⟩

def prio (pq : PQ) (m : Nat) : Int := (pq.queue[m]!).prio

theorem less_eq (pq : PQ) (i j : Nat) : pq.less i j = decide (prio pq i < prio pq j) := rfl

theorem search_eq (pq : PQ) (k : String) :
    search pq k = (pq.names k).map (fun i => prio pq i) := by
  unfold search PQ.search prio
  cases pq.names k <;> rfl

/-- The map `search` after an operation (`pushRaw`, `popRaw`, `setPrio`) whose `names` differs from
`a.names` only at `k`, now bound to position `N`, and which keeps the priority at the position of
every other name: only `k`'s binding changes, to the priority found at `N`. -/
theorem search_of_names {a b : PQ} {k : String} {N : Option Nat}
    (hn : ∀ x, b.names x = if x = k then N else a.names x)
    (hp : ∀ x m, x ≠ k → a.names x = some m → prio b m = prio a m) (x : String) :
    search b x = if x = k then N.map (prio b) else search a x := by
  rw [search_eq, search_eq, hn]
  split
  · rfl
  · next e =>
    rcases Option.eq_none_or_eq_some (a.names x) with hx | ⟨m, hx⟩
    · rw [hx]; rfl
    · rw [hx, Option.map_some, Option.map_some, hp x m e hx]

@[simp] theorem swap_size (pq : PQ) (i j : Nat) : (pq.swap i j).queue.size = pq.queue.size := by
  simp [PQ.swap]

theorem swap_get (pq : PQ) (i j m : Nat) (hi : i < pq.queue.size) (hj : j < pq.queue.size) :
    (pq.swap i j).queue[m]! =
      if m = j then { pq.queue[i]! with index := j }
      else if m = i then { pq.queue[j]! with index := i }
      else pq.queue[m]! := by
  simp only [PQ.swap]
  by_cases h1 : m = j
  · subst h1
    by_cases h2 : i = m
    · subst h2; simp [hi]
    · simp [hi, hj, h2]
  · by_cases h2 : m = i
    · subst h2
      have : j ≠ m := fun h => h1 h.symm
      simp [hi, hj, h1, this]
    · have h3 : j ≠ m := fun h => h1 h.symm
      have h4 : i ≠ m := fun h => h2 h.symm
      simp [h1, h2, h3, h4, Array.getElem!_eq_getD, Array.getD_eq_getD_getElem?,
        Array.getElem?_setIfInBounds]

theorem swap_prio (pq : PQ) (i j m : Nat) (hi : i < pq.queue.size) (hj : j < pq.queue.size) :
    prio (pq.swap i j) m = if m = j then prio pq i else if m = i then prio pq j else prio pq m := by
  unfold prio
  rw [swap_get pq i j m hi hj]
  split
  · rfl
  · split <;> rfl

theorem swap_names (pq : PQ) (i j : Nat) (k : String) (hi : i < pq.queue.size)
    (hj : j < pq.queue.size) :
    (pq.swap i j).names k =
      if k = (pq.queue[i]!).name then some ((pq.names (pq.queue[j]!).name).getD 0)
      else if k = (pq.queue[j]!).name then some ((pq.names (pq.queue[i]!).name).getD 0)
      else pq.names k := by
  simp only [PQ.swap, setName]
  by_cases h : i = j
  · subst h; simp [hi]
  · have h' : j ≠ i := fun e => h e.symm
    simp [hi, hj, h']

/-- `b` is a well-formed rearrangement of `a` that leaves positions `≥ n` untouched. -/
structure Step (n : Nat) (a b : PQ) : Prop where
  wf : WF b
  size : b.queue.size = a.queue.size
  search : ∀ k, search b k = search a k
  tail : ∀ m, n ≤ m → b.queue[m]! = a.queue[m]!

theorem Step.refl {n : Nat} {a : PQ} (h : WF a) : Step n a a :=
  ⟨h, rfl, fun _ => rfl, fun _ _ => rfl⟩

theorem Step.trans {n : Nat} {a b c : PQ} (h1 : Step n a b) (h2 : Step n b c) : Step n a c :=
  ⟨h2.wf, h2.size.trans h1.size, fun k => (h2.search k).trans (h1.search k),
    fun m hm => (h2.tail m hm).trans (h1.tail m hm)⟩

theorem WF.inj {a : PQ} (h : WF a) {i j : Nat} (hi : i < a.queue.size) (hj : j < a.queue.size)
    (e : (a.queue[i]!).name = (a.queue[j]!).name) : i = j := by
  have h1 := (h.get i hi).2
  have h2 := (h.get j hj).2
  rw [e, h2] at h1
  exact (Option.some.inj h1).symm

theorem WF.of_perm {a b : PQ} (h : WF a) (σ : Nat → Nat) (hsz : b.queue.size = a.queue.size)
    (hσ : ∀ m, m < a.queue.size → σ m < a.queue.size ∧ σ (σ m) = m)
    (hq : ∀ m, m < a.queue.size →
      (b.queue[m]!).index = m ∧ (b.queue[m]!).name = (a.queue[σ m]!).name)
    (hn : ∀ k, b.names k = (a.names k).map σ) : WF b := by
  apply WF.of_get
  · intro m hm
    rw [hsz] at hm
    obtain ⟨hs, hss⟩ := hσ m hm
    rw [(hq m hm).2, hn, (h.get _ hs).2, Option.map_some, hss]
    exact ⟨(hq m hm).1, rfl⟩
  · intro k m hk
    rw [hn] at hk
    rcases Option.eq_none_or_eq_some (a.names k) with e | ⟨i, e⟩
    · rw [e] at hk; cases hk
    · rw [e] at hk
      obtain ⟨hi, hname⟩ := h.pos k i e
      cases hk
      obtain ⟨hs, hss⟩ := hσ i hi
      rw [hsz, (hq _ hs).2, hss]
      exact ⟨hs, hname⟩

theorem search_of_perm {a b : PQ} (h : WF a) (σ : Nat → Nat)
    (hσ : ∀ m, m < a.queue.size → σ m < a.queue.size ∧ σ (σ m) = m)
    (hp : ∀ m, m < a.queue.size → prio b m = prio a (σ m))
    (hn : ∀ k, b.names k = (a.names k).map σ) (k : String) : search b k = search a k := by
  rw [search_eq, search_eq, hn]
  rcases Option.eq_none_or_eq_some (a.names k) with e | ⟨i, e⟩
  · rw [e]; rfl
  · obtain ⟨hs, hss⟩ := hσ i (h.pos k i e).1
    rw [e, Option.map_some, Option.map_some, Option.map_some, hp _ hs, hss]

theorem swap_step {n : Nat} {a : PQ} (h : WF a) (i j : Nat) (hi : i < n) (hj : j < n)
    (hn : n ≤ a.queue.size) : Step n a (a.swap i j) := by
  have hi' : i < a.queue.size := Nat.lt_of_lt_of_le hi hn
  have hj' : j < a.queue.size := Nat.lt_of_lt_of_le hj hn
  -- `swap` is the rearrangement along the transposition of `i` and `j`
  let σ : Nat → Nat := fun m => if m = j then i else if m = i then j else m
  have hσ : ∀ m, m < a.queue.size → σ m < a.queue.size ∧ σ (σ m) = m := fun m hm => by
    simp only [σ]; grind
  have hnames : ∀ k, (a.swap i j).names k = (a.names k).map σ := fun k => by
    rw [swap_names a i j k hi' hj', (h.get i hi').2, (h.get j hj').2]
    by_cases e1 : k = (a.queue[i]!).name
    · rw [if_pos e1, e1, (h.get i hi').2]
      simp only [σ, Option.getD_some, Option.map_some]
      split <;> simp_all
    · rw [if_neg e1]
      by_cases e2 : k = (a.queue[j]!).name
      · rw [if_pos e2, e2, (h.get j hj').2]
        simp [σ]
      · rw [if_neg e2]
        rcases Option.eq_none_or_eq_some (a.names k) with e | ⟨m, e⟩
        · rw [e]; rfl
        · obtain ⟨hm, hk⟩ := h.pos k m e
          have n1 : m ≠ j := by rintro rfl; exact e2 hk.symm
          have n2 : m ≠ i := by rintro rfl; exact e1 hk.symm
          rw [e, Option.map_some]
          simp only [σ, if_neg n1, if_neg n2]
  refine ⟨h.of_perm σ (swap_size a i j) hσ (fun m hm => ?_) hnames, swap_size a i j,
    search_of_perm h σ hσ (fun m _ => ?_) hnames, fun m hm => ?_⟩
  · rw [swap_get a i j m hi' hj']
    by_cases e1 : m = j
    · subst e1; simp [σ]
    · by_cases e2 : m = i
      · subst e2; simp [σ, e1]
      · simpa [σ, e1, e2] using (h.get m hm).1
  · rw [swap_prio a i j m hi' hj']
    simp only [σ]
    split
    · rfl
    · split <;> rfl
  · rw [swap_get a i j m hi' hj', if_neg (by omega), if_neg (by omega)]

theorem up_step {n : Nat} (fuel : Nat) : ∀ {a : PQ} (j : Nat), WF a → j < n → n ≤ a.queue.size →
    Step n a (up a j fuel) := by
  induction fuel with
  | zero => intro a j h _ _; exact Step.refl h
  | succ fuel ih =>
    intro a j h hj hn
    unfold up
    simp only
    split
    · exact Step.refl h
    · have hi : (j - 1) / 2 < n := by omega
      have s1 := swap_step h ((j - 1) / 2) j hi hj hn
      exact s1.trans (ih ((j - 1) / 2) s1.wf hi (by rw [s1.size]; exact hn))

/-- the child chosen by one iteration of `down` -/
def child (pq : PQ) (i n : Nat) : Nat :=
  if 2 * i + 1 + 1 < n && pq.less (2 * i + 1 + 1) (2 * i + 1) then 2 * i + 1 + 1 else 2 * i + 1

theorem downLoop_succ (pq : PQ) (i n fuel : Nat) :
    downLoop pq i n (fuel + 1) =
      if 2 * i + 1 ≥ n then (pq, i)
      else if !pq.less (child pq i n) i then (pq, i)
      else downLoop (pq.swap i (child pq i n)) (child pq i n) n fuel := rfl

/-- `c` is a child of `p` in the array layout of the tree (`p = (c - 1) / 2` and `0 < c`) -/
def IsChild (p c : Nat) : Prop := c = 2 * p + 1 ∨ c = 2 * p + 2

theorem IsChild.lt {p c : Nat} (h : IsChild p c) : p < c := by unfold IsChild at h; omega

theorem IsChild.unique {p q c : Nat} (h : IsChild p c) (h' : IsChild q c) : p = q := by
  unfold IsChild at h h'; omega

/-- the parent of a non-root position, as container/heap computes it -/
theorem isChild_parent {c : Nat} (h : 0 < c) : IsChild ((c - 1) / 2) c := by
  unfold IsChild; omega

theorem child_spec (pq : PQ) (i n : Nat) (h : 2 * i + 1 < n) :
    IsChild i (child pq i n) ∧ child pq i n < n ∧
    ∀ c, c < n → IsChild i c → prio pq (child pq i n) ≤ prio pq c := by
  unfold child
  rw [show 2 * i + 1 + 1 = 2 * i + 2 from rfl]
  split
  · next c =>
    simp only [Bool.and_eq_true, decide_eq_true_eq, less_eq] at c
    refine ⟨Or.inr rfl, c.1, fun m _ hm => ?_⟩
    rcases hm with rfl | rfl <;> omega
  · next c =>
    simp only [Bool.and_eq_true, decide_eq_true_eq, less_eq, not_and, Int.not_lt] at c
    refine ⟨Or.inl rfl, h, fun m hmn hm => ?_⟩
    rcases hm with rfl | rfl
    · omega
    · exact c hmn

theorem downLoop_step {n : Nat} (fuel : Nat) : ∀ {a : PQ} (i : Nat), WF a → n ≤ a.queue.size →
    Step n a (downLoop a i n fuel).1 := by
  induction fuel with
  | zero => intro a i h _; exact Step.refl h
  | succ fuel ih =>
    intro a i h hn
    rw [downLoop_succ]
    split
    · exact Step.refl h
    · next hj1 =>
      obtain ⟨hc, hcn, -⟩ := child_spec a i n (by omega)
      generalize child a i n = j at *
      split
      · exact Step.refl h
      · have s1 := swap_step h i j (by have := hc.lt; omega) hcn hn
        exact s1.trans (ih _ s1.wf (by rw [s1.size]; exact hn))

theorem down_step {n : Nat} {a : PQ} (i : Nat) (h : WF a) (hn : n ≤ a.queue.size) :
    Step n a (down a i n).1 := downLoop_step n i h hn

end Furiko.Heap
