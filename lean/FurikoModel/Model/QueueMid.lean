/-
Interleaved variant of the per-JobConfig pass of Model/Queue.lean: the environment may act in
the middle of a pass, at the boundary of the k-th API write the pass issues (before the write
is applied): all pending Job watch events are delivered to the cache and the STORE handler runs
all its notifications (the queue controller's own handler stays lagging).  This is how a store
decrement lands between two Job evaluations of one pass (E-AtomicPass violated).

`k = 0` means "no interleaving"; `passLoopMid_zero` proves that the functions here then coincide
with the atomic ones of Model/Queue.lean, which the theorems are about.
-/
import FurikoModel.Model.Queue

namespace Furiko.Queue
open Furiko.WQ

/-- deliver all pending Job events, then run all pending store notifications -/
def midAction (s : Sys) : Sys :=
  let rec dl (fuel : Nat) (s : Sys) : Sys :=
    match fuel with
    | 0 => s
    | f + 1 => if s.jobEvs.isEmpty then s else dl f (deliverJob s)
  let rec ns (fuel : Nat) (s : Sys) : Sys :=
    match fuel with
    | 0 => s
    | f + 1 => if s.storeQ.isEmpty then s else ns f (notifyStore s)
  let s1 := dl s.jobEvs.length s
  ns s1.storeQ.length s1

/-- run the environment's action if this is the write it is scheduled before; returns the
state and the countdown for the following writes -/
def midHook (s : Sys) (k : Nat) : Sys × Nat :=
  match k with
  | 0 => (s, 0)
  | 1 => (midAction s, 0)
  | k + 2 => (s, k + 1)

def canStartJobMid (s : Sys) (jc : JCV) (j : JobV) (activeCount : Int) (k : Nat) : Sys × Verdict × Nat :=
  if j.hasPolicy then
    if startAfterLater j s.clock then
      let t := (j.startAfter.getD 0) * 1000000000
      ({ s with cfgQ := s.cfgQ.addAfter ("ns/" ++ jc.name) t s.clock }, .skip, k)
    else if j.policy = 1 && decide (activeCount + 1 > jc.maxConc) then
      let (s0, k') := midHook s k
      let (s1, ok) := rejectJobWrite s0 j (jc.name, activeCount)
      (s1, if ok then .skip else .error, k')
    else if j.policy = 2 && decide (activeCount + 1 > jc.maxConc) then (s, .skip, k)
    else (s, .start, k)
  else (s, .start, k)

def startJobMid (s : Sys) (jc : JCV) (j : JobV) (oldCount : Int) (k : Nat) : Sys × Bool × Nat :=
  if getCtr s.counter jc.uid ≠ oldCount then (s, false, k)
  else
    let s1 := { s with counter := setCtr s.counter jc.uid (oldCount + 1) }
    let (s1', k') := midHook s1 k
    let (s2, ok) := startJobWrite s1' j
    if ok then (s2, true, k') else ({ s2 with counter := addCtr s2.counter jc.uid (-1) }, false, k')

def passLoopMid (jc : JCV) : List JobV → Sys → Int → Nat → Sys × Bool
  | [], s, _, _ => (s, true)
  | j :: rest, s, activeCount, k =>
    match canStartJobMid s jc j activeCount k with
    | (s1, .error, _) => (s1, false)
    | (s1, .skip, k1) => passLoopMid jc rest s1 activeCount k1
    | (s1, .start, k1) =>
      match startJobMid s1 jc j activeCount k1 with
      | (s2, false, _) => (s2, false)
      | (s2, true, k2) => passLoopMid jc rest s2 (getCtr s2.counter jc.uid) k2

def syncConfigMid (s : Sys) (name : String) (k : Nat) : Sys × Bool :=
  match findJC s.jcCache name with
  | none => (s, true)
  | some jc =>
    let rjs := listQueued s.jobCache jc
    if rjs.isEmpty then (s, true)
    else passLoopMid jc rjs s (getCtr s.counter jc.uid) k

def workConfigMid (s : Sys) (k : Nat) : Sys × String :=
  let s := { s with cfgQ := s.cfgQ.advance s.clock, calls := [] }
  match s.cfgQ.get with
  | none => (s, "idle")
  | some (key, q1) =>
    let (s1, ok) := syncConfigMid { s with cfgQ := q1 } (keyName key) k
    let q2 := if ok then s1.cfgQ.forget key else s1.cfgQ.addRateLimited key s1.clock
    ({ s1 with cfgQ := q2.done key }, if ok then "ok" else "err")

theorem canStartJobMid_zero (s : Sys) (jc : JCV) (j : JobV) (a : Int) :
    canStartJobMid s jc j a 0 = ((canStartJob s jc j a).1, (canStartJob s jc j a).2, 0) := by
  unfold canStartJobMid canStartJob midHook
  -- the two functions branch on the same four tests, and agree branch by branch
  generalize j.hasPolicy = b1
  generalize startAfterLater j s.clock = b2
  generalize (j.policy = 1 && decide (a + 1 > jc.maxConc)) = b3
  generalize (j.policy = 2 && decide (a + 1 > jc.maxConc)) = b4
  cases b1 <;> cases b2 <;> cases b3 <;> cases b4 <;> rfl

theorem startJobMid_zero (s : Sys) (jc : JCV) (j : JobV) (a : Int) :
    startJobMid s jc j a 0 = ((startJob s jc j a).1, (startJob s jc j a).2, 0) := by
  unfold startJobMid startJob midHook
  by_cases h : getCtr s.counter jc.uid ≠ a
  · simp [h]
  · simp only [h, if_false]
    cases hw : startJobWrite { s with counter := setCtr s.counter jc.uid (a + 1) } j with
    | mk s2 ok => cases ok <;> simp

theorem passLoopMid_zero (jc : JCV) (l : List JobV) (s : Sys) (a : Int) :
    passLoopMid jc l s a 0 = passLoop jc l s a := by
  induction l generalizing s a with
  | nil => simp [passLoopMid, passLoop]
  | cons j rest ih =>
    simp only [passLoopMid, passLoop, canStartJobMid_zero]
    cases h : canStartJob s jc j a with
    | mk s1 v =>
      cases v with
      | error => simp
      | skip => simp [ih]
      | start =>
        simp only [startJobMid_zero]
        cases h2 : startJob s1 jc j a with
        | mk s2 b => cases b <;> simp [ih]

theorem syncConfigMid_zero (s : Sys) (name : String) : syncConfigMid s name 0 = syncConfig s name := by
  unfold syncConfigMid syncConfig
  simp only [passLoopMid_zero]
  rfl

theorem workConfigMid_zero (s : Sys) : workConfigMid s 0 = workConfig s := by
  unfold workConfigMid workConfig
  simp only [syncConfigMid_zero]
  rfl

end Furiko.Queue
